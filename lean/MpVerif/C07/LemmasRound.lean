import MpVerif.C07.Lemmas
/-! `sol:chk:prec`: powers of ten, `std::round`, and the decimal exponent found by `ceilLog10` (core Lean only). -/
namespace MpVerif.C07

theorem pow10_eq_zpow (k : Int) : pow10 k = (10 : Rat) ^ k := by
  have hn : ∀ n : Nat, ((10 ^ n : Nat) : Rat) = (10 : Rat) ^ (n : Int) := fun n => by
    rw [Rat.natCast_pow, Rat.zpow_natCast]; rfl
  unfold pow10; split
  · next h => rw [hn, Int.toNat_of_nonneg h]
  · next h => rw [hn, Int.toNat_of_nonneg (by omega), Rat.zpow_neg, Rat.div_def, Rat.inv_inv, Rat.one_mul]

theorem pow10_pos (k : Int) : 0 < pow10 k := pow10_eq_zpow k ▸ Rat.zpow_pos (by decide)

theorem pow10_succ (k : Int) : pow10 (k + 1) = 10 * pow10 k := by
  rw [pow10_eq_zpow, pow10_eq_zpow, Rat.zpow_add_one (by decide), Rat.mul_comm]

theorem pow10_mono {k j : Int} (h : k ≤ j) : pow10 k ≤ pow10 j := by
  obtain ⟨n, rfl⟩ := Int.le.dest h
  induction n with
  | zero => rw [Int.natCast_zero, Int.add_zero]; exact Rat.le_refl
  | succ n ih =>
    rw [Int.natCast_succ, ← Int.add_assoc, pow10_succ]
    have := pow10_pos (k + n); have := ih (by omega); grind

theorem cround_err (q : Rat) : rabs ((cround q : Rat) - q) ≤ 1/2 := by
  rw [rabs_le_iff]
  unfold cround; split
  · have h1 := Rat.floor_le (q + 1/2)
    have h2 := Rat.lt_floor_add_one (q + 1/2)
    rw [Rat.intCast_add] at h2
    constructor <;> grind
  · have h1 := Rat.floor_le (-q + 1/2)
    have h2 := Rat.lt_floor_add_one (-q + 1/2)
    rw [Rat.intCast_add] at h2
    rw [Rat.intCast_neg]
    constructor <;> grind

theorem cround_scaled_err (v f : Rat) (hf : 0 < f) : rabs ((cround (v * f) : Rat) / f - v) ≤ 1 / (2 * f) := by
  have hx : ((cround (v * f) : Rat) / f - v) * f = (cround (v * f) : Rat) - v * f := by grind
  have h1 : rabs ((cround (v * f) : Rat) / f - v) * f ≤ 1 / 2 := by
    have h := rabs_mul ((cround (v * f) : Rat) / f - v) f
    rw [hx, rabs_of_nonneg (Rat.le_of_lt hf)] at h
    rw [← h]; exact cround_err (v * f)
  have h2 : (1 / (2 * f)) * f = 1 / 2 := by grind
  exact Rat.le_of_mul_le_mul_right (by rw [h2]; exact h1) hf

/-- `e = ⌈log10 a⌉`: `10^(e−1) < a ≤ 10^e` -/
def Bracket (a : Rat) (e : Int) : Prop := pow10 (e - 1) < a ∧ a ≤ pow10 e

theorem Bracket.le_pow10_iff {a : Rat} {e : Int} (hb : Bracket a e) (k : Int) : a ≤ pow10 k ↔ e ≤ k := by
  constructor
  · intro h
    apply Int.le_of_not_gt; intro hlt
    have := pow10_mono (show k ≤ e - 1 by omega); have := hb.1; grind
  · intro h; exact Rat.le_trans hb.2 (pow10_mono h)

/-- the search finds the decimal exponent whenever it is within `fuel` steps of the start -/
theorem ceilLog10Aux_bracket (a : Rat) (fuel : Nat) (e0 e : Int) (hb : Bracket a e) (hd : (e - e0).natAbs < fuel) :
    ceilLog10Aux a fuel e0 = e := by
  induction fuel generalizing e0 with
  | zero => omega
  | succ n ih =>
    simp only [ceilLog10Aux, ← Rat.not_le, hb.le_pow10_iff]
    split
    · exact ih _ (by omega)
    · split
      · exact ih _ (by omega)
      · omega

/-- for every magnitude in `(10^-700, 10^699]` (what the fuel 700 of the search reaches) the model's `ceilLog10` is the decimal exponent -/
theorem ceilLog10_spec (a : Rat) (e : Int) (hb : Bracket a e) (hr : e.natAbs < 700) : ceilLog10 a = e := by
  unfold ceilLog10
  exact ceilLog10Aux_bracket a 700 0 e hb (by omega)

end MpVerif.C07
