import MpVerif.C07.Model
/-! `Func.value` depends only on the variables the function mentions; hence on index-ordered definitions the sweep
`recomputeUpTo` ends in a vector that satisfies every definition (`recomputeUpTo_fixpoint`). -/
namespace MpVerif.C07

theorem linVal_congr (t : List (Rat × Nat)) (x y : Pt) (h : ∀ p ∈ t, x p.2 = y p.2) : linVal t x = linVal t y := by
  induction t with
  | nil => rfl
  | cons p t ih =>
    obtain ⟨c, v⟩ := p
    simp only [linVal]
    rw [h (c, v) (by simp), ih (fun q hq => h q (List.mem_cons_of_mem _ hq))]

theorem quadVal_congr (t : List (Rat × Nat × Nat)) (x y : Pt)
    (h : ∀ p ∈ t, x p.2.1 = y p.2.1 ∧ x p.2.2 = y p.2.2) : quadVal t x = quadVal t y := by
  induction t with
  | nil => rfl
  | cons p t ih =>
    obtain ⟨c, v1, v2⟩ := p
    simp only [quadVal]
    have := h (c, v1, v2) (by simp)
    rw [this.1, this.2, ih (fun q hq => h q (List.mem_cons_of_mem _ hq))]

theorem Body.val_congr (b : Body) {x y : Pt} (h : ∀ v ∈ b.vars, x v = y v) : b.val x = b.val y := by
  unfold Body.val
  have hl : linVal b.lin x = linVal b.lin y := by
    apply linVal_congr; intro p hp; apply h; unfold Body.vars
    exact List.mem_append_left _ (List.mem_map.mpr ⟨p, hp, rfl⟩)
  have hq : quadVal b.quad x = quadVal b.quad y := by
    apply quadVal_congr; intro p hp
    constructor <;> (apply h; unfold Body.vars; apply List.mem_append_right; apply List.mem_flatMap.mpr;
                     refine ⟨p, hp, ?_⟩; simp)
  rw [hl, hq]

/-- the value of a defining expression only depends on the values of the variables it mentions -/
theorem Func.value_congr (f : Func) {e e' : Env} (hx : ∀ v ∈ f.vars, e.x v = e'.x v)
    (hi : e.isInt = e'.isInt) (ht : e.feastol = e'.feastol) : f.value e = f.value e' := by
  have hhit : ∀ (k k' : Rat) (a : List Nat), k = k' → (∀ v ∈ a, e.x v = e'.x v) →
      a.filter (numberofHit e k) = a.filter (numberofHit e' k') := by
    intro k k' a hk h
    apply List.filter_congr
    intro v hv
    unfold numberofHit
    rw [h v hv, hi, ht, hk]
  cases f with
  | max a | min a | and a | or a | alldiff a | count a =>
    simp only [Func.value, show a.map e.x = a.map e'.x from List.map_congr_left hx]
  | abs a | not a | pl _ a | pow a _ => simp only [Func.value, hx a (by simp [Func.vars])]
  | div a b => simp only [Func.value, hx a (by simp [Func.vars]), hx b (by simp [Func.vars])]
  | ifthen c t el | impl c t el =>
    simp only [Func.value, hx c (by simp [Func.vars]), hx t (by simp [Func.vars]), hx el (by simp [Func.vars])]
  | affine b => exact Body.val_congr b hx
  | cond c => simp only [Func.value, Body.val_congr c.body hx]
  -- the `numberof` hit test also reads `isInt` and the tolerance: hence `hi`, `ht`
  | numberofConst k a => simp only [Func.value, hhit k k a rfl hx]
  | numberofVar v0 a =>
    simp only [Func.value, hhit _ _ a (hx v0 (by simp [Func.vars])) fun v hv => hx v (by simp [Func.vars, hv])]

theorem recompStep_length (m : Model) (o : Opts) (xs : List Rat) (i : Nat) :
    (recompStep m o xs i).length = xs.length := by
  unfold recompStep; split <;> simp

theorem recomputeUpTo_length (m : Model) (o : Opts) (xs : List Rat) (k : Nat) :
    (recomputeUpTo m o xs k).length = xs.length := by
  induction k with
  | zero => rfl
  | succ k ih => simp only [recomputeUpTo, recompStep_length, ih]

theorem recompStep_getD_ne {m : Model} {o : Opts} {xs : List Rat} {i j : Nat} (h : i ≠ j) :
    (recompStep m o xs i).getD j 0 = xs.getD j 0 := by
  unfold recompStep
  split
  · simp only [List.getD_eq_getElem?_getD, List.getElem?_set_ne h]
  · rfl

theorem recompStep_getD_self {m : Model} {o : Opts} {xs : List Rat} {i : Nat} (h : i < xs.length) :
    (recompStep m o xs i).getD i 0 =
      match m.defOf i with
      | some f => f.value (m.envOf o xs [] true)
      | none => xs.getD i 0 := by
  unfold recompStep
  cases hd : m.defOf i with
  | some f => simp only [List.getD_eq_getElem?_getD, List.getElem?_set_self h, Option.getD_some]
  | none => rfl

/-- entries at or above the sweep position are still the input values -/
theorem recomputeUpTo_getD_ge (m : Model) (o : Opts) (xs : List Rat) (k j : Nat) (h : k ≤ j) :
    (recomputeUpTo m o xs k).getD j 0 = xs.getD j 0 := by
  induction k with
  | zero => rfl
  | succ k ih =>
    simp only [recomputeUpTo]
    rw [recompStep_getD_ne (by omega), ih (by omega)]

/-- entries below the sweep position are final -/
theorem recomputeUpTo_getD_stable (m : Model) (o : Opts) (xs : List Rat) {j k k' : Nat} (h : j < k) (hk : k ≤ k') :
    (recomputeUpTo m o xs k').getD j 0 = (recomputeUpTo m o xs k).getD j 0 := by
  induction hk with
  | refl => rfl
  | step hk ih =>
    simp only [recomputeUpTo]
    rw [recompStep_getD_ne (Nat.ne_of_gt (Nat.lt_of_lt_of_le h hk)), ih]

theorem Model.lt_of_ordered (m : Model) (hord : m.ordered = true) {i : Nat} (hi : i < m.nvars) {f : Func}
    (hd : m.defOf i = some f) : ∀ v ∈ f.vars, v < i := by
  have := List.all_eq_true.mp hord i (List.mem_range.mpr hi)
  simpa only [hd, List.all_eq_true, decide_eq_true_eq] using this

theorem ptOf_apply (xs : List Rat) (i : Nat) : ptOf xs i = xs.getD i 0 := rfl

/-- **fixpoint equations**: on a model whose definitions are ordered, every entry of the swept vector is the value
of its defining expression *at the swept vector itself* (or the input value if the variable has no definition) -/
theorem recomputeUpTo_fixpoint (m : Model) (o : Opts) (xs : List Rat) (hn : xs.length = m.nvars)
    (hord : m.ordered = true) (i : Nat) (hi : i < xs.length) :
    let y := recomputeUpTo m o xs xs.length
    y.getD i 0 =
      match m.defOf i with
      | some f => f.value (m.envOf o y [] true)
      | none => xs.getD i 0 := by
  intro y
  have h1 : y.getD i 0 = (recomputeUpTo m o xs (i + 1)).getD i 0 :=
    recomputeUpTo_getD_stable m o xs (Nat.lt_succ_self i) hi
  have hlen : i < (recomputeUpTo m o xs i).length := by rw [recomputeUpTo_length]; exact hi
  rw [h1]
  simp only [recomputeUpTo]
  rw [recompStep_getD_self hlen]
  cases hd : m.defOf i with
  | none => simp only [recomputeUpTo_getD_ge m o xs i i (Nat.le_refl _)]
  | some f =>
    -- the variables of `f` lie below `i`, where the sweep up to `i` is already final
    exact Func.value_congr f (fun v hv =>
      (recomputeUpTo_getD_stable m o xs (m.lt_of_ordered hord (hn ▸ hi) hd v hv) (Nat.le_of_lt hi)).symm) rfl rfl

end MpVerif.C07
