import MpVerif.C07.LemmasRecomp
import MpVerif.C07.LemmasPL
import MpVerif.C07.LemmasGen
import MpVerif.C07.LemmasRound
import MpVerif.Gen.SolCheck
import MpVerif.C07.LemmasSpec
import MpVerif.C07.SpecSat
/-!
# C07 — property theorems

Property: *the automatic solution check reports no violation exactly when the candidate point satisfies the
model's variable bounds, integrality, algebraic and logical constraints within the configured tolerances;
with `sol:chk:fail` the run ends with solve-result code 150 exactly in the violating cases.*

All theorems are about the Lean model in `Model.lean` (tied to the C++ on every run by the correspondence in
`checks/c07.py`).  They quantify over all flat models, all candidate points, all option values.
-/
namespace MpVerif.C07

/-- A finite violation amount `a` with reference value `r` is *not* reported iff it is within the absolute
tolerance (`a ≤ epsabs`, boundary included) or, the reference being non-zero, within the relative one
(`a ≤ epsrel·|r|`, boundary included).  Both tolerances must be exceeded for a report. -/
theorem C07_tolerance_test (a r ea er : Rat) (hea : 0 ≤ ea) :
    ((⟨.fin a, r⟩ : Violation).check ea (some er)).1 = false ↔ (a ≤ ea ∨ (r ≠ 0 ∧ a ≤ er * rabs r)) :=
  check_iff_tolLE hea

/-- exactly on the absolute tolerance: not reported -/
theorem C07_tolerance_boundary (ea r er : Rat) (hea : 0 ≤ ea) :
    ((⟨.fin ea, r⟩ : Violation).check ea (some er)).1 = false :=
  (C07_tolerance_test ea r ea er hea).mpr (Or.inl (Rat.le_refl))

/-- anything strictly above both tolerances is reported -/
theorem C07_tolerance_exceeded (a r ea er : Rat) (hea : 0 ≤ ea) (h1 : ea < a) (h2 : r = 0 ∨ er * rabs r < a) :
    ((⟨.fin a, r⟩ : Violation).check ea (some er)).1 = true := by
  cases h : ((⟨.fin a, r⟩ : Violation).check ea (some er)).1 with
  | true => rfl
  | false =>
    have := (C07_tolerance_test a r ea er hea).mp h
    grind

/-- an infinite bound can never be violated -/
theorem C07_infinite_bound (r ea : Rat) (er : Option Rat) : ((⟨.ninf, r⟩ : Violation).check ea er).1 = false := rfl

/-- One pass (`DoCheckSol`, realistic or idealistic): no report line iff none of the tolerance tests selected by the
mode bits fires.  `passCands` lists these tests: bounds (both sides) and integrality of the checked variables if
bit 1, every not-unused constraint whose class (2 top-level / 4 intermediate / 8 solver-side) meets the mode if bits
2|4|8, objective values if bit 16. -/
theorem C07_iff_pass (m : Model) (o : Opts) (xs objv raw : List Rat) (recomp : Bool) :
    (doCheckSol m o xs objv raw recomp).1 = [] ↔ ∀ c ∈ passCands m o xs objv raw recomp, c.violated = false := by
  simp only [doCheckSol, passCands, List.append_eq_nil_iff, List.forall_mem_append, ite_eq_right_iff, forall_mem_ite_nil,
    slotLine_eq_nil, and_assoc, ← imp_and, conLines_eq_nil]

theorem doCheckSol_snd (m : Model) (o : Opts) (xs objv raw : List Rat) (recomp : Bool) :
    (doCheckSol m o xs objv raw recomp).2 = applyPrecision o xs := rfl

/-- `CheckSolution` produces no report iff the check was skipped (known-infeasible solution without
`sol:chk:infeas`) or every selected test of the realistic pass (solver's auxiliary values) and of the idealistic pass
(recomputed auxiliary values) is within tolerance. -/
theorem C07_iff (m : Model) (o : Opts) (xs objv : List Rat) (ki : Bool) :
    (checkSolution m o xs objv ki).hasReport = false ↔
      ((ki = true ∧ o.infeas = false) ∨
       ((o.mode &&& 31 ≠ 0 → ∀ c ∈ passCands m o xs objv [] false, c.violated = false) ∧
        (o.mode &&& 992 ≠ 0 →
          ∀ c ∈ passCands m o (recompute m o xs) objv (xBack m o xs) true, c.violated = false))) := by
  have h2 : (if o.mode &&& 31 ≠ 0 then doCheckSol m o xs objv [] false else ([], xs)).2 = xBack m o xs := by
    unfold xBack; split
    · exact doCheckSol_snd ..
    · rfl
  unfold checkSolution
  split
  · next hk => exact iff_of_true rfl (Or.inl (by simpa using hk))
  · next hk =>
    rw [or_iff_right (by simpa using hk)]
    simp only [Outcome.hasReport, Bool.not_eq_false', Bool.and_eq_true, List.isEmpty_iff, h2, apply_ite Prod.fst,
      ite_eq_right_iff, C07_iff_pass]
    exact and_comm

theorem C07_within_lb (lb : Option Rat) (x ea er : Rat) (nm : String) (hea : 0 ≤ ea) :
    (⟨boundLbViol lb x, ea, some er, nm⟩ : Cand).violated = false ↔
      ∀ l, lb = some l → (l - x ≤ ea ∨ (l ≠ 0 ∧ l - x ≤ er * rabs l)) := by
  unfold Cand.violated boundLbViol
  cases lb with
  | none => simp [check_ninf]
  | some l => simp only [C07_tolerance_test _ _ _ _ hea]; grind

theorem C07_within_ub (ub : Option Rat) (x ea er : Rat) (nm : String) (hea : 0 ≤ ea) :
    (⟨boundUbViol ub x, ea, some er, nm⟩ : Cand).violated = false ↔
      ∀ u, ub = some u → (x - u ≤ ea ∨ (u ≠ 0 ∧ x - u ≤ er * rabs u)) := by
  unfold Cand.violated boundUbViol
  cases ub with
  | none => simp [check_ninf]
  | some u => simp only [C07_tolerance_test _ _ _ _ hea]; grind

/-- algebraic constraint `lo ≤ body ≤ hi` (range or one-sided; `lo ≤ hi`): not reported iff both sides are within
tolerance in the sense of `C07_tolerance_test`, i.e. `lo − ε ≤ body ≤ hi + ε` up to the relative escape. -/
theorem C07_within_alg (c : AlgCon) (x : Pt) (ea er : Rat) (hea : 0 ≤ ea)
    (hwf : ∀ l u, c.lo = some l → c.hi = some u → l ≤ u) :
    ((c.viol x).check ea (some er)).1 = false ↔
      ((∀ l, c.lo = some l → (l - c.body.val x ≤ ea ∨ (l ≠ 0 ∧ l - c.body.val x ≤ er * rabs l))) ∧
       (∀ u, c.hi = some u → (c.body.val x - u ≤ ea ∨ (u ≠ 0 ∧ c.body.val x - u ≤ er * rabs u)))) :=
  alg_check_iff c x ea er hea hwf

/-- an integer variable's value is not reported iff it is
within `sol:chk:inttol` of the nearest integer -/
theorem C07_integrality (x it : Rat) (nm : String) (hit : 0 ≤ it) :
    (⟨intViol x, it, some 0, nm⟩ : Cand).violated = false ↔ rabs (x - cround x) ≤ it := by
  unfold Cand.violated intViol
  simp only [C07_tolerance_test _ _ _ _ hit]
  have := rabs_nonneg ((cround x : Int) : Rat)
  grind

/-- functional constraint `res = f(args)` checked on the solver's values, by context:
positive context tests `res − f ≤ ε`, negative `f − res ≤ ε`, mixed `|res − f| ≤ ε` (relative to `res`). -/
theorem C07_within_func (res : Nat) (ctx : Ctx) (f : Func) (e : Env) (ea er : Rat) (hea : 0 ≤ ea)
    (hr : e.recomp = false) :
    ((funcViol res ctx f e).check ea (some er)).1 = false ↔
      match ctx with
      | .pos => e.x res - f.value e ≤ ea ∨ (e.x res ≠ 0 ∧ e.x res - f.value e ≤ er * rabs (e.x res))
      | .neg => f.value e - e.x res ≤ ea ∨ (e.x res ≠ 0 ∧ f.value e - e.x res ≤ er * rabs (e.x res))
      | .mix => rabs (e.x res - f.value e) ≤ ea ∨
                 (e.x res ≠ 0 ∧ rabs (e.x res - f.value e) ≤ er * rabs (e.x res))
      | .none => False := by
  unfold funcViol
  simp only [hr, Bool.not_false, if_true]
  cases ctx <;> simp only [C07_tolerance_test _ _ _ _ hea]
  · simp [check_pinf]
  · grind

/-- objective value `v` reported by the solver against the recomputed value `val` -/
theorem C07_within_obj (v val ea er : Rat) (hea : 0 ≤ ea) :
    ((⟨.fin (rabs (v - val)), val⟩ : Violation).check ea (some er)).1 = false ↔
      (rabs (v - val) ≤ ea ∨ (val ≠ 0 ∧ rabs (v - val) ≤ er * rabs val)) :=
  C07_tolerance_test _ _ _ _ hea

/-- with bit 1, both bounds of every checked variable are tested (all variables on the solver's values, original
variables only on recomputed values) -/
theorem C07_selected_var_bounds (m : Model) (o : Opts) (xs objv raw : List Rat) (recomp : Bool) (i : Nat)
    (hmode : (if recomp then o.mode >>> 5 else o.mode) &&& 1 ≠ 0) (hi : i < m.nvars)
    (hsel : (m.var i).orig = true ∨ recomp = false) :
    let x := ptOf (applyPrecision o xs)
    (⟨boundLbViol (m.var i).lb (x i), o.feastol, some o.feastolrel, (m.var i).name⟩ : Cand) ∈
        passCands m o xs objv raw recomp ∧
    (⟨boundUbViol (m.var i).ub (x i), o.feastol, some o.feastolrel, (m.var i).name⟩ : Cand) ∈
        passCands m o xs objv raw recomp := by
  have h := ((forall_mem_passCands m o xs objv raw recomp _).mp fun _ h => h).1 hmode i hi hsel
  exact ⟨h.1, h.2.1⟩

/-- with bits 2|4|8, every not-unused constraint whose class meets the mode is tested -/
theorem C07_selected_con (m : Model) (o : Opts) (xs objv raw : List Rat) (recomp : Bool) (kp : Keeper) (it : Item)
    (hkp : kp ∈ m.keepers) (hit : it ∈ kp.items)
    (hsel : it.selected (if recomp then o.mode >>> 5 else o.mode) = true) :
    (⟨it.con.viol (m.envOf o (applyPrecision o xs) raw recomp), o.feastol, some o.feastolrel, it.name⟩ : Cand) ∈
      passCands m o xs objv raw recomp :=
  ((forall_mem_passCands m o xs objv raw recomp _).mp fun _ h => h).2.1 (Item.selected_mask hsel) kp hkp it hit hsel

theorem C07_ret (m : Model) (o : Opts) (xs objv : List Rat) (ki : Bool) :
    (checkSolution m o xs objv ki).ret = true ↔ (checkSolution m o xs objv ki).hasReport = false := by
  unfold Outcome.ret; cases (checkSolution m o xs objv ki).hasReport <;> simp

/-- with `sol:chk:fail` the run ends with code 150 exactly when there is a report -/
theorem C07_fail (o : Opts) (oc : Outcome) (hf : o.fail = true) :
    solveCodeOverride o oc = some 150 ↔ oc.hasReport = true := by
  unfold solveCodeOverride; cases oc.hasReport <;> simp [hf]

/-- without the option the solve code is never overridden, and a report becomes a warning -/
theorem C07_fail_off (o : Opts) (oc : Outcome) (hf : o.fail = false) :
    solveCodeOverride o oc = none ∧ (warningIssued o oc = true ↔ oc.hasReport = true) := by
  unfold solveCodeOverride warningIssued; cases oc.hasReport <;> simp [hf]

/-- a solution flagged as known infeasible is not checked unless `sol:chk:infeas` -/
theorem C07_infeas_flag_skip (m : Model) (o : Opts) (xs objv : List Rat) (hi : o.infeas = false) :
    checkSolution m o xs objv true = .skipped ∧ (checkSolution m o xs objv true).hasReport = false := by
  unfold checkSolution; simp [hi, Outcome.hasReport]

/-- in terms of the solver's status, the check is skipped *exactly* for the codes of
`IsProblemInfeasible` (200..299) without `sol:chk:infeas` — not for unbounded (300..399), undecided (450..469), limit,
failure or solved statuses -/
theorem C07_infeas_skip (m : Model) (o : Opts) (xs objv : List Rat) (code : Int) :
    checkSolutionCode m o xs objv code = .skipped ↔ ((200 ≤ code ∧ code ≤ 299) ∧ o.infeas = false) := by
  unfold checkSolutionCode checkSolution
  rw [← isProblemInfeasible_iff]
  split <;> simp_all

/-- for every other status (or with `sol:chk:infeas`) the point is checked: no report iff all selected tests pass -/
theorem C07_checked_for_code (m : Model) (o : Opts) (xs objv : List Rat) (code : Int)
    (h : ¬ ((200 ≤ code ∧ code ≤ 299) ∧ o.infeas = false)) :
    (checkSolutionCode m o xs objv code).hasReport = false ↔
      ((o.mode &&& 31 ≠ 0 → ∀ c ∈ passCands m o xs objv [] false, c.violated = false) ∧
       (o.mode &&& 992 ≠ 0 →
         ∀ c ∈ passCands m o (recompute m o xs) objv (xBack m o xs) true, c.violated = false)) := by
  unfold checkSolutionCode
  rw [C07_iff, isProblemInfeasible_iff]
  exact or_iff_right h

theorem applyPrecision_length (o : Opts) (xs : List Rat) : (applyPrecision o xs).length = xs.length := by
  unfold applyPrecision
  cases o.round <;> cases o.prec <;> simp

/-- on a model whose defining expressions are ordered (acyclic by variable index), the recomputed
vector satisfies every definition: each auxiliary variable with a (used) init expression equals the value of that
expression *at the recomputed vector*; all other variables keep their (rounded) solver value. -/
theorem C07_recompute (m : Model) (o : Opts) (xs : List Rat) (hn : xs.length = m.nvars) (hord : m.ordered = true)
    (i : Nat) (hi : i < xs.length) :
    (recompute m o xs).getD i 0 =
      match m.defOf i with
      | some f => f.value (m.envOf o (recompute m o xs) [] true)
      | none => (applyPrecision o xs).getD i 0 := by
  unfold recompute
  exact recomputeUpTo_fixpoint m o (applyPrecision o xs) (by rw [applyPrecision_length]; exact hn) hord i
    (by rw [applyPrecision_length]; exact hi)

/-- the recomputed vector is the *only* solution of the definitions: acyclic definitions determine the values -/
theorem C07_recompute_unique (m : Model) (o : Opts) (xs z : List Rat) (hn : xs.length = m.nvars)
    (hord : m.ordered = true)
    (hz : ∀ i, i < xs.length → z.getD i 0 =
      match m.defOf i with
      | some f => f.value (m.envOf o z [] true)
      | none => (applyPrecision o xs).getD i 0) :
    ∀ i, i < xs.length → z.getD i 0 = (recompute m o xs).getD i 0 := by
  intro i
  induction i using Nat.strongRecOn with
  | _ i ih =>
    intro hi
    rw [hz i hi, C07_recompute m o xs hn hord i hi]
    cases hd : m.defOf i with
    | none => rfl
    | some f =>
      simp only
      apply Func.value_congr
      · intro v hv
        have hvi := m.lt_of_ordered hord (hn ▸ hi) hd v hv
        exact ih v hvi (by omega)
      · rfl
      · rfl

/-- functional constraint on recomputed values: tested quantity is `|recomputed − solver's| + bound violation of the
recomputed value` -/
theorem C07_within_func_ideal (res : Nat) (ctx : Ctx) (f : Func) (e : Env) (ea er : Rat) (hea : 0 ≤ ea)
    (hr : e.recomp = true) :
    ((funcViol res ctx f e).check ea (some er)).1 = false ↔
      (rabs (e.x res - e.raw res) + e.boundsViolPos res ≤ ea ∨
       (e.x res ≠ 0 ∧ rabs (e.x res - e.raw res) + e.boundsViolPos res ≤ er * rabs (e.x res))) := by
  unfold funcViol recompViol
  simp only [hr, Bool.not_true, Bool.false_eq_true, if_false]
  exact C07_tolerance_test _ _ _ _ hea

/-- conditional constraint on recomputed values: same tested quantity as `C07_within_func_ideal` -/
theorem C07_within_cond_ideal (res : Nat) (ctx : Ctx) (c : AlgCon) (e : Env) (ea er : Rat) (hea : 0 ≤ ea)
    (hr : e.recomp = true) :
    ((condViol res ctx c e).check ea (some er)).1 = false ↔
      (rabs (e.x res - e.raw res) + e.boundsViolPos res ≤ ea ∨
       (e.x res ≠ 0 ∧ rabs (e.x res - e.raw res) + e.boundsViolPos res ≤ er * rabs (e.x res))) := by
  unfold condViol recompViol
  simp only [hr, if_true]
  exact C07_tolerance_test _ _ _ _ hea

/-- if the idealistic pass does not report a conditional constraint, the
recomputed result variable respects its bounds within tolerance — so a logical constraint encoded by fixing that
result (`not (x >= 5)`: bounds [0,0]) cannot be violated unnoticed -/
theorem C07_ideal_cond_bounds (res : Nat) (ctx : Ctx) (c : AlgCon) (e : Env) (ea er : Rat) (hea : 0 ≤ ea)
    (hr : e.recomp = true) (h : ((condViol res ctx c e).check ea (some er)).1 = false) :
    e.boundsViolPos res ≤ ea ∨ (e.x res ≠ 0 ∧ e.boundsViolPos res ≤ er * rabs (e.x res)) := by
  have hle : e.boundsViolPos res ≤ rabs (e.x res - e.raw res) + e.boundsViolPos res := by
    have := rabs_nonneg (e.x res - e.raw res); grind
  exact ((C07_within_cond_ideal res ctx c e ea er hea hr).mp h).imp (Rat.le_trans hle) (And.imp_right (Rat.le_trans hle))

/-! The piecewise-linear evaluator is the mathematical PL function of its points.
`ComputeValue(PLConstraint)` works on `PLPoints` (x strictly increasing).  For every argument the scan-and-interpolate
code returns the value of the piecewise-linear function through the points: linear interpolation between consecutive
points, and the first / last segment's line extended to the left / right. -/

theorem C07_pl_between (pre : List (Rat × Rat)) (a b : Rat × Rat) (post : List (Rat × Rat)) (x : Rat)
    (hs : plSorted (pre ++ a :: b :: post)) (ha : a.1 ≤ x) (hb : x ≤ b.1) :
    plValue (pre ++ a :: b :: post) x = a.2 + (b.2 - a.2) / (b.1 - a.1) * (x - a.1) := by
  show _ = lineThrough a b x
  -- first point ≤ a.1 ≤ x, x ≤ b.1 ≤ last point
  cases hpts : pre ++ a :: b :: post with
  | nil => simp at hpts
  | cons p0 t =>
    obtain ⟨x0, y0⟩ := p0
    have hs' : plSorted ((x0, y0) :: t) := hpts ▸ hs
    have hx0 : x0 ≤ a.1 := plSorted_first_le hs' (by rw [← hpts]; simp)
    have hnlt : ¬ (x < x0) := by grind
    cases hrev : ((x0, y0) :: t).reverse with
    | nil => simp at hrev
    | cons l rest =>
      have hbl : b.1 ≤ l.1 := plSorted_le_last hs' hrev (by rw [← hpts]; simp)
      obtain ⟨xl, yl⟩ := l
      have hnl : ¬ (xl < x) := by simp only at hbl; grind
      simp only [plValue, hnlt, if_false, hrev, hnl]
      rw [← hpts]
      exact plScan_between pre a b post (x0, y0) x hs ha hb

theorem C07_pl_left (a b : Rat × Rat) (post : List (Rat × Rat)) (x : Rat)
    (hs : plSorted (a :: b :: post)) (hx : x < a.1) :
    plValue (a :: b :: post) x = a.2 + (b.2 - a.2) / (b.1 - a.1) * (x - a.1) := by
  obtain ⟨ax, ay⟩ := a
  obtain ⟨bx, by'⟩ := b
  have hab : ax < bx := (List.pairwise_cons.mp hs).1 (bx, by') (by simp)
  simp only at hx
  have h1 : ¬ (bx ≤ ax) := by grind
  simp only [plValue, hx, if_true, plPre, h1, if_false]
  have : bx - ax ≠ 0 := by grind
  grind

theorem C07_pl_right (pre : List (Rat × Rat)) (a b : Rat × Rat) (x : Rat)
    (hs : plSorted (pre ++ [a, b])) (hx : b.1 < x) :
    plValue (pre ++ [a, b]) x = b.2 + (b.2 - a.2) / (b.1 - a.1) * (x - b.1) := by
  have hrev : (pre ++ [a, b]).reverse = b :: a :: pre.reverse := by simp
  have hab : a.1 < b.1 := by
    have h2 : plSorted [a, b] := (List.pairwise_append.mp hs).2.1
    exact (List.pairwise_cons.mp h2).1 b (by simp)
  cases hpts : pre ++ [a, b] with
  | nil => simp at hpts
  | cons p0 t =>
    obtain ⟨x0, y0⟩ := p0
    have hs' : plSorted ((x0, y0) :: t) := hpts ▸ hs
    have hrev' : ((x0, y0) :: t).reverse = b :: a :: pre.reverse := hpts ▸ hrev
    have h0 : x0 ≤ b.1 := plSorted_le_last hs' hrev' (List.mem_cons_self ..)
    have hnlt : ¬ (x < x0) := by grind
    obtain ⟨ax, ay⟩ := a
    obtain ⟨bx, by'⟩ := b
    simp only at hx hab
    have h1 : ¬ (bx ≤ ax) := by grind
    simp only [plValue, hnlt, if_false, hrev', hx, if_true, plPost, h1]

/-- `<<0,2; -1,1,3>> x` (points (−1,1),(0,0),(2,2),(3,5)): f(−5)=5, f(−1/2)=1/2, f(1)=1, f(5)=11 -/
theorem C07_pl_example :
    plValue [(-1, 1), (0, 0), (2, 2), (3, 5)] (-5) = 5 ∧ plValue [(-1, 1), (0, 0), (2, 2), (3, 5)] (-1/2) = 1/2 ∧
    plValue [(-1, 1), (0, 0), (2, 2), (3, 5)] 1 = 1 ∧ plValue [(-1, 1), (0, 0), (2, 2), (3, 5)] 5 = 11 := by
  decide +kernel

def cexIntModel : Model := ⟨[⟨some 0, some 10, true, true, "k", none⟩], [], []⟩
def cexOpts (mode : Nat) : Opts := ⟨mode, 1/1000000, 1/1000000, 1/100000, none, none, false, false⟩

/-- integer variable `k ∈ [0,10]` at `5/2` and at `1/4`: reported (bit 1), code 150 under `sol:chk:fail`; at 3: not -/
theorem C07_integrality_example :
    (checkSolution cexIntModel (cexOpts 1) [5/2] [] false).hasReport = true ∧
    (checkSolution cexIntModel (cexOpts 1) [1/4] [] false).hasReport = true ∧
    solveCodeOverride { cexOpts 1 with fail := true } (checkSolution cexIntModel (cexOpts 1) [5/2] [] false) = some 150 ∧
    (checkSolution cexIntModel (cexOpts 1023) [3] [] false).hasReport = false := by
  decide +kernel

def cexCondModel : Model :=
  ⟨[⟨some 0, some 10, false, true, "x", none⟩, ⟨some 0, some 0, true, false, "r", some (0, 0)⟩],
   [⟨"_condlinge", true, [⟨.cond 1 .neg ⟨⟨[(1, 0)], [], 0⟩, .ge, some 5, none⟩, 0, true, false, "c"⟩]⟩], []⟩

/-- `not (x >= 5)` (result `r` fixed to 0): at `x = 7` the recomputed `r` is 1 and both the idealistic pass (bits
32+64) and the realistic pass (bits 1+2) report; at `x = 3` neither does -/
theorem C07_cond_ideal_example :
    (recompute cexCondModel (cexOpts 96) [7, 0]).getD 1 0 = 1 ∧
    (checkSolution cexCondModel (cexOpts 96) [7, 0] [] false).hasReport = true ∧
    (checkSolution cexCondModel (cexOpts 3) [7, 0] [] false).hasReport = true ∧
    (checkSolution cexCondModel (cexOpts 99) [3, 0] [] false).hasReport = false := by
  decide +kernel

/-! False alarm: a checkable constraint reading an orphaned result variable.

When `c ==> exists{…}` is redefined, the original `Or` is marked unused and its result variable fixed to 0, but the
reformulated `ImplicationConstraint` remains checkable (top-level class) and still reads that variable.  The flat
counterpart of the failing input found on the real code: every variable is within its bounds and there is no
solver-side constraint at all (mode 1+8: no report), yet the default class "original constraints" (bit 2) reports. -/

def cexOrphanModel : Model :=
  ⟨[⟨some 0, some 1, true, true, "b", none⟩, ⟨some 0, some 0, true, false, "o", some (1, 0)⟩,
    ⟨some 1, some 1, false, false, "t", none⟩, ⟨some 1, some 1, true, false, "r", some (0, 0)⟩],
   [⟨"_impl", true, [⟨.func 3 .pos (.impl 0 1 2), 0, true, false, "imp"⟩]⟩,
    ⟨"_or", true, [⟨.func 1 .pos (.or [0]), 0, true, true, "or"⟩]⟩], []⟩

theorem C07_counterexample_orphan :
    (checkSolution cexOrphanModel (cexOpts 9) [1, 0, 1, 1] [] false).hasReport = false ∧
    (checkSolution cexOrphanModel (cexOpts 2) [1, 0, 1, 1] [] false).hasReport = true := by
  decide +kernel

/-! Linear / quadratic functional constraints are never tested themselves.

`LinearFunctionalConstraint` / `QuadraticFunctionalConstraint` do not derive from `CustomFunctionalConstraint` and
inherit `BasicConstraint::ComputeViolation` (`{0,0}`): a wrong solver value of `r = affine/quadratic expr` is only
visible through the constraints that use `r` (idealistic pass) or through the solver-side copy of the definition. -/
theorem C07_adef_never_reported (res : Nat) (ctx : Ctx) (b : Body) (e : Env) (ea : Rat) (er : Option Rat)
    (hea : 0 ≤ ea) : (((Con.adef res ctx b).viol e).check ea er).1 = false :=
  zero_check hea

/-! The hand model equals the definitions generated from the source (`translators/gen_solcheck.py`).

`MpVerif.Gen.SolCheck` is regenerated on every run from the clang AST of the current tree.  The theorems below state, for
all arguments, that the model's decision functions are these generated functions (doubles read as `GenSem.D`); so the
theorems above speak about the code's own logic, and a change of that logic in the source breaks one of these obligations. -/

open GenSem
namespace G
export MpVerif.Gen.SolCheck (violationCheck algComputeViolation rangeIsValid rhsIsValidLT rhsIsValidLE rhsIsValidEQ rhsIsValidGE
  rhsIsValidGT rhsLbLT rhsUbLT rhsLbLE rhsUbLE rhsLbEQ rhsUbEQ rhsLbGE rhsUbGE rhsLbGT rhsUbGT funcComputeViolation
  condComputeViolation countViol checkViol conClass conSelected conSlot realMask idealMask varsBit consMask objBit idealShift
  failCode ctxnone ctxpos ctxneg ctxmix computeValueTypes computeViolationSites)
end G

/-- the code of a context in `mp::Context::CtxVal` (generated enumerator values) -/
def ctxCode : Ctx → Nat
  | .none => G.ctxnone | .pos => G.ctxpos | .neg => G.ctxneg | .mix => G.ctxmix

/-- a model violation as the pair of doubles `{viol_, valX_}` -/
def violD (v : Violation) : D × D := (v.viol, D.fin v.ref)

/-- the model's tolerance test is the generated `Violation::Check`, for every finite or infinite
violation amount (for `+∞` with the reference value the code produces, 0) -/
theorem C07_gen_check (v : Violation) (ea er : Rat) (h : v.viol = .pinf → v.ref = 0) :
    G.violationCheck v.viol (D.fin v.ref) (D.fin ea) (D.fin er) =
      ((v.check ea (some er)).1, D.fin (v.check ea (some er)).2) := by
  obtain ⟨viol, r⟩ := v
  cases viol with
  | ninf => simp [Gen.SolCheck.violationCheck, Violation.check, D.gt, D.fin, ER.lt, D.ofInt]
  | pinf =>
    have hr : r = 0 := h rfl
    subst hr
    simp [Gen.SolCheck.violationCheck, Violation.check, D.gt, D.fin, ER.lt, D.ofInt, D.eq, D.abs, rabs]
  | fin a =>
    simp only [Gen.SolCheck.violationCheck, Violation.check, D.gt, D.fin, ER.lt, D.ofInt, D.eq, D.abs, D.div]
    by_cases h1 : ea < a
    · by_cases h2 : r = 0
      · subst h2; simp [h1, rabs]
      · have hr : ¬ (0 = rabs r) := by have := rabs_pos h2; grind
        by_cases h3 : er < rabs (a / r) <;> simp [h1, h2, hr, h3]
    · simp [h1]

/-- `AlgebraicConstraint::ComputeViolation(x, false)` -/
theorem C07_gen_alg (c : AlgCon) (x : Pt) (valid : Bool) :
    G.algComputeViolation (D.fin (c.body.val x)) (loD c.lo) (hiD c.hi) valid false = violD (c.viol x) := by
  obtain ⟨b, k, lo, hi⟩ := c
  cases lo <;> cases hi <;>
    simp only [Gen.SolCheck.algComputeViolation, AlgCon.viol, loD, hiD, D.fin, D.gt, ER.lt, D.sub_fin, D.sub_ninf_fin,
      D.sub_fin_pinf, D.max'_ninf_left, D.max'_ninf_right, D.max'_fin, D.ofInt_zero, decide_eq_true_eq, Bool.false_eq_true,
      if_false] <;>
    -- per bound pattern both sides are nests of `if`s on the same comparisons `bd < l`, `u < bd`: split them all
    repeat' split
  all_goals rfl

/-- logical mode `ComputeViolation(x, true)`: `{double(!is_valid(bd)), 1.0}` -/
theorem C07_gen_alg_logical (c : AlgCon) (x : Pt) :
    G.algComputeViolation (D.fin (c.body.val x)) (loD c.lo) (hiD c.hi) (c.isValid (c.body.val x)) true =
      violD (c.violLogical x) := by
  unfold AlgCon.violLogical violD
  simp only [Gen.SolCheck.algComputeViolation, if_true, D.ofBool, D.ofInt, D.fin]
  cases c.isValid (c.body.val x) <;> simp

/-- `is_valid`, `lb()`, `ub()` of the five right-hand-side classes and of the range class are what the
model uses for the corresponding kinds -/
theorem C07_gen_isvalid (b : Body) (r l u bd : Rat) :
    ((⟨b, .lt, none, some r⟩ : AlgCon).isValid bd = G.rhsIsValidLT (D.fin bd) (D.fin r) ∧ loD none = G.rhsLbLT (D.fin r) ∧ hiD (some r) = G.rhsUbLT (D.fin r)) ∧
    ((⟨b, .le, none, some r⟩ : AlgCon).isValid bd = G.rhsIsValidLE (D.fin bd) (D.fin r) ∧ loD none = G.rhsLbLE (D.fin r) ∧ hiD (some r) = G.rhsUbLE (D.fin r)) ∧
    ((⟨b, .eq, some r, some r⟩ : AlgCon).isValid bd = G.rhsIsValidEQ (D.fin bd) (D.fin r) ∧ loD (some r) = G.rhsLbEQ (D.fin r) ∧ hiD (some r) = G.rhsUbEQ (D.fin r)) ∧
    ((⟨b, .ge, some r, none⟩ : AlgCon).isValid bd = G.rhsIsValidGE (D.fin bd) (D.fin r) ∧ loD (some r) = G.rhsLbGE (D.fin r) ∧ hiD none = G.rhsUbGE (D.fin r)) ∧
    ((⟨b, .gt, some r, none⟩ : AlgCon).isValid bd = G.rhsIsValidGT (D.fin bd) (D.fin r) ∧ loD (some r) = G.rhsLbGT (D.fin r) ∧ hiD none = G.rhsUbGT (D.fin r)) ∧
    ((⟨b, .range, some l, some u⟩ : AlgCon).isValid bd = G.rangeIsValid (D.fin bd) (D.fin l) (D.fin u)) := by
  refine ⟨⟨rfl, rfl, rfl⟩, ⟨?_, rfl, rfl⟩, ⟨?_, rfl, rfl⟩, ⟨?_, rfl, rfl⟩, ⟨rfl, rfl, rfl⟩, ?_⟩
  · simp only [AlgCon.isValid, Gen.SolCheck.rhsIsValidLE, D.fin, D.le_fin, Bool.true_and]
  · simp only [AlgCon.isValid, Gen.SolCheck.rhsIsValidEQ, D.fin, D.eq_fin, ← Bool.decide_and]
    exact decide_eq_decide.mpr ⟨fun h => Rat.le_antisymm h.2 h.1, fun h => h ▸ ⟨Rat.le_refl, Rat.le_refl⟩⟩
  · simp only [AlgCon.isValid, Gen.SolCheck.rhsIsValidGE, D.fin, D.ge_fin, Bool.and_true]
  · simp only [AlgCon.isValid, Gen.SolCheck.rangeIsValid, D.fin, D.ge_fin, D.le_fin]

/-- `std::max(lb - x, x - ub)` of `VarInfoImpl::bounds_viol` as a double -/
def boundsViolD (e : Env) (i : Nat) : D :=
  D.max' (D.sub (loD (e.lb i)) (D.fin (e.x i))) (D.sub (D.fin (e.x i)) (hiD (e.ub i)))

theorem max0_boundsViolD (e : Env) (i : Nat) :
    D.max' (D.ofInt 0) (boundsViolD e i) = D.fin (e.boundsViolPos i) := by
  unfold boundsViolD Env.boundsViolPos
  cases e.lb i <;> cases e.ub i <;>
    simp only [loD, hiD, D.fin, D.sub_fin, D.sub_ninf_fin, D.sub_fin_pinf, D.max'_ninf_left, D.max'_ninf_right,
      D.max'_fin, D.ofInt_zero, ER.fin.injEq] <;> grind

/-- `VarInfoImpl::is_at_lb / is_at_ub / is_nonzero / is_positive / bounds_viol` (constr_keeper.h) are the
model's `Env.isAtLb / isAtUb / isNonzero / isPositive` and the bound excess used by `Env.boundsViolPos` -/
theorem C07_gen_varinfo (e : Env) (i : Nat) :
    e.isAtLb i = Gen.SolCheck.isAtLb (D.fin (e.x i)) (loD (e.lb i)) (D.fin e.feastol) ∧
    e.isAtUb i = Gen.SolCheck.isAtUb (D.fin (e.x i)) (hiD (e.ub i)) (D.fin e.feastol) ∧
    e.isNonzero i = Gen.SolCheck.isNonzero (D.fin (e.x i)) (e.isInt i) (D.fin e.feastol) ∧
    e.isPositive i = Gen.SolCheck.isPositive (D.fin (e.x i)) (e.isInt i) (D.fin e.feastol) ∧
    boundsViolD e i = Gen.SolCheck.boundsViol (loD (e.lb i)) (D.fin (e.x i)) (hiD (e.ub i)) := by
  refine ⟨?_, ?_, ?_, ?_, rfl⟩
  · unfold Env.isAtLb Gen.SolCheck.isAtLb
    cases e.lb i with
    | none => rfl
    | some l => simp only [loD, D.fin, D.sub_fin, D.le_fin]
  · unfold Env.isAtUb Gen.SolCheck.isAtUb
    cases e.ub i with
    | none => rfl
    | some u => simp only [hiD, D.fin, D.sub_fin, D.neg, D.le_fin]
  · unfold Env.isNonzero Gen.SolCheck.isNonzero
    cases e.isInt i <;> simp only [D.abs, D.fin, D.ge_fin, Bool.false_eq_true, if_false, if_true]
  · unfold Env.isPositive Gen.SolCheck.isPositive
    cases e.isInt i <;> simp only [D.fin, D.ge_fin, Bool.false_eq_true, if_false, if_true]

/-- the generic `ComputeViolation(CustomFunctionalConstraint)` by context / on recomputed values -/
theorem C07_gen_func (res : Nat) (ctx : Ctx) (f : Func) (e : Env) :
    G.funcComputeViolation e.recomp (ctxCode ctx) (D.fin (e.x res)) (D.fin (f.value e)) (D.fin (e.raw res)) (boundsViolD e res) =
      violD (funcViol res ctx f e) := by
  unfold funcViol violD recompViol
  cases hr : e.recomp
  · cases ctx <;>
      simp only [Gen.SolCheck.funcComputeViolation, ctxCode, Gen.SolCheck.ctxnone, Gen.SolCheck.ctxpos, Gen.SolCheck.ctxneg,
        Gen.SolCheck.ctxmix, Nat.reduceBEq, Bool.false_eq_true, if_false, if_true, Bool.not_false, D.fin, D.sub_fin, D.abs,
        D.neg, D.ofInt_zero] <;> rfl
  · simp only [Gen.SolCheck.funcComputeViolation, if_true, max0_boundsViolD, Bool.not_true, Bool.false_eq_true, if_false,
      D.fin, D.sub_fin, D.abs, D.add]

/-- `ConditionalConstraint::ComputeViolation` -/
theorem C07_gen_cond (res : Nat) (ctx : Ctx) (c : AlgCon) (e : Env) :
    G.condComputeViolation e.recomp (ctxCode ctx) (c.viol e.x).viol (D.fin (c.viol e.x).ref) (D.fin (e.x res))
        (D.fin (e.raw res)) (boundsViolD e res) =
      violD (condViol res ctx c e) := by
  unfold condViol violD
  cases hr : e.recomp
  · simp only [Gen.SolCheck.condComputeViolation, Bool.false_eq_true, if_false, D.le, D.ofInt_zero, D.lt_fin_left, D.ge_fin]
    generalize c.viol e.x = v
    obtain ⟨g, r⟩ := v
    cases ctx <;>
      simp only [ctxCode, Gen.SolCheck.ctxnone, Gen.SolCheck.ctxpos, Gen.SolCheck.ctxneg, Gen.SolCheck.ctxmix, Nat.reduceBEq,
        Bool.false_eq_true, if_false, if_true] <;>
      -- per context: the `if` on result / validity where one is left, then the three shapes of the row's amount
      (try split) <;> cases g <;> rfl
  · -- on recomputed values both C++ functions compute the same formula, which ignores the function: any `f` will do
    have := C07_gen_func res ctx (.affine ⟨[], [], 0⟩) e
    simp only [hr, funcViol, Bool.not_true, Bool.false_eq_true, if_false, violD] at this
    simp only [Gen.SolCheck.condComputeViolation, if_true, recompViol]
    simp only [Gen.SolCheck.funcComputeViolation, if_true] at this ⊢
    exact this

/-- `ComputeValue` for Abs / Not / Div / IfThen / Implication constraints: the model's `Func.value` is the
generated function of the argument values (Div: for a non-zero divisor; at 0 the C++ returns ±∞, which the model does not represent) -/
theorem C07_gen_eval (e : Env) (a b c : Nat) :
    D.fin ((Func.abs a).value e) = Gen.SolCheck.evalAbs (D.fin (e.x a)) ∧
    D.fin ((Func.not a).value e) = Gen.SolCheck.evalNot (D.fin (e.x a)) ∧
    (e.x b ≠ 0 → D.fin ((Func.div a b).value e) = Gen.SolCheck.evalDiv (D.fin (e.x a)) (D.fin (e.x b))) ∧
    D.fin ((Func.ifthen a b c).value e) = Gen.SolCheck.evalIfThen (D.fin (e.x a)) (D.fin (e.x b)) (D.fin (e.x c)) ∧
    D.fin ((Func.impl a b c).value e) = Gen.SolCheck.evalImpl (D.fin (e.x a)) (D.fin (e.x b)) (D.fin (e.x c)) := by
  refine ⟨rfl, rfl, ?_, ?_, ?_⟩
  · intro hb
    have h0 : ¬ (0 : Rat) = rabs (e.x b) := Rat.ne_of_lt (rabs_pos hb)
    simp only [Func.value, Gen.SolCheck.evalDiv, D.ofInt_zero, D.abs, D.fin, D.eq_fin, D.div, decide_eq_true_eq, if_neg h0,
      if_neg hb]
  · simp only [Func.value, Gen.SolCheck.evalIfThen, D.fin, D.ge_fin, decide_eq_true_eq]
    split <;> rfl
  · simp only [Func.value, Gen.SolCheck.evalImpl, D.fin, D.ge_fin, D.lt_fin]
    rfl

/-- `ComplementarityConstraint::ComputeViolation`, with the position tests `is_at_lb` / `is_at_ub` of
`C07_gen_varinfo` and the expression value as operands -/
theorem C07_gen_compl (ex : Body) (v : Nat) (e : Env) :
    Gen.SolCheck.complComputeViolation (D.fin (ex.val e.x)) (e.isAtLb v) (e.isAtUb v) = violD (complViol ex v e) := by
  unfold complViol violD Gen.SolCheck.complComputeViolation
  cases e.isAtLb v <;> cases e.isAtUb v <;> simp [D.neg, D.abs, D.fin, D.ofInt]

/-- `IndicatorConstraint::ComputeViolation` (the inner row's violation is the operand, `C07_gen_alg`) -/
theorem C07_gen_indicator (b : Nat) (bv : Int) (a : AlgCon) (e : Env) :
    Gen.SolCheck.indComputeViolation (D.fin (e.x b)) bv (a.viol e.x).viol (D.fin (a.viol e.x).ref) = violD ((Con.indicator b bv a).viol e) := by
  unfold Con.viol violD Gen.SolCheck.indComputeViolation
  by_cases h : cround (e.x b) = bv <;> simp [h, D.eq, D.round, D.ofInt, D.fin]

/-- `ComputeValue` for And / Or / Count / Max / Min: the range-for over the arguments, generated as a
fold with early exit, computes the model's `Func.value` (Max / Min: for a non-empty argument list; on an empty one the C++
returns ∓∞) -/
theorem C07_gen_eval_loops (e : Env) (a : List Nat) :
    D.fin ((Func.and a).value e) = Gen.SolCheck.evalAnd ((a.map e.x).map D.fin) ∧
    D.fin ((Func.or a).value e) = Gen.SolCheck.evalOr ((a.map e.x).map D.fin) ∧
    D.fin ((Func.count a).value e) = Gen.SolCheck.evalCount ((a.map e.x).map D.fin) ∧
    (a ≠ [] → D.fin ((Func.max a).value e) = Gen.SolCheck.evalMax ((a.map e.x).map D.fin)) ∧
    (a ≠ [] → D.fin ((Func.min a).value e) = Gen.SolCheck.evalMin ((a.map e.x).map D.fin)) := by
  refine ⟨?_, ?_, ?_, ?_, ?_⟩
  · unfold Gen.SolCheck.evalAnd
    rw [fold_exit _ (fun q => decide (q < 1/2)) (D.ofInt 0) (fun _ _ => rfl) (fun _ => rfl)]
    simp only [Func.value]
    cases (a.map e.x).any (fun v => decide (v < 1/2)) <;> rfl
  · unfold Gen.SolCheck.evalOr
    rw [fold_exit _ (fun q => decide ((1/2 : Rat) ≤ q)) (D.ofInt 1) (fun _ _ => rfl)
      (fun q => by simp only [D.ge_fin])]
    simp only [Func.value]
    cases (a.map e.x).any (fun v => decide ((1/2 : Rat) ≤ v)) <;> rfl
  · unfold Gen.SolCheck.evalCount
    simp only []
    rw [foldl_inr (fun n : Nat => D.fin (n : Rat)) D.fin (fun n v => if decide ((1/2 : Rat) ≤ v) then n + 1 else n) ?_ 0 ?_,
      foldl_count]
    · simp only [Func.value, Nat.zero_add]
    · intro n v
      simp only [D.ge_fin, D.ofInt_one, D.add]; split <;> simp [Rat.natCast_add]
    · rfl
  · intro hne
    unfold Gen.SolCheck.evalMax
    cases a with
    | nil => exact absurd rfl hne
    | cons a0 t =>
      simp only [List.map, List.foldl, show D.lt (D.neg D.pinf) (D.fin (e.x a0)) = true from rfl, if_true]
      rw [foldl_inr D.fin D.fin (fun r v => if r < v then v else r)
        (fun r q => by simp only [D.lt_fin, decide_eq_true_eq]; split <;> rfl) _ rfl]
      rfl
  · intro hne
    unfold Gen.SolCheck.evalMin
    cases a with
    | nil => exact absurd rfl hne
    | cons a0 t =>
      simp only [List.map, List.foldl, show D.gt D.pinf (D.fin (e.x a0)) = true from rfl, if_true]
      rw [foldl_inr D.fin D.fin (fun r v => if v < r then v else r)
        (fun r q => by simp only [D.gt_fin, decide_eq_true_eq]; split <;> rfl) _ rfl]
      rfl

/-- `SOS_1or2_Constraint::ComputeViolationSOS1` — the index loop over the members, generated as a fold over the
reversed list of the members' `is_nonzero` flags (`C07_gen_varinfo`), is the model's `sos1Viol` -/
theorem C07_gen_sos1 (vs : List Nat) (e : Env) :
    Gen.SolCheck.sos1ComputeViolation (vs.map e.isNonzero) = violD (sos1Viol vs e) := by
  unfold Gen.SolCheck.sos1ComputeViolation
  simp only [← List.map_reverse]
  rw [foldl_inr (fun n : Nat => (n : Int)) e.isNonzero (fun n v => if e.isNonzero v then n + 1 else n)
    (by intro n v; cases e.isNonzero v <;> rfl) 0 ?_, foldl_count]
  · simp only [sos1Viol, violD, List.filter_reverse, List.length_reverse, Nat.zero_add, sos_excess_cast]
    rfl
  · rfl

/-- `ComputeValue(NumberofConstConstraint)` — the range-for over the arguments with the per-argument
operands `x[v]`, `is_var_int(v)` and the tolerance `feastol()`, generated as a fold, is the model's `Func.value` -/
theorem C07_gen_numberof (e : Env) (k : Rat) (a : List Nat) :
    Gen.SolCheck.evalNumberofConst (D.fin k) (D.fin e.feastol) (a.map (fun v => (D.fin (e.x v), e.isInt v))) =
      D.fin ((Func.numberofConst k a).value e) := by
  unfold Gen.SolCheck.evalNumberofConst
  simp only []
  rw [foldl_inr (fun n : Nat => D.fin (n : Rat)) _ (fun n v => if numberofHit e k v then n + 1 else n) ?_ 0 ?_, foldl_count]
  · simp only [Func.value, Nat.zero_add]
  · intro r v
    unfold numberofHit
    by_cases hi : e.isInt v = true <;> by_cases h1 : ((cround (e.x v) : Int) : Rat) = k <;>
      by_cases h2 : rabs (e.x v - k) ≤ e.feastol <;>
      simp [hi, h1, h2, D.eq, D.round, D.fin, D.sub_fin, D.le_fin, D.abs, D.add, D.ofInt, Rat.natCast_add]
  · rfl

/-- `ViolSummary::CheckViol` / `CountViol` (count, maxima and the names attached to them) -/
theorem C07_gen_summ (s : Summ) (c : Cand) (er : Rat) (he : c.epsrel = some er) (h : c.v.viol = .pinf → c.v.ref = 0) :
    G.checkViol s.n s.maxAbs s.nameAbs (D.fin s.maxRel) s.nameRel c.v.viol (D.fin c.v.ref) (D.fin c.epsabs) (D.fin er) (some c.name) =
      ((s.add c).n, (s.add c).maxAbs, (s.add c).nameAbs, D.fin (s.add c).maxRel, (s.add c).nameRel) := by
  simp only [Gen.SolCheck.checkViol, C07_gen_check c.v c.epsabs er h, Summ.add, he]
  cases hv : (c.v.check c.epsabs (some er)).1
  · simp
  · have hfin : ∀ a b : Rat, ER.lt (ER.fin a) (ER.fin b) = decide (a < b) := fun _ _ => rfl
    simp only [if_true, Gen.SolCheck.countViol, D.lt, D.fin, hfin]
    by_cases h1 : s.maxAbs.lt c.v.viol = true <;> by_cases h2 : s.maxRel < (c.v.check c.epsabs (some er)).2 <;>
      simp [h1, h2]

/-- class, selection test and report slot of a constraint -/
theorem C07_gen_class (it : Item) (mode : Nat) :
    it.cclass = G.conClass it.bridged it.depth ∧
    it.selected mode = (!it.unused && G.conSelected it.cclass mode) ∧
    it.slot = G.conSlot it.cclass := by
  refine ⟨?_, ?_, ?_⟩
  · unfold Item.cclass Gen.SolCheck.conClass
    cases it.bridged <;> by_cases hd : it.depth = 0 <;> simp [hd]
  · unfold Item.selected Gen.SolCheck.conSelected
    cases it.unused <;> by_cases h : it.cclass &&& mode = 0 <;> simp [h]
  · unfold Item.slot Gen.SolCheck.conSlot
    by_cases h2 : it.cclass &&& 2 = 0 <;> by_cases h8 : it.cclass &&& 8 = 0 <;> simp [h2, h8]

/-- the constants the model combines with `sol:chk:mode` and the code raised by `sol:chk:fail` are those
of `CheckSolution` / `DoCheckSol` / `sol::MP_SOLUTION_CHECK` -/
theorem C07_gen_masks :
    G.realMask = 31 ∧ G.idealMask = 992 ∧ G.idealShift = 5 ∧ G.varsBit = 1 ∧ G.consMask = 14 ∧ G.objBit = 16 ∧
    (∀ o oc, solveCodeOverride o oc = some G.failCode ∨ solveCodeOverride o oc = none) := by
  refine ⟨rfl, rfl, rfl, rfl, rfl, rfl, ?_⟩
  intro o oc
  unfold solveCodeOverride Gen.SolCheck.failCode
  split <;> simp

/-- evaluators the exact model covers (`Func` constructors, `adef`, and the objective body `Obj.body`), evaluators observed through the floating-point
oracle only, and overloads that are not per-type evaluators -/
def evalExact : List String :=
  ["AbsConstraint", "AllDiffConstraint", "AndConstraint", "ConditionalConstraint<Con>", "CountConstraint", "DivConstraint",
   "IfThenConstraint", "ImplicationConstraint", "LinearFunctionalConstraint", "MaxConstraint", "MinConstraint", "NotConstraint",
   "NumberofConstConstraint", "NumberofVarConstraint", "OrConstraint", "PLConstraint", "PowConstraint",
   "QuadraticFunctionalConstraint", "QuadraticObjective"]
def evalFloat : List String :=
  ["AcosConstraint", "AcoshConstraint", "AsinConstraint", "AsinhConstraint", "AtanConstraint", "AtanhConstraint", "CosConstraint",
   "CoshConstraint", "ExpAConstraint", "ExpConstraint", "LogAConstraint", "LogConstraint", "SinConstraint", "SinhConstraint",
   "TanConstraint", "TanhConstraint"]
def evalOther : List String := ["GENERIC(Con)"]

/-- the set of `ComputeValue` overloads in the source is exactly the set the model / the float oracle
cover, and the functions named `ComputeViolation*` are the known ones — a new or removed evaluator breaks this -/
theorem C07_gen_structure :
    (∀ t ∈ G.computeValueTypes, t ∈ evalExact ∨ t ∈ evalFloat ∨ t ∈ evalOther) ∧
    (∀ t ∈ evalExact ++ evalFloat ++ evalOther, t ∈ G.computeValueTypes) ∧
    G.computeViolationSites =
      ["ComputeViolation(CustomFunctionalConstraint)", "ComputeViolation(ExponentialConeConstraint)",
       "ComputeViolation(QuadraticConeConstraint)", "ComputeViolation(RotatedQuadraticConeConstraint)",
       "ComputeViolation(VarInfo)", "ComputeViolation(VarVec)", "ComputeViolationSOS1(VarInfo)", "ComputeViolationSOS2(VarInfo)",
       "ComputeViolations(SolCheck)"] := by
  decide +kernel

/-! `_partial`: the equivalences with the specification of `Spec.lean` hold under the hypotheses `SatHypT` (and, against the
unrestricted `SatTol`, the assumption `SatHyp.untested_hold`); `untested_hold`, `no_ctx_none` and `in_domain` each have a
counterexample further down. -/

/-- **the `ComputeValue` overloads (as modelled by `Func.value`) compute the mathematical functions** `Func.denote` wherever the
arguments are in the domain `Func.inDomain` (logical arguments 0/1, non-empty max/min, non-zero divisor, integral arguments and a
tolerance below 1/2 for alldiff/numberof) -/
theorem C07_value_eq_denote (f : Func) (e : Env) (h : f.inDomain e = true) (ht0 : 0 ≤ e.feastol) : f.value e = f.denote e := by
  cases f with
  | alldiff a =>
    simp only [Func.inDomain, List.all_eq_true] at h
    simp only [Func.value, Func.denote]
    rw [anyEqRound_eq]
    intro q hq
    obtain ⟨i, hi, rfl⟩ := List.mem_map.mp hq
    exact h i hi
  | numberofConst k a => exact numberof_value_eq_denote e k a h ht0
  | numberofVar v0 a => exact numberof_value_eq_denote e (e.x v0) a h ht0
  | affine b => rfl
  | max a => rfl
  | min a => rfl
  | abs a => rfl
  | and a =>
    simp only [Func.inDomain, List.all_eq_true] at h
    simp only [Func.value, Func.denote, List.any_map, List.not_any_eq_all_not]
    congr 1
    refine all_congr_mem a _ _ fun i hi => ?_
    show (!decide (e.x i < 1/2)) = decide (e.x i = 1)
    rcases isBoolV_cases (h i hi) with h0 | h0 <;> rw [h0] <;> decide +kernel
  | or a =>
    simp only [Func.inDomain, List.all_eq_true] at h
    simp only [Func.value, Func.denote, List.any_map]
    congr 1
    apply any_congr_mem
    intro i hi
    exact decide_eq_decide.mpr (bool_ge_half (h i hi))
  | not a =>
    simp only [Func.inDomain] at h
    simp only [Func.value, Func.denote]
    congr 1; exact decide_eq_decide.mpr (bool_lt_half h)
  | div a b => rfl
  | ifthen c t el =>
    simp only [Func.inDomain] at h
    simp only [Func.value, Func.denote]
    by_cases hc : e.x c = 1
    · rw [if_pos ((bool_ge_half h).mpr hc), if_pos hc]
    · rw [if_neg (fun hh => hc ((bool_ge_half h).mp hh)), if_neg hc]
  | impl c t el =>
    simp only [Func.inDomain, Bool.and_eq_true] at h
    obtain ⟨⟨hc, ht⟩, hel⟩ := h
    simp only [Func.value, Func.denote]
    congr 1
    simp only [bool_ge_half hc, bool_ge_half ht, bool_ge_half hel, bool_lt_half hc, bool_ne_one hc]
    by_cases h1 : e.x c = 1 <;> simp [h1]
  | count a =>
    simp only [Func.inDomain, List.all_eq_true] at h
    simp only [Func.value, Func.denote, List.filter_map, List.length_map]
    congr 2
    apply List.filter_congr
    intro i hi
    exact decide_eq_decide.mpr (bool_ge_half (h i hi))
  | cond c => rfl
  | pl pts a => rfl
  | pow a k => rfl

/-- SOS1: the measure `max(0, #nonzero − 1)` is within a tolerance in `[0,1)` iff at most one member is non-zero beyond tolerance -/
theorem C07_sos1_spec (vs : List Nat) (e : Env) (ea er : Rat) (h0 : 0 ≤ ea) (h1 : ea < 1) :
    ((sos1Viol vs e).check ea (some er)).1 = false ↔ (vs.filter (nonZeroV e)).length ≤ 1 := by
  simp only [sos1Viol, C07_tolerance_test _ _ _ _ h0, nonZeroV_eq]
  simp only [ne_eq, not_true_eq_false, false_and, or_false]
  rw [natCast_le_tol_iff h0 h1]; omega

/-- SOS2: the measure `max(0, #positive − 2) + |1 − distance|` is within a tolerance in `[0,1)` iff the positive members are
none, one, or two adjacent ones (in weight order) -/
theorem C07_sos2_spec (vs : List Nat) (e : Env) (ea er : Rat) (h0 : 0 ≤ ea) (h1 : ea < 1) :
    ((sos2Viol vs e).check ea (some er)).1 = false ↔
      SOS2OK ((List.range vs.length).filter (fun i => positiveV e (vs.getD i 0))) := by
  simp only [sos2Viol, C07_tolerance_test _ _ _ _ h0, positiveV_eq]
  simp only [ne_eq, not_true_eq_false, false_and, or_false]
  rw [List.filter_reverse]
  exact sos2_core _ ea h0 h1

/-- complementarity by the position of the variable: at its lower bound the expression is ≥ −tol, at its upper bound ≤ tol,
strictly inside |expression| ≤ tol -/
theorem C07_compl_spec (ex : Body) (v : Nat) (e : Env) (ea er : Rat) (h0 : 0 ≤ ea) :
    ((complViol ex v e).check ea (some er)).1 = false ↔
      (if atLbV e v then -(ex.val e.x) ≤ ea else if atUbV e v then ex.val e.x ≤ ea else rabs (ex.val e.x) ≤ ea) := by
  rw [atUbV_eq, atLbV_eq]
  simp only [complViol]
  split <;> (try split) <;> simp [C07_tolerance_test _ _ _ _ h0]

/-- the tolerance test of one constraint against its clause of `ConSpec`.  A linear / quadratic defining constraint is never
reported (`C07_adef_never_reported`) and its clause is not claimed: the condition is the second disjunct of `Item.untested`
(`generalizing := false` keeps the hypotheses about `c` out of the match, so that it is that disjunct syntactically:
`SatHypT.item_iff` unfolds `Item.untested` and closes its goal with this statement) -/
theorem con_check_iff (c : Con) (e : Env) (ea er : Rat) (hea : 0 ≤ ea) (hea1 : ea < 1) (hft0 : 0 ≤ e.feastol) (hwf : c.wf)
    (hnone : c.ctxNone = false ∨ e.recomp = true)
    (hdom : ∀ res ctx f, c = .func res ctx f → e.recomp = false → f.inDomain e = true) :
    ((c.viol e).check ea (some er)).1 = false ↔
      ((match (generalizing := false) c with | .adef _ _ _ => true | _ => false) = false → ConSpec c e ea er) := by
  have hctx : ∀ ctx : Ctx, e.recomp = false → (c.ctxNone = false → ctx ≠ .none) → ctx ≠ .none := fun ctx hr h =>
    h (hnone.resolve_right (by simp [hr]))
  cases c
  case adef r cx b => exact iff_of_true (zero_check hea) (fun h => nomatch h)
  all_goals refine Iff.trans ?_ ⟨fun h _ => h, fun h => h rfl⟩
  case alg a => exact alg_check_iff a e.x ea er hea hwf
  case func res ctx f =>
    cases hr : e.recomp <;> simp only [ConSpec, RecompSpec, boundExcess_eq, hr, Bool.false_eq_true, if_false, if_true]
    · rw [← C07_value_eq_denote f e (hdom res ctx f rfl hr) hft0]
      have hc := hctx ctx hr (by rintro h rfl; cases h)
      cases ctx
      · exact absurd rfl hc
      all_goals exact C07_within_func res _ f e ea er hea hr
    · exact C07_within_func_ideal res ctx f e ea er hea hr
  case cond res ctx a =>
    cases hr : e.recomp <;> simp only [ConSpec, RecompSpec, boundExcess_eq, hr, Bool.false_eq_true, if_false, if_true]
    · exact cond_real_iff res ctx a e ea er hea hwf.1 hr (hctx ctx hr (by rintro h rfl; cases h))
    · exact C07_within_cond_ideal res ctx a e ea er hea hr
  case indicator b bv a =>
    simp only [Con.viol, ConSpec]
    split
    · exact (alg_check_iff a e.x ea er hea hwf).trans ⟨fun h _ => h, fun h => h ‹_›⟩
    · exact iff_of_true (zero_check hea) (fun h => absurd h ‹_›)
  case sos1 vs => exact C07_sos1_spec vs e ea er hea hea1
  case sos2 vs => exact C07_sos2_spec vs e ea er hea hea1
  case compl ex v => exact C07_compl_spec ex v e ea er hea

theorem SatHypT.item_iff {m : Model} {o : Opts} {e : Env} {mode : Nat} (H : SatHypT m o e mode) (hef : 0 ≤ e.feastol)
    {kp : Keeper} {it : Item} (hkp : kp ∈ m.keepers) (hit : it ∈ kp.items) :
    (it.selected mode = true → (⟨it.con.viol e, o.feastol, some o.feastolrel, it.name⟩ : Cand).violated = false) ↔
    (specClass it &&& mode ≠ 0 → it.untested = false → ConSpec it.con e o.feastol o.feastolrel) := by
  unfold Item.selected Item.untested Cand.violated
  rw [specClass_eq]
  cases hun : it.unused
  · simp only [Bool.not_false, Bool.true_and, decide_eq_true_eq, Bool.false_or]
    exact imp_congr_right fun hcl => con_check_iff it.con e o.feastol o.feastolrel H.feastol_nonneg H.feastol_lt_one hef
      (H.wf kp hkp it hit) (H.no_ctx_none.symm.imp_left fun h => h kp hkp it hit hun hcl)
      (fun res ctx f hc hr => (H.in_domain.resolve_left (by simp [hr])) kp hkp it hit hun hcl res ctx f hc)
  · exact iff_of_true (fun h => nomatch h) (fun _ h => nomatch h)

/-- one pass: no report iff the point satisfies, within tolerances, the bounds, integrality, objective values and THE
CONSTRAINTS THE CHECKER TESTS (`SatTolPassTested`: items not marked unused and not linear/quadratic defining constraints) -/
theorem C07_sat_pass_tested_partial (m : Model) (o : Opts) (xs objv raw : List Rat) (recomp : Bool)
    (H : SatHypT m o (passEnv m o xs raw recomp) (passMode o recomp)) :
    (doCheckSol m o xs objv raw recomp).1 = [] ↔
      SatTolPassTested m o (passEnv m o xs raw recomp) (passMode o recomp) objv := by
  rw [C07_iff_pass, forall_mem_passCands]
  -- group by group and index by index, the lemma of each kind of test
  exact and_congr
    (imp_congr_right fun _ => forall_congr' fun i => imp_congr_right fun _ => imp_congr_right fun _ =>
      and_assoc.symm.trans (and_congr
        (and_congr (C07_within_lb _ _ _ _ _ H.feastol_nonneg) (C07_within_ub _ _ _ _ _ H.feastol_nonneg))
        (imp_congr_right fun _ => C07_integrality _ _ _ H.inttol_nonneg)))
    (and_congr
      (imp_congr_right fun _ => forall_congr' fun kp => forall_congr' fun hkp => forall_congr' fun it =>
        forall_congr' fun hit => H.item_iff (show 0 ≤ o.feastol from H.feastol_nonneg) hkp hit)   -- `(passEnv ..).feastol` is `o.feastol`
      (imp_congr_right fun _ => forall_congr' fun i => imp_congr_right fun _ => C07_tolerance_test _ _ _ _ H.feastol_nonneg))

/-- the tested restriction is the whole difference between `SatTolPassTested` and `SatTolPass` -/
theorem satTolPass_iff_tested (m : Model) (o : Opts) (e : Env) (mode : Nat) (objv : List Rat)
    (hunt : ∀ kp, kp ∈ m.keepers → ∀ it, it ∈ kp.items → it.untested = true → it.cclass &&& mode ≠ 0 →
      ConSpec it.con e o.feastol o.feastolrel) :
    SatTolPassTested m o e mode objv ↔ SatTolPass m o e mode objv := by
  simp only [SatTolPassTested, SatTolPass, specClass_eq]
  refine and_congr Iff.rfl (and_congr (imp_congr_right fun _ => ?_) Iff.rfl)
  constructor
  · intro h kp hkp it hit hcl
    by_cases hu : it.untested = true
    · exact hunt kp hkp it hit hu hcl
    · exact h kp hkp it hit hcl (by simpa using hu)
  · intro h kp hkp it hit hcl _
    exact h kp hkp it hit hcl

/-- one pass against the full specification: needs the ASSUMPTION `SatHyp.untested_hold` -/
theorem C07_sat_pass_partial (m : Model) (o : Opts) (xs objv raw : List Rat) (recomp : Bool)
    (H : SatHyp m o (passEnv m o xs raw recomp) (passMode o recomp)) :
    (doCheckSol m o xs objv raw recomp).1 = [] ↔
      SatTolPass m o (passEnv m o xs raw recomp) (passMode o recomp) objv := by
  rw [C07_sat_pass_tested_partial m o xs objv raw recomp H.toSatHypT]
  exact satTolPass_iff_tested m o _ _ objv H.untested_hold

/-- for every solver status, `CheckSolution` has no report iff the check is exempt (status
200..299 without `sol:chk:infeas`) or the point satisfies, within tolerances, the bounds, integrality, objectives and the
constraints the checker tests (`SatTolTested`).  No assumption about the untested constraints; `SatHypT` (tolerances in
`[0,1)`, rows with `lo ≤ hi`, no selected `CTX_NONE` constraint and functional constraints inside their evaluator's domain on
the solver's values) for the passes that run. -/
theorem C07_sat_iff_tested_partial (m : Model) (o : Opts) (xs objv : List Rat) (code : Int)
    (Hreal : o.mode &&& 31 ≠ 0 → SatHypT m o (passEnv m o xs [] false) (passMode o false))
    (Hideal : o.mode &&& 992 ≠ 0 →
      SatHypT m o (passEnv m o (recompute m o xs) (xBack m o xs) true) (passMode o true)) :
    (checkSolutionCode m o xs objv code).hasReport = false ↔
      (((200 ≤ code ∧ code ≤ 299) ∧ o.infeas = false) ∨ SatTolTested m o xs objv) := by
  unfold checkSolutionCode SatTolTested
  rw [C07_iff, isProblemInfeasible_iff]
  refine or_congr Iff.rfl (and_congr (imp_congr_right fun hb => ?_) (imp_congr_right fun hb => ?_))
  · exact (C07_iff_pass ..).symm.trans (C07_sat_pass_tested_partial m o xs objv [] false (Hreal hb))
  · exact (C07_iff_pass ..).symm.trans (C07_sat_pass_tested_partial m o _ objv _ true (Hideal hb))

/-- the same against the full `SatTol` — this form ASSUMES (`SatHyp.untested_hold`) that the
constraints the checker never tests hold -/
theorem C07_sat_iff_partial (m : Model) (o : Opts) (xs objv : List Rat) (code : Int)
    (Hreal : o.mode &&& 31 ≠ 0 → SatHyp m o (passEnv m o xs [] false) (passMode o false))
    (Hideal : o.mode &&& 992 ≠ 0 →
      SatHyp m o (passEnv m o (recompute m o xs) (xBack m o xs) true) (passMode o true)) :
    (checkSolutionCode m o xs objv code).hasReport = false ↔
      (((200 ≤ code ∧ code ≤ 299) ∧ o.infeas = false) ∨ SatTol m o xs objv) := by
  rw [C07_sat_iff_tested_partial m o xs objv code (fun h => (Hreal h).toSatHypT) (fun h => (Hideal h).toSatHypT)]
  exact or_congr Iff.rfl (and_congr
    (imp_congr_right fun hb => satTolPass_iff_tested m o _ _ objv (Hreal hb).untested_hold)
    (imp_congr_right fun hb => satTolPass_iff_tested m o _ _ objv (Hideal hb).untested_hold))

/-! The exceptions are real: counterexamples to the equivalence without `SatHyp.untested_hold` / `SatHypT.no_ctx_none` / `SatHypT.in_domain` -/

/-- `r = 2·x` (linear functional constraint, never tested), row `r ≤ 5`; the solver claims `r = 1` at `x = 4` -/
def cexAdefModel : Model :=
  ⟨[⟨some 0, some 10, false, true, "x", none⟩, ⟨some (-100), some 100, false, false, "r", some (0, 0)⟩],
   [⟨"_linfunccon", false, [⟨.adef 1 .mix ⟨[(2, 0)], [], 0⟩, 0, true, false, "d"⟩]⟩,
    ⟨"_linrange", false, [⟨.alg ⟨⟨[(1, 1)], [], 0⟩, .range, none, some 5⟩, 0, false, false, "c"⟩]⟩], []⟩

/-- no report on the solver's values, although the specification fails (`|1 − 8|` is not within tolerance) -/
theorem C07_counterexample_untested_adef :
    (checkSolutionCode cexAdefModel (cexOpts 3) [4, 1] [] 0).hasReport = false ∧
    ¬ SatTolPass cexAdefModel (cexOpts 3) (passEnv cexAdefModel (cexOpts 3) [4, 1] [] false) (passMode (cexOpts 3) false) [] := by
  refine ⟨by decide +kernel, ?_⟩
  intro h
  have := h.2.1 (by decide) _ (List.mem_cons_self ..) _ (List.mem_cons_self ..) (by decide)
  simp only [ConSpec, passEnv, Model.envOf, Bool.false_eq_true, if_false, FuncSpec, TolLE] at this
  revert this
  decide +kernel

/-- a row `x ≤ 5` marked unused, `x = 7`: skipped by the checker -/
def cexUnusedModel : Model :=
  ⟨[⟨some 0, some 10, false, true, "x", none⟩],
   [⟨"_linrange", false, [⟨.alg ⟨⟨[(1, 0)], [], 0⟩, .range, none, some 5⟩, 0, true, true, "c"⟩]⟩], []⟩

theorem C07_counterexample_untested_unused :
    (checkSolutionCode cexUnusedModel (cexOpts 3) [7] [] 0).hasReport = false ∧
    ¬ SatTolPass cexUnusedModel (cexOpts 3) (passEnv cexUnusedModel (cexOpts 3) [7] [] false) (passMode (cexOpts 3) false) [] := by
  refine ⟨by decide +kernel, ?_⟩
  intro h
  have := h.2.1 (by decide) _ (List.mem_cons_self ..) _ (List.mem_cons_self ..) (by decide)
  simp only [ConSpec, RowOK, TolLE] at this
  have h2 := this.2 5 rfl
  revert h2
  simp only [passEnv, Model.envOf]
  decide +kernel

/-- `r = |x|` whose result is used nowhere (`CTX_NONE`), with the exact value: the specification holds, the checker reports -/
def cexCtxNoneModel : Model :=
  ⟨[⟨some 0, some 10, false, true, "x", none⟩, ⟨some 0, some 10, false, false, "r", some (0, 0)⟩],
   [⟨"_abs", false, [⟨.func 1 .none (.abs 0), 0, false, false, "a"⟩]⟩], []⟩

theorem C07_counterexample_ctx_none :
    (checkSolutionCode cexCtxNoneModel (cexOpts 2) [3, 3] [] 0).hasReport = true ∧
    SatTolPass cexCtxNoneModel (cexOpts 2) (passEnv cexCtxNoneModel (cexOpts 2) [3, 3] [] false) (passMode (cexOpts 2) false) [] := by
  refine ⟨by decide +kernel, ?_, ?_, ?_⟩
  · intro h; exact absurd h (by decide)
  · intro _ kp hkp it hit _
    simp only [cexCtxNoneModel, List.mem_cons, List.mem_nil_iff, or_false] at hkp
    subst hkp
    simp only [List.mem_cons, List.mem_nil_iff, or_false] at hit
    subst hit
    simp [ConSpec, passEnv, Model.envOf, FuncSpec]
  · intro h; exact absurd h (by decide)

/-- `r = and(b)` with a logical argument that is not 0/1 (`b = 3/4`, outside `Func.inDomain`): the evaluator treats `3/4` as
true (threshold 1/2) and accepts `r = 1`; mathematically `b = 1` is false -/
def cexDomainModel : Model :=
  ⟨[⟨some 0, some 1, false, true, "b", none⟩, ⟨some 0, some 1, false, false, "r", some (0, 0)⟩],
   [⟨"_and", false, [⟨.func 1 .mix (.and [0]), 0, false, false, "a"⟩]⟩], []⟩

theorem C07_counterexample_domain :
    (checkSolutionCode cexDomainModel (cexOpts 3) [3/4, 1] [] 0).hasReport = false ∧
    ¬ SatTolPassTested cexDomainModel (cexOpts 3) (passEnv cexDomainModel (cexOpts 3) [3/4, 1] [] false) (passMode (cexOpts 3) false) [] := by
  refine ⟨by decide +kernel, ?_⟩
  intro h
  have := h.2.1 (by decide) _ (List.mem_cons_self ..) _ (List.mem_cons_self ..) (by decide) (by decide)
  simp only [ConSpec, passEnv, Model.envOf, Bool.false_eq_true, if_false, FuncSpec, TolLE] at this
  revert this
  decide +kernel

/-- for `v ≠ 0` with decimal exponent `e` (`10^(e−1) < |v| ≤ 10^e`, `|e| < 700`), `roundDigits v d` — what
`sol:chk:prec=d` applies to every component — is `v` rounded to `d` significant digits: an integer multiple of the unit of the
`d`-th significant digit, `10^(e−d) = 1/10^(d−e)`, within half that unit of `v` (nearest, ties away from zero) -/
theorem C07_round_digits (v : Rat) (d e : Int) (hv : v ≠ 0) (hb : Bracket (rabs v) e) (hr : e.natAbs < 700) :
    (∃ k : Int, roundDigits v d = (k : Rat) / pow10 (d - e)) ∧ rabs (roundDigits v d - v) ≤ 1 / (2 * pow10 (d - e)) := by
  have h : roundDigits v d = (cround (v * pow10 (d - e)) : Rat) / pow10 (d - e) := by
    simp only [roundDigits, if_neg hv, ceilLog10_spec (rabs v) e hb hr]
  rw [h]
  exact ⟨⟨_, rfl⟩, cround_scaled_err v _ (pow10_pos _)⟩

/-- `0.6006` to 3 significant digits is `0.601`, `0.96` to 2 digits stays `0.96`,
`2.0004` to 3 digits is `2`, `123.4` to 2 digits is `120` -/
theorem C07_round_digits_example :
    roundDigits (6006/10000) 3 = 601/1000 ∧ roundDigits (96/100) 2 = 96/100 ∧ roundDigits (20004/10000) 3 = 2 ∧
    roundDigits (1234/10) 2 = 120 ∧ Bracket (rabs (6006/10000)) 0 := by
  refine ⟨by decide +kernel, by decide +kernel, by decide +kernel, by decide +kernel, ?_⟩
  unfold Bracket; exact ⟨by decide +kernel, by decide +kernel⟩

/-- the model's `roundDigits` is the generated `round_to_digits<double>` (with `std::pow(10,·)`,
`std::round`, `ceil(log10(fabs(·)))` read as `D.pow10`, `D.round`, `D.ceilLog10Abs`) -/
theorem C07_gen_round_digits (v : Rat) (d : Int) :
    Gen.SolCheck.roundToDigits (D.fin v) d = D.fin (roundDigits v d) := by
  unfold Gen.SolCheck.roundToDigits roundDigits
  by_cases hv : v = 0
  · subst hv; simp [D.eq, D.ofInt, D.fin]
  · have hne : ¬ (ER.fin v = ER.fin 0) := by intro h; injection h with h; exact hv h
    have hfl : ((d : Rat) + -((ceilLog10 (rabs v) : Int) : Rat)).floor = d - ceilLog10 (rabs v) := by
      have : ((d : Rat) + -((ceilLog10 (rabs v) : Int) : Rat)) = ((d - ceilLog10 (rabs v) : Int) : Rat) := by push_cast; grind
      rw [this, Rat.floor_intCast]
    have hp := pow10_pos (d - ceilLog10 (rabs v))
    have hp0 : pow10 (d - ceilLog10 (rabs v)) ≠ 0 := by grind
    simp [D.eq, D.ofInt, D.fin, hne, hv, D.sub, D.neg, D.add, D.ceilLog10Abs, D.pow10, D.mul, D.round, D.div, hfl, hp0]

/-! Non-vacuity: concrete, non-trivial instances of the hypotheses (and of each direction of the iff-theorems) -/

-- tolerance test (`C07_tolerance_test`, hypothesis `0 ≤ epsabs`): reported / within the relative tolerance / within the absolute one
example : ((⟨.fin (1/2), 4⟩ : Violation).check (1/4) (some (1/16))).1 = true := by decide +kernel
example : ((⟨.fin (1/2), 16⟩ : Violation).check (1/4) (some (1/16))).1 = false := by decide +kernel
example : ((⟨.fin (1/4), 4⟩ : Violation).check (1/4) (some 0)).1 = false := by decide +kernel
-- hypothesis of `C07_gen_check` / `C07_gen_summ` (an infinite amount comes with reference 0): what `CTX_NONE` produces
example (e : Env) : (funcViol 0 .none (.abs 0) { e with recomp := false }).viol = .pinf ∧
    (funcViol 0 .none (.abs 0) { e with recomp := false }).ref = 0 := ⟨rfl, rfl⟩

/-- the row `1 ≤ 2·x0 + x1 ≤ 3` (hypothesis `lo ≤ hi` of `C07_within_alg`) -/
def exRow : AlgCon := ⟨⟨[(2, 0), (1, 1)], [], 0⟩, .range, some 1, some 3⟩
example : ∀ l u, exRow.lo = some l → exRow.hi = some u → l ≤ u := by
  intro l u hl hu; simp [exRow] at hl hu; subst hl hu; decide +kernel
example : ((exRow.viol (ptOf [1, 3/2])).check (1/4) (some 0)).1 = true := by decide +kernel      -- body 7/2 > 3 + 1/4
example : ((exRow.viol (ptOf [1, 5/4])).check (1/4) (some 0)).1 = false := by decide +kernel     -- body 13/4 = 3 + 1/4: boundary
example : ((exRow.viol (ptOf [0, 1/2])).check (1/4) (some 0)).1 = true := by decide +kernel      -- body 1/2 < 1 - 1/4

-- `C07_recompute` / `C07_recompute_unique`: an ordered model with a definition, vector of the right length
example : cexCondModel.ordered = true ∧ [7, 0].length = cexCondModel.nvars ∧ cexCondModel.defOf 1 ≠ none := by decide +kernel
-- `C07_selected_con`: a selected item of a keeper of the model
example : ∃ kp ∈ cexCondModel.keepers, ∃ it ∈ kp.items, it.selected ((cexOpts 96).mode >>> 5) = true := by decide +kernel
-- `C07_selected_var_bounds`: bit 1 on, original variable
example : (cexOpts 1).mode &&& 1 ≠ 0 ∧ 0 < cexCondModel.nvars ∧ (cexCondModel.var 0).orig = true := by decide +kernel
-- `C07_pl_*`: strictly increasing points
example : plSorted [(-1, 1), (0, 0), (2, 2), (3, 5)] := by unfold plSorted; decide +kernel
-- `C07_infeas_skip` / `C07_checked_for_code`: both sides
example : checkSolutionCode cexIntModel (cexOpts 1) [5/2] [] 210 = .skipped :=
  (C07_infeas_skip _ _ _ _ _).mpr ⟨⟨by decide, by decide⟩, rfl⟩
example : (checkSolutionCode cexIntModel (cexOpts 1) [5/2] [] 300).hasReport = true := by decide +kernel
example : (checkSolutionCode cexIntModel { cexOpts 1 with infeas := true } [5/2] [] 210).hasReport = true := by decide +kernel
-- `C07_fail`: with the option, no report leaves the solve code alone (a report giving 150: `C07_integrality_example`)
example : solveCodeOverride { cexOpts 1 with fail := true } (checkSolutionCode cexIntModel (cexOpts 1) [3] [] 0) = none := by decide +kernel

theorem cexCondModel_item {kp : Keeper} {it : Item} (hkp : kp ∈ cexCondModel.keepers) (hit : it ∈ kp.items) :
    it = ⟨.cond 1 .neg ⟨⟨[(1, 0)], [], 0⟩, .ge, some 5, none⟩, 0, true, false, "c"⟩ := by
  simp only [cexCondModel, List.mem_cons, List.mem_nil_iff, or_false] at hkp; subst hkp
  simpa using hit

-- `C07_sat_pass_partial` / `C07_sat_iff_partial`: the hypotheses `SatHyp` hold for a non-trivial model (a reified row in negative
-- context, nothing untested, no `CTX_NONE`), and there the equivalence decides both ways (x = 7 violates, x = 3 satisfies)
example : SatHyp cexCondModel (cexOpts 3) (passEnv cexCondModel (cexOpts 3) [7, 0] [] false) (passMode (cexOpts 3) false) where
  feastol_nonneg := by decide +kernel
  feastol_lt_one := by decide +kernel
  inttol_nonneg := by decide +kernel
  in_domain := Or.inr fun kp hkp it hit _ _ res ctx f hc => by rw [cexCondModel_item hkp hit] at hc; cases hc
  wf := fun kp hkp it hit => by
    rw [cexCondModel_item hkp hit]
    exact ⟨fun l u _ hu => (nomatch hu), Or.inl (fun h => nomatch h)⟩
  untested_hold := fun kp hkp it hit hu => by rw [cexCondModel_item hkp hit] at hu; cases hu
  no_ctx_none := Or.inr fun kp hkp it hit _ _ => by rw [cexCondModel_item hkp hit]; rfl
-- `SatHypT.in_domain` / `C07_value_eq_denote`: a functional constraint evaluated inside its domain (`r = and(b)`, `b = 1`)
example : (Func.and [0]).inDomain (passEnv cexDomainModel (cexOpts 3) [1, 1] [] false) = true ∧
    (Func.and [0]).inDomain (passEnv cexDomainModel (cexOpts 3) [3/4, 1] [] false) = false ∧
    (Func.numberofConst 2 [0, 1]).inDomain (passEnv cexDomainModel (cexOpts 3) [2, 1] [] false) = true := by decide +kernel
-- `C07_sos2_spec`: both sides (members 0 and 1 positive: adjacent; members 0 and 2: not)
example : SOS2OK ((List.range 3).filter (fun i => positiveV (passEnv cexDomainModel (cexOpts 3) [1, 1] [] false) ([0, 1, 5].getD i 0))) :=
  (C07_sos2_spec [0, 1, 5] _ (1/1000000) (1/1000000) (by decide +kernel) (by decide +kernel)).mp (by decide +kernel)
example : ¬ SOS2OK ((List.range 3).filter (fun i => positiveV (passEnv cexDomainModel (cexOpts 3) [1, 1] [] false) ([0, 5, 1].getD i 0))) :=
  fun h => absurd ((C07_sos2_spec [0, 5, 1] _ (1/1000000) (1/1000000) (by decide +kernel) (by decide +kernel)).mpr h) (by decide +kernel)
example : (checkSolutionCode cexCondModel (cexOpts 3) [7, 0] [] 0).hasReport = true ∧
    (checkSolutionCode cexCondModel (cexOpts 3) [3, 0] [] 0).hasReport = false := by decide +kernel

end MpVerif.C07
