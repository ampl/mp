import MpVerif.C07.Model
/-! `rabs`; when `Violation.check` fires; a report line exists iff one of its candidates is violated; what the candidates of a pass
are. -/
namespace MpVerif.C07

theorem rabs_nonneg (q : Rat) : 0 ≤ rabs q := by
  unfold rabs; split <;> grind

theorem rabs_of_nonneg {q : Rat} (h : 0 ≤ q) : rabs q = q := by
  unfold rabs; simp [h]

theorem rabs_of_nonpos {q : Rat} (h : q ≤ 0) : rabs q = -q := by
  unfold rabs; split <;> grind

theorem rabs_pos {q : Rat} (h : q ≠ 0) : 0 < rabs q := by
  unfold rabs; split <;> grind

theorem rabs_le_iff {x c : Rat} : rabs x ≤ c ↔ -c ≤ x ∧ x ≤ c := by
  unfold rabs; split <;> grind

theorem le_rabs_iff {x c : Rat} : c ≤ rabs x ↔ x ≤ -c ∨ c ≤ x := by
  unfold rabs; split <;> grind

theorem rabs_neg (q : Rat) : rabs (-q) = rabs q := by
  unfold rabs; split <;> split <;> grind

theorem rabs_mul (a b : Rat) : rabs (a * b) = rabs a * rabs b := by
  -- both sides are unchanged when a factor changes sign, so the factors may be taken non-negative
  have key : ∀ a b : Rat, 0 ≤ a → 0 ≤ b → rabs (a * b) = rabs a * rabs b := fun a b ha hb => by
    rw [rabs_of_nonneg ha, rabs_of_nonneg hb, rabs_of_nonneg (Rat.mul_nonneg ha hb)]
  by_cases ha : 0 ≤ a <;> by_cases hb : 0 ≤ b
  · exact key a b ha hb
  · have := key a (-b) ha (by grind); rwa [Rat.mul_neg, rabs_neg, rabs_neg] at this
  · have := key (-a) b (by grind) hb; rwa [Rat.neg_mul, rabs_neg, rabs_neg] at this
  · have := key (-a) (-b) (by grind) (by grind); rwa [Rat.neg_mul, Rat.mul_neg, Rat.neg_neg, rabs_neg, rabs_neg] at this

theorem check_fin_some (a r ea er : Rat) :
    ((⟨.fin a, r⟩ : Violation).check ea (some er)).1 = true ↔ ea < a ∧ (r = 0 ∨ er < rabs (a / r)) := by
  unfold Violation.check
  simp only
  by_cases h1 : ea < a
  · by_cases h2 : r = 0
    · simp [h1, h2]
    · by_cases h3 : er < rabs (a / r) <;> simp [h1, h2, h3]
  · simp [h1]

theorem check_fin_none (a r ea : Rat) :
    ((⟨.fin a, r⟩ : Violation).check ea none).1 = true ↔ ea < a ∧ r = 0 := by
  unfold Violation.check
  simp only
  by_cases h1 : ea < a
  · by_cases h2 : r = 0 <;> simp [h1, h2]
  · simp [h1]

theorem check_ninf (r ea : Rat) (er : Option Rat) : ((⟨.ninf, r⟩ : Violation).check ea er).1 = false := rfl

theorem check_pinf (r ea er : Rat) : ((⟨.pinf, r⟩ : Violation).check ea (some er)).1 = true := by
  simp only [Violation.check]; split <;> rfl

theorem rel_lt_iff {a r er : Rat} (ha : 0 < a) (hr : r ≠ 0) : er < rabs (a / r) ↔ er * rabs r < a := by
  have h : rabs (a / r) * rabs r = a := by
    rw [← rabs_mul, Rat.div_mul_cancel hr, rabs_of_nonneg (Rat.le_of_lt ha)]
  rw [← Rat.mul_lt_mul_right (rabs_pos hr), h]

theorem foldl_count {α : Type} (p : α → Bool) (l : List α) (n : Nat) :
    l.foldl (fun n a => if p a then n + 1 else n) n = n + (l.filter p).length := by
  induction l generalizing n with
  | nil => rfl
  | cons a t ih => simp only [List.foldl, ih, List.filter_cons]; cases p a <;> simp <;> omega

theorem Summ.add_n (s : Summ) (c : Cand) : (s.add c).n = if c.violated then s.n + 1 else s.n := by
  unfold Summ.add Cand.violated
  cases h : (c.v.check c.epsabs c.epsrel).1
  · simp [h]
  · simp only [h, if_true]
    split <;> split <;> rfl

theorem summarize_n (cs : List Cand) : (summarize cs).n = (cs.filter Cand.violated).length := by
  unfold summarize
  rw [← List.foldl_hom Summ.n (g₂ := fun n c => if c.violated then n + 1 else n) fun s c => (s.add_n c).symm, foldl_count]
  exact Nat.zero_add _

theorem slotLine_eq_nil (label : String) (fmax : Bool) (cs : List Cand) :
    slotLine label fmax cs = [] ↔ ∀ c ∈ cs, c.violated = false := by
  simp only [slotLine, summarize_n, List.length_pos_iff, ite_eq_right_iff, reduceCtorEq, imp_false, ne_eq, Decidable.not_not,
    List.filter_eq_nil_iff, Bool.not_eq_true]

/-- candidates of a keeper: every item that is not unused and whose class is enabled by the mode bits -/
def Keeper.selCands (kp : Keeper) (o : Opts) (mode : Nat) (e : Env) : List Cand :=
  (kp.items.reverse.filter (fun it => it.selected mode)).map (fun it =>
    ⟨it.con.viol e, o.feastol, some o.feastolrel, it.name⟩)

/-- all tolerance tests performed by one pass of `DoCheckSol` -/
def passCands (m : Model) (o : Opts) (xs objv raw : List Rat) (recomp : Bool) : List Cand :=
  let mode := if recomp then o.mode >>> 5 else o.mode
  let xr := applyPrecision o xs
  let e := m.envOf o xr raw recomp
  (if mode &&& 1 ≠ 0 then
     m.varBndCands o e.x recomp false ++ m.varBndCands o e.x recomp true ++
     m.varIntCands o e.x recomp false ++ m.varIntCands o e.x recomp true
   else []) ++
  (if mode &&& 14 ≠ 0 then m.keepers.flatMap (fun kp => kp.selCands o mode e) else []) ++
  (if mode &&& 16 ≠ 0 then m.objCands o e.x objv else [])

theorem Item.slot_cases (it : Item) : it.slot = 0 ∨ it.slot = 1 ∨ it.slot = 2 := by
  unfold Item.slot
  split
  · exact Or.inl rfl
  · split
    · exact Or.inr (Or.inr rfl)
    · exact Or.inr (Or.inl rfl)

theorem Keeper.lines_eq_nil (kp : Keeper) (o : Opts) (mode : Nat) (e : Env) :
    kp.lines o mode e = [] ↔ ∀ c ∈ kp.selCands o mode e, c.violated = false := by
  simp only [Keeper.lines, Keeper.selCands, Keeper.cands, List.flatMap_eq_nil_iff, slotLine_eq_nil, List.forall_mem_map,
    List.mem_filter, Bool.and_eq_true, beq_iff_eq, and_imp]
  exact ⟨fun h it hit hs => h it.slot (by rcases it.slot_cases with h | h | h <;> simp [h]) it hit hs rfl,
    fun h _ _ it hit hs _ => h it hit hs⟩

theorem conLines_eq_nil (ks : List Keeper) (o : Opts) (mode : Nat) (e : Env) :
    ((ks.filter (fun kp => kp.logical == false)).flatMap (fun kp => kp.lines o mode e) = [] ∧
     (ks.filter (fun kp => kp.logical == true)).flatMap (fun kp => kp.lines o mode e) = []) ↔
    ∀ c ∈ ks.flatMap (fun kp => kp.selCands o mode e), c.violated = false := by
  simp only [List.flatMap_eq_nil_iff, List.mem_filter, Keeper.lines_eq_nil, List.mem_flatMap]
  constructor
  · rintro ⟨h0, h1⟩ c ⟨kp, hkp, hc⟩
    cases hl : kp.logical
    · exact h0 kp ⟨hkp, by simp [hl]⟩ c hc
    · exact h1 kp ⟨hkp, by simp [hl]⟩ c hc
  · intro h
    exact ⟨fun kp hk c hc => h c ⟨kp, hk.1, hc⟩, fun kp hk c hc => h c ⟨kp, hk.1, hc⟩⟩

theorem forall_mem_ite_nil {α} (p : Prop) [Decidable p] (l : List α) (P : α → Prop) :
    (∀ c ∈ (if p then l else []), P c) ↔ (p → ∀ c ∈ l, P c) := by
  split <;> simp [*]

theorem isProblemInfeasible_iff (code : Int) : isProblemInfeasible code = true ↔ 200 ≤ code ∧ code ≤ 299 := by
  simp only [isProblemInfeasible, Bool.and_eq_true, decide_eq_true_eq]

theorem mem_checkedVars (m : Model) (recomp aux : Bool) (i : Nat) :
    i ∈ m.checkedVars recomp aux ↔ i < m.nvars ∧ (!(m.var i).orig) = aux ∧ ((m.var i).orig = true ∨ recomp = false) := by
  unfold Model.checkedVars
  simp only [List.mem_filter, List.mem_reverse, List.mem_range, Bool.and_eq_true, beq_iff_eq, Bool.or_eq_true,
    Bool.not_eq_true']

/-- what one pass tests, as a quantifier -/
theorem forall_mem_passCands (m : Model) (o : Opts) (xs objv raw : List Rat) (recomp : Bool) (Q : Cand → Prop) :
    (∀ c ∈ passCands m o xs objv raw recomp, Q c) ↔
      let mode := if recomp then o.mode >>> 5 else o.mode
      let e := m.envOf o (applyPrecision o xs) raw recomp
      (mode &&& 1 ≠ 0 → ∀ i, i < m.nvars → ((m.var i).orig = true ∨ recomp = false) →
        Q ⟨boundLbViol (m.var i).lb (e.x i), o.feastol, some o.feastolrel, (m.var i).name⟩ ∧
        Q ⟨boundUbViol (m.var i).ub (e.x i), o.feastol, some o.feastolrel, (m.var i).name⟩ ∧
        ((m.var i).isInt = true → Q ⟨intViol (e.x i), o.inttol, some 0, (m.var i).name⟩)) ∧
      (mode &&& 14 ≠ 0 → ∀ kp, kp ∈ m.keepers → ∀ it, it ∈ kp.items → it.selected mode = true →
        Q ⟨it.con.viol e, o.feastol, some o.feastolrel, it.name⟩) ∧
      (mode &&& 16 ≠ 0 → ∀ i, i < min m.objs.length objv.length →
        Q ⟨⟨.fin (rabs (objv.getD i 0 - (m.objs.getD i default).body.val e.x)), (m.objs.getD i default).body.val e.x⟩,
          o.feastol, some o.feastolrel, (m.objs.getD i default).name⟩) := by
  simp only [passCands, List.forall_mem_append, forall_mem_ite_nil, and_assoc]
  refine and_congr (imp_congr_right fun _ => ?_) (and_congr (imp_congr_right fun _ => ?_) (imp_congr_right fun _ => ?_))
  · -- the two runs of `CheckVars` (original, auxiliary) together visit every variable the pass looks at
    have hv : ∀ P : Nat → Prop, ((∀ i ∈ m.checkedVars recomp false, P i) ∧ ∀ i ∈ m.checkedVars recomp true, P i) ↔
        ∀ i, i < m.nvars → ((m.var i).orig = true ∨ recomp = false) → P i := fun P => by
      simp only [mem_checkedVars, and_imp, ← forall_and]
      exact forall_congr' fun i => imp_congr_right fun _ => by cases (m.var i).orig <;> simp
    simp only [Model.varBndCands, Model.varIntCands, List.forall_mem_flatMap, List.forall_mem_map, List.forall_mem_cons,
      List.mem_filter, and_imp, List.not_mem_nil, false_imp_iff, implies_true, and_true, ← and_assoc, hv]
    simp only [← forall_and, and_assoc]
  · simp only [Keeper.selCands, List.forall_mem_flatMap, List.forall_mem_map, List.mem_filter, List.mem_reverse, and_imp]
  · simp only [Model.objCands, List.forall_mem_map, List.mem_reverse, List.mem_range]

/-- every constraint class lies in the mask 2|4|8 -/
theorem Item.selected_mask {it : Item} {mode : Nat} (h : it.selected mode = true) : mode &&& 14 ≠ 0 := by
  simp only [Item.selected, Bool.and_eq_true, Bool.not_eq_true', decide_eq_true_eq] at h
  have hc : it.cclass &&& 14 = it.cclass := by
    unfold Item.cclass; cases it.bridged <;> by_cases hd : it.depth = 0 <;> simp [hd]
  intro h0
  apply h.2
  rw [← hc, Nat.and_assoc, Nat.and_comm 14 mode, h0, Nat.and_zero]

end MpVerif.C07
