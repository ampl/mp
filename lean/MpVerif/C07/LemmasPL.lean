import MpVerif.C07.Model
/-! Piecewise-linear evaluator: on strictly increasing points the scan `plScan` interpolates between the two points around the
argument; every point lies between the first and the last. -/
namespace MpVerif.C07

/-- points strictly increasing in `x` -/
def plSorted (pts : List (Rat × Rat)) : Prop := pts.Pairwise (fun p q => p.1 < q.1)

/-- the line through `a` and `b` evaluated at `x` -/
def lineThrough (a b : Rat × Rat) (x : Rat) : Rat := a.2 + (b.2 - a.2) / (b.1 - a.1) * (x - a.1)

theorem lineThrough_left (a b : Rat × Rat) : lineThrough a b a.1 = a.2 := by
  unfold lineThrough; rw [Rat.sub_self, Rat.mul_zero, Rat.add_zero]

theorem lineThrough_right (a b : Rat × Rat) (h : a.1 ≠ b.1) : lineThrough a b b.1 = b.2 := by
  have : b.1 - a.1 ≠ 0 := by grind
  unfold lineThrough; rw [Rat.div_mul_cancel this]; grind

/-- the form in which the scan interpolates (`plScan`) -/
theorem lineThrough_eq (a b : Rat × Rat) (x : Rat) :
    a.2 + (b.2 - a.2) * (x - a.1) / (b.1 - a.1) = lineThrough a b x := by
  unfold lineThrough; rw [Rat.div_def, Rat.div_def, Rat.mul_assoc, Rat.mul_comm (x - a.1), ← Rat.mul_assoc]

theorem plScan_between (pre : List (Rat × Rat)) (a b : Rat × Rat) (post : List (Rat × Rat)) (prev : Rat × Rat)
    (x : Rat) (hs : plSorted (pre ++ a :: b :: post)) (ha : a.1 ≤ x) (hb : x ≤ b.1) :
    plScan (pre ++ a :: b :: post) prev x = lineThrough a b x := by
  induction pre generalizing prev with
  | nil =>
    have hab : a.1 < b.1 := (List.pairwise_cons.mp hs).1 b (List.mem_cons_self ..)
    obtain ⟨ax, ay⟩ := a
    obtain ⟨bx, by'⟩ := b
    simp only [List.nil_append, plScan]
    split
    · rw [if_neg (Rat.not_lt.mpr hb)]
      split
      · next h => subst h; exact (lineThrough_right (ax, ay) (bx, by') (Rat.ne_of_lt hab)).symm
      · exact lineThrough_eq (ax, ay) (bx, by') x
    · next h1 =>
      have : ax = x := Rat.le_antisymm ha (Rat.not_lt.mp h1)
      subst this
      rw [if_pos rfl]; exact (lineThrough_left (ax, ay) (bx, by')).symm
  | cons p pre ih =>
    obtain ⟨px, py⟩ := p
    have hp : px < a.1 := (List.pairwise_cons.mp hs).1 a (by simp)
    have hlt : px < x := by grind
    simp only [List.cons_append, plScan, hlt, if_true]
    exact ih (px, py) (List.pairwise_cons.mp hs).2

theorem plSorted_first_le {p b : Rat × Rat} {t : List (Rat × Rat)} (hs : plSorted (p :: t)) (hb : b ∈ p :: t) :
    p.1 ≤ b.1 := by
  rcases List.mem_cons.mp hb with rfl | h
  · exact Rat.le_refl
  · exact Rat.le_of_lt (List.rel_of_pairwise_cons hs h)

theorem plSorted_le_last {pts rest : List (Rat × Rat)} {l b : Rat × Rat} (hs : plSorted pts)
    (hr : pts.reverse = l :: rest) (hb : b ∈ pts) : b.1 ≤ l.1 := by
  have hrs : (l :: rest).Pairwise (fun p q => q.1 < p.1) := hr ▸ List.pairwise_reverse.mpr hs
  rcases List.mem_cons.mp (hr ▸ List.mem_reverse.mpr hb) with h | h
  · rw [h]; exact Rat.le_refl
  · exact Rat.le_of_lt ((List.pairwise_cons.mp hrs).1 b h)

end MpVerif.C07
