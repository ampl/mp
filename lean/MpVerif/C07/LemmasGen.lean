import MpVerif.C07.GenSem
/-! Arithmetic and comparisons of `GenSem.D` on finite operands, and with the infinite bounds `loD none`, `hiD none`;
what the folds generated for C++ loops (state `Sum D S`: `inl` = returned, `inr` = loop-carried local) compute. -/
namespace MpVerif.C07.GenSem.D

theorem ofInt_zero : ofInt 0 = .fin 0 := rfl
theorem ofInt_one : ofInt 1 = .fin 1 := rfl

theorem sub_fin (a b : Rat) : sub (.fin a) (.fin b) = .fin (a - b) := by
  simp only [sub, neg, add, Rat.sub_eq_add_neg]

theorem sub_ninf_fin (b : Rat) : sub .ninf (.fin b) = .ninf := rfl
theorem sub_fin_pinf (a : Rat) : sub (.fin a) .pinf = .ninf := rfl

theorem lt_fin (a b : Rat) : lt (.fin a) (.fin b) = decide (a < b) := rfl
theorem gt_fin (a b : Rat) : gt (.fin a) (.fin b) = decide (b < a) := rfl

theorem le_fin (a b : Rat) : le (.fin a) (.fin b) = decide (a ≤ b) := by
  simp only [le, ER.lt, ← Rat.not_le, decide_not, Bool.not_not]

theorem ge_fin (a b : Rat) : ge (.fin a) (.fin b) = decide (b ≤ a) := by
  simp only [ge, ER.lt, ← Rat.not_le, decide_not, Bool.not_not]

/-- `q < g` for a finite `q`, as the model writes it -/
theorem lt_fin_left (q : Rat) (g : D) : ER.lt (.fin q) g = g.gtRat q := by cases g <;> rfl

theorem eq_fin (a b : Rat) : eq (.fin a) (.fin b) = decide (a = b) := by
  simp only [eq, ER.fin.injEq]

theorem max'_ninf_left (x : D) : max' .ninf x = x := by cases x <;> rfl
theorem max'_ninf_right (x : D) : max' x .ninf = x := by cases x <;> rfl

theorem max'_fin (a b : Rat) : max' (.fin a) (.fin b) = .fin (max a b) := by
  simp only [max', ER.lt, Rat.max_def, decide_eq_true_eq]
  by_cases h : a < b
  · rw [if_pos h, if_pos (Rat.le_of_lt h)]
  · rw [if_neg h]; split
    · rw [Rat.le_antisymm ‹a ≤ b› (Rat.not_lt.mp h)]
    · rfl

end MpVerif.C07.GenSem.D

namespace MpVerif.C07
open GenSem

theorem foldl_inl {S : Type} (f : Sum D S → D → Sum D S) (hf : ∀ r x, f (Sum.inl r) x = Sum.inl r) (l : List D) (r : D) :
    l.foldl f (Sum.inl r) = Sum.inl r :=
  l.foldlRecOn f (motive := (· = Sum.inl r)) rfl fun _ hb a _ => hb ▸ hf r a

theorem fold_exit (f : Sum D Unit → D → Sum D Unit) (p : Rat → Bool) (v : D) (hf1 : ∀ r x, f (Sum.inl r) x = Sum.inl r)
    (hf2 : ∀ q, f (Sum.inr ()) (D.fin q) = if p q then Sum.inl v else Sum.inr ()) (l : List Rat) :
    (l.map D.fin).foldl f (Sum.inr ()) = if l.any p then Sum.inl v else Sum.inr () := by
  induction l with
  | nil => rfl
  | cons a t ih =>
    simp only [List.map, List.foldl, hf2, List.any]
    by_cases hp : p a = true
    · rw [if_pos hp, foldl_inl f hf1]; simp [hp]
    · rw [if_neg hp, ih]; simp [hp]

/-- a loop whose body never returns: the generated fold over `Sum R T` is a fold on the loop-carried local, read through `emb`
(the state stays in its image: finite doubles, counters) with the elements read through `h` -/
theorem foldl_inr {R S T α β : Type} {f : Sum R T → β → Sum R T} (emb : S → T) (h : α → β) (g : S → α → S)
    (hf : ∀ s a, f (.inr (emb s)) (h a) = .inr (emb (g s a))) {l : List α} (s : S) {t : T} (ht : t = emb s) :
    (l.map h).foldl f (.inr t) = .inr (emb (l.foldl g s)) := by
  subst ht
  rw [List.foldl_map]
  exact List.foldl_hom (fun s => Sum.inr (emb s)) hf

theorem sos_excess_cast (k : Nat) : D.ofInt (max (0 : Int) ((k : Int) - 1)) = ER.fin (((k - 1 : Nat) : Nat) : Rat) := by
  have : max (0 : Int) ((k : Int) - 1) = ((k - 1 : Nat) : Int) := by omega
  rw [this]; rfl

end MpVerif.C07
