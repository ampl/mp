import MpVerif.C07.Spec
/-! The specification of a whole `CheckSolution` run (`SatTol`: both passes of `Spec.lean`'s `SatTolPass`) and the hypotheses under
which `Props.lean` proves the checker equivalent to it. -/
namespace MpVerif.C07

/-- the vector the idealistic pass compares against -/
def xBack (m : Model) (o : Opts) (xs : List Rat) : List Rat :=
  if o.mode &&& 31 ≠ 0 then applyPrecision o xs else xs

/-- **the point satisfies the model within tolerances**: on the solver's values for the classes selected by the low mode bits,
on the recomputed values for the classes selected by the high ones -/
def SatTol (m : Model) (o : Opts) (xs objv : List Rat) : Prop :=
  (o.mode &&& 31 ≠ 0 → SatTolPass m o (passEnv m o xs [] false) (passMode o false) objv) ∧
  (o.mode &&& 992 ≠ 0 →
    SatTolPass m o (passEnv m o (recompute m o xs) (xBack m o xs) true) (passMode o true) objv)

/-- `SatTol` restricted to the constraints the checker tests -/
def SatTolTested (m : Model) (o : Opts) (xs objv : List Rat) : Prop :=
  (o.mode &&& 31 ≠ 0 → SatTolPassTested m o (passEnv m o xs [] false) (passMode o false) objv) ∧
  (o.mode &&& 992 ≠ 0 →
    SatTolPassTested m o (passEnv m o (recompute m o xs) (xBack m o xs) true) (passMode o true) objv)

/-- hypotheses under which the checker's verdict on the constraints IT TESTS follows the specification -/
structure SatHypT (m : Model) (o : Opts) (e : Env) (mode : Nat) : Prop where
  feastol_nonneg : 0 ≤ o.feastol
  /-- SOS violations are counts: a tolerance of 1 or more would accept one member too many -/
  feastol_lt_one : o.feastol < 1
  inttol_nonneg : 0 ≤ o.inttol
  wf : ∀ kp, kp ∈ m.keepers → ∀ it, it ∈ kp.items → it.con.wf
  /-- on the solver's values no selected constraint has `CTX_NONE` (without it: `C07_counterexample_ctx_none`) -/
  no_ctx_none : e.recomp = true ∨ ∀ kp, kp ∈ m.keepers → ∀ it, it ∈ kp.items → it.unused = false →
      it.cclass &&& mode ≠ 0 → it.con.ctxNone = false
  /-- on the solver's values every selected functional constraint is evaluated inside the domain on which its
  evaluator computes the mathematical function (`Func.inDomain`; outside — e.g. a logical argument that is not 0/1, division
  by zero — the evaluator returns a value by its own convention and nothing is claimed; see `C07_counterexample_domain`) -/
  in_domain : e.recomp = true ∨ ∀ kp, kp ∈ m.keepers → ∀ it, it ∈ kp.items → it.unused = false →
      it.cclass &&& mode ≠ 0 → ∀ res ctx f, it.con = .func res ctx f → f.inDomain e = true

/-- `SatHypT`, and the constraints the checker never tests are ASSUMED to hold (without it: `C07_counterexample_untested_*`) -/
structure SatHyp (m : Model) (o : Opts) (e : Env) (mode : Nat) : Prop extends SatHypT m o e mode where
  untested_hold : ∀ kp, kp ∈ m.keepers → ∀ it, it ∈ kp.items → it.untested = true → it.cclass &&& mode ≠ 0 →
      ConSpec it.con e o.feastol o.feastolrel

end MpVerif.C07
