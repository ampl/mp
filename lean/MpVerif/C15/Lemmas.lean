import MpVerif.C15.Model
/-! Histories without nested deliveries (`Model.lean`): algebra of `run`, `trace` and `pcRun`; the lifecycle invariant
    `Inv` and the normal forms of `deliver`; what a delivery may call (`Paired`); irrelevance of the `write` result; what the
    automaton can reach under each repair of a `Layout`; the value of `stop_` and the outcome along events that do not store
    to it. -/
namespace MpVerif.C15

theorem exec_halted (md : Mode) (s : St) (e : Ev) (h : s.halted.isSome = true) : exec md s e = (s, []) := by
  simp [exec, h]

theorem run_halted (md : Mode) (s : St) (evs : List Ev) (h : s.halted.isSome = true) : run md s evs = (s, []) := by
  induction evs with
  | nil => rfl
  | cons e r ih => simp [run, exec_halted md s e h, ih]

theorem run_nil (md : Mode) (s : St) : run md s [] = (s, []) := rfl

theorem run_cons (md : Mode) (s : St) (e : Ev) (r : List Ev) :
    run md s (e :: r) = ((run md (exec md s e).1 r).1, (exec md s e).2 ++ (run md (exec md s e).1 r).2) := rfl

theorem run_append (md : Mode) (s : St) (a b : List Ev) :
    run md s (a ++ b) = ((run md (run md s a).1 b).1, (run md s a).2 ++ (run md (run md s a).1 b).2) := by
  induction a generalizing s with
  | nil => simp [run]
  | cons e r ih => simp [run_cons, ih, List.append_assoc]

theorem exec_halted_of (md : Mode) (s : St) (e : Ev) (h : (exec md s e).1.halted = none) : s.halted = none := by
  cases hs : s.halted with
  | none => rfl
  | some x => simp [exec, hs] at h

theorem run_halted_of (md : Mode) (s : St) (evs : List Ev) (h : (run md s evs).1.halted = none) :
    s.halted = none := by
  induction evs generalizing s with
  | nil => simpa [run] using h
  | cons e r ih =>
    rw [run_cons] at h
    exact exec_halted_of md s e (ih _ h)

theorem exec_step (md : Mode) (s : St) (m : Micro) (h : s.halted = none) :
    exec md s (.step m) = (applyMicro s m, match m with | .work => [.query (stopQuery s)] | _ => []) := by
  cases m <;> simp [exec, h]

theorem exec_sig (md : Mode) (s : St) (g : Sig) (h : s.halted = none) :
    exec md s (.sig g) = deliver md s g := by
  simp [exec, h]

theorem applyMicro_halted (s : St) (m : Micro) : (applyMicro s m).halted = s.halted := by
  cases m <;> rfl

theorem stopQuery_iff (s : St) : stopQuery s = true ↔ s.intr = .obj ∧ s.stop ≠ 0 := by
  unfold stopQuery; split <;> simp_all

theorem steps_append (a b : List Ev) : steps (a ++ b) = steps a ++ steps b := by
  induction a with
  | nil => rfl
  | cons e r ih => cases e <;> simp [steps, ih]

theorem mem_steps (m : Micro) (l : List Ev) : m ∈ steps l ↔ Ev.step m ∈ l := by
  induction l with
  | nil => simp [steps]
  | cons e r ih => cases e <;> simp [steps, ih]

theorem sigCount_append (a b : List Ev) : sigCount (a ++ b) = sigCount a + sigCount b := by
  induction a with
  | nil => simp [sigCount]
  | cons e r ih => cases e <;> simp [sigCount, ih] <;> omega

theorem pcRun_append (L : Layout) (pc : PC) (a b : List Ev) :
    pcRun L pc (a ++ b) = (pcRun L pc a).bind (fun pc' => pcRun L pc' b) := by
  induction a generalizing pc with
  | nil => simp [pcRun]
  | cons e r ih =>
    cases e with
    | sig g => simp [pcRun, ih]
    | step m =>
      simp only [List.cons_append, pcRun]
      cases pcNext L pc m with
      | none => simp
      | some pc' => simp [ih]

theorem pcRun_steps (L : Layout) (pc : PC) (evs : List Ev) : pcRun L pc evs = pcRunSteps L pc (steps evs) := by
  induction evs generalizing pc with
  | nil => rfl
  | cons e r ih =>
    cases e with
    | sig g => simp [pcRun, steps, ih]
    | step m =>
      simp only [pcRun, steps, pcRunSteps]
      cases pcNext L pc m with
      | none => rfl
      | some pc' => simp [ih]

theorem steps_schedule (ms : List Micro) (i : Nat) (sch : List (Nat × Sig)) :
    steps (schedule ms i sch) = ms := by
  have hsig : ∀ l : List (Nat × Sig), steps (l.map (fun p => Ev.sig p.2)) = [] := by
    intro l; induction l with
    | nil => rfl
    | cons a r ih => simp [steps, ih]
  induction ms generalizing i sch with
  | nil => simp [schedule, hsig]
  | cons m r ih => simp [schedule, steps_append, hsig, steps, ih]

/-- the registered pair as far as the state is concerned -/
def regOK (r : Option (Nat × Nat)) (s : St) : Prop :=
  match r with
  | none => s.handler = 0
  | some (h, d) => s.handler = h ∧ s.data = d

/-! what the program point says about the fields of the state (`Inv` below puts them together) -/
@[simp] def PC.msgSize : PC → Nat
  | .idle | .cA | .cI | .cP | .dZ => 0
  | _ => msgLen
@[simp] def PC.intr : PC → Intr
  | .idle | .cA | .dI _ | .dS _ | .dH | .dZ => .self
  | _ => .obj
@[simp] def PC.alive : PC → Bool
  | .idle => false
  | _ => true
@[simp] def PC.ptrLive : PC → Bool
  | .idle | .cA | .cI => false
  | _ => true
/-- this object's `signal(SIGINT, …)` / `signal(SIGTERM, …)` call has been made (dispositions left by earlier objects are not tracked) -/
@[simp] def PC.pastSigInt : PC → Bool
  | .idle | .cA | .cI | .cP | .cZ | .c0 => false
  | _ => true
@[simp] def PC.pastSigTerm : PC → Bool
  | .cS1 => false
  | pc => pc.pastSigInt
@[simp] def PC.regInv (s : St) : PC → Prop
  | .live r | .dI r | .dS r => regOK r s
  | .mid r h => s.handler = h ∧ ∀ h0 d0, r = some (h0, d0) → s.data = d0
  | .dat d => s.handler = 0 ∧ s.data = d
  | _ => s.handler = 0

/-- What holds of the state at each point of a well-formed lifecycle program, whatever signals were
    delivered so far (as long as the process is still running): `handler_`, `msgSize`, `intr`, `alive` and whether `msgPtr`
    is live are functions of the program point; `data_` where a registration fixes it (`PC.regInv`); the dispositions one
    way (past this object's `signal()` call ⇒ installed).  Nothing about `stop_`: that is `stop_le_two`, which needs no
    automaton. -/
def Inv (pc : PC) (s : St) : Prop :=
  pc.regInv s ∧ s.msgSize = pc.msgSize ∧ s.intr = pc.intr ∧ s.alive = pc.alive ∧ (s.msgPtr = .live ↔ pc.ptrLive = true) ∧
  (pc.pastSigInt = true → s.dispInt = true) ∧ (pc.pastSigTerm = true → s.dispTerm = true)

theorem inv_init : Inv .idle init := by
  simp [Inv, init]

/-- the accepted steps of the lifecycle automaton, one constructor per accepting branch of `pcNext` -/
inductive PcStep (L : Layout) : PC → Micro → PC → Prop
  | cAlloc : PcStep L .idle .cAlloc .cA
  | idleWork : PcStep L .idle .work .idle
  | nreg h d : PcStep L .idle (.nreg h d) .idle
  | cIntr : PcStep L .cA .cIntr .cI
  | cPtr : PcStep L .cI .cPtr .cP
  | cSize : PcStep L .cP .cSize .cZ
  | sigIntFirst : L.ctorStopFirst = false → PcStep L .cZ .cSigInt .cS1
  | stop0First : L.ctorStopFirst = true → PcStep L .cZ .cStop0 .c0
  | sigIntSecond : L.ctorStopFirst = true → PcStep L .c0 .cSigInt .cS1
  | sigTermLast : L.ctorStopFirst = true → PcStep L .cS1 .cSigTerm (.live none)
  | sigTerm : L.ctorStopFirst = false → PcStep L .cS1 .cSigTerm .cS2
  | stop0Last : L.ctorStopFirst = false → PcStep L .cS2 .cStop0 (.live none)
  | setHFirst r h : L.regClearFirst = false → PcStep L (.live r) (.setH h) (.mid r h)
  | setDLast r h d : L.regClearFirst = false → PcStep L (.mid r h) (.setD d) (.live (some (h, d)))
  | clear r : L.regClearFirst = true → PcStep L (.live r) (.setH 0) .clr
  | setD d : L.regClearFirst = true → PcStep L .clr (.setD d) (.dat d)
  | setHLast d h : L.regClearFirst = true → PcStep L (.dat d) (.setH h) (.live (some (h, d)))
  | work r : PcStep L (.live r) .work (.live r)
  | dIntr r : PcStep L (.live r) .dIntr (.dI r)
  | dStop1 r : L.dtorKeepsStop = false → PcStep L (.dI r) .dStop1 (.dS r)
  | dH0Keep r : L.dtorKeepsStop = true → PcStep L (.dI r) .dH0 .dH
  | dH0 r : PcStep L (.dS r) .dH0 .dH
  | dSize0 : PcStep L .dH .dSize0 .dZ
  | dFree : PcStep L .dZ .dFree .idle

theorem pcStep_of_pcNext (L : Layout) (pc pc' : PC) (m : Micro) (hn : pcNext L pc m = some pc') : PcStep L pc m pc' := by
  unfold pcNext at hn
  split at hn <;> (try split at hn) <;> (try split at hn) <;> simp at hn <;> subst_vars <;> constructor <;> simp_all

theorem inv_step (L : Layout) (pc pc' : PC) (s : St) (m : Micro) (hi : Inv pc s) (hn : pcNext L pc m = some pc') :
    Inv pc' (applyMicro s m) := by
  cases pcStep_of_pcNext L pc pc' m hn <;> clear hn <;> simp_all [Inv, applyMicro, regOK]
  case setHFirst =>
    intro h0 d0 hr
    subst hr
    exact hi.1.2

theorem inv_curReg (pc : PC) (s : St) (hi : Inv pc s) (hw : pc.inWindow = false) (hne : s.handler ≠ 0) :
    pc.curReg = some (s.handler, s.data) := by
  cases pc <;> simp_all [PC.inWindow, PC.curReg, Inv, regOK]
  all_goals
    rename_i r
    cases r with
    | none => simp_all
    | some p => obtain ⟨a, b⟩ := p; simp_all

theorem noCallback_noReg (pc : PC) (hno : pc.noCallbackExpected = true) : pc.inWindow = false ∧ pc.curReg = none := by
  cases pc <;> simp_all [PC.noCallbackExpected, PC.inWindow, PC.curReg]

theorem inv_disp (pc : PC) (s : St) (hi : Inv pc s) (hpast : pc.pastSigTerm = true) :
    s.dispInt = true ∧ s.dispTerm = true := by
  cases pc <;> simp_all [Inv]

theorem inv_installed (pc : PC) (s : St) (hi : Inv pc s) (hin : pc.installed = true) :
    s.dispInt = true ∧ s.dispTerm = true ∧ s.intr = .obj := by
  cases pc <;> simp_all [Inv, PC.installed]

theorem deliver_killed (md : Mode) (s : St) (g : Sig) (hd : s.disp g = false) :
    deliver md s g = ({ s with halted := some (.killed g) }, [.killed g]) := by
  simp [deliver, hd]

theorem disp_of_both (s : St) (hI : s.dispInt = true) (hT : s.dispTerm = true) (g : Sig) : s.disp g = true := by
  cases g <;> assumption

theorem setDisp_roundtrip (s : St) (g : Sig) (hd : s.disp g = true) : (s.setDisp g false).setDisp g true = s := by
  cases s; cases g <;> simp_all [St.setDisp, St.disp]

theorem setDisp_same (s : St) (g : Sig) (hd : s.disp g = true) : s.setDisp g true = s := by
  cases s; cases g <;> simp_all [St.setDisp, St.disp]

theorem setDisp_set_stop (s : St) (g : Sig) (b : Bool) (n : Nat) :
    ({ s with stop := n }).setDisp g b = { s.setDisp g b with stop := n } := by cases g <;> rfl

@[simp] theorem setDisp_stop (s : St) (g : Sig) (b : Bool) : (s.setDisp g b).stop = s.stop := by cases g <;> rfl
@[simp] theorem setDisp_halted (s : St) (g : Sig) (b : Bool) : (s.setDisp g b).halted = s.halted := by cases g <;> rfl
@[simp] theorem writeObs_setDisp (md : Mode) (s : St) (g : Sig) (b : Bool) : writeObs md (s.setDisp g b) = writeObs md s := by
  cases g <;> rfl
@[simp] theorem setDisp_handler (s : St) (g : Sig) (b : Bool) : (s.setDisp g b).handler = s.handler := by cases g <;> rfl
@[simp] theorem setDisp_data (s : St) (g : Sig) (b : Bool) : (s.setDisp g b).data = s.data := by cases g <;> rfl

theorem deliver_ok (md : Mode) (s : St) (g : Sig) (hd : s.disp g = true) (hs : s.stop ≤ 1) :
    deliver md s g =
      ({ s with stop := s.stop + 1 },
       writeObs md s ::
         ((if s.handler ≠ 0 then [Obs.cb s.handler s.data] else []) ++ [Obs.rearm g])) := by
  unfold deliver
  rw [if_neg (by simp [hd])]
  -- the re-arm at the end leaves the disposition as it was before entry: `setDisp_same` (glibc), `setDisp_roundtrip` (SysV)
  cases md.sem <;> simp only [setDisp_set_stop, setDisp_same s g hd, setDisp_roundtrip s g hd] <;>
    simp only [setDisp_stop, writeObs_setDisp, setDisp_handler, setDisp_data, if_neg (Nat.not_lt.mpr hs)]

/-- `_exit(1)` leaves the disposition as entry into the handler set it: reset under SysV semantics, hence the `setDisp` -/
theorem deliver_exit (md : Mode) (s : St) (g : Sig) (hd : s.disp g = true) (hs : 1 < s.stop) :
    deliver md s g = ({ s.setDisp g (md.sem == .bsd) with halted := some .exit1 }, [writeObs md s, .exit1]) := by
  cases s
  obtain ⟨sem, w⟩ := md; cases sem <;> cases w <;> cases g <;> simp_all [deliver, writeObs, St.setDisp, St.disp]

theorem deliver_running (md : Mode) (s : St) (g : Sig) (h : (deliver md s g).1.halted = none) :
    s.disp g = true ∧ s.stop ≤ 1 := by
  cases hd : s.disp g with
  | false => rw [deliver_killed md s g hd] at h; simp at h
  | true =>
    refine ⟨rfl, Nat.le_of_not_lt fun hs => ?_⟩
    rw [deliver_exit md s g hd hs] at h
    simp at h

theorem deliver_eq (md : Mode) (s : St) (g : Sig) :
    deliver md s g =
      if s.disp g = false then ({ s with halted := some (.killed g) }, [.killed g])
      else if 1 < s.stop then ({ s.setDisp g (md.sem == .bsd) with halted := some .exit1 }, [writeObs md s, .exit1])
      else ({ s with stop := s.stop + 1 },
        writeObs md s :: ((if s.handler ≠ 0 then [Obs.cb s.handler s.data] else []) ++ [Obs.rearm g])) := by
  cases hd : s.disp g with
  | false => simp [deliver_killed md s g hd]
  | true =>
    by_cases hs : 1 < s.stop
    · simp [deliver_exit md s g hd hs, hs]
    · simp [deliver_ok md s g hd (by omega), hs]

theorem deliver_halted_of (md : Mode) (s : St) (g : Sig) (h : (deliver md s g).1.halted = none) :
    s.halted = none := by
  obtain ⟨hd, hs⟩ := deliver_running md s g h
  rwa [deliver_ok md s g hd hs] at h

@[simp] theorem writeObs_ne_cb (md : Mode) (s : St) (h d : Nat) : writeObs md s ≠ Obs.cb h d := by
  unfold writeObs; split <;> simp
@[simp] theorem cb_ne_writeObs (md : Mode) (s : St) (h d : Nat) : Obs.cb h d ≠ writeObs md s :=
  fun e => writeObs_ne_cb md s h d e.symm
@[simp] theorem writeObs_ne_exit (md : Mode) (s : St) : writeObs md s ≠ Obs.exit1 := by
  unfold writeObs; split <;> simp
@[simp] theorem exit_ne_writeObs (md : Mode) (s : St) : Obs.exit1 ≠ writeObs md s :=
  fun e => writeObs_ne_exit md s e.symm
@[simp] theorem writeObs_isWrite (md : Mode) (s : St) : (writeObs md s).isWrite = true := by
  unfold writeObs; split <;> rfl
theorem brk_eq_writeObs (md : Mode) (s : St) (n : Nat) (ok : Bool) (h : Obs.brk n ok = writeObs md s) :
    n = s.msgSize ∧ ok = (s.msgSize == 0 || s.msgPtr == .live) := by
  unfold writeObs at h; split at h <;> simp_all

theorem deliver_brk (md : Mode) (s : St) (g : Sig) (n : Nat) (ok : Bool) (hb : Obs.brk n ok ∈ (deliver md s g).2) :
    n = s.msgSize ∧ ok = (s.msgSize == 0 || s.msgPtr == .live) := by
  apply brk_eq_writeObs md
  rw [deliver_eq] at hb
  split at hb <;> (try split at hb) <;> simp at hb <;> exact hb

/-- the registration in `t` is that of `s`, and every callback in `l` is that registration and not null: what every
    step of a handler, nested or not, preserves -/
def Paired (s t : St) (l : List Obs) : Prop :=
  t.handler = s.handler ∧ t.data = s.data ∧ ∀ h d, Obs.cb h d ∈ l → h = s.handler ∧ d = s.data ∧ h ≠ 0

theorem deliver_paired (md : Mode) (s t : St) (l : List Obs) (g : Sig) (h : Paired s t l) :
    Paired s (deliver md t g).1 (l ++ (deliver md t g).2) := by
  obtain ⟨h1, h2, h3⟩ := h
  cases hd : t.disp g with
  | false => rw [deliver_killed md t g hd]; exact ⟨h1, h2, by simpa using h3⟩
  | true =>
    by_cases hs : t.stop ≤ 1
    · rw [deliver_ok md t g hd hs]
      refine ⟨h1, h2, fun h d hm => ?_⟩
      simp at hm
      rcases hm with hm | ⟨a, b, c⟩
      · exact h3 h d hm
      · exact ⟨b ▸ h1, c ▸ h2, b ▸ a⟩
    · rw [deliver_exit md t g hd (by omega)]
      exact ⟨by simpa using h1, by simpa using h2, by simpa using h3⟩

theorem deliver_cbs (md : Mode) (s : St) (g : Sig) (h d : Nat) (hcb : Obs.cb h d ∈ (deliver md s g).2) :
    h = s.handler ∧ d = s.data ∧ h ≠ 0 :=
  (deliver_paired md s s [] g ⟨rfl, rfl, by simp⟩).2.2 h d (by simpa using hcb)

theorem deliver_write_irrelevant (sem : SigSem) (w1 w2 : Bool) (s : St) (g : Sig) :
    (deliver ⟨sem, w1⟩ s g).1 = (deliver ⟨sem, w2⟩ s g).1 ∧
    nonWrite (deliver ⟨sem, w1⟩ s g).2 = nonWrite (deliver ⟨sem, w2⟩ s g).2 := by
  cases hd : s.disp g with
  | false => simp [deliver_killed, hd]
  | true =>
    by_cases hs : s.stop ≤ 1
    · rw [deliver_ok _ s g hd hs, deliver_ok _ s g hd hs]
      refine ⟨rfl, ?_⟩
      cases w1 <;> cases w2 <;> simp [nonWrite, writeObs, Obs.isWrite]
    · rw [deliver_exit _ s g hd (by omega), deliver_exit _ s g hd (by omega)]
      exact ⟨rfl, by cases w1 <;> cases w2 <;> rfl⟩

theorem nonWrite_append (a b : List Obs) : nonWrite (a ++ b) = nonWrite a ++ nonWrite b := by
  simp [nonWrite]

theorem run_write_irrelevant (sem : SigSem) (w1 w2 : Bool) (evs : List Ev) (s : St) :
    (run ⟨sem, w1⟩ s evs).1 = (run ⟨sem, w2⟩ s evs).1 ∧
    nonWrite (run ⟨sem, w1⟩ s evs).2 = nonWrite (run ⟨sem, w2⟩ s evs).2 := by
  induction evs generalizing s with
  | nil => simp [run]
  | cons e r ih =>
    rw [run_cons, run_cons]
    have he : (exec ⟨sem, w1⟩ s e).1 = (exec ⟨sem, w2⟩ s e).1 ∧
        nonWrite (exec ⟨sem, w1⟩ s e).2 = nonWrite (exec ⟨sem, w2⟩ s e).2 := by
      cases hh : s.halted with
      | some x => simp [exec, hh]
      | none =>
        cases e with
        | step m => simp [exec_step, hh]
        | sig g => rw [exec_sig _ s g hh, exec_sig _ s g hh]; exact deliver_write_irrelevant sem w1 w2 s g
    rw [he.1]
    have := ih (exec ⟨sem, w2⟩ s e).1
    exact ⟨this.1, by rw [nonWrite_append, nonWrite_append, he.2, this.2]⟩

theorem inv_sig (md : Mode) (pc : PC) (s : St) (g : Sig) (hi : Inv pc s)
    (hh : (deliver md s g).1.halted = none) : Inv pc (deliver md s g).1 := by
  obtain ⟨hd, hs⟩ := deliver_running md s g hh
  rw [deliver_ok md s g hd hs]
  exact hi  -- `Inv` does not mention `stop_`

theorem inv_run (L : Layout) (md : Mode) (evs : List Ev) (pc pc' : PC) (s : St) (hi : Inv pc s)
    (hp : pcRun L pc evs = some pc') (hh : (run md s evs).1.halted = none) : Inv pc' (run md s evs).1 := by
  induction evs generalizing pc s with
  | nil => simp [pcRun] at hp; subst hp; simpa [run] using hi
  | cons e r ih =>
    rw [run_cons] at hh ⊢
    have h1 : (exec md s e).1.halted = none := run_halted_of md _ r hh
    have h0 : s.halted = none := exec_halted_of md s e h1
    cases e with
    | sig g =>
      simp only [pcRun] at hp
      rw [exec_sig md s g h0] at hh h1 ⊢
      exact ih pc _ (inv_sig md pc s g hi h1) hp hh
    | step m =>
      simp only [pcRun] at hp
      cases hn : pcNext L pc m with
      | none => simp [hn] at hp
      | some pc1 =>
        simp only [hn] at hp
        rw [exec_step md s m h0] at hh ⊢
        exact ih pc1 _ (inv_step L pc pc1 s m hi hn) hp hh

theorem trace_append (md : Mode) (s : St) (a b : List Ev) :
    trace md s (a ++ b) = trace md s a ++ trace md (run md s a).1 b := by
  induction a generalizing s with
  | nil => simp [trace, run]
  | cons e r ih => simp [trace, run_cons, ih]

theorem trace_obs (md : Mode) (s : St) (evs : List Ev) :
    ((trace md s evs).map (fun t => t.2.1)).flatten = (run md s evs).2 := by
  induction evs generalizing s with
  | nil => simp [trace, run]
  | cons e r ih => simp [trace, run_cons, ih]

theorem trace_length (md : Mode) (s : St) (evs : List Ev) : (trace md s evs).length = evs.length := by
  induction evs generalizing s with
  | nil => rfl
  | cons e r ih => simp [trace, ih]

theorem run_split (md : Mode) (s : St) (pre : List Ev) (e : Ev) (post : List Ev) :
    (run md s (pre ++ e :: post)).1 = (run md (exec md (run md s pre).1 e).1 post).1 := by
  rw [run_append, run_cons]

theorem applyMicro_body (s : St) (m : Micro) (hb : Body (.step m) = true) :
    (applyMicro s m).stop = s.stop ∧ (applyMicro s m).intr = s.intr ∧ (applyMicro s m).dispInt = s.dispInt ∧
    (applyMicro s m).dispTerm = s.dispTerm ∧ (applyMicro s m).halted = s.halted := by
  cases m <;> simp_all [Body, applyMicro]

theorem deliver_intr (md : Mode) (s : St) (g : Sig) : (deliver md s g).1.intr = s.intr := by
  rw [deliver_eq]; split <;> (try split) <;> cases g <;> rfl

theorem body_intr (md : Mode) (evs : List Ev) (s : St) (hb : ∀ e ∈ evs, Body e = true) :
    (run md s evs).1.intr = s.intr := by
  induction evs generalizing s with
  | nil => rfl
  | cons e r ih =>
    rw [run_cons, ih _ fun e he => hb e (List.mem_cons_of_mem _ he)]
    cases hh : s.halted with
    | some x => rw [exec_halted md s e (by simp [hh])]
    | none =>
      cases e with
      | step m => rw [exec_step md s m hh]; exact (applyMicro_body s m (hb _ List.mem_cons_self)).2.1
      | sig g => rw [exec_sig md s g hh]; exact deliver_intr md s g

/-- no program step ever uninstalls the handlers and every completed delivery re-arms: from a state with both
    handlers installed no run ends by the default action -/
theorem never_killed (md : Mode) (evs : List Ev) (s : St)
    (hs : s.halted = none ∧ s.dispInt = true ∧ s.dispTerm = true) :
    ((run md s evs).1.halted = none ∧ (run md s evs).1.dispInt = true ∧ (run md s evs).1.dispTerm = true) ∨
      (run md s evs).1.halted = some .exit1 := by
  induction evs generalizing s with
  | nil => exact .inl hs
  | cons e r ih =>
    rw [run_cons]
    obtain ⟨hh, hI, hT⟩ := hs
    cases e with
    | step m =>
      rw [exec_step md s m hh]
      apply ih
      cases m <;> simp_all [applyMicro]
    | sig g =>
      rw [exec_sig md s g hh]
      have hd := disp_of_both s hI hT g
      by_cases hs1 : s.stop ≤ 1
      · rw [deliver_ok md s g hd hs1]; exact ih _ ⟨hh, hI, hT⟩
      · rw [deliver_exit md s g hd (by omega), run_halted md _ r rfl]; exact .inr rfl

/-- events that do not store to `stop_` -/
def StopNeutral : Ev → Bool
  | .step .cStop0 => false
  | .step .dStop1 => false
  | _ => true

theorem stopNeutral_of_ne (e : Ev) (h0 : e ≠ .step .cStop0) (h1 : e ≠ .step .dStop1) : StopNeutral e = true := by
  cases e with
  | sig g => rfl
  | step m => cases m <;> simp_all [StopNeutral]

theorem applyMicro_stop (s : St) (m : Micro) (h : StopNeutral (.step m) = true) : (applyMicro s m).stop = s.stop := by
  cases m <;> first | rfl | simp [StopNeutral] at h

theorem stopNeutral_of_bodyOrSignalCall (e : Ev) (h : BodyOrSignalCall e = true) : StopNeutral e = true := by
  cases e with
  | sig g => rfl
  | step m => cases m <;> simp_all [BodyOrSignalCall, Body, StopNeutral]

theorem stopNeutral_of_body (e : Ev) (h : Body e = true) : StopNeutral e = true :=
  stopNeutral_of_bodyOrSignalCall e (by cases e with | sig g => rfl | step m => cases m <;> first | rfl | exact h)

/-- along an accepted event sequence: `P` holds of the program point reached and `Q` of every event, if every accepted
    step that meets the side condition `C` has `Q` and preserves `P` -/
theorem pcRun_forall (L : Layout) (P : PC → Prop) (C Q : Ev → Prop) (hsig : ∀ g, Q (.sig g))
    (hstep : ∀ pc m pc1, P pc → C (.step m) → pcNext L pc m = some pc1 → Q (.step m) ∧ P pc1)
    (evs : List Ev) (pc pc' : PC) (h0 : P pc) (hp : pcRun L pc evs = some pc') (hc : ∀ e ∈ evs, C e) :
    (∀ e ∈ evs, Q e) ∧ P pc' := by
  induction evs generalizing pc with
  | nil => simp only [pcRun, Option.some.injEq] at hp; subst hp; exact ⟨by simp, h0⟩
  | cons e r ih =>
    have hcr : ∀ e ∈ r, C e := fun e he => hc e (List.mem_cons_of_mem _ he)
    cases e with
    | sig g =>
      obtain ⟨a, b⟩ := ih pc h0 hp hcr
      exact ⟨List.forall_mem_cons.mpr ⟨hsig g, a⟩, b⟩
    | step m =>
      simp only [pcRun] at hp
      cases hn : pcNext L pc m with
      | none => simp [hn] at hp
      | some pc1 =>
        simp only [hn] at hp
        obtain ⟨q, p1⟩ := hstep pc m pc1 h0 (hc _ List.mem_cons_self) hn
        obtain ⟨a, b⟩ := ih pc1 p1 hp hcr
        exact ⟨List.forall_mem_cons.mpr ⟨q, a⟩, b⟩

theorem intr_of_installedInt (pc : PC) (h : pc = .c0 ∨ pc.installedInt = true) : pc.intr = .obj := by
  cases pc <;> simp_all [PC.installedInt, PC.installed]

/-- in a layout whose constructor stores `stop_ = 0` before calling `signal()`, everything a driver can do
    between that store and the destructor is a body event or a `signal()` call: in particular there is no further store to
    `stop_` -/
theorem ctorfix_tail (L : Layout) (hL : L.ctorStopFirst = true) (post : List Ev) (pc pc' : PC)
    (hin : pc = .c0 ∨ pc.installedInt = true) (hp : pcRun L pc post = some pc')
    (hnd : ∀ e ∈ post, isDtorStep e = false) :
    (∀ e ∈ post, BodyOrSignalCall e = true) ∧ (pc' = .c0 ∨ pc'.installedInt = true) := by
  refine pcRun_forall L (fun pc => pc = .c0 ∨ pc.installedInt = true) (fun e => isDtorStep e = false)
    (fun e => BodyOrSignalCall e = true) (fun _ => rfl) (fun pc m pc1 hin hnd hn => ?_) post pc pc' hin hp hnd
  cases pcStep_of_pcNext L pc pc1 m hn <;> clear hn <;>
    simp_all [PC.installedInt, PC.installed, BodyOrSignalCall, Body, isDtorStep]

/-- in a layout whose `SetHandler` clears `handler_` first, the window state `mid` is unreachable -/
theorem regfix_no_mid (L : Layout) (hL : L.regClearFirst = true) (evs : List Ev) (pc pc' : PC)
    (h0 : ∀ r h, pc ≠ .mid r h) (hp : pcRun L pc evs = some pc') : ∀ r h, pc' ≠ .mid r h := by
  refine (pcRun_forall L (fun pc => ∀ r h, pc ≠ .mid r h) (fun _ => True) (fun _ => True) (fun _ => trivial)
    (fun pc m pc1 _ _ hn => ⟨trivial, ?_⟩) evs pc pc' h0 hp (fun _ _ => trivial)).2
  rintro r h rfl
  cases pcStep_of_pcNext L pc _ m hn <;> simp_all

theorem keeps_no_dStop1 (L : Layout) (hD : L.dtorKeepsStop = true) (evs : List Ev) (pc pc' : PC)
    (hp : pcRun L pc evs = some pc') : ∀ e ∈ evs, e ≠ .step .dStop1 := by
  refine (pcRun_forall L (fun _ => True) (fun _ => True) (fun e => e ≠ .step .dStop1) (fun _ => by simp)
    (fun pc m pc1 _ _ hn => ⟨?_, trivial⟩) evs pc pc' trivial hp (fun _ _ => trivial)).1
  rintro ⟨rfl⟩
  cases pcStep_of_pcNext L pc pc1 _ hn <;> simp_all

theorem count_run (md : Mode) (evs : List Ev) (s : St) (hn : ∀ e ∈ evs, StopNeutral e = true) (hh : s.halted = none) :
    ((run md s evs).1.halted = none →
      (run md s evs).1.stop = s.stop + sigCount evs ∧ (sigCount evs = 0 ∨ s.stop + sigCount evs ≤ 2)) ∧
    (sigCount evs = 0 ∨ s.stop + sigCount evs ≤ 2 → (run md s evs).1.halted ≠ some .exit1) := by
  induction evs generalizing s with
  | nil => simp [run, sigCount, hh]
  | cons e r ih =>
    have hnr : ∀ e ∈ r, StopNeutral e = true := fun e he => hn e (List.mem_cons_of_mem _ he)
    have hne : StopNeutral e = true := hn e (List.mem_cons_self)
    rw [run_cons]
    cases e with
    | step m =>
      rw [exec_step md s m hh]
      have := applyMicro_stop s m hne
      simpa [sigCount, this] using ih (applyMicro s m) hnr (by rw [applyMicro_halted, hh])
    | sig g =>
      rw [exec_sig md s g hh]
      simp only [sigCount]
      cases hd : s.disp g with
      | false => rw [deliver_killed md s g hd, run_halted md _ r rfl]; simp
      | true =>
        by_cases hs : s.stop ≤ 1
        · rw [deliver_ok md s g hd hs]
          have := ih { s with stop := s.stop + 1 } hnr hh
          refine ⟨fun h => ?_, fun h => this.2 (by simp; omega)⟩
          have := this.1 h
          simp at this ⊢
          omega
        · rw [deliver_exit md s g hd (by omega), run_halted md _ r rfl]
          exact ⟨by simp, by omega⟩

theorem halted_run (md : Mode) (evs : List Ev) (s : St) (hn : ∀ e ∈ evs, StopNeutral e = true) (hh : s.halted = none)
    (hI : s.dispInt = true) (hT : s.dispTerm = true) :
    (run md s evs).1.halted = if sigCount evs = 0 ∨ s.stop + sigCount evs ≤ 2 then none else some .exit1 := by
  have hc := count_run md evs s hn hh
  -- installed handlers: the history ends running or by `_exit(1)` (`never_killed`); the count says which
  rcases never_killed md evs s ⟨hh, hI, hT⟩ with h | h
  · rw [h.1, if_pos (hc.1 h.1).2]
  · rw [h, if_neg fun hb => hc.2 hb h]

theorem stop_le_two (md : Mode) (evs : List Ev) (s : St) (h2 : s.stop ≤ 2) : (run md s evs).1.stop ≤ 2 := by
  induction evs generalizing s with
  | nil => simpa [run] using h2
  | cons e r ih =>
    rw [run_cons]
    apply ih
    cases hh : s.halted with
    | some x => rw [exec_halted md s e (by simp [hh])]; exact h2
    | none =>
      cases e with
      | step m => rw [exec_step md s m hh]; cases m <;> simp_all [applyMicro]
      | sig g =>
        rw [exec_sig md s g hh]
        cases hd : s.disp g with
        | false => rw [deliver_killed md s g hd]; exact h2
        | true =>
          by_cases hs1 : s.stop ≤ 1
          · rw [deliver_ok md s g hd hs1]; simp; omega
          · rw [deliver_exit md s g hd (by omega)]; simpa using h2

/-- from any state whatever: a delivery returns only if it found `stop_ ≤ 1` -/
theorem three_signals_halt (md : Mode) (s : St) (evs : List Ev)
    (hn : ∀ e ∈ evs, StopNeutral e = true) (h3 : 3 ≤ sigCount evs) : (run md s evs).1.halted ≠ none := by
  intro hr
  have := ((count_run md evs s hn (run_halted_of md s evs hr)).1 hr).2
  omega

end MpVerif.C15
