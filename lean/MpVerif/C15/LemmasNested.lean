import MpVerif.C15.LemmasReentrant
/-! Histories over `EvN`: what one scheduled delivery does; the bridges to histories over `Ev`: the automaton and, without
    nested signals, the trace are those of the plain events (`pcRunN_plain`, `traceN_plain`), and a history that leaves the
    process running ends in the state of one without nested deliveries (`runN_plain`). -/
namespace MpVerif.C15

theorem SigSpec.weight_pos (s : St) (sp : SigSpec) : 1 ≤ sp.weight s := by
  unfold SigSpec.weight; split <;> (try split) <;> omega

/-- the places at which a schedule nests a signal are gaps 1 and 5: outside the two count windows of `nested_survivor` -/
theorem execN_sig (md : Mode) (s : St) (sp : SigSpec) (hh : s.halted = none) :
    execN md s (.sig sp) = deliver md s sp.g ∧ sp.weight s = 1 ∨
    ∃ g' k, execN md s (.sig sp) = deliverNested md s sp.g g' k ∧ (k = 1 ∨ k = 5) ∧ sp.weight s = 2 := by
  obtain ⟨g, n⟩ := sp
  cases n with
  | none => exact Or.inl ⟨exec_sig md s g hh, rfl⟩
  | some q =>
    obtain ⟨g', p⟩ := q
    simp only [execN, hh, Option.isSome_none, Bool.false_eq_true, if_false, deliverNestedAt, SigSpec.weight]
    cases hg : p.gap s with
    | none => exact Or.inl ⟨rfl, rfl⟩
    | some k => exact Or.inr ⟨g', k, rfl, by cases p <;> simp [NestAt.gap] at hg <;> omega, rfl⟩

theorem sig_effect (md : Mode) (s : St) (sp : SigSpec) (hh : s.halted = none)
    (hr : (execN md s (.sig sp)).1.halted = none) :
    (execN md s (.sig sp)).1 = { s with stop := s.stop + sp.weight s } ∧ s.stop + sp.weight s ≤ 2 ∧ s.disp sp.g = true := by
  rcases execN_sig md s sp hh with ⟨e, w⟩ | ⟨g', k, e, hk, w⟩ <;> rw [e] at hr ⊢ <;> rw [w]
  · obtain ⟨hd, hs⟩ := deliver_running md s _ hr
    rw [deliver_ok md s _ hd hs]
    exact ⟨rfl, by omega, hd⟩
  · obtain ⟨a, b⟩ := nested_survivor md s _ g' k hh hr
    rw [a]
    have : (deliverNested md s sp.g g' k).1.stop = 2 ∧ s.stop = 0 := by omega
    refine ⟨by simp [this], by omega, ?_⟩
    cases hd : s.disp sp.g with
    | true => rfl
    | false => simp [deliverNested, hd] at hr

theorem sig_cbs (md : Mode) (s : St) (sp : SigSpec) (hh : s.halted = none) (h d : Nat)
    (hcb : Obs.cb h d ∈ (execN md s (.sig sp)).2) : h = s.handler ∧ d = s.data ∧ h ≠ 0 := by
  rcases execN_sig md s sp hh with ⟨e, _⟩ | ⟨g', k, e, _⟩ <;> rw [e] at hcb
  · exact deliver_cbs md s _ h d hcb
  · exact (nested_paired md s _ g' k).2.2 h d hcb

theorem execN_halted (md : Mode) (s : St) (e : EvN) (h : s.halted.isSome = true) : execN md s e = (s, []) := by
  cases e with
  | step m => simp [execN, exec, h]
  | sig sp =>
    obtain ⟨g, n⟩ := sp
    cases n with
    | none => simp [execN, exec, h]
    | some q => obtain ⟨g', p⟩ := q; simp [execN, h]

theorem runN_cons (md : Mode) (s : St) (e : EvN) (r : List EvN) :
    runN md s (e :: r) = ((runN md (execN md s e).1 r).1, (execN md s e).2 ++ (runN md (execN md s e).1 r).2) := rfl

theorem runN_halted (md : Mode) (s : St) (evs : List EvN) (h : s.halted.isSome = true) : runN md s evs = (s, []) := by
  induction evs with
  | nil => rfl
  | cons e r ih => simp [runN_cons, execN_halted md s e h, ih]

theorem execN_halted_of (md : Mode) (s : St) (e : EvN) (h : (execN md s e).1.halted = none) : s.halted = none := by
  cases hs : s.halted with
  | none => rfl
  | some x => rw [execN_halted md s e (by simp [hs])] at h; simp [hs] at h

theorem runN_halted_of (md : Mode) (s : St) (evs : List EvN) (h : (runN md s evs).1.halted = none) : s.halted = none := by
  induction evs generalizing s with
  | nil => simpa [runN] using h
  | cons e r ih =>
    rw [runN_cons] at h
    exact execN_halted_of md s e (ih _ h)

theorem runN_append (md : Mode) (s : St) (a b : List EvN) :
    runN md s (a ++ b) = ((runN md (runN md s a).1 b).1, (runN md s a).2 ++ (runN md (runN md s a).1 b).2) := by
  induction a generalizing s with
  | nil => simp [runN]
  | cons e r ih => simp [runN_cons, ih, List.append_assoc]

theorem pcRunN_plain (L : Layout) (pc : PC) (evs : List EvN) : pcRunN L pc evs = pcRun L pc (evs.map EvN.plain) := by
  induction evs generalizing pc with
  | nil => rfl
  | cons e r ih =>
    cases e with
    | sig sp => simp [pcRunN, pcRun, EvN.plain, ih]
    | step m =>
      simp only [pcRunN, List.map_cons, EvN.plain, pcRun]
      cases pcNext L pc m with
      | none => rfl
      | some pc' => simp [ih]

/-- a schedule without nested signals: `traceN` (what the driver prints) is `trace` -/
theorem traceN_plain (md : Mode) (s : St) (evs : List EvN) (hp : ∀ e ∈ evs, ∀ sp, e = .sig sp → sp.nested = none) :
    (traceN md s evs).map (fun t => (t.1.plain, t.2)) = trace md s (evs.map EvN.plain) := by
  induction evs generalizing s with
  | nil => rfl
  | cons e r ih =>
    have hr : ∀ e ∈ r, ∀ sp, e = .sig sp → sp.nested = none := fun e he => hp e (List.mem_cons_of_mem _ he)
    have he := hp e List.mem_cons_self
    cases e with
    | step m =>
      simp only [traceN, trace, List.map_cons, execN]
      rw [ih _ hr]
      rfl
    | sig sp =>
      obtain ⟨g, n⟩ := sp
      have : n = none := he ⟨g, n⟩ rfl
      subst this
      simp only [traceN, trace, List.map_cons, execN]
      rw [ih _ hr]
      rfl

theorem run_sigs (md : Mode) (g : Sig) (w : Nat) (s : St) (hh : s.halted = none) (hd : s.disp g = true)
    (hw : s.stop + w ≤ 2) :
    (run md s (List.replicate w (.sig g))).1 = { s with stop := s.stop + w } ∧
    steps (List.replicate w (.sig g)) = [] ∧ sigCount (List.replicate w (.sig g)) = w := by
  induction w generalizing s with
  | zero => exact ⟨rfl, rfl, rfl⟩
  | succ w ih =>
    rw [List.replicate_succ, run_cons, exec_sig md s g hh, deliver_ok md s g hd (by omega)]
    simpa [steps, sigCount, Nat.add_assoc, Nat.add_comm 1] using
      ih { s with stop := s.stop + 1 } hh (by cases g <;> exact hd) (by simp; omega)

/-- **A history with nested deliveries that leaves the process running ends in the state of a history without**: the same
    program steps, and as many plain deliveries as the interrupts it stands for.  So what `Lemmas.lean` says of `run` holds of
    `runN`. -/
theorem runN_plain (md : Mode) (evs : List EvN) (s : St) (hh : (runN md s evs).1.halted = none) :
    ∃ l : List Ev, (run md s l).1 = (runN md s evs).1 ∧ steps l = steps (evs.map EvN.plain) ∧
      sigCount l = weightN md s evs := by
  induction evs generalizing s with
  | nil => exact ⟨[], rfl, rfl, rfl⟩
  | cons e r ih =>
    rw [runN_cons] at hh ⊢
    have h1 : (execN md s e).1.halted = none := runN_halted_of md _ r hh
    have h0 : s.halted = none := execN_halted_of md s e h1
    obtain ⟨l, e1, e2, e3⟩ := ih _ hh
    cases e with
    | step m => exact ⟨.step m :: l, e1, by simp [steps, EvN.plain, e2], by simpa [sigCount, weightN] using e3⟩
    | sig sp =>
      obtain ⟨c1, c2, hd⟩ := sig_effect md s sp h0 h1
      obtain ⟨r1, r2, r3⟩ := run_sigs md sp.g _ s h0 hd c2
      refine ⟨List.replicate (sp.weight s) (.sig sp.g) ++ l, ?_, ?_, ?_⟩
      · rw [run_append, r1, ← c1]; exact e1
      · simp [steps_append, r2, steps, EvN.plain, e2]
      · simp [sigCount_append, r3, weightN, e3]

theorem plain_class (Q : Ev → Prop) (hs : ∀ g, Q (.sig g)) (evs : List EvN) (l : List Ev)
    (h : steps l = steps (evs.map EvN.plain)) (hq : ∀ e ∈ evs, Q e.plain) : ∀ e ∈ l, Q e := by
  intro e he
  cases e with
  | sig g => exact hs g
  | step m =>
    obtain ⟨e', he', hp⟩ := List.mem_map.mp ((mem_steps m _).mp (h ▸ (mem_steps m l).mpr he))
    exact hp ▸ hq e' he'

theorem inv_runN (L : Layout) (md : Mode) (evs : List EvN) (pc pc' : PC) (s : St) (hi : Inv pc s)
    (hp : pcRunN L pc evs = some pc') (hh : (runN md s evs).1.halted = none) : Inv pc' (runN md s evs).1 := by
  obtain ⟨l, e1, e2, _⟩ := runN_plain md evs s hh
  rw [← e1] at hh ⊢
  exact inv_run L md l pc pc' s hi (by rw [pcRun_steps, e2, ← pcRun_steps, ← pcRunN_plain, hp]) hh

end MpVerif.C15
