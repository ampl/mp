import MpVerif.C15.Lemmas
import MpVerif.C15.Reentrant
/-! One nested delivery: what each step of the handler does, the configuration after the first `k` steps and the
    state after the remaining ones, and from these the outcome of `deliverNested` at every gap.  Independent of the
    generated `Gen/Signal.lean`. -/
namespace MpVerif.C15

theorem hRun_halted {md : Mode} {g : Sig} {l : List HStep} {c : HCfg} (h : c.s.halted.isSome = true) :
    hRun md g l c = c := by
  cases l <;> simp [hRun, h]

theorem hRun_append (md : Mode) (g : Sig) (l₁ l₂ : List HStep) (c : HCfg) :
    hRun md g (l₁ ++ l₂) c = hRun md g l₂ (hRun md g l₁ c) := by
  induction l₁ generalizing c with
  | nil => rfl
  | cons st r ih =>
    by_cases h : c.s.halted.isSome = true
    · rw [hRun_halted h, hRun_halted h, hRun_halted h]
    · simp [hRun, h, ih]

theorem hStep_s (md : Mode) (g : Sig) (c : HCfg) (st : HStep) :
    (hStep md g c st).s = match st with
      | .exitTest => if 1 < c.s.stop then { c.s with halted := some .exit1 } else c.s
      | .storeStop => { c.s with stop := c.tmp + 1 }
      | .rearm => c.s.setDisp g true
      | _ => c.s := by
  cases st <;> simp only [hStep] <;> split <;> rfl

theorem hStep_tmp (md : Mode) (g : Sig) (c : HCfg) (st : HStep) :
    (hStep md g c st).tmp = match st with
      | .loadStop => c.s.stop
      | _ => c.tmp := by
  cases st <;> simp only [hStep] <;> split <;> rfl

theorem hStep_paired (md : Mode) (g : Sig) (s : St) (c : HCfg) (st : HStep) (h : Paired s c.s c.obs) :
    Paired s (hStep md g c st).s (hStep md g c st).obs := by
  obtain ⟨h1, h2, h3⟩ := h
  cases st <;> simp only [hStep] <;> (try split) <;>
    refine ⟨by simpa using h1, by simpa using h2, fun h d hm => ?_⟩ <;>
    (try simp at hm) <;>
    -- the observations are the old ones, or (callback step) the old ones and `cb c.s.handler c.s.data`
    first
    | exact h3 h d hm
    | (rcases hm with hm | ⟨rfl, rfl⟩
       · exact h3 _ _ hm
       · exact ⟨h1, h2, ‹_›⟩)

theorem hRun_paired (md : Mode) (g : Sig) (s : St) (l : List HStep) (c : HCfg) (h : Paired s c.s c.obs) :
    Paired s (hRun md g l c).s (hRun md g l c).obs := by
  induction l generalizing c with
  | nil => exact h
  | cons st r ih =>
    unfold hRun
    split
    · exact h
    · exact ih _ (hStep_paired md g s c st h)

theorem hRun_take (md : Mode) (g : Sig) (c : HCfg) (hc : c.s.halted = none) (k : Nat) :
    ((hRun md g (handlerSteps.take k) c).s, (hRun md g (handlerSteps.take k) c).tmp) =
      if k ≤ 1 then (c.s, c.tmp)
      else if 1 < c.s.stop then ({ c.s with halted := some .exit1 }, c.tmp)
      else if k = 2 then (c.s, c.tmp)
      else if k = 3 then (c.s, c.s.stop)
      else if k ≤ 5 then ({ c.s with stop := c.s.stop + 1 }, c.s.stop)
      else (({ c.s with stop := c.s.stop + 1 }).setDisp g true, c.s.stop) := by
  match k with
  | 0 | 1 | 2 | 3 | 4 | 5 | n + 6 =>
    simp [handlerSteps, hRun, hStep_s, hStep_tmp, hc] <;> split <;> simp [hStep_s, hStep_tmp, *]

theorem hRun_drop (md : Mode) (g : Sig) (c : HCfg) (k : Nat) :
    (hRun md g (handlerSteps.drop k) c).s =
      if c.s.halted.isSome then c.s
      else if k ≤ 1 then
        if 1 < c.s.stop then { c.s with halted := some .exit1 } else ({ c.s with stop := c.s.stop + 1 }).setDisp g true
      else if k = 2 then ({ c.s with stop := c.s.stop + 1 }).setDisp g true
      else if k = 3 then ({ c.s with stop := c.tmp + 1 }).setDisp g true
      else if k ≤ 5 then c.s.setDisp g true
      else c.s := by
  by_cases hc : c.s.halted.isSome = true
  · rw [hRun_halted hc, if_pos hc]
  · match k with
    | 0 | 1 | 2 | 3 | 4 | 5 | n + 6 =>
      simp [handlerSteps, hRun, hStep_s, hStep_tmp, hc] <;> split <;> simp [hStep_s, hStep_tmp, *]

theorem hRun_handler (md : Mode) (g : Sig) (c : HCfg) (hc : c.s.halted = none) :
    hRun md g handlerSteps c =
      if 1 < c.s.stop then ⟨{ c.s with halted := some .exit1 }, c.tmp, c.obs ++ [writeObs md c.s, .exit1]⟩
      else ⟨({ c.s with stop := c.s.stop + 1 }).setDisp g true, c.s.stop,
        c.obs ++ writeObs md c.s :: ((if c.s.handler ≠ 0 then [Obs.cb c.s.handler c.s.data] else []) ++ [Obs.rearm g])⟩ := by
  by_cases hs : 1 < c.s.stop <;> by_cases h0 : c.s.handler = 0 <;>
    simp [handlerSteps, hRun, hStep, hc, hs, h0]

@[simp] theorem entryState_halted (md : Mode) (s : St) (g : Sig) : (entryState md s g).halted = s.halted := by
  unfold entryState; cases md.sem <;> cases g <;> rfl

@[simp] theorem entryState_stop (md : Mode) (s : St) (g : Sig) : (entryState md s g).stop = s.stop := by
  unfold entryState; cases md.sem <;> cases g <;> rfl

theorem entryState_paired (md : Mode) (s : St) (g : Sig) : Paired s (entryState md s g) [] := by
  unfold entryState; cases md.sem <;> cases g <;> simp [Paired, St.setDisp]

/-- re-arming at the end of the handler undoes what entering it did to the disposition -/
theorem rearm_entry (md : Mode) (s : St) (g : Sig) (n : Nat) (hd : s.disp g = true) :
    ({ entryState md s g with stop := n }).setDisp g true = { s with stop := n } := by
  unfold entryState
  cases md.sem <;> simp only [setDisp_set_stop, setDisp_same s g hd, setDisp_roundtrip s g hd]

/-- entering the handler resets the disposition under SysV semantics and leaves it alone under glibc's -/
theorem entryState_eq (md : Mode) (s : St) (g : Sig) (hd : s.disp g = true) :
    entryState md s g = s.setDisp g (md.sem == .bsd) := by
  unfold entryState
  cases md.sem
  · exact (setDisp_same s g hd).symm
  · rfl

theorem reentrant_steps_are_deliver (md : Mode) (s : St) (g : Sig) (hd : s.disp g = true) (hh : s.halted = none) :
    (hRun md g handlerSteps ⟨entryState md s g, 0, []⟩).s = (deliver md s g).1 ∧
    (hRun md g handlerSteps ⟨entryState md s g, 0, []⟩).obs = (deliver md s g).2 := by
  rw [hRun_handler md g _ (by simpa using hh), deliver_eq]
  simp only [entryState_stop, hd, Bool.true_eq_false, if_false]
  split
  · simp [entryState_eq md s g hd]
  · rw [rearm_entry md s g _ hd]
    simp [entryState_eq md s g hd]

theorem run_two_running (md : Mode) (s : St) (a b : Sig) (hh : s.halted = none)
    (hr : (run md s [.sig a, .sig b]).1.halted = none) :
    s.stop = 0 ∧ (run md s [.sig a, .sig b]).1 = { s with stop := 2 } := by
  simp only [run_cons, run_nil, exec_sig md s a hh] at hr ⊢
  obtain ⟨hd1, hs1⟩ := deliver_running md s a (exec_halted_of md _ _ hr)
  simp only [deliver_ok md s a hd1 hs1, exec_sig md { s with stop := s.stop + 1 } b hh] at hr ⊢
  obtain ⟨hd2, hs2⟩ := deliver_running md _ b hr
  rw [deliver_ok md _ b hd2 hs2]
  simp at hs2 ⊢
  omega

/-- glibc semantics, the same signal again: it is held back until the handler has returned -/
theorem deliverNested_blocked (md : Mode) (s : St) (g : Sig) (k : Nat) (hb : md.sem = .bsd) (hh : s.halted = none) :
    deliverNested md s g g k = run md s [.sig g, .sig g] := by
  simp only [run_cons, run_nil, exec_sig md s g hh]
  cases hd : s.disp g with
  | false => simp [deliverNested, hd, deliver_killed md s g hd, exec]
  | true =>
    obtain ⟨e1, e2⟩ := reentrant_steps_are_deliver md s g hd hh
    rw [← List.take_append_drop k handlerSteps, hRun_append] at e1 e2
    simp only [deliverNested, hd, hb, exec]
    generalize hRun md g (handlerSteps.take k) ⟨entryState md s g, 0, []⟩ = c1 at *
    by_cases h1 : c1.s.halted.isSome = true
    · rw [hRun_halted h1] at e1 e2; simp [h1, ← e1, ← e2]
    · simp [h1, e1, e2]; split <;> simp

theorem deliverNested_unblocked (md : Mode) (s : St) (g g' : Sig) (k : Nat) (hd : s.disp g = true)
    (hb : ¬ (md.sem = .bsd ∧ g' = g)) :
    deliverNested md s g g' k =
      let c1 := hRun md g (handlerSteps.take k) ⟨entryState md s g, 0, []⟩
      if c1.s.halted.isSome then (c1.s, c1.obs)
      else
        let d := deliver md c1.s g'
        if d.1.halted.isSome then (d.1, c1.obs ++ d.2)
        else
          let c3 := hRun md g (handlerSteps.drop k) ⟨d.1, c1.tmp, c1.obs ++ d.2⟩
          (c3.s, c3.obs) := by
  simp [deliverNested, hd, hb]

/-- **A delivery with one nested delivery that leaves the process running**, from any state and at any gap: only `stop_`
    has changed.  Both interrupts were counted from 0 — except in the two windows: a signal nested between the exit test
    and the load of `++stop_` (`k = 2`) is counted although one was already recorded, one nested between the load and the
    store (`k = 3`) is not counted at all. -/
theorem nested_survivor (md : Mode) (s : St) (g g' : Sig) (k : Nat) (hh : s.halted = none)
    (hr : (deliverNested md s g g' k).1.halted = none) :
    (deliverNested md s g g' k).1 = { s with stop := (deliverNested md s g g' k).1.stop } ∧
    ((deliverNested md s g g' k).1.stop = 2 ∧ s.stop = 0 ∨
      s.stop ≤ 1 ∧ (k = 2 ∧ (deliverNested md s g g' k).1.stop = s.stop + 2 ∨
                    k = 3 ∧ (deliverNested md s g g' k).1.stop = s.stop + 1)) := by
  by_cases hb : md.sem = .bsd ∧ g' = g
  · obtain ⟨hb, rfl⟩ := hb
    rw [deliverNested_blocked md s g' k hb hh] at hr ⊢
    obtain ⟨h0, e⟩ := run_two_running md s g' g' hh hr
    rw [e]
    exact ⟨rfl, Or.inl ⟨rfl, h0⟩⟩
  cases hd : s.disp g with
  | false => simp [deliverNested, hd] at hr
  | true =>
  generalize hR : (deliverNested md s g g' k).1 = t at hr ⊢
  rw [deliverNested_unblocked md s g g' k hd hb] at hR
  have he : (entryState md s g).halted = none := by simpa using hh
  have hes : (entryState md s g).stop = s.stop := by simp
  have hre := fun n => rearm_entry md s g n hd
  generalize entryState md s g = e at *
  have ht := hRun_take md g ⟨e, 0, []⟩ he k
  simp only [] at hR
  generalize hRun md g (handlerSteps.take k) ⟨e, 0, []⟩ = c1 at *
  cases h1 : c1.s.halted with
  | some x => simp [h1] at hR; simp [← hR, h1] at hr
  | none =>
    simp only [h1, Option.isSome_none, Bool.false_eq_true, if_false] at hR
    cases h2 : (deliver md c1.s g').1.halted with
    | some x => simp [h2] at hR; simp [← hR, h2] at hr
    | none =>
      obtain ⟨hd1, hs⟩ := deliver_running md c1.s g' h2
      simp only [h2, Option.isSome_none, Bool.false_eq_true, if_false] at hR
      rw [hRun_drop, if_neg (by simp [h2])] at hR
      simp only [deliver_ok md c1.s g' hd1 hs] at hR
      subst hR
      -- `c1` is read off `hRun_take`; the re-arm at the end restores the disposition (`hre`)
      match k with
      | 0 | 1 =>
        simp [Prod.ext_iff] at ht
        simp [ht.1, hre] at hr hs ⊢
        split at hr <;> simp_all
      | 2 | 3 | 4 | 5 | n + 6 =>
        simp at ht
        split at ht
        · simp [Prod.ext_iff] at ht; simp [ht.1] at h1
        · simp [Prod.ext_iff] at ht
          simp [ht.1, ht.2, hre] at hr hs ⊢
          omega

/-- every callback invoked by a delivery with a nested delivery — whether or not the process survives it — is the
    registered callback with the registered data -/
theorem nested_paired (md : Mode) (s : St) (g g' : Sig) (k : Nat) :
    Paired s (deliverNested md s g g' k).1 (deliverNested md s g g' k).2 := by
  unfold deliverNested
  split
  · exact ⟨rfl, rfl, by simp⟩
  · have p1 := hRun_paired md g s (handlerSteps.take k) ⟨entryState md s g, 0, []⟩ (entryState_paired md s g)
    simp only []
    generalize hRun md g (handlerSteps.take k) ⟨entryState md s g, 0, []⟩ = c1 at *
    split
    · exact p1
    · split
      · have p2 := hRun_paired md g s (handlerSteps.drop k) c1 p1
        generalize hRun md g (handlerSteps.drop k) c1 = c2 at *
        split
        · exact p2
        · exact deliver_paired md s c2.s c2.obs g' p2
      · have p2 := deliver_paired md s c1.s c1.obs g' p1
        split
        · exact p2
        · exact hRun_paired md g s (handlerSteps.drop k) ⟨_, c1.tmp, _⟩ p2

theorem entryState_disp_ne (md : Mode) (s : St) (g g' : Sig) (h : g' ≠ g) :
    (entryState md s g).disp g' = s.disp g' := by
  unfold entryState
  cases md.sem
  · rfl
  · cases g <;> cases g' <;> first | rfl | exact absurd rfl h

theorem run_two_halted (md : Mode) (s : St) (a b : Sig) (hh : s.halted = none) (hI : s.dispInt = true)
    (hT : s.dispTerm = true) :
    (run md s [.sig a, .sig b]).1.halted = if s.stop = 0 then none else some .exit1 := by
  rw [halted_run md _ s (by simp [StopNeutral]) hh hI hT]
  simp [sigCount]

/-- a delivery with another signal nested outside the two count windows halts exactly when the sequential pair does
    (`run_two_halted`) -/
theorem nested_halted (md : Mode) (s : St) (g g' : Sig) (k : Nat) (hne : g' ≠ g)
    (hI : s.dispInt = true) (hT : s.dispTerm = true) (hh : s.halted = none) (hk : k ≤ 1 ∨ 4 ≤ k) :
    (deliverNested md s g g' k).1.halted = if s.stop = 0 then none else some .exit1 := by
  have hd := disp_of_both s hI hT
  rw [deliverNested_unblocked md s g g' k (hd g) (fun h => hne h.2)]
  have he : (entryState md s g).halted = none := by simpa using hh
  have hes : (entryState md s g).stop = s.stop := by simp
  have hed : (entryState md s g).disp g' = true := by rw [entryState_disp_ne md s g g' hne]; exact hd g'
  have hre := fun n => rearm_entry md s g n (hd g)
  generalize entryState md s g = e at *
  have ht := hRun_take md g ⟨e, 0, []⟩ he k
  simp only [hRun_drop]
  generalize hRun md g (handlerSteps.take k) ⟨e, 0, []⟩ = c1 at *
  -- with the nested signal and `stop_` concrete, `deliver_eq` decides every outcome along the way
  cases g' <;> simp only [St.disp] at hed <;> rcases hs : s.stop with _ | _ | n <;> rw [hs] at hes <;>
    (match k, hk with
     | 0, _ | 1, _ | 4, _ | 5, _ | n + 6, _ =>
       simp [Prod.ext_iff, hes] at ht
       obtain ⟨h1, h2⟩ := ht
       try simp only [hre] at h1
       simp [h1, h2, he, hes, hed, hI, hT, hh, deliver_eq, St.disp]
     | 2, h | 3, h => (simp at h))

end MpVerif.C15
