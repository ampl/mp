import MpVerif.C15.LemmasNested
import MpVerif.Gen.Signal
/-!
# C15 — an interrupt is never lost and never delivered with inconsistent state

Theorems about the model in `MpVerif/C15/Model.lean` (a transition system whose program
steps are the individual stores of `SignalHandler`'s constructor / `SetHandler` / destructor and in which a
signal can be delivered in every gap).  The model is tied to `src/solver.cc` on every run by
`checks/c15.py` (state after every store and every delivery, for every schedule of ≤ 3 signals).

How the theorems quantify: `pre` is an arbitrary event sequence (program steps and signal deliveries in any
interleaving, any length, any number of registrations, any number of handler objects one after another)
whose program steps follow the lifecycle automaton (`pcRun L .idle pre = some pc`); the theorem then speaks
about a delivery in the gap after `pre`, and about arbitrary continuations `post`.  So "all programs and
all schedules" is `∀ pre post`.  Both meanings of `signal(2)` (`Mode.bsd`, `Mode.sysv`) are covered.

Which store order.  The model carries the order of the stores as a parameter (`Layout`).  `Layout.current` is the order of
ampl/mp from 208050e (constructor), 47cb42b (`SetHandler`) and 27c8b2e (destructor without `stop_ = 1`) on, tied to the
source by `C15_gen_ctor/_setHandler/_dtor`; the MAIN THEOREMS section states the strict property for it, for histories
in which no signal arrives inside a running handler.  `C15_anyorder_*` and `C15_no_spurious_stop` hold for every `Layout`
(the two that start at `.cS2`,
`C15_anyorder_no_early_exit_after_ctor` and `C15_no_spurious_stop`, speak only of the orders with `stop_ = 0` after the
`signal()` calls: the others never reach `.cS2`), `C15_order_*` for every `Layout` with the named repair.
`C15_oldorder_counterexample_*` are failing histories of the orders before those commits: five on `Layout.pinned`, the
across-teardown one on `Layout.fixed` (a destructor that stores `stop_ = 1`).
With a signal nested inside a running handler the third-interrupt count can still be wrong in two gaps of
`HandleSigInt` for `Layout.current` (`C15_reentrant_counterexample_*`, open finding C15-nested-miscount); the other
clauses hold for such histories too (`C15_nested_history_*`).
-/
namespace MpVerif.C15

/-! ## the model is what the source says (`C15_gen_*`)

`MpVerif.Gen.Signal` is regenerated from the clang AST of `src/solver.cc` (and the two headers) on every run:
one list of statements per C++ function, in source order (`translators/gen_signal.py`, statement language and its
meaning: `SrcLang.lean`).  The theorems below say that the hand model's step lists, `deliver` and `stopQuery` are
exactly the meaning of those lists; every theorem of this file therefore speaks about the code as written.
Swapping two stores, changing `> 1`, the exit status, `!= 0`, dropping the re-arm or the callback test, writing
to another descriptor … makes one of these fail. -/

open MpVerif.Gen in
/-- constructor: the member initializers and the stores of the body, in source order, are the model's
    constructor steps for `Layout.current` -/
theorem C15_gen_ctor : Src.collect Src.ctorMicro Signal.ctor = some (ctorSteps Layout.current) := by decide

open MpVerif.Gen in
/-- destructor: the stores of the body in source order, followed by the destruction of the members -/
theorem C15_gen_dtor : (Src.collect Src.dtorMicro Signal.dtor).map (· ++ [Micro.dFree]) = some (dtorSteps Layout.current) := by decide

open MpVerif.Gen in
/-- `SetHandler(h, d)`: the three stores in source order, for every callback and data -/
theorem C15_gen_setHandler (h d : Nat) :
    Src.collect (Src.regMicro h d) Signal.setHandler = some (regSteps Layout.current h d) := by
  simp [Signal.setHandler, Src.collect, Src.regMicro, regSteps, Layout.current, Layout.repaired]

open MpVerif.Gen in
/-- `HandleSigInt`: for every state in which the handler is the disposition of `g`, every `signal(2)` semantics
    and every stdout state, the model's `deliver` is the execution of the source statements in order -/
theorem C15_gen_handleSigInt (md : Mode) (s : St) (g : Sig) (hd : s.disp g = true) :
    Src.runHandler md g Signal.handleSigInt (Src.onEntry md s g) [] = some (deliver md s g) := by
  obtain ⟨sem, w⟩ := md
  cases s with
  | mk stop handler data msgPtr msgSize dispInt dispTerm intr alive halted =>
    by_cases h0 : handler = 0 <;> cases sem <;> cases g <;>
      simp_all [Signal.handleSigInt, Src.runHandler, Src.onEntry, Src.Cmp.eval, deliver, writeObs, St.disp, St.setDisp] <;>
      (try (split <;> rfl))

open MpVerif.Gen in
/-- … and when the handler is not the disposition, no statement of `HandleSigInt` runs at all (default action) -/
theorem C15_gen_not_installed (md : Mode) (s : St) (g : Sig) (hd : s.disp g = false) :
    deliver md s g = ({ s with halted := some (.killed g) }, [.killed g]) :=
  deliver_killed md s g hd

open MpVerif.Gen in
/-- the stop query: `SignalHandler::Stop()` when the handler object is the solver's interrupter,
    `BasicSolver::Stop()` when the solver is its own interrupter -/
theorem C15_gen_stop (s : St) :
    stopQuery s = match s.intr with
      | .obj => Signal.stopFn.op.eval s.stop Signal.stopFn.k
      | .self => Signal.basicStop
      | .dangling => false := by
  cases h : s.intr <;> simp [stopQuery, h, Signal.stopFn, Signal.basicStop, Src.Cmp.eval]

open MpVerif.Gen in
/-- a registration attempt while no handler object exists runs `BasicSolver::SetHandler`, whose body is empty
    (the model's `nreg` changes nothing), and `set_interrupter(0)` makes the solver its own interrupter -/
theorem C15_gen_basic (h d : Nat) (s : St) :
    Src.collect (Src.regMicro h d) Signal.basicSetHandler = some [] ∧ applyMicro s (.nreg h d) = s ∧
    Signal.setInterrupterNullMeansSelf = true := by
  refine ⟨by simp [Signal.basicSetHandler, Src.collect], rfl, by decide⟩

open MpVerif.Gen in
/-- **The model's memory assumption is discharged by the declarations.**  The transition system lets every load of a
    cell (the stop query, the handler's tests) see the latest store, also one made by a signal handler in between.
    C++ only guarantees that for `volatile std::sig_atomic_t` / `std::atomic` objects: the generated declarations say
    `stop_` is `volatile std::sig_atomic_t` and the four others are atomics.  (Dropping `volatile` lets an optimising
    compiler hoist the load out of a polling loop: seeded change C15-5.) -/
theorem C15_gen_cells :
    Signal.cellDecls.map (fun p => (p.1, p.2.accessesMemory)) =
      [(.stop, true), (.handler, true), (.data, true), (.msgPtr, true), (.msgSize, true)] ∧
    Signal.cellDecls.lookup .stop = some ⟨true, false, "std::sig_atomic_t"⟩ := by
  decide

open MpVerif.Gen in
/-- the call-outs sit where the check assumes: every store is followed by its own `MP_VERIF_POINT` before the
    next store, with these names (so a signal can be delivered in every gap, and only there) -/
theorem C15_gen_callouts :
    Src.named Src.ctorMicro Signal.ctor [] = some
      [(.cAlloc, "sh.ctor.enter"), (.cIntr, "sh.ctor.after_set_interrupter"), (.cPtr, "sh.ctor.after_msg_ptr"),
       (.cSize, "sh.ctor.after_msg_size"), (.cStop0, "sh.ctor.after_stop0"), (.cSigInt, "sh.ctor.after_signal_int"),
       (.cSigTerm, "sh.ctor.after_signal_term")] ∧
    Src.named Src.dtorMicro Signal.dtor [] = some
      [(.dIntr, "sh.dtor.after_set_interrupter"), (.dH0, "sh.dtor.after_handler0"),
       (.dSize0, "sh.dtor.after_msg_size0")] ∧
    Src.named (Src.regMicro 1 2) Signal.setHandler [] = some
      [(.setH 0, "sh.set.after_handler_clear"), (.setD 2, "sh.set.after_data"), (.setH 1, "sh.set.after_handler")] := by
  decide

/-! ## every store order (`C15_anyorder_*` and the theorems with an arbitrary `L`), with the failing histories of the
orders before the repairs (`C15_oldorder_counterexample_*`) -/

/-- `stop_` never exceeds 2 (so `sig_atomic_t` cannot overflow): all event sequences, well-formed or not. -/
theorem C15_stop_bounded (md : Mode) (evs : List Ev) : (run md init evs).1.stop ≤ 2 :=
  stop_le_two md evs init (by decide)

/-- **No lost interrupt** (partial: "installed" = the constructor has completed).  For every well-formed
    prefix `pre` ending at a point where the handler object is installed, a signal delivered there, and every
    continuation `post` made of registrations (their individual stores), solve/report steps and further
    signals in any interleaving: if the process is still running, the stop query answers true. -/
theorem C15_anyorder_no_lost_after_ctor (L : Layout) (md : Mode) (pre : List Ev) (g : Sig) (post : List Ev) (pc : PC)
    (hpc : pcRun L .idle pre = some pc) (hin : pc.installed = true)
    (hpost : ∀ e ∈ post, Body e = true)
    (hrun : (run md init (pre ++ .sig g :: post)).1.halted = none) :
    stopQuery (run md init (pre ++ .sig g :: post)).1 = true := by
  rw [run_append] at hrun ⊢
  have h0 := run_halted_of md _ _ hrun
  have hb : ∀ e ∈ Ev.sig g :: post, Body e = true := List.forall_mem_cons.mpr ⟨rfl, hpost⟩
  -- the delivery is a body event like those of `post`: `intr` stays, `stop_` has grown by the number of signals
  rw [stopQuery_iff, body_intr md _ _ hb, ((count_run md _ _ (fun e he => stopNeutral_of_body e (hb e he)) h0).1 hrun).1]
  exact ⟨(inv_installed pc _ (inv_run L md pre .idle pc init inv_init hpc h0) hin).2.2, by simp [sigCount]⟩

/-- The ctor window on the model: program `C W`, SIGINT delivered right after `signal(SIGINT, HandleSigInt)`.
    The handler runs (break text written, `stop_` 1→2), then `stop_ = 0` wipes it out: the process keeps
    running and the stop query of the following solve step answers false. -/
theorem C15_oldorder_counterexample_lost_in_ctor_window :
    let evs := schedule (expandProg .pinned [.ctor, .work]) 0 [(5, .int)]
    pcRun .pinned .idle evs = some (.live none) ∧
    (run .bsd init evs).1.halted = none ∧
    Obs.brk msgLen true ∈ (run .bsd init evs).2 ∧          -- the handler did run
    Obs.query false ∈ (run .bsd init evs).2 ∧              -- … and the solver is told "no interrupt"
    stopQuery (run .bsd init evs).1 = false := by
  decide

/-- **Pairing** (partial: every gap except the one between the two stores of `SetHandler`).  A callback
    invoked by a signal delivered after any well-formed prefix is the callback of the last completed
    registration of the current handler object, with that registration's data. -/
theorem C15_anyorder_pairing_outside_window (L : Layout) (md : Mode) (pre : List Ev) (g : Sig) (pc : PC)
    (hpc : pcRun L .idle pre = some pc) (hw : pc.inWindow = false)
    (hrun : (run md init pre).1.halted = none) (h d : Nat)
    (hcb : Obs.cb h d ∈ (deliver md (run md init pre).1 g).2) :
    pc.curReg = some (h, d) := by
  have hinv := inv_run L md pre .idle pc init inv_init hpc hrun
  generalize (run md init pre).1 = s at *
  obtain ⟨rfl, rfl, hne⟩ := deliver_cbs md s g h d hcb
  exact inv_curReg pc s hinv hw hne

/-- … and it *is* invoked: while a registration `(h, d)` with a non-null callback is in force
    (`live`: installed, not inside another `SetHandler`), a delivered signal that does not terminate the process
    invokes exactly `h(d)`. -/
theorem C15_callback_invoked (L : Layout) (md : Mode) (pre : List Ev) (g : Sig) (h d : Nat)
    (hpc : pcRun L .idle pre = some (.live (some (h, d)))) (hne : h ≠ 0)
    (hrun : (run md init pre).1.halted = none)
    (hx : Obs.exit1 ∉ (deliver md (run md init pre).1 g).2) :
    (deliver md (run md init pre).1 g).2.filter (fun o => match o with | .cb _ _ => true | _ => false)
      = [Obs.cb h d] := by
  have hinv := inv_run L md pre .idle _ init inv_init hpc hrun
  generalize (run md init pre).1 = s at *
  have hI := inv_installed _ s hinv rfl
  have hd := disp_of_both s hI.1 hI.2.1 g
  by_cases hs : s.stop ≤ 1
  · rw [deliver_ok md s g hd hs]
    simp_all [Inv, regOK]
  · rw [deliver_exit md s g hd (by omega)] at hx; simp at hx

/-- SetHandler window, first registration: `C R(1,1)` with SIGINT between the two stores calls callback 1
    with a null data pointer, although `SetHandler(1, null)` was never called. -/
theorem C15_oldorder_counterexample_mispaired_first_registration :
    let prog := [Macro.ctor, .reg 1 1]
    let evs := schedule (expandProg .pinned prog) 0 [(8, .int)]
    wfProg .pinned prog = true ∧ steps evs = expandProg .pinned prog ∧
    Obs.cb 1 0 ∈ (run .bsd init evs).2 ∧ Macro.reg 1 0 ∉ prog := by
  decide

/-- SetHandler window, re-registration: `C R(1,1) R(2,2)` with SIGINT between the stores of the second
    `SetHandler` calls the new callback 2 with the old data 1. -/
theorem C15_oldorder_counterexample_mispaired_reregistration :
    let prog := [Macro.ctor, .reg 1 1, .reg 2 2]
    let evs := schedule (expandProg .pinned prog) 0 [(10, .int)]
    wfProg .pinned prog = true ∧ steps evs = expandProg .pinned prog ∧
    Obs.cb 2 1 ∈ (run .bsd init evs).2 ∧ Macro.reg 2 1 ∉ prog := by
  decide

/-- **Third interrupt exits** (partial: the three signals fall between the end of the constructor and the
    beginning of the destructor of one handler object).  Whatever registrations, solve/report steps and
    other events are interleaved, once three signals have been delivered the process has terminated with
    `_exit(1)`. -/
theorem C15_anyorder_third_exits_after_ctor (L : Layout) (md : Mode) (pre post : List Ev) (pc : PC)
    (hpc : pcRun L .idle pre = some pc) (hin : pc.installed = true)
    (hpost : ∀ e ∈ post, Body e = true) (h3 : 3 ≤ sigCount post)
    (hrun : (run md init pre).1.halted = none) :
    (run md init (pre ++ post)).1.halted = some .exit1 := by
  have hI := inv_installed pc _ (inv_run L md pre .idle pc init inv_init hpc hrun) hin
  rw [run_append, halted_run md post _ (fun e he => stopNeutral_of_body e (hpost e he)) hrun hI.1 hI.2.1, if_neg (by omega)]

/-- **The first two interrupts do not terminate the process** (partial: counted from the end of the
    constructor).  `pre` ends just before the constructor's `stop_ = 0`. -/
theorem C15_anyorder_no_early_exit_after_ctor (L : Layout) (md : Mode) (pre post : List Ev)
    (hpc : pcRun L .idle pre = some .cS2)
    (hpost : ∀ e ∈ post, Body e = true) (h2 : sigCount post ≤ 2)
    (hrun : (run md init pre).1.halted = none) :
    (run md init (pre ++ .step .cStop0 :: post)).1.halted = none := by
  have hinv := inv_run L md pre .idle _ init inv_init hpc hrun
  rw [run_split, exec_step md _ _ hrun]
  generalize (run md init pre).1 = s at *
  have hI := inv_disp _ s hinv rfl
  rw [halted_run md post (applyMicro s .cStop0) (fun e he => stopNeutral_of_body e (hpost e he)) hrun hI.1 hI.2,
    if_pos (by simp [applyMicro]; omega)]

/-- ctor window, third-interrupt clause: `C W` with SIGINT after `signal(SIGINT,…)` and two more SIGINTs after the constructor:
    three interrupts delivered to the installed handler, the process is still running. -/
theorem C15_oldorder_counterexample_third_no_exit_ctor_window :
    let evs := schedule (expandProg .pinned [.ctor, .work]) 0 [(5, .int), (7, .int), (7, .int)]
    sigCount evs = 3 ∧ (Obs.killed .int) ∉ (run .bsd init evs).2 ∧ (run .bsd init evs).1.halted = none := by
  decide

/-- ctor window: two SIGINTs after `signal(SIGINT,…)` and before `stop_ = 0` terminate the process on the
    *second* interrupt. -/
theorem C15_oldorder_counterexample_early_exit_ctor_window :
    let evs := schedule (expandProg .pinned [.ctor, .work]) 0 [(5, .int), (5, .int)]
    sigCount evs = 2 ∧ (run .bsd init evs).1.halted = some .exit1 := by
  decide

/-- teardown with a destructor that stores `stop_ = 1` (`Layout.fixed`; ampl/mp before 27c8b2e): `C W D W` with two
    SIGINTs during solving and one after the destructor: the destructor's store forgets one of them, the third interrupt
    does not terminate the process.  (Finding C15-across-teardown; the same schedule is a regression case of the
    check.) -/
theorem C15_oldorder_counterexample_third_no_exit_across_teardown :
    let evs := schedule (expandProg Layout.fixed [.ctor, .work, .dtor, .work]) 0 [(8, .int), (8, .int), (13, .int)]
    sigCount evs = 3 ∧ (run .bsd init evs).1.halted = none ∧ (run .bsd init evs).1.stop = 2 := by
  decide

/-- **No callback after teardown** (full strength).  After the destructor's `handler_ = 0`, when no handler
    object exists, and while a new one is being constructed, no delivered signal invokes a callback
    — for every well-formed history, in particular whatever was registered before. -/
theorem C15_after_teardown (L : Layout) (md : Mode) (pre : List Ev) (g : Sig) (pc : PC)
    (hpc : pcRun L .idle pre = some pc) (hno : pc.noCallbackExpected = true)
    (hrun : (run md init pre).1.halted = none) (h d : Nat) :
    Obs.cb h d ∉ (deliver md (run md init pre).1 g).2 := by
  -- at these points there is no registration in force, and a callback would be it (pairing)
  intro hcb
  obtain ⟨hw, hr⟩ := noCallback_noReg pc hno
  simpa [hr] using C15_anyorder_pairing_outside_window L md pre g pc hpc hw hrun h d hcb

/-- **Break text** (full strength).  The text written by the handler is never read through a null or dangling
    pointer; it is the whole message or nothing; and once the object is destroyed nothing is written. -/
theorem C15_break_text_safe (L : Layout) (md : Mode) (pre : List Ev) (g : Sig) (pc : PC)
    (hpc : pcRun L .idle pre = some pc)
    (hrun : (run md init pre).1.halted = none) (n : Nat) (ok : Bool)
    (hb : Obs.brk n ok ∈ (deliver md (run md init pre).1 g).2) :
    ok = true ∧ (n = 0 ∨ n = msgLen) ∧ (pc = .idle → n = 0) ∧ (pc.installed = true → n = msgLen) := by
  have hinv := inv_run L md pre .idle pc init inv_init hpc hrun
  generalize (run md init pre).1 = s at *
  have key : (s.msgSize = 0 ∨ (s.msgSize = msgLen ∧ s.msgPtr = .live)) ∧ (pc = .idle → s.msgSize = 0) ∧
      (pc.installed = true → s.msgSize = msgLen) := by
    cases pc <;> simp_all [Inv, PC.installed]
  obtain ⟨rfl, rfl⟩ := deliver_brk md s g n ok hb
  rcases key with ⟨h0 | ⟨hl, hp⟩, k2, k3⟩
  · exact ⟨by simp [h0], Or.inl h0, k2, k3⟩
  · exact ⟨by simp [hp], Or.inr hl, k2, k3⟩

/-- **The write step cannot affect the rest of the handler** (full strength).  Whether `write(1, …)` succeeds or
    fails (stdout closed, read-only, device full), one delivery leaves exactly the same state — stop counter,
    dispositions, termination — and makes exactly the same observations apart from the break text itself
    (callback with its data, `_exit`, re-arm). -/
theorem C15_write_result_irrelevant (sem : SigSem) (w1 w2 : Bool) (s : St) (g : Sig) :
    (deliver ⟨sem, w1⟩ s g).1 = (deliver ⟨sem, w2⟩ s g).1 ∧
    nonWrite (deliver ⟨sem, w1⟩ s g).2 = nonWrite (deliver ⟨sem, w2⟩ s g).2 :=
  deliver_write_irrelevant sem w1 w2 s g

/-- … hence whole runs: every event sequence ends in the same state and shows the same stop-query answers,
    callbacks, exits and re-arms under every stdout state.  (All other theorems of this file are stated for an
    arbitrary `Mode`, so they hold under every stdout state as well.) -/
theorem C15_run_independent_of_stdout (sem : SigSem) (w1 w2 : Bool) (s : St) (evs : List Ev) :
    (run ⟨sem, w1⟩ s evs).1 = (run ⟨sem, w2⟩ s evs).1 ∧
    nonWrite (run ⟨sem, w1⟩ s evs).2 = nonWrite (run ⟨sem, w2⟩ s evs).2 :=
  run_write_irrelevant sem w1 w2 evs s

/-- unwritable stdout, `C R(1,1) W W` with three signals: recorded, callback with its data, stop query true, third
    signal exits — only the break text is missing -/
example :
    let evs := schedule (expandProg Layout.current [.ctor, .reg 1 1, .work, .work]) 0 [(10, .int), (11, .term), (11, .int)]
    (run ⟨.bsd, false⟩ init evs).2 =
      [.brkFail, .cb 1 1, .rearm .int, .query true, .brkFail, .cb 1 1, .rearm .term, .brkFail, .exit1] := by decide

/-! ## re-entrance: a second signal while `HandleSigInt` runs (`Reentrant.lean`)

Outside the property's quantifier (which places signals relative to the *program's* steps).  Modelled for ONE nested delivery: the outer handler is split into its steps (`++stop_` = load + store),
the nested signal `g'` arrives after `k` of them (`bsd`: only `g' ≠ g` nests, `g' = g` is held back; `sysv`: anything
nests and `g` meets the default action).  Local theorems (any state with both handlers installed and `stop_ ≤ 2`,
which by `Inv`/`C15_stop_bounded` is every state of a well-formed history between installation and teardown):
what survives re-entrance — the interrupt is recorded, callbacks get the registered data, nothing else changes — and
what does not: the *count*.  The whole-history theorems over `Ev` (above, and the `C15_order_*` / MAIN THEOREMS sections below)
are about `run`, whose deliveries are atomic; `C15_stop_bounded`
does not survive a delivery nested between the exit test and `++stop_` (`C15_reentrant_counterexample_overcount`: `stop_` = 3). -/

/-- the step-wise handler without a nested signal is the atomic `deliver` (so, by `C15_gen_handleSigInt`, the source) -/
theorem C15_reentrant_steps_are_deliver (md : Mode) (s : St) (g : Sig) (hd : s.disp g = true) (hh : s.halted = none) :
    (hRun md g handlerSteps ⟨entryState md s g, 0, []⟩).s = (deliver md s g).1 ∧
    (hRun md g handlerSteps ⟨entryState md s g, 0, []⟩).obs = (deliver md s g).2 :=
  reentrant_steps_are_deliver md s g hd hh

/-- **What survives a nested signal, at every gap `k` of the outer handler, both semantics, any pair of signals**:
    if the process still runs afterwards the interrupt is recorded (`stop_ ≥ 1`), `stop_ ≤ 3`, the interrupter and
    the registration are untouched, and every callback invoked (by the outer or the nested handler) got the
    registered data. -/
theorem C15_reentrant_safe (md : Mode) (s : St) (g g' : Sig) (k : Nat)
    (hI : s.dispInt = true) (hT : s.dispTerm = true) (hh : s.halted = none) (h2 : s.stop ≤ 2)
    (hr : (deliverNested md s g g' k).1.halted = none) :
    1 ≤ (deliverNested md s g g' k).1.stop ∧ (deliverNested md s g g' k).1.stop ≤ 3 ∧
    (deliverNested md s g g' k).1.intr = s.intr ∧ (deliverNested md s g g' k).1.handler = s.handler ∧
    (deliverNested md s g g' k).1.data = s.data ∧
    (∀ h d, Obs.cb h d ∈ (deliverNested md s g g' k).2 → h = s.handler ∧ d = s.data) := by
  -- `hI`, `hT`, `h2` are not needed: a run that survives started from `stop_ ≤ 1` and found every handler it met installed
  obtain ⟨e, hs⟩ := nested_survivor md s g g' k hh hr
  have hp := (nested_paired md s g g' k).2.2
  exact ⟨by omega, by omega, (congrArg St.intr e :), (congrArg St.handler e :), (congrArg St.data e :),
    fun h d hm => ⟨(hp h d hm).1, (hp h d hm).2.1⟩⟩

/-- **Outside the two count windows a nested signal is a sequential pair**: arriving before the outer exit test
    (`k ≤ 1`) it behaves like `g'` then `g`; arriving after the outer `++stop_` has stored (`k ≥ 4`) like `g` then `g'`
    (same termination, and the same state if the process still runs).  So all whole-history theorems cover these
    nestings. -/
theorem C15_reentrant_sequential_outside_window (md : Mode) (s : St) (g g' : Sig) (k : Nat) (hne : g' ≠ g)
    (hI : s.dispInt = true) (hT : s.dispTerm = true) (hh : s.halted = none) (h2 : s.stop ≤ 2)
    (hk : k ≤ 1 ∨ 4 ≤ k) :
    let seq := if k ≤ 1 then run md s [.sig g', .sig g] else run md s [.sig g, .sig g']
    (deliverNested md s g g' k).1.halted = seq.1.halted ∧
    ((deliverNested md s g g' k).1.halted = none → (deliverNested md s g g' k).1 = seq.1) := by
  have hseq := fun a b => run_two_halted md s a b hh hI hT
  intro seq
  have hq : seq.1.halted = if s.stop = 0 then none else some .exit1 := by
    simp only [seq]
    split <;> exact hseq _ _
  refine ⟨(nested_halted md s g g' k hne hI hT hh hk).trans hq.symm, fun hn => ?_⟩
  obtain ⟨e, hc⟩ := nested_survivor md s g g' k hh hn
  have h0 : s.stop = 0 ∧ (deliverNested md s g g' k).1.stop = 2 := by omega
  have : seq.1 = { s with stop := 2 } := by
    simp only [seq]
    split <;> exact (run_two_running md s _ _ hh (by rw [hseq]; simp [h0.1])).2
  rw [this, e, h0.2]

/-- count window `k = 3` (between the load and the store of `++stop_`): the nested handler's increment is
    overwritten.  After the constructor: SIGINT with SIGTERM nested there, then SIGINT: three interrupts, `stop_ = 2`,
    the process runs. -/
theorem C15_reentrant_counterexample_undercount :
    let s0 := (run .bsd init ((ctorSteps Layout.current).map Ev.step)).1
    let r := deliverNested .bsd s0 .int .term 3
    r.1.halted = none ∧ r.1.stop = 1 ∧ (deliver .bsd r.1 .int).1.halted = none ∧ (deliver .bsd r.1 .int).1.stop = 2 := by
  decide

/-- count window `k = 2` (between `if (stop_ > 1) _exit(1);` and `++stop_`): with one interrupt already recorded,
    SIGINT passes the exit test, the nested SIGTERM makes `stop_` 2, the outer handler makes it 3: three interrupts, no
    exit (and `stop_` exceeds 2). -/
theorem C15_reentrant_counterexample_overcount :
    let s0 := (run .bsd init ((ctorSteps Layout.current).map Ev.step ++ [.sig .int])).1
    let r := deliverNested .bsd s0 .int .term 2
    s0.stop = 1 ∧ r.1.halted = none ∧ r.1.stop = 3 := by
  decide

/-- under SysV semantics the same signal arriving inside its own handler meets the default action -/
example :
    let s0 := (run .sysv init ((ctorSteps Layout.current).map Ev.step)).1
    (deliverNested .sysv s0 .int .int 1).1.halted = some (.killed .int) := by decide

/-! ## histories WITH nested deliveries (composition of the re-entrance model with the history theorems)

Event sequences over `EvN`: program steps, signals, and signals with a second signal raised inside their handler (at the
places `NestAt`), in any number and any interleaving.  The lifecycle invariant `Inv` says nothing about `stop_`, and a delivery
that leaves the process running, nested into or not, stores to nothing else (`sig_effect`): it is carried along these histories
as it is (`inv_runN`).  What the property says about being *observed* and about the
*callback* holds for all such histories; only the third-interrupt *count* does not (open finding C15-nested-miscount). -/

/-- **No lost interrupt, histories with nested deliveries.**  After any well-formed history that may contain nested
    deliveries, a signal — nested into or not — delivered while the handler object is installed is seen by the stop
    query after any continuation of registrations, work steps and further (possibly nested) signals, if the process
    still runs. -/
theorem C15_nested_history_no_lost (L : Layout) (md : Mode) (pre : List EvN) (sp : SigSpec) (post : List EvN) (pc : PC)
    (hpc : pcRunN L .idle pre = some pc) (hin : pc.installed = true)
    (hpost : ∀ e ∈ post, BodyN e = true)
    (hrun : (runN md init (pre ++ .sig sp :: post)).1.halted = none) :
    stopQuery (runN md init (pre ++ .sig sp :: post)).1 = true := by
  rw [runN_append] at hrun ⊢
  have h0 := runN_halted_of md _ _ hrun
  have hobj := (inv_installed pc _ (inv_runN L md pre .idle pc init inv_init hpc h0) hin).2.2
  -- the continuation, as a plain history `l`, consists of body events and delivers at least one signal
  obtain ⟨l, e1, e2, e3⟩ := runN_plain md (.sig sp :: post) _ hrun
  have hb : ∀ e ∈ l, Body e = true := plain_class (Body · = true) (fun _ => rfl) _ l e2
    (List.forall_mem_cons.mpr ⟨rfl, fun e he => by have := hpost e he; cases e <;> simp_all [BodyN, EvN.plain, Body]⟩)
  rw [← e1] at hrun ⊢
  rw [stopQuery_iff, body_intr md l _ hb, ((count_run md l _ (fun e he => stopNeutral_of_body e (hb e he)) h0).1 hrun).1, e3]
  exact ⟨hobj, by have := sp.weight_pos (runN md init pre).1; simp [weightN]; omega⟩

/-- **Pairing, histories with nested deliveries.**  Every callback invoked by a delivery (nested into or not, whether
    or not the process survives it) after any well-formed history with nested deliveries is the last completed
    registration with its data — at every point outside the `SetHandler` window of `Layout`s without `regClearFirst`
    (`Layout.current` has none: `regfix_no_mid`). -/
theorem C15_nested_history_pairing (L : Layout) (md : Mode) (pre : List EvN) (sp : SigSpec) (pc : PC)
    (hpc : pcRunN L .idle pre = some pc) (hw : pc.inWindow = false)
    (hrun : (runN md init pre).1.halted = none) (h d : Nat)
    (hcb : Obs.cb h d ∈ (execN md (runN md init pre).1 (.sig sp)).2) :
    pc.curReg = some (h, d) := by
  have hinv := inv_runN L md pre .idle pc init inv_init hpc hrun
  generalize (runN md init pre).1 = s at *
  obtain ⟨rfl, rfl, hne⟩ := sig_cbs md s sp hrun h d hcb
  exact inv_curReg pc s hinv hw hne

theorem C15_nested_history_after_teardown (L : Layout) (md : Mode) (pre : List EvN) (sp : SigSpec) (pc : PC)
    (hpc : pcRunN L .idle pre = some pc) (hno : pc.noCallbackExpected = true)
    (hrun : (runN md init pre).1.halted = none) (h d : Nat) :
    Obs.cb h d ∉ (execN md (runN md init pre).1 (.sig sp)).2 := by
  intro hcb
  obtain ⟨hw, hr⟩ := noCallback_noReg pc hno
  simpa [hr] using C15_nested_history_pairing L md pre sp pc hpc hw hrun h d hcb

/-- **Third interrupt terminates, histories with nested deliveries at the places `NestAt`.**  In the histories the model
    runs (`runN`: a second signal raised inside `write`, inside the callback or inside the re-arm — gaps 1 and 5 of the
    handler, i.e. outside the two count windows of finding C15-nested-miscount), every interrupt is counted, nested ones
    included (`weightN`): after any well-formed history, a well-formed continuation without a new constructor that
    delivers three interrupts in total terminates the process.  So the miscount is confined to the two windows. -/
theorem C15_nested_history_third_exits (md : Mode) (pre post : List EvN) (pc pc' : PC)
    (_hpc : pcRunN Layout.current .idle pre = some pc) (hpost : pcRunN Layout.current pc post = some pc')
    (hno : ∀ e ∈ post, e ≠ .step .cStop0)
    (h3 : 3 ≤ weightN md (runN md init pre).1 post) :
    (runN md init (pre ++ post)).1.halted ≠ none := by
  intro hn
  rw [runN_append] at hn
  have hk := keeps_no_dStop1 Layout.current rfl (post.map EvN.plain) pc pc' (by rw [← pcRunN_plain]; exact hpost)
  -- as a plain history, `post` does not store to `stop_` and delivers three signals
  obtain ⟨l, b1, b2, b3⟩ := runN_plain md post _ hn
  rw [← b1] at hn
  exact three_signals_halt md _ l (plain_class (StopNeutral · = true) (fun _ => rfl) post l b2
    fun e he => stopNeutral_of_ne _ (fun h => hno e he (by cases e <;> simp_all [EvN.plain]))
      (hk _ (List.mem_map_of_mem he))) (b3 ▸ h3) hn

/-- instance: registration (1,2); SIGINT with SIGTERM raised inside the callback (two interrupts), a work step, the
    destructor's first two stores, then SIGTERM: three interrupts, the process has terminated -/
example :
    let pre := (ctorSteps Layout.current ++ regSteps Layout.current 1 2).map EvN.step
    let post := [EvN.sig ⟨.int, some (.term, .inCallback)⟩, .step .work, .step .dIntr, .step .dH0, .sig ⟨.term, none⟩]
    (runN .bsd init (pre ++ post)).1.halted ≠ none :=
  C15_nested_history_third_exits .bsd _ _ (.live (some (1, 2))) .dH (by decide) (by decide) (by decide) (by decide)

/-- a history with nested deliveries that meets all hypotheses: constructor, registration (1,2), SIGINT with SIGTERM
    nested inside the callback, a work step; then SIGTERM with SIGINT nested inside `write` is delivered … -/
private def exPreN : List EvN :=
  ((ctorSteps Layout.current ++ regSteps Layout.current 1 2).map EvN.step) ++
    [.sig ⟨.int, some (.term, .inCallback)⟩, .step .work]

example : pcRunN Layout.current .idle exPreN = some (.live (some (1, 2))) ∧ (runN .bsd init exPreN).1.halted = none ∧
    (runN .bsd init exPreN).1.stop = 2 ∧
    (runN .bsd init exPreN).2 = [.brk 18 true, .cb 1 2, .brk 18 true, .cb 1 2, .rearm .term, .rearm .int, .query true] := by
  decide

/-- … and `C15_nested_history_pairing` applies to a nested delivery after a history with an earlier interrupt
    (`stop_` is 1: SIGTERM with SIGINT nested in `write`; the nested handler invokes
    (1,2), the outer one then exits) -/
example : PC.curReg (.live (some (1, 2))) = some (1, 2) :=
  C15_nested_history_pairing Layout.current .bsd
    (((ctorSteps Layout.current ++ regSteps Layout.current 1 2).map EvN.step) ++ [.sig ⟨.int, none⟩, .step .work])
    ⟨.term, some (.int, .inWrite)⟩ (.live (some (1, 2))) (by decide) (by decide) (by decide) 1 2 (by decide)

/-- `C15_nested_history_no_lost` on a history whose only delivery is a nested one -/
example : stopQuery (runN .sysv init (((ctorSteps Layout.current).map EvN.step) ++
      .sig ⟨.int, some (.term, .inRearm)⟩ :: [.step (.setH 0), .step (.setD 2), .step (.setH 1), .step .work])).1 = true :=
  C15_nested_history_no_lost Layout.current .sysv _ _ _ (.live none) (by decide) (by decide) (by decide) (by decide)

/-! ## installation is kept; no spurious stop (plain histories, every store order) -/

/-- **Re-arm** (full strength, both `signal` semantics, all event sequences): once both dispositions are set,
    no later signal is ever handled by the default action — no program step uninstalls the handler and
    every delivery that returns has re-installed it. -/
theorem C15_handler_stays_installed (md : Mode) (s : St) (evs : List Ev) (g : Sig)
    (hh : s.halted = none) (hI : s.dispInt = true) (hT : s.dispTerm = true) :
    (run md s evs).1.halted ≠ some (.killed g) ∧
    ((run md s evs).1.halted = none → (run md s evs).1.dispInt = true ∧ (run md s evs).1.dispTerm = true) := by
  rcases never_killed md evs s ⟨hh, hI, hT⟩ with ⟨a, b, c⟩ | hx
  · simp [a, b, c]
  · simp [hx]

/-- From the constructor's second `signal()` call on, every well-formed history has both handlers installed. -/
theorem C15_installed_after_ctor (L : Layout) (md : Mode) (pre : List Ev) (pc : PC)
    (hpc : pcRun L .idle pre = some pc)
    (hpast : pc = .cS2 ∨ pc.installed = true ∨ pc.curReg.isSome ∨ pc = .dH ∨ pc = .dZ ∨ (∃ r, pc = .dI r) ∨ (∃ r, pc = .dS r))
    (hrun : (run md init pre).1.halted = none) :
    (run md init pre).1.dispInt = true ∧ (run md init pre).1.dispTerm = true := by
  have hinv := inv_run L md pre .idle pc init inv_init hpc hrun
  -- `hpast` lists the points with `PC.pastSigTerm`
  exact inv_disp pc _ hinv (by cases pc <;> simp_all [PC.installed, PC.curReg])

/-- **No spurious stop**: if no signal is delivered after the constructor's `stop_ = 0`, the stop query
    stays false during registrations and solve/report steps. -/
theorem C15_no_spurious_stop (L : Layout) (md : Mode) (pre post : List Ev)
    (hpc : pcRun L .idle pre = some .cS2)
    (hpost : ∀ e ∈ post, Body e = true) (h0 : sigCount post = 0)
    (hrun : (run md init pre).1.halted = none) :
    stopQuery (run md init (pre ++ .step .cStop0 :: post)).1 = false := by
  -- the process runs on (`C15_anyorder_no_early_exit_after_ctor`), and `stop_` is 0 plus the signals delivered: none
  have hn := C15_anyorder_no_early_exit_after_ctor L md pre post hpc hpost (by omega) hrun
  rw [run_split, exec_step md _ _ hrun] at hn ⊢
  unfold stopQuery
  rw [((count_run md post (applyMicro _ .cStop0) (fun e he => stopNeutral_of_body e (hpost e he)) hrun).1 hn).1]
  split <;> simp [applyMicro, h0]

/-! ## strict statements for every store order with the named repair

`Layout.ctorStopFirst` (`stop_ = 0` before the `signal()` calls), `Layout.regClearFirst`
(`handler_ = 0; data_ = d; handler_ = h`) and `Layout.dtorKeepsStop` (a destructor without `stop_ = 1`); specialised to
`Layout.current` in the MAIN THEOREMS section. -/

/-- **No lost interrupt, strict reading, repaired constructor.**  "Installed" = this object's `signal()` call
    for `g` has been made.  `post` is any well-formed continuation (rest of the constructor, registrations, work,
    more signals) that does not enter the destructor. -/
theorem C15_order_no_lost (L : Layout) (hL : L.ctorStopFirst = true) (md : Mode) (pre : List Ev) (g : Sig)
    (post : List Ev) (pc pc' : PC)
    (hpc : pcRun L .idle pre = some pc) (hin : pc.installedFor g = true)
    (hpost : pcRun L pc post = some pc') (hnd : ∀ e ∈ post, isDtorStep e = false)
    (hrun : (run md init (pre ++ .sig g :: post)).1.halted = none) :
    stopQuery (run md init (pre ++ .sig g :: post)).1 = true := by
  have hInt : pc.installedInt = true := by
    cases g <;> cases pc <;> simp_all [PC.installedFor, PC.installedInt, PC.installedTerm]
  -- `post` has no store to `stop_` (`htail.1`), so `stop_` ends as what it was plus the signals delivered, `g` among them;
  -- `intr = .obj` is `Inv` at `pc'`, which is `.c0` or a point with SIGINT installed (`htail.2`)
  have htail := ctorfix_tail L hL post pc pc' (Or.inr hInt) hpost hnd
  have hfin := inv_run L md _ .idle pc' init inv_init (by simp [pcRun_append, hpc, pcRun, hpost]) hrun
  rw [stopQuery_iff, hfin.2.2.1]
  rw [run_append] at hrun ⊢
  have e1 := (count_run md (.sig g :: post) _ (List.forall_mem_cons.mpr
    ⟨rfl, fun e he => stopNeutral_of_bodyOrSignalCall e (htail.1 e he)⟩) (run_halted_of md _ _ hrun)).1 hrun |>.1
  rw [e1]
  exact ⟨intr_of_installedInt pc' htail.2, by simp [sigCount]⟩

/-- **Pairing, every gap, repaired `SetHandler`.**  Whatever the delivery point, between the stores of a registration
    included, an invoked callback is the last completed registration, with its data. -/
theorem C15_order_pairing (L : Layout) (hL : L.regClearFirst = true) (md : Mode) (pre : List Ev) (g : Sig) (pc : PC)
    (hpc : pcRun L .idle pre = some pc)
    (hrun : (run md init pre).1.halted = none) (h d : Nat)
    (hcb : Obs.cb h d ∈ (deliver md (run md init pre).1 g).2) :
    pc.curReg = some (h, d) := by
  have hnm := regfix_no_mid L hL pre .idle pc (by intro r h; simp) hpc
  refine C15_anyorder_pairing_outside_window L md pre g pc hpc ?_ hrun h d hcb
  cases pc <;> simp_all [PC.inWindow]

/-- **Third interrupt terminates, strict reading, repaired constructor**: three signals anywhere between this
    object's first `signal()` call and its destructor. -/
theorem C15_order_third_exits (L : Layout) (hL : L.ctorStopFirst = true) (md : Mode) (pre post : List Ev) (pc pc' : PC)
    (_hpc : pcRun L .idle pre = some pc) (hin : pc.installedInt = true)
    (hpost : pcRun L pc post = some pc') (hnd : ∀ e ∈ post, isDtorStep e = false)
    (h3 : 3 ≤ sigCount post) :
    (run md init (pre ++ post)).1.halted ≠ none := by
  rw [run_append]
  exact three_signals_halt md _ post (fun e he =>
    stopNeutral_of_bodyOrSignalCall e ((ctorfix_tail L hL post pc pc' (Or.inr hin) hpost hnd).1 e he)) h3

/-- **Third interrupt terminates, FULL strength, for a destructor that does not reset the count**
    (`Layout.dtorKeepsStop`, repo_patches/C15-fix-dtor-keep-count.diff).  After any well-formed history, three signals
    delivered anywhere in any well-formed continuation — registrations, solving, reporting, *teardown and after it* —
    terminate the process, as long as no new handler object's constructor resets the count in between
    (`stop_ = 0` is the only remaining store that lowers it).  Signals that find no handler installed terminate the
    process by the default action, so no installation hypothesis is needed; nor is `_hpc` (`three_signals_halt` holds from
    any state). -/
theorem C15_order_third_exits_full (L : Layout) (hD : L.dtorKeepsStop = true) (md : Mode) (pre post : List Ev) (pc pc' : PC)
    (_hpc : pcRun L .idle pre = some pc) (hpost : pcRun L pc post = some pc')
    (hno : ∀ e ∈ post, e ≠ .step .cStop0) (h3 : 3 ≤ sigCount post) :
    (run md init (pre ++ post)).1.halted ≠ none := by
  rw [run_append]
  exact three_signals_halt md _ post (fun e he =>
    stopNeutral_of_ne e (hno e he) (keeps_no_dStop1 L hD post pc pc' hpost e he)) h3

/-- the history of `C15_oldorder_counterexample_third_no_exit_across_teardown` on `Layout.repaired` (whose destructor
    has one store less): two SIGINTs during solving, one after the destructor — the third terminates the process -/
example :
    let evs := schedule (expandProg Layout.repaired [.ctor, .work, .dtor, .work]) 0 [(8, .int), (8, .int), (12, .int)]
    wfProg Layout.repaired [.ctor, .work, .dtor, .work] = true ∧ sigCount evs = 3 ∧
    (run .bsd init evs).1.halted = some .exit1 := by decide

/-- **The first two interrupts never `_exit`, repaired constructor**: counted from the constructor's `stop_ = 0`,
    which precedes the `signal()` calls. -/
theorem C15_order_no_early_exit (L : Layout) (hL : L.ctorStopFirst = true) (md : Mode) (pre post : List Ev) (pc' : PC)
    (_hpc : pcRun L .idle pre = some .cZ)
    (hpost : pcRun L .cZ (.step .cStop0 :: post) = some pc') (hnd : ∀ e ∈ post, isDtorStep e = false)
    (h2 : sigCount post ≤ 2)
    (hrun : (run md init pre).1.halted = none) :
    (run md init (pre ++ .step .cStop0 :: post)).1.halted ≠ some .exit1 := by
  rw [run_split, exec_step md _ _ hrun]
  have hp0 : pcRun L .c0 post = some pc' := by
    simpa [pcRun, pcNext, hL] using hpost
  have hneu : ∀ e ∈ post, StopNeutral e = true := fun e he =>
    stopNeutral_of_bodyOrSignalCall e ((ctorfix_tail L hL post .c0 pc' (Or.inl rfl) hp0 hnd).1 e he)
  exact (count_run md post _ hneu (by rw [applyMicro_halted, hrun])).2 (by simp [applyMicro]; omega)

/-! ## MAIN THEOREMS for `Layout.current`

"Installed" is the strict reading: this handler object's own `signal()` call for the signal has been made
(`PC.installedFor g`), and its destructor has not begun (`isDtorStep`).  `pre`/`post`: arbitrary well-formed event
sequences — any registrations, work steps and signals in any interleaving, any number of earlier handler objects. -/

/-- **An interrupt is never lost.** -/
theorem C15_no_lost (md : Mode) (pre : List Ev) (g : Sig) (post : List Ev) (pc pc' : PC)
    (hpc : pcRun Layout.current .idle pre = some pc) (hin : pc.installedFor g = true)
    (hpost : pcRun Layout.current pc post = some pc') (hnd : ∀ e ∈ post, isDtorStep e = false)
    (hrun : (run md init (pre ++ .sig g :: post)).1.halted = none) :
    stopQuery (run md init (pre ++ .sig g :: post)).1 = true :=
  C15_order_no_lost Layout.current rfl md pre g post pc pc' hpc hin hpost hnd hrun

/-- **A callback is only ever invoked with the data registered with it**, at every delivery point, including
    between the individual stores of `SetHandler`. -/
theorem C15_pairing (md : Mode) (pre : List Ev) (g : Sig) (pc : PC)
    (hpc : pcRun Layout.current .idle pre = some pc)
    (hrun : (run md init pre).1.halted = none) (h d : Nat)
    (hcb : Obs.cb h d ∈ (deliver md (run md init pre).1 g).2) :
    pc.curReg = some (h, d) :=
  C15_order_pairing Layout.current rfl md pre g pc hpc hrun h d hcb

/-- **A third interrupt terminates the process** — full strength.  After any well-formed history, three signals
    delivered anywhere in any well-formed continuation (rest of the constructor, registrations between their stores,
    solving, reporting, teardown and after it) terminate the process, as long as no *new* handler object's constructor
    resets the count in between.  (A signal that finds no handler installed terminates the process by the default
    action, hence no installation hypothesis.) -/
theorem C15_third_exits (md : Mode) (pre post : List Ev) (pc pc' : PC)
    (hpc : pcRun Layout.current .idle pre = some pc) (hpost : pcRun Layout.current pc post = some pc')
    (hno : ∀ e ∈ post, e ≠ .step .cStop0) (h3 : 3 ≤ sigCount post) :
    (run md init (pre ++ post)).1.halted ≠ none :=
  C15_order_third_exits_full Layout.current rfl md pre post pc pc' hpc hpost hno h3

/-- the history of finding C15-across-teardown (two SIGINTs during solving, one after the destructor) terminates the
    process, whether the third signal comes right after the destructor or after the last step -/
example :
    let prog := [Macro.ctor, .work, .dtor, .work]
    wfProg Layout.current prog = true ∧
    (run .bsd init (schedule (expandProg Layout.current prog) 0 [(8, .int), (8, .int), (12, .int)])).1.halted = some .exit1 ∧
    (run .bsd init (schedule (expandProg Layout.current prog) 0 [(8, .int), (8, .int), (13, .int)])).1.halted = some .exit1 := by
  decide

/-- **The first two interrupts never `_exit`**, counted from the constructor's `stop_ = 0` (which precedes the
    `signal()` calls). -/
theorem C15_no_early_exit (md : Mode) (pre post : List Ev) (pc' : PC)
    (hpc : pcRun Layout.current .idle pre = some .cZ)
    (hpost : pcRun Layout.current .cZ (.step .cStop0 :: post) = some pc') (hnd : ∀ e ∈ post, isDtorStep e = false)
    (h2 : sigCount post ≤ 2)
    (hrun : (run md init pre).1.halted = none) :
    (run md init (pre ++ .step .cStop0 :: post)).1.halted ≠ some .exit1 :=
  C15_order_no_early_exit Layout.current rfl md pre post pc' hpc hpost hnd h2 hrun

/-! ## what the line driver prints is what the theorems speak about

The driver (`Driver.lean`) prints, for the event list `scheduleN …`, the entries of `traceN`: (event, observations of
that event, state after it); for a schedule without nested signals these are the entries of `trace` on the plain events
(`traceN_plain`).  The theorems are about `run`, `exec` and `deliver`. -/

/-- **Linking lemma.**  For every split `evs = pre ++ e :: post` the entry of `trace` at that position is the
    event `e` with the observations and the state of `exec` applied to the state `run` reaches after `pre`
    (for a signal in a running process: of `deliver`); the concatenated observations are `run`'s; the trace has one
    entry per event. -/
theorem C15_trace_is_run (md : Mode) (s : St) (pre : List Ev) (e : Ev) (post : List Ev) :
    (trace md s (pre ++ e :: post))[pre.length]? =
        some (e, (exec md (run md s pre).1 e).2, (exec md (run md s pre).1 e).1) ∧
    ((trace md s (pre ++ e :: post)).map (fun t => t.2.1)).flatten = (run md s (pre ++ e :: post)).2 ∧
    (trace md s (pre ++ e :: post)).length = (pre ++ e :: post).length ∧
    (∀ g, e = .sig g → (run md s pre).1.halted = none →
        exec md (run md s pre).1 e = deliver md (run md s pre).1 g) := by
  refine ⟨?_, trace_obs md s _, trace_length md s _, ?_⟩
  · rw [trace_append]
    have hl : (trace md s pre).length = pre.length := trace_length md s pre
    rw [List.getElem?_append_right (by omega)]
    simp [hl, trace]
  · intro g he hh
    subst he
    exact exec_sig md _ g hh

/-- registrations and work steps, as a driver performs them between construction and teardown -/
private def bodySteps (L : Layout) : List (Option (Nat × Nat)) → List Micro
  | [] => []
  | none :: r => Micro.work :: bodySteps L r
  | some (h, d) :: r => regSteps L h d ++ bodySteps L r

private theorem body_accepted (L : Layout) (body : List (Option (Nat × Nat))) (r0 : Option (Nat × Nat)) :
    ∃ r1, ∀ rest, pcRunSteps L (.live r0) (bodySteps L body ++ rest) = pcRunSteps L (.live r1) rest := by
  induction body generalizing r0 with
  | nil => exact ⟨r0, fun rest => rfl⟩
  | cons b bs ih =>
    cases b with
    | none =>
      obtain ⟨r1, h1⟩ := ih r0
      exact ⟨r1, fun rest => by simpa [bodySteps, pcRunSteps, pcNext] using h1 rest⟩
    | some p =>
      obtain ⟨h, d⟩ := p
      obtain ⟨r1, h1⟩ := ih (some (h, d))
      refine ⟨r1, fun rest => ?_⟩
      have := h1 rest
      cases hc : L.regClearFirst <;>
        simp [bodySteps, regSteps, pcRunSteps, pcNext, hc] <;> exact this

/-- **Linking lemma between `pcNext` and the step lists**: for every store order `L`, the automaton accepts
    `ctorSteps L`, then any sequence of registrations (their stores in the order `regSteps L`) and work steps, then
    `dtorSteps L`, and is back at `idle` — so the order written into `pcNext` is the order of the step lists that
    `C15_gen_ctor/_setHandler/_dtor` tie to the source. -/
theorem C15_automaton_accepts_lifecycle (L : Layout) (body : List (Option (Nat × Nat))) :
    pcRunSteps L .idle (ctorSteps L ++ (bodySteps L body ++ dtorSteps L)) = some .idle := by
  have hc : ∀ rest, pcRunSteps L .idle (ctorSteps L ++ rest) = pcRunSteps L (.live none) rest := by
    intro rest
    cases h : L.ctorStopFirst <;> simp [ctorSteps, pcRunSteps, pcNext, h]
  obtain ⟨r1, hb⟩ := body_accepted L body none
  rw [hc, hb]
  cases h : L.dtorKeepsStop <;> simp [dtorSteps, pcRunSteps, pcNext, h]

open MpVerif.Gen in
/-- the step list of the re-entrance model (`handlerSteps`, hand-written, `++stop_` split into load and store) run
    without a nested signal is the execution of the generated source statements -/
theorem C15_gen_reentrant_steps (md : Mode) (s : St) (g : Sig) (hd : s.disp g = true) (hh : s.halted = none) :
    Src.runHandler md g Signal.handleSigInt (Src.onEntry md s g) [] =
      some ((hRun md g handlerSteps ⟨entryState md s g, 0, []⟩).s, (hRun md g handlerSteps ⟨entryState md s g, 0, []⟩).obs) := by
  rw [C15_gen_handleSigInt md s g hd]
  have := C15_reentrant_steps_are_deliver md s g hd hh
  rw [this.1, this.2]

/-- every `schedule` of a well-formed macro program is an event sequence of the kind the theorems quantify over
    (the driver builds its event lists by `scheduleN`, the same recursion over `EvN`) -/
theorem C15_schedule_wellformed (L : Layout) (prog : List Macro) (sch : List (Nat × Sig)) (hw : wfProg L prog = true) :
    steps (schedule (expandProg L prog) 0 sch) = expandProg L prog ∧
    (pcRun L .idle (schedule (expandProg L prog) 0 sch)).isSome = true := by
  refine ⟨steps_schedule _ _ _, ?_⟩
  rw [pcRun_steps, steps_schedule]
  exact hw

/-! ## non-trivial instances of the main theorems

The instances below *apply* `C15_no_lost`, `C15_pairing`, `C15_callback_invoked`, `C15_third_exits`, `C15_no_early_exit` and
`C15_after_teardown` to concrete histories with signals before, inside and after the registration, under both `signal(2)`
semantics and with a failing stdout, and discharge every hypothesis by evaluation — so no hypothesis of these is
unsatisfiable or met only by the empty history. -/

/-- a history: construction with a SIGINT delivered right after `signal(SIGINT, …)` (gap 6) -/
private def exPre : List Ev := schedule (expandProg Layout.current [.ctor]) 0 [(6, .int)]
/-- … continued by a complete registration of (1, 2) and a solve step -/
private def exPost : List Ev := [.step (.setH 0), .step (.setD 2), .step (.setH 1), .step .work]

/-- `C15_no_lost`: SIGTERM right after the constructor, then a registration and a solve step -/
example : stopQuery (run ⟨.sysv, false⟩ init (exPre ++ .sig .term :: exPost)).1 = true :=
  C15_no_lost ⟨.sysv, false⟩ exPre .term exPost (.live none) (.live (some (1, 2)))
    (by decide) (by decide) (by decide) (by decide) (by decide)

/-- `C15_no_lost` at the earliest installed point: SIGINT after `signal(SIGINT, …)`, before `signal(SIGTERM, …)` -/
example :
    let pre := (ctorSteps Layout.current).take 6 |>.map Ev.step
    stopQuery (run .bsd init (pre ++ .sig .int :: (.step .cSigTerm :: exPost))).1 = true :=
  C15_no_lost .bsd _ .int _ .cS1 (.live (some (1, 2))) (by decide) (by decide) (by decide) (by decide) (by decide)

/-- `C15_pairing` inside the registration window (after `data_ = 2`, before `handler_ = 1`) while the old
    registration (3, 4) has been cleared: the hypothesis `cb h d ∈ obs` is not satisfiable there — no callback — … -/
example :
    let pre := exPre ++ [.step (.setH 0), .step (.setD 4), .step (.setH 3), .step (.setH 0), .step (.setD 2)]
    pcRun Layout.current .idle pre = some (.dat 2) ∧
    (deliver .bsd (run .bsd init pre).1 .int).2 = [.brk 18 true, .rearm .int] := by decide

/-- … and satisfiable at a `live` point, where the theorem pins the pair down -/
example :
    let pre := exPre ++ exPost
    PC.curReg (.live (some (1, 2))) = some (1, 2) ∧ Obs.cb 1 2 ∈ (deliver .sysv (run .sysv init pre).1 .term).2 ∧
    pcRun Layout.current .idle pre = some (.live (some (1, 2))) ∧ (run .sysv init pre).1.halted = none := by decide

example : PC.curReg (.live (some (1, 2))) = some (1, 2) :=
  C15_pairing .sysv (exPre ++ exPost) .term (.live (some (1, 2))) (by decide) (by decide) 1 2 (by decide)

/-- `C15_callback_invoked` -/
example : (deliver .bsd (run .bsd init (exPre ++ exPost)).1 .int).2.filter
      (fun o => match o with | .cb _ _ => true | _ => false) = [Obs.cb 1 2] :=
  C15_callback_invoked Layout.current .bsd (exPre ++ exPost) .int 1 2 (by decide) (by decide) (by decide) (by decide)

/-- `C15_third_exits`: three signals spread over the constructor tail, a registration and the teardown -/
example :
    let pre := (ctorSteps Layout.current).take 6 |>.map Ev.step
    let post := [.sig .int, .step .cSigTerm, .step (.setH 0), .sig .term, .step (.setD 2), .step (.setH 1), .step .work,
                 .step .dIntr, .step .dH0, .sig .int, .step .dSize0]
    (run .bsd init (pre ++ post)).1.halted ≠ none :=
  C15_third_exits .bsd _ _ .cS1 .dZ (by decide) (by decide) (by decide) (by decide)

/-- `C15_no_early_exit`: two signals, one of them before the `signal()` calls of a *second* handler object (handled by
    the disposition the first object left installed) -/
example :
    let life1 := schedule (expandProg Layout.current [.ctor, .work, .dtor]) 0 []
    let pre := life1 ++ ((ctorSteps Layout.current).take 4 |>.map Ev.step)
    let post := [.sig .int, .step .cSigInt, .step .cSigTerm, .step .work, .sig .term, .step .work]
    (run .bsd init (pre ++ .step .cStop0 :: post)).1.halted ≠ some .exit1 :=
  C15_no_early_exit .bsd _ _ (.live none) (by decide) (by decide) (by decide) (by decide) (by decide)

/-- `C15_after_teardown` / `C15_break_text_safe` after a history with a registration and interrupts: nothing is
    called, nothing is written -/
example :
    let pre := exPre ++ exPost ++ ((dtorSteps Layout.current).map Ev.step)
    pcRun Layout.current .idle pre = some .idle ∧ (run .bsd init pre).1.halted = none ∧
    (deliver .bsd (run .bsd init pre).1 .int).2 = [.brk 0 true, .rearm .int] := by decide

example : Obs.cb 1 2 ∉ (deliver .bsd (run .bsd init (exPre ++ exPost ++ ((dtorSteps Layout.current).take 2).map Ev.step)).1 .int).2 :=
  C15_after_teardown Layout.current .bsd _ .int .dH (by decide) (by decide) (by decide) 1 2

/-- `C15_gen_handleSigInt` in a state where everything happens: sysv semantics, failing stdout, a registered
    callback, `stop_ = 1` -/
example :
    let s := (run ⟨.sysv, false⟩ init (exPre ++ exPost)).1
    s.disp .term = true ∧ s.stop = 1 ∧ s.handler = 1 ∧
    Src.runHandler ⟨.sysv, false⟩ .term MpVerif.Gen.Signal.handleSigInt (Src.onEntry ⟨.sysv, false⟩ s .term) [] =
      some ({ s with stop := 2 }, [.brkFail, .cb 1 2, .rearm .term]) := by decide

/-- an ordinary run: `C R(1,1) W D W` with one SIGINT during solving: the callback gets its data, the solve
    step sees the stop request, nothing after teardown -/
example :
    let evs := schedule (expandProg .pinned [.ctor, .reg 1 1, .work, .dtor, .work]) 0 [(9, .int)]
    (run .bsd init evs).2 = [.brk 18 true, .cb 1 1, .rearm .int, .query true, .query false] := by decide

/-- the hypotheses of `C15_anyorder_no_lost_after_ctor` / `C15_anyorder_third_exits_after_ctor` are satisfiable: the constructor's
    event sequence ends in an installed point with the process running -/
example : pcRun .pinned .idle ((ctorSteps .pinned).map Ev.step) = some (.live none) ∧
    (run .sysv init ((ctorSteps .pinned).map Ev.step)).1.halted = none := by decide

/-- three SIGTERM/SIGINT during solving terminate the process (sysv semantics too) -/
example :
    let evs := schedule (expandProg .pinned [.ctor, .reg 1 1, .work, .work]) 0 [(9, .term), (10, .int), (10, .term)]
    (run .sysv init evs).1.halted = some .exit1 ∧
    (run .sysv init evs).2 = [.brk 18 true, .cb 1 1, .rearm .term, .query true, .brk 18 true, .cb 1 1, .rearm .int,
                               .brk 18 true, .exit1] := by decide

/-- a registration attempt while no handler object exists (`BasicSolver::SetHandler`) changes nothing: after
    `C R(1,1) D N(2,2)` a signal invokes no callback -/
example :
    let prog := [Macro.ctor, .reg 1 1, .dtor, .nreg 2 2, .work]
    let evs := schedule (expandProg Layout.current prog) 0 [(15, .int), (16, .int)]
    wfProg Layout.current prog = true ∧
    (run .bsd init evs).2 = [.brk 0 true, .rearm .int, .query false, .brk 0 true, .rearm .int] := by decide

/-- before installation the default action kills the process -/
example : (run .bsd init (schedule (expandProg .pinned [.ctor]) 0 [(3, .term)])).1.halted = some (.killed .term) := by decide

/-- `Layout.fixed`, the schedule of `C15_oldorder_counterexample_lost_in_ctor_window` moved to the same place (right after
    `signal(SIGINT, …)`, there gap 6): the interrupt is seen by the solve step -/
example :
    let evs := schedule (expandProg .fixed [.ctor, .work]) 0 [(6, .int)]
    (run .bsd init evs).2 = [.brk 18 true, .rearm .int, .query true] := by decide

/-- `Layout.fixed`, signals in both gaps inside the second `SetHandler` of `C R(1,1) R(2,2)`: no callback while
    `handler_` is cleared, never a mixed pair -/
example :
    let evs := schedule (expandProg .fixed [.ctor, .reg 1 1, .reg 2 2]) 0 [(10, .int), (11, .int), (12, .int)]
    wfProg .fixed [.ctor, .reg 1 1, .reg 2 2] = true ∧
    (run .bsd init evs).2 = [.brk 18 true, .cb 1 1, .rearm .int, .brk 18 true, .rearm .int, .brk 18 true, .exit1] := by
  decide

end MpVerif.C15
