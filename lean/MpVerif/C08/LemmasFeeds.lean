import MpVerif.C08.Lemmas
/-! Shared by the feed and solution theorems of `Props` and by `LemmasHistory`: `dense` cell by cell as `lookup` of a sparse
vector (re-indexed by an injective map: `lookup_reindex`; given as the graph of a partial function: `lookup_of_graph`), and
sums over positions (column counts; invariance under the permutation). -/
namespace MpVerif.C08

theorem getD_map_range {α} {n : Nat} {f : Nat → α} {d : α} {p : Nat} (h : p < n) :
    ((List.range n).map f).getD p d = f p := by
  rw [List.getD_eq_getElem?_getD, List.getElem?_map, List.getElem?_range h]; rfl

theorem find?_congr' {α} {p q : α → Bool} {l : List α} (h : ∀ x ∈ l, p x = q x) : l.find? p = l.find? q := by
  induction l with
  | nil => rfl
  | cons a t ih =>
    simp only [List.find?_cons, h a List.mem_cons_self]
    rw [ih (fun x hx => h x (List.mem_cons_of_mem _ hx))]

def lookup (l : List (Nat × Rat)) (i : Nat) : Rat :=
  match l.reverse.find? (fun e => e.1 == i) with
  | some e => e.2
  | none => 0

theorem dense_eq (size : Nat) (l : List (Nat × Rat)) : dense size l = (List.range size).map (lookup l) := rfl

theorem dense_getD {size : Nat} {l : List (Nat × Rat)} {i : Nat} (h : i < size) :
    (dense size l).getD i 0 = lookup l i :=
  getD_map_range h

theorem lookup_reindex {g : Nat → Nat} {l : List (Nat × Rat)} {j : Nat} (h : ∀ e ∈ l, g e.1 = g j → e.1 = j) :
    lookup (l.map (fun e => (g e.1, e.2))) (g j) = lookup l j := by
  unfold lookup
  rw [← List.map_reverse, List.find?_map]
  have : l.reverse.find? ((fun e : Nat × Rat => e.1 == g j) ∘ fun e => (g e.1, e.2)) =
      l.reverse.find? (fun e => e.1 == j) := by
    apply find?_congr'
    intro x hx
    show (g x.1 == g j) = (x.1 == j)
    by_cases hxj : x.1 = j
    · rw [hxj, beq_self_eq_true, beq_self_eq_true]
    · rw [beq_eq_false_iff_ne.mpr hxj, beq_eq_false_iff_ne.mpr fun hh => hxj (h x (List.mem_reverse.mp hx) hh)]
  rw [this]
  cases l.reverse.find? (fun e => e.1 == j) <;> rfl

theorem lookup_of_graph (l : List (Nat × Rat)) (f : Nat → Option Rat) (h : ∀ b, b ∈ l ↔ f b.1 = some b.2) (p : Nat) :
    lookup l p = (f p).getD 0 := by
  unfold lookup
  cases hf : l.reverse.find? (fun e => e.1 == p) with
  | some b =>
    have hp : b.1 = p := beq_iff_eq.mp (List.find?_some (p := fun e : Nat × Rat => e.1 == p) hf)
    rw [← hp, (h b).mp (List.mem_reverse.mp (List.mem_of_find?_eq_some hf))]
    rfl
  | none =>
    cases hv : f p with
    | none => rfl
    | some v =>
      have := List.find?_eq_none.mp hf (p, v) (List.mem_reverse.mpr ((h (p, v)).mpr hv))
      exact absurd (beq_self_eq_true p) this

theorem onPrimal_of_ne (m : MatrixModel) {xs : List Rat} (hne : xs ≠ []) :
    onPrimal m xs = (List.range m.n).map (fun j => xs.getD (vperm m j) 0) := by
  unfold onPrimal
  rw [if_neg (by simpa using hne)]

theorem countP_lt_succ_nat (l : List Nat) (n : Nat) :
    l.countP (fun c => decide (c < n + 1)) = l.countP (fun c => decide (c < n)) + l.count n := by
  induction l with
  | nil => rfl
  | cons a t ih =>
    simp only [List.countP_cons, List.count_cons, ih, decide_eq_true_eq, beq_iff_eq]
    split <;> split <;> split <;> omega

theorem sum_count_range (l : List Nat) (n : Nat) :
    ((List.range n).map (fun j => l.count j)).sum = l.countP (fun c => decide (c < n)) := by
  induction n with
  | zero => simp
  | succ n ih => simp [List.range_succ, ih, countP_lt_succ_nat]

theorem order_eq_map (m : MatrixModel) : order m = (List.range m.n).map (vpermInv m) :=
  List.ext_getElem (by simp [order_length]) fun i h _ => by simp [order_getElem m h]

theorem sum_over_positions (m : MatrixModel) (f : Nat → Nat) :
    ((List.range m.n).map (fun i => f (vpermInv m i))).sum = ((List.range m.n).map f).sum := by
  have h : (List.range m.n).map (fun i => f (vpermInv m i)) = (order m).map f := by
    rw [order_eq_map, List.map_map]; rfl
  rw [h]
  exact List.Perm.sum_nat ((order_perm m).map f)

end MpVerif.C08
