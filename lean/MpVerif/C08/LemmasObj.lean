import MpVerif.C08.Lemmas
/-! Objective-value lemmas for C08: the row walk of the code visits exactly the CSR entries; sums over
`Rat` do not depend on the order. -/
namespace MpVerif.C08

theorem perm_sum {l₁ l₂ : List Rat} (h : l₁.Perm l₂) : l₁.sum = l₂.sum :=
  h.foldr_eq' (f := (· + ·)) (fun _ _ _ _ _ => Rat.add_left_comm ..) 0

theorem foldl_add (l : List Rat) (a : Rat) : l.foldl (· + ·) a = a + l.sum :=
  List.foldl_eq_apply_foldr

def rowList (i s e : Nat) : List (Nat × Nat) := (List.range' s (e - s)).map (fun p => (i, p))

theorem walkDesc_succ (start : List Nat) (k e : Nat) :
    walkDesc start (k + 1) e = rowList k (start.getD k 0) e ++ walkDesc start k (start.getD k 0) := rfl

theorem entriesAsc_succ (start : List Nat) (k e : Nat) :
    entriesAsc start (k + 1) e = entriesAsc start k (start.getD k 0) ++ rowList k (start.getD k 0) e := by
  unfold entriesAsc
  rw [List.range_succ, List.flatMap_append, List.flatMap_singleton]
  congr 1
  · rw [List.flatMap_def, List.flatMap_def]
    congr 1
    apply List.map_congr_left
    intro i hi
    rw [List.mem_range] at hi
    by_cases h : i + 1 < k
    · simp [h, Nat.lt_succ_of_lt h]
    · have : i + 1 = k := by omega
      simp [this]
  · simp [rowList]

theorem walkDesc_perm (start : List Nat) (k e : Nat) : (walkDesc start k e).Perm (entriesAsc start k e) := by
  induction k generalizing e with
  | zero => simp [walkDesc, entriesAsc]
  | succ k ih =>
    rw [walkDesc_succ, entriesAsc_succ]
    exact (List.Perm.append_left _ (ih _)).trans List.perm_append_comm

theorem mem_entriesAsc {start : List Nat} {k e i p : Nat} :
    (i, p) ∈ entriesAsc start k e ↔
      i < k ∧ start.getD i 0 ≤ p ∧ p < (if i + 1 < k then start.getD (i + 1) 0 else e) := by
  simp only [entriesAsc, List.mem_flatMap, List.mem_range, List.mem_map, List.mem_range'_1, Prod.mk.injEq]
  constructor
  · rintro ⟨i, hi, p, hp, rfl, rfl⟩
    exact ⟨hi, hp.1, by omega⟩
  · rintro ⟨h1, h2, h3⟩
    exact ⟨i, h1, p, ⟨h2, by omega⟩, rfl, rfl⟩

theorem entriesAsc_pos_lt {start : List Nat} {k e : Nat} (hst : ∀ s ∈ start, s ≤ e) : ∀ x ∈ entriesAsc start k e, x.2 < e :=
  fun x hx => by
    obtain ⟨_, _, h⟩ := mem_entriesAsc.mp hx
    have := getD_of_forall (· ≤ e) hst (Nat.zero_le _) (x.1 + 1)
    split at h <;> omega

theorem qEntries_subset_entriesAsc (m : MatrixModel) {x : Nat × Nat} (h : x ∈ qEntries m) : x ∈ entriesAsc m.Q.start m.n m.Q.nnz := by
  unfold qEntries at h
  split at h
  · cases h
  · exact (walkDesc_perm ..).mem_iff.mp h

theorem qEntries_row_lt (m : MatrixModel) : ∀ x ∈ qEntries m, x.1 < m.n := fun _ hx =>
  (mem_entriesAsc.mp (qEntries_subset_entriesAsc m hx)).1

theorem qEntries_pos_lt (m : MatrixModel) (hst : ∀ s ∈ m.Q.start, s ≤ m.Q.nnz) : ∀ x ∈ qEntries m, x.2 < m.Q.nnz :=
  fun x hx => entriesAsc_pos_lt hst x (qEntries_subset_entriesAsc m hx)

theorem qCol_lt (m : MatrixModel) (hq : ∀ c ∈ m.Q.index, c < m.n) (hn : 0 < m.n) (pos : Nat) : qCol m pos < m.n :=
  getD_of_forall (· < m.n) hq hn pos

/-- the quadratic part of the specification, summed in the order in which the code walks `Q` -/
theorem spec_quad_eq (m : MatrixModel) (hst : ∀ s ∈ m.Q.start, s ≤ m.Q.nnz) (f : Nat × Nat → Rat) :
    ((entriesAsc m.Q.start m.n m.Q.nnz).map f).sum = ((qEntries m).map f).sum := by
  unfold qEntries
  split
  · next h =>
    have : entriesAsc m.Q.start m.n m.Q.nnz = [] :=
      List.eq_nil_iff_forall_not_mem.mpr fun x hx => by have := entriesAsc_pos_lt hst x hx; omega
    rw [this]
  · exact (perm_sum ((walkDesc_perm _ _ _).map f)).symm

theorem sum_filter_zero {α} (l : List α) (p : α → Bool) (f : α → Rat) (h : ∀ x ∈ l, p x = false → f x = 0) :
    ((l.filter p).map f).sum = (l.map f).sum := by
  induction l with
  | nil => rfl
  | cons a t ih =>
    have ih' := ih (fun x hx => h x (List.mem_cons_of_mem _ hx))
    cases hp : p a
    · have := h a List.mem_cons_self hp
      simp [hp, ih', this]
      grind
    · simp [hp, ih']

theorem evalList_eq_sum (z : Nat → Rat) (l : List Expr) : evalExpr.evalList z l = (l.map (evalExpr z)).sum := by
  induction l with
  | nil => rfl
  | cons x t ih => rw [evalExpr.evalList, ih, List.map_cons, List.sum_cons]

theorem sum_replicate_zero (k : Nat) : (List.replicate k (0 : Rat)).sum = 0 := by
  induction k with
  | zero => rfl
  | succ k ih => rw [List.replicate_succ, List.sum_cons, ih, Rat.add_zero]

theorem supp_false_c (m : MatrixModel) (j : Nat) (h : supp m j = false) : cCoef m j = 0 := by
  unfold supp at h
  simp only [Bool.or_eq_false_iff, bne_eq_false_iff_eq] at h
  exact h.1

/-- the objective as written, evaluated at the permuted point, is the caller's objective -/
theorem writtenObj_eq (m : MatrixModel) (hq : ∀ c ∈ m.Q.index, c < m.n) (hst : ∀ s ∈ m.Q.start, s ≤ m.Q.nnz)
    (x : Nat → Rat) : writtenObj m (fun p => x (vpermInv m p)) = objSpec m x := by
  unfold writtenObj objSpec
  have hlin : evalLin (fun p => x (vpermInv m p)) (feedObjGradient m) = ((List.range m.n).map (fun j => cCoef m j * x j)).sum := by
    unfold evalLin feedObjGradient
    rw [List.map_map, ← sum_filter_zero (List.range m.n) (supp m) (fun j => cCoef m j * x j)]
    · congr 1
      apply List.map_congr_left
      intro j hj
      have hj' : j < m.n := List.mem_range.mp (List.mem_filter.mp hj).1
      simp only [Function.comp_apply, vpermInv_vperm m hj']
    · intro j _ hs
      rw [supp_false_c m j hs]; grind
  have hquad : evalExpr (fun p => x (vpermInv m p)) (feedObjExpr m) =
      m.c0 + ((qEntries m).map (fun e => qVal m e.2 / 2 * x e.1 * x (qCol m e.2))).sum := by
    unfold feedObjExpr
    split
    · next h => simp [qEntries, h, evalExpr]; grind
    · rw [evalExpr, evalList_eq_sum, List.map_append, List.map_append, List.sum_append, List.sum_append, List.map_replicate,
        evalExpr, sum_replicate_zero, List.map_map]
      congr 1
      · split <;> simp_all [evalExpr] <;> grind
      · congr 1
        apply List.map_congr_left
        intro e he
        have h1 : e.1 < m.n := qEntries_row_lt m e he
        have h2 : qCol m e.2 < m.n := qCol_lt m hq (by omega) e.2
        simp only [Function.comp_apply, qTerm, evalExpr, vpermInv_vperm m h1, vpermInv_vperm m h2]
        grind
  rw [hlin, hquad, spec_quad_eq m hst]
  grind

/-- `ComputeObjValue` is the caller's objective -/
theorem computeObjValue_eq (m : MatrixModel) (hst : ∀ s ∈ m.Q.start, s ≤ m.Q.nnz)
    (x : Nat → Rat) : computeObjValue m x = some (objSpec m x) := by
  unfold computeObjValue objSpec
  simp only [foldl_add, Option.some.injEq]
  rw [spec_quad_eq m hst, List.map_reverse, List.sum_reverse]

end MpVerif.C08
