import MpVerif.C08.LemmasObj
import MpVerif.Gen.C08Easy
/-! Two integer loops of the mechanism as folds of GENERATED step functions (the loop nesting is written here by hand):
the CSR row walk with `pos_end`, and the reverse-mapping loop of `PermuteVars` (+ `VPerm` / `VPermInv`). -/
namespace MpVerif.C08
open MpVerif.Gen.C08Easy

/-- `for (pos = …; cond pos pos_end; pos = inc pos) visit pos` with explicit fuel -/
def innerLoop (cond : Int → Int → Bool) (inc : Int → Int) : Nat → Int → Int → List Int
  | 0, _, _ => []
  | f + 1, pos, pe => if cond pos pe then pos :: innerLoop cond inc f (inc pos) pe else []

/-- `for (i = k; i--; ) { for (pos = init start[i]; …) visit (i,pos); pos_end = next start[i]; }`; the fuel of the inner
loop is the distance to `pos_end` (lemma `innerLoop_more_fuel`: more fuel changes nothing, the loop stops by its own test) -/
def outerLoop (init next : Int → Int) (cond : Int → Int → Bool) (inc : Int → Int) (start : List Nat) :
    Nat → Int → List (Nat × Int)
  | 0, _ => []
  | i + 1, pe =>
    let si : Int := (start.getD i 0 : Nat)
    (innerLoop cond inc (pe - init si).toNat (init si) pe).map (fun p => (i, p)) ++
      outerLoop init next cond inc start i (next si)

theorem innerLoop_count (f g : Nat) (s : Nat) (e : Int) (h : (s : Int) + f = e) :
    innerLoop (fun a b => decide (a ≠ b)) (fun p => p + 1) (f + g) s e = (List.range' s f).map Int.ofNat := by
  induction f generalizing s with
  | zero =>
    have : (s : Int) = e := by omega
    cases g with
    | zero => rfl
    | succ g => simp [innerLoop, this]
  | succ f ih =>
    have hne : ((s : Int) ≠ e) := by omega
    rw [show f + 1 + g = (f + g) + 1 by omega]
    simp only [innerLoop, hne, ne_eq, not_false_eq_true, decide_true, if_true, List.range'_succ, List.map_cons]
    congr 1
    simpa using ih (s + 1) (by omega)

theorem innerLoop_more_fuel (f g : Nat) (s : Nat) (e : Int) (h : (s : Int) + f = e) :
    innerLoop (fun a b => decide (a ≠ b)) (fun p => p + 1) (f + g) s e =
    innerLoop (fun a b => decide (a ≠ b)) (fun p => p + 1) f s e := by
  rw [innerLoop_count f g s e h, ← innerLoop_count f 0 s e h, Nat.add_zero]

/-- the model's `walkDesc` is the fold of the canonical components -/
theorem walkDesc_eq_outerLoop (start : List Nat) (k pe : Nat) :
    (walkDesc start k pe).map (fun e => (e.1, (e.2 : Int))) =
      outerLoop (fun s => s) (fun s => s) (fun a b => decide (a ≠ b)) (fun p => p + 1) start k pe := by
  induction k generalizing pe with
  | zero => rfl
  | succ k ih =>
    rw [walkDesc_succ, List.map_append, outerLoop]
    congr 1
    · simp only [rowList, List.map_map]
      by_cases h : start.getD k 0 ≤ pe
      · have hf : ((pe : Int) - (start.getD k 0 : Nat)).toNat = pe - start.getD k 0 := by omega
        rw [hf, ← Nat.add_zero (pe - _), innerLoop_count _ 0 _ _ (by omega), List.map_map]
        rfl
      · have hf : ((pe : Int) - (start.getD k 0 : Nat)).toNat = 0 := by omega
        have h0 : pe - start.getD k 0 = 0 := by omega
        rw [hf, h0]
        rfl
    · exact ih _

/-- one iteration of the reverse-mapping loop on the array `var_perm_` (pairs `(first, second)`), with the generated
target index and value; only the generated field (`first`) of the target element is overwritten -/
def revStep (a : List (Int × Nat)) (i : Nat) : List (Int × Nat) :=
  let e := a.getD i (0, 0)
  let tgt := (revMapTarget e.1 e.2 i).toNat
  a.set tgt (revMapValue e.1 e.2 i, (a.getD tgt (0, 0)).2)

def revLoop (a : List (Int × Nat)) (k : Nat) : List (Int × Nat) := (List.range k).reverse.foldl revStep a

theorem set_getD_self {α} (l : List α) (t : Nat) (d : α) : l.set t (l.getD t d) = l := by
  by_cases h : t < l.length
  · rw [getD_eq_getElem' h, List.set_getElem_self]
  · exact List.set_eq_of_length_le (by omega)

theorem revStep_snd (a : List (Int × Nat)) (i : Nat) : (revStep a i).map Prod.snd = a.map Prod.snd := by
  rw [revStep, List.map_set, ← getD_map' Prod.snd a (0, 0) (revMapTarget _ _ _).toNat]
  exact set_getD_self _ _ _

theorem revStep_fst (a : List (Int × Nat)) (i : Nat) :
    (revStep a i).map Prod.fst = (a.map Prod.fst).set ((a.map Prod.snd).getD i 0) i := by
  rw [revStep, List.map_set, ← getD_map' Prod.snd a (0, 0) i]
  simp only [revMapTarget, revMapValue, Int.toNat_natCast]

/-- the writes `var_perm_[S[i]].first = i` go to distinct cells (`S` has no repetition), so in whatever order the positions
`is` are processed, cell `S[i]` ends up holding `i` and every other cell is as before; as a `foldr`, so that the induction
takes off the step executed last -/
theorem revSteps_spec (S : List Nat) (hS : S.Nodup) (a : List (Int × Nat)) (ha : a.map Prod.snd = S) :
    ∀ is : List Nat, is.Nodup → (∀ i ∈ is, i < S.length) →
      (is.foldr (fun i a => revStep a i) a).map Prod.snd = S ∧
      (∀ i ∈ is, S.getD i 0 < S.length →
        ((is.foldr (fun i a => revStep a i) a).map Prod.fst)[S.getD i 0]? = some (i : Int)) ∧
      ∀ j, (∀ i ∈ is, S.getD i 0 ≠ j) →
        ((is.foldr (fun i a => revStep a i) a).map Prod.fst)[j]? = (a.map Prod.fst)[j]?
  | [], _, _ => ⟨ha, fun _ h => absurd h List.not_mem_nil, fun _ _ => rfl⟩
  | i₀ :: is, hnd, hi => by
    obtain ⟨h1, h2, h3⟩ := revSteps_spec S hS a ha is hnd.of_cons fun i h => hi i (List.mem_cons_of_mem _ h)
    refine ⟨(revStep_snd _ _).trans h1, fun i hmem hlt => ?_, fun j hj => ?_⟩
    · rw [List.foldr_cons, revStep_fst, h1, List.getElem?_set]
      rcases List.mem_cons.mp hmem with rfl | hmem
      · rw [if_pos rfl, if_pos]
        rwa [List.length_map, ← List.length_map (f := Prod.snd), h1]
      · rw [if_neg, h2 i hmem hlt]
        rw [getD_eq_getElem' (hi i₀ List.mem_cons_self), getD_eq_getElem' (hi i (List.mem_cons_of_mem _ hmem)),
          List.getElem_inj hS]
        rintro rfl
        exact (List.nodup_cons.mp hnd).1 hmem
    · rw [List.foldr_cons, revStep_fst, h1, List.getElem?_set_ne (hj i₀ List.mem_cons_self),
        h3 j fun i h => hj i (List.mem_cons_of_mem _ h)]

/-- the loop as it runs, `i = k-1 … 0`: cell `j = S[i]` holds `i` if `i < k` and is untouched otherwise -/
theorem revLoop_spec (S : List Nat) (hS : S.Nodup) (k : Nat) (a : List (Int × Nat))
    (ha : a.map Prod.snd = S) (hk : k ≤ S.length) :
    (revLoop a k).map Prod.snd = S ∧
    ∀ j, j ∈ S → j < S.length →
      ((revLoop a k).getD j (0, 0)).1 = if S.idxOf j < k then (S.idxOf j : Int) else (a.getD j (0, 0)).1 := by
  obtain ⟨h1, h2, h3⟩ := revSteps_spec S hS a ha (List.range k) List.nodup_range
    fun i hi => Nat.lt_of_lt_of_le (List.mem_range.mp hi) hk
  rw [← List.foldl_reverse] at h1 h2 h3
  refine ⟨h1, fun j hj hjl => ?_⟩
  have hidx := List.idxOf_lt_length_iff.mpr hj
  have hget : S.getD (S.idxOf j) 0 = j := by rw [getD_eq_getElem' hidx, List.getElem_idxOf]
  rw [← getD_map' Prod.fst, ← getD_map' Prod.fst, List.getD_eq_getElem?_getD, List.getD_eq_getElem?_getD, revLoop]
  split
  · next c =>
    have := h2 _ (List.mem_range.mpr c) (hget.symm ▸ hjl)
    rw [hget] at this
    rw [this]; rfl
  · next c =>
    rw [h3 j fun i hi e => c ?_]
    rw [← e, getD_eq_getElem' (Nat.lt_of_lt_of_le (List.mem_range.mp hi) hk), hS.idxOf_getElem]
    exact List.mem_range.mp hi

end MpVerif.C08
