import MpVerif.C08.LemmasHistory
import MpVerif.C08.LemmasGen
import MpVerif.C08.LemmasWalk
import MpVerif.C08.LemmasReader
import MpVerif.C08.GenExpected
/-!
# C08 — property theorems

All theorems are about `MpVerif.C08` (Model.lean), quantified over **every** matrix model.  Each takes as hypotheses only the
part of the caller contract (`WF`, §9) it needs: column indices in range, row starts inside the nonzero array, a non-empty
column set.

The model is of the tree with repo_patches/C08-easy-api-fixes.diff applied; the inputs on which the tree without it fails
are regression inputs in checks/c08.py.
-/
namespace MpVerif.C08

/-! ## 1. The reported permutation -/

/-- `vperm_` / `vperm_inv_` are mutually inverse bijections of `[0, n)` -/
theorem C08_perm_bijection (m : MatrixModel) (j : Nat) (hj : j < m.n) :
    vperm m j < m.n ∧ vpermInv m (vperm m j) = j ∧ vpermInv m j < m.n ∧ vperm m (vpermInv m j) = j :=
  ⟨vperm_lt m hj, vpermInv_vperm m hj, vpermInv_lt m hj, vperm_vpermInv m hj⟩

/-- NL order is sorted by the key, and stable: inside a key class caller order is kept -/
theorem C08_perm_sorted_stable (m : MatrixModel) (p q : Nat) (hpq : p < q) (hq : q < m.n) :
    key m (vpermInv m p) < key m (vpermInv m q) ∨
    (key m (vpermInv m p) = key m (vpermInv m q) ∧ vpermInv m p < vpermInv m q) := by
  have hlq : q < (order m).length := by rw [order_length]; exact hq
  have h := List.pairwise_iff_getElem.mp (order_sorted m) p q (by omega) hlq hpq
  rwa [order_getElem, order_getElem] at h

/-- `std::stable_sort` is only skeleton-tied, but WHICH stable sort is used does not matter: any rearrangement of the
`(key, index)` pairs that is sorted by the `std::pair` order is the model's `sortedPairs` — in particular any list that is
sorted by the (generated, `C08_gen_key`) key alone and keeps the caller order inside equal keys (the specification of a
stable sort by key).  So the reported permutation is THE stable-sort permutation of the keys. -/
theorem C08_sort_unique (m : MatrixModel) (L : List (Int × Nat)) (hperm : L.Perm (pairs m)) :
    (L.Pairwise (fun a b => pairLE a b = true) → L = sortedPairs m) ∧
    (L.Pairwise (fun a b => a.1 < b.1 ∨ (a.1 = b.1 ∧ a.2 < b.2)) → L = sortedPairs m) := by
  have huniq : L.Pairwise (fun a b => pairLE a b = true) → L = sortedPairs m := by
    intro hs
    apply List.Perm.eq_of_pairwise (le := fun a b => pairLE a b = true) _ hs (sortedPairs_pairwise m)
      (hperm.trans (sortedPairs_perm m).symm)
    intro a b _ _ h1 h2
    rw [pairLE_iff] at h1 h2
    apply Prod.ext <;> omega
  refine ⟨huniq, ?_⟩
  intro hs
  apply huniq
  apply hs.imp
  intro a b h
  rw [pairLE_iff]
  omega

/-- position of column `j` lies in the block of its key class -/
theorem C08_block_position (m : MatrixModel) (j : Nat) (hj : j < m.n) :
    (List.range m.n).countP (fun i => decide (key m i < key m j)) ≤ vperm m j ∧
    vperm m j < (List.range m.n).countP (fun i => decide (key m i ≤ key m j)) := by
  have h1 := vperm_lt_count_iff m hj (key m j)
  have h2 := vperm_lt_count_iff m hj (key m j + 1)
  simp only [Int.lt_add_one_iff] at h2
  omega

/-! ## 2. Header class counts and type-by-position decoding -/

/-- the linear-integer and nonlinear-integer header counts are the sizes of the key classes 1, 2, −1 -/
theorem C08_header_integer_counts (m : MatrixModel) (text : Bool) (flags : Nat) :
    (header m text flags).nbv = (List.range m.n).countP (fun j => decide (key m j = 1)) ∧
    (header m text flags).niv = (List.range m.n).countP (fun j => decide (key m j = 2)) ∧
    (header m text flags).nlvoi = (List.range m.n).countP (fun j => decide (key m j = -1)) :=
  ⟨nbv_eq m, niv_eq m, nlvoi_eq m⟩

/-- `num_nl_vars_in_objs` is the size of the nonlinear block -/
theorem C08_header_nlvo (m : MatrixModel) (text : Bool) (flags : Nat) :
    (header m text flags).nlvo = (List.range m.n).countP (fun j => decide (key m j < 0)) :=
  nlvo_eq m

/-- the reader's type-by-position decoding gives column `j` its own integrality at its permuted position -/
theorem C08_types (m : MatrixModel) (text : Bool) (flags : Nat) (j : Nat) (hj : j < m.n) :
    decodeIsInt (header m text flags) (vperm m j) = isInt m j := by
  have h1 := vperm_lt_count_iff m hj 1
  have h0 := vperm_lt_count_iff m hj 0
  have hm := vperm_lt_count_iff m hj (-1)
  have c1 := count_lt_one m
  have c0 := count_lt_zero_split m
  rw [← nlvo_eq] at h0
  rw [Bool.eq_iff_iff, decodeIsInt_iff, isInt_eq_key, decide_eq_true_eq]
  simp only [header]
  omega

/-- two general-integer columns, triangular Hessian (0,0),(0,1),(1,1): three nonzeros over two variables (finding C08-nlvo: the
tree without the patch counts `nlvo` per nonzero) -/
def cxTypes : MatrixModel :=
  { api := 0, n := 2, types := some [1, 1], lb := [.fin 0, .fin 0], ub := [.fin 5, .fin 5], sense := 0, c0 := 1,
    c := some [0, 0], qfmt := 1, Q := { start := [0, 2], index := [0, 1, 1], value := [2, 1, 2] }, m := 0, rlb := [], rub := [],
    A := { start := [], index := [], value := [] }, ws := [], dws := [], sufs := [], colNames := none, rowNames := none,
    objName := "obj" }

example : (header cxTypes true 1).nlvo = 2 ∧ (header cxTypes true 1).nlvoi = 2 := by decide

/-- every variable occurring in the quadratic part sits in the leading (nonlinear) block -/
theorem C08_nonlinear_block (m : MatrixModel) (e : Nat × Nat) (he : e ∈ qEntries m) :
    key m e.1 < 0 ∧ key m (qCol m e.2) < 0 :=
  ⟨key_neg_of_nlv m (List.any_eq_true.mpr ⟨e, he, by simp⟩), key_neg_of_nlv m (List.any_eq_true.mpr ⟨e, he, by simp⟩)⟩

/-! ## 3. Bounds, names, rows -/

theorem C08_bounds_follow (m : MatrixModel) (j : Nat) (hj : j < m.n) :
    (feedVarBounds m).getD (vperm m j) (.fin 0, .fin 0) = (m.lb.getD j (.fin 0), m.ub.getD j (.fin 0)) := by
  unfold feedVarBounds
  rw [getD_map_range (vperm_lt m hj), vpermInv_vperm m hj]

theorem C08_colnames_follow (m : MatrixModel) (nm : List String) (h : m.colNames = some nm) (j : Nat) (hj : j < m.n) :
    ∃ l, feedColNames m = some l ∧ l.length = m.n ∧ l.getD (vperm m j) "" = nm.getD j "" := by
  refine ⟨(List.range m.n).map (fun i => nm.getD (vpermInv m i) ""), ?_, ?_, ?_⟩
  · simp [feedColNames, h]
  · simp
  · rw [getD_map_range (vperm_lt m hj), vpermInv_vperm m hj]

/-- row names are written in caller order followed by the objective name (rows are not permuted) -/
theorem C08_rownames (m : MatrixModel) (nm : List String) (h : m.rowNames = some nm) :
    feedRowObjNames m = some ((List.range m.m).map (fun i => nm.getD i "") ++ [m.objName]) := by
  simp [feedRowObjNames, h]

/-- the caller's row `i` as a function: textbook CSR row range -/
def rowSpec (m : MatrixModel) (i : Nat) (x : Nat → Rat) : Rat :=
  let s := m.A.start.getD i 0
  let e := if i + 1 < m.m then m.A.start.getD (i + 1) 0 else m.A.nnz
  ((List.range' s (e - s)).map (fun pos => m.A.value.getD pos 0 * x (m.A.index.getD pos 0))).sum

/-- every row has the same value at every point (and its range is passed through unchanged) -/
theorem C08_rows_same_function (m : MatrixModel) (ha : ∀ c ∈ m.A.index, c < m.n) (hn : 0 < m.n) (i : Nat) (x : Nat → Rat) :
    evalLin (fun p => x (vpermInv m p)) (feedLinearConExpr m i) = rowSpec m i x ∧
    (i < m.m → (feedConBounds m).getD i (.fin 0, .fin 0) = (m.rlb.getD i (.fin 0), m.rub.getD i (.fin 0))) := by
  constructor
  · unfold evalLin feedLinearConExpr rowSpec
    simp only [List.map_map]
    congr 1
    apply List.map_congr_left
    intro pos _
    have hc : m.A.index.getD pos 0 < m.n := getD_of_forall (· < m.n) ha hn pos
    simp only [Function.comp_apply, vpermInv_vperm m hc]
  · intro hi
    unfold feedConBounds
    rw [getD_map_range hi]

/-- Jacobian column sizes (k segment: all positions but the last) follow their columns -/
theorem C08_colsizes_follow (m : MatrixModel) (j : Nat) (hj : j < m.n) (hl : vperm m j < m.n - 1) :
    (feedColumnSizes m).getD (vperm m j) 0 = m.A.index.count j := by
  unfold feedColumnSizes colSize
  rw [getD_map_range hl, vpermInv_vperm m hj]

/-- the NL `k` segment omits the LAST position; its column size is nevertheless determined by what is written:
the sizes at all positions sum to the number of Jacobian nonzeros of the header (`nzc`), so the last column has
`nzc − Σ written sizes` entries — and that is the caller's count for the column placed last -/
theorem C08_colsizes_last (m : MatrixModel) (ha : ∀ c ∈ m.A.index, c < m.n) (hn : 0 < m.n) (text : Bool) (flags : Nat) :
    (feedColumnSizes m).sum + m.A.index.count (vpermInv m (m.n - 1)) = (header m text flags).nzc ∧
    m.A.index.count (vpermInv m (m.n - 1)) = (header m text flags).nzc - (feedColumnSizes m).sum := by
  have h1 := sum_over_positions m (fun j => m.A.index.count j)
  rw [sum_count_range, List.countP_eq_length.mpr fun c hc => decide_eq_true (ha c hc)] at h1
  have hsplit : List.range m.n = List.range (m.n - 1) ++ [m.n - 1] := by
    have : m.n = (m.n - 1) + 1 := by omega
    rw [this, List.range_succ]; simp
  rw [hsplit, List.map_append, List.sum_append] at h1
  simp only [List.map_cons, List.map_nil, List.sum_cons, List.sum_nil, Nat.add_zero] at h1
  have hf : (feedColumnSizes m).sum = ((List.range (m.n - 1)).map (fun i => m.A.index.count (vpermInv m i))).sum := rfl
  have hz : (header m text flags).nzc = m.A.index.length := rfl
  rw [hf, hz]
  omega

/-! ## 4. Objective -/

/-- the objective written to NL (gradient + expression tree), evaluated at the permuted image of any
point, equals the caller's objective `c0 + c·x + ½ Σ q x_r x_c` — for every point -/
theorem C08_objective_same_function (m : MatrixModel) (hq : ∀ c ∈ m.Q.index, c < m.n)
    (hst : ∀ s ∈ m.Q.start, s ≤ m.Q.nnz) (x : Nat → Rat) :
    writtenObj m (fun p => x (vpermInv m p)) = objSpec m x :=
  writtenObj_eq m hq hst x

/-- the `sum` node always has at least 3 arguments: the written file passes the reader's arity test -/
theorem C08_readable (m : MatrixModel) : readable m = true := by
  unfold readable sumArity numPad
  simp only [Bool.or_eq_true, decide_eq_true_eq]
  right
  split <;> omega

/-- `ComputeObjValue` returns the caller's objective at the given point (with or without linear coefficients) -/
theorem C08_objective_recomputed (m : MatrixModel)
    (hst : ∀ s ∈ m.Q.start, s ≤ m.Q.nnz) (x : Nat → Rat) : computeObjValue m x = some (objSpec m x) :=
  computeObjValue_eq m hst x

/-! ## 5. Warm starts and suffixes -/

/-- the primal warm start read back at the permuted position is the caller's value; the dual one is
passed through — both APIs -/
theorem C08_warmstart_follow (m : MatrixModel) (hw : ∀ e ∈ m.ws, e.1 < m.n)
    (j : Nat) (hj : j < m.n) :
    (dense m.n (feedInitialGuesses m)).getD (vperm m j) 0 = (dense m.n m.ws).getD j 0 ∧
    feedInitialDualGuesses m = m.dws := by
  refine ⟨?_, rfl⟩
  rw [dense_getD (vperm_lt m hj), dense_getD hj]
  exact lookup_reindex fun e he => vperm_inj m (hw e he) hj

/-- every entry written for a variable suffix is `(VPerm j, value_j)` (rounded for integer suffixes) of a
nonzero caller value, and every nonzero caller value is written -/
theorem C08_suffix_follow (m : MatrixModel) (s : Suffix) (hk : s.kind % 4 = 0) (e : Nat × Rat) :
    e ∈ (feedSuffix m s).entries ↔
    ∃ j v, s.values[j]? = some v ∧ v ≠ 0 ∧
      e = (vperm m j, if (s.kind / 4) % 2 == 1 then v else ((roundHA v : Int) : Rat)) := by
  simp only [feedSuffix, hk, List.mem_map, List.mem_filter, Prod.exists, List.mem_zipIdx_iff_getElem?]
  constructor
  · rintro ⟨v, j, ⟨hv, hnz⟩, rfl⟩
    exact ⟨j, v, hv, by simpa using hnz, by simp⟩
  · rintro ⟨j, v, hv, hnz, rfl⟩
    exact ⟨v, j, ⟨hv, by simpa using hnz⟩, by simp⟩

/-- suffixes of constraints/objectives/problem are not re-indexed -/
theorem C08_suffix_nonvar (m : MatrixModel) (s : Suffix) (hk : s.kind % 4 ≠ 0) (e : Nat × Rat) :
    e ∈ (feedSuffix m s).entries → ∃ v, s.values[e.1]? = some v ∧ v ≠ 0 := by
  have hk' : (s.kind % 4 == 0) = false := by simp [hk]
  simp only [feedSuffix, hk', List.mem_map, List.mem_filter, Prod.exists, List.mem_zipIdx_iff_getElem?]
  rintro ⟨v, j, ⟨hv, hnz⟩, rfl⟩
  exact ⟨v, by simpa using hv, by simpa using hnz⟩

/-! ## 6. Solutions come back in caller order -/

/-- the value the solver reports for NL position `p` is returned at caller index `vpermInv p`;
equivalently caller index `j` receives the value at position `vperm j` -/
theorem C08_unpermute_primal (m : MatrixModel) (xs : List Rat) (hne : xs ≠ []) (j : Nat) (hj : j < m.n) :
    (onPrimal m xs).length = m.n ∧
    (onPrimal m xs).getD j 0 = xs.getD (vperm m j) 0 ∧
    (onPrimal m xs).getD (vpermInv m j) 0 = xs.getD j 0 := by
  rw [onPrimal_of_ne m hne]
  exact ⟨by simp, getD_map_range hj, by rw [getD_map_range (vpermInv_lt m hj), vperm_vpermInv m hj]⟩

/-- round trip: a caller-order point written by a solver in NL order is returned unchanged -/
theorem C08_unpermute_roundtrip (m : MatrixModel) (x : Nat → Rat) (hn : 0 < m.n) :
    onPrimal m ((List.range m.n).map (fun p => x (vpermInv m p))) = (List.range m.n).map x := by
  rw [onPrimal_of_ne m (by rw [ne_eq, List.map_eq_nil_iff, List.range_eq_nil]; omega)]
  apply List.map_congr_left
  intro j hj
  rw [List.mem_range] at hj
  rw [getD_map_range (vperm_lt m hj), vpermInv_vperm m hj]

/-- solution suffixes on variables are returned at the caller's index -/
theorem C08_unpermute_suffix (m : MatrixModel) (kind : Nat) (hk : kind % 4 = 0) (entries : List (Nat × Rat))
    (he : ∀ e ∈ entries, e.1 < m.n) (p : Nat) (hp : p < m.n) :
    (onSuffix m kind entries).getD (vpermInv m p) 0 = (dense m.n entries).getD p 0 := by
  unfold onSuffix
  simp only [hk, beq_self_eq_true, if_true]
  rw [dense_getD (vpermInv_lt m hp), dense_getD hp]
  exact lookup_reindex fun e h => vpermInv_inj m (he e h) hp

/-- the objective value recomputed from the returned solution is the caller's objective at the
caller-order point the solver's values denote -/
theorem C08_solution_objective (m : MatrixModel)
    (hst : ∀ s ∈ m.Q.start, s ≤ m.Q.nnz) (xs : List Rat) (hne : xs ≠ []) :
    computeObjValue m (fun j => (onPrimal m xs).getD j 0) =
      some (objSpec m (fun j => if j < m.n then xs.getD (vperm m j) 0 else 0)) := by
  rw [computeObjValue_eq m hst, onPrimal_of_ne m hne]
  congr 2
  funext j
  by_cases hj : j < m.n
  · rw [getD_map_range hj, if_pos hj]
  · rw [if_neg hj, List.getD_eq_getElem?_getD, List.getElem?_eq_none (by simp; omega)]
    rfl

/-! ## 7. Histories: several models through one `NLSolver` / one `PreprocessData` -/

/-- `ExportPreproData` is a state update whose result does not depend on the previous state -/
theorem C08_export_overwrites (old : Pd) (m : MatrixModel) :
    exportPrepro old m = pdOf m ∧ (exportPrepro old m).vperm.length = m.n ∧ (exportPrepro old m).vpermInv.length = m.n := by
  rw [exportPrepro_eq]
  simp [pdOf]

/-- after ANY history of loaded models (any initial state, any earlier models of any sizes) the exported
permutation is exactly that of the LAST model -/
theorem C08_history_last (pd0 : Pd) (ms : List MatrixModel) (m : MatrixModel) :
    runHistory pd0 (ms ++ [m]) = pdOf m := by
  unfold runHistory
  rw [List.foldl_append]
  exact exportPrepro_eq _ m

/-- hence the solution of the last loaded model comes back in that model's caller order, whatever was
loaded before: `SOLHandler_Easy` reading the stored state behaves as `onPrimal` / `onSuffix` of the last model -/
theorem C08_history_solution (pd0 : Pd) (ms : List MatrixModel) (m : MatrixModel) (xs : List Rat) (hl : xs.length ≤ m.n)
    (kind : Nat) (entries : List (Nat × Rat)) :
    onPrimalPd (runHistory pd0 (ms ++ [m])) m.n xs = onPrimal m xs ∧
    onSuffixPd (runHistory pd0 (ms ++ [m])) m.n m.m kind entries = onSuffix m kind entries := by
  rw [C08_history_last]
  exact ⟨onPrimalPd_pdOf m xs hl, onSuffixPd_pdOf m kind entries⟩

/-! ## 7b. Histories on one file stub: the auxiliary name files -/

/-- writing a model replaces or removes the name files, whatever an earlier model left on the stub -/
theorem C08_namefiles_overwrite (old : NameFiles) (m : MatrixModel) :
    writeNameFiles old m = ⟨feedColNames m, feedRowObjNames m⟩ := by
  unfold writeNameFiles writeNameFile
  cases feedColNames m <;> cases feedRowObjNames m <;> rfl

/-- after ANY history of models written to one stub (any initial files, any earlier models, named or not) the name
files are those of the LAST model: `.col` exists iff that model has column names and then its line `vperm j` is the name of
column `j`; `.row` exists iff it has row names and then holds them in caller order followed by the objective name -/
theorem C08_namefiles_history_last (fs0 : NameFiles) (ms : List MatrixModel) (m : MatrixModel) :
    runStubHistory fs0 (ms ++ [m]) = ⟨feedColNames m, feedRowObjNames m⟩ ∧
    ((runStubHistory fs0 (ms ++ [m])).col.isSome = m.colNames.isSome) ∧
    ((runStubHistory fs0 (ms ++ [m])).row.isSome = m.rowNames.isSome) ∧
    (∀ nm, m.colNames = some nm → ∀ j, j < m.n →
      ∃ l, (runStubHistory fs0 (ms ++ [m])).col = some l ∧ l.length = m.n ∧ l.getD (vperm m j) "" = nm.getD j "") := by
  have h : runStubHistory fs0 (ms ++ [m]) = ⟨feedColNames m, feedRowObjNames m⟩ := by
    unfold runStubHistory
    rw [List.foldl_append]
    exact C08_namefiles_overwrite _ m
  rw [h]
  refine ⟨rfl, ?_, ?_, ?_⟩
  · simp [feedColNames]
  · simp [feedRowObjNames]
  · intro nm hnm j hj
    exact C08_colnames_follow m nm hnm j hj

/-! ## 8. Ties to the definitions GENERATED from the current source (`MpVerif.Gen.C08Easy`, translators/gen_easy_c08.py)

The model functions the theorems above speak about are proved equal to what the translator extracts from
`nl-solver.cc` on every run; a change of the C++ changes the generated file and these proofs stop checking. -/
section Gen
open MpVerif.Gen.C08Easy

/-- the text of every mechanism function is the text the model was written against -/
theorem C08_gen_skeletons : MpVerif.Gen.C08Easy.skeletons = Expected.skeletons := rfl

/-- what the translated expressions read (which array, which permutation direction), the loop header of `PermuteVars`
and the statements around its column loop (`stable_sort` with the default `pair` order, the reverse-mapping loop) -/
theorem C08_gen_leaves :
    permuteStep_leaves = Expected.permuteStep_leaves ∧ permuteLoop_header = Expected.permuteLoop_header ∧
    permuteVars_rest = Expected.permuteVars_rest ∧ objLinTerm_leaves = Expected.objLinTerm_leaves ∧
    objQuadTerm_leaves = Expected.objQuadTerm_leaves ∧ sufTarget_leaves = Expected.sufTarget_leaves ∧
    primalTarget_leaves = Expected.primalTarget_leaves ∧ feedSufIndex_leaves = Expected.feedSufIndex_leaves :=
  ⟨rfl, rfl, rfl, rfl, rfl, rfl, rfl, rfl⟩

/-- the model's sort key is the value the generated loop body of `PermuteVars` leaves in `var_perm_[j].first`,
whatever the cell and the counters held before -/
theorem C08_gen_key (m : MatrixModel) (j : Nat) (s : Int × Int × Int × Int) : (stepOf m j s).1 = key m j := by
  rw [stepOf_eq]

/-- running the generated loop body over all columns (in the code's descending order) from zeroed counters yields the
model's header class counts `nlvoi`, `niv`, `nbv` -/
theorem C08_gen_header_counts (m : MatrixModel) :
    ((List.range m.n).reverse.foldl (fun s j => stepOf m j s) (0, 0, 0, 0)).2.1 = nlvoi m ∧
    ((List.range m.n).reverse.foldl (fun s j => stepOf m j s) (0, 0, 0, 0)).2.2.1 = niv m ∧
    ((List.range m.n).reverse.foldl (fun s j => stepOf m j s) (0, 0, 0, 0)).2.2.2 = nbv m := by
  have h := fun get p hp => foldl_counter (stepOf m) get p hp (List.range m.n).reverse (0, 0, 0, 0)
  simp only [List.countP_reverse] at h
  exact ⟨(h (·.2.1) (fun j => isInt m j && nlv m j) fun j s => by rw [stepOf_eq]).trans (Int.zero_add _),
    (h (·.2.2.1) (fun j => isInt m j && !nlv m j && !isBin01 m j) fun j s => by rw [stepOf_eq]).trans (Int.zero_add _),
    (h (·.2.2.2) (fun j => isInt m j && !nlv m j && isBin01 m j) fun j s => by rw [stepOf_eq]).trans (Int.zero_add _)⟩

/-- `computeObjValue` is the fold of the generated initial value and the two generated `result += …` terms -/
theorem C08_gen_objvalue (m : MatrixModel) (x : Nat → Rat) :
    computeObjValue m x =
      some (((qEntries m).map (fun e => objQuadTerm (qVal m e.2) (x e.1) (x (qCol m e.2)))).foldl (· + ·)
        (((List.range m.n).reverse.map (fun j => objLinTerm (cCoef m j) (x j))).foldl (· + ·) (objInit m.c0))) := by
  unfold computeObjValue objQuadTerm objLinTerm objInit
  have : (fun e : Nat × Nat => qVal m e.2 / 2 * x e.1 * x (qCol m e.2)) =
      (fun e : Nat × Nat => (1 : Rat) / 2 * qVal m e.2 * x e.1 * x (qCol m e.2)) := by
    funext e; grind
  rw [this]

/-- the coefficient written by `FeedObjExpression` is the generated `0.5 * Q.value_[pos]` -/
theorem C08_gen_objexpr_coef (m : MatrixModel) (e : Nat × Nat) :
    qTerm m e = .mul (.num (objExprCoef (qVal m e.2))) (.mul (.var (vperm m e.1)) (.var (vperm m (qCol m e.2)))) := by
  unfold qTerm objExprCoef
  have : qVal m e.2 / 2 = (1 : Rat) / 2 * qVal m e.2 := by grind
  rw [this]

/-- the generated `ifVars` tests of `SOLHandler_Easy::OnSuffix` and `NLFeeder_Easy::FeedSuffixes` (`0 == (kind & 3)`) are the
model's `kind % 4 == 0` -/
theorem C08_gen_suffix_is_var (kind : Nat) :
    sufIsVar kind = (kind % 4 == 0) ∧ feedSufIsVar kind = (kind % 4 == 0) := by
  unfold sufIsVar feedSufIsVar
  rw [and3_eq_mod4]
  have : decide ((0 : Int) = ((kind % 4 : Nat) : Int)) = (kind % 4 == 0) := by
    rw [Bool.eq_iff_iff, decide_eq_true_iff, beq_iff_eq]
    omega
  exact ⟨this, this⟩

/-- the model's `nmax` (model header: `num_objs = 1`, no logical constraints) is the generated `NItemsMax` -/
theorem C08_gen_nitemsmax (kind n mrows : Nat) :
    (((match kind % 4 with | 0 => n | 1 => mrows | _ => 1) : Nat) : Int) = nItemsMax kind n mrows 0 1 := by
  unfold nItemsMax
  rw [and3_eq_mod4]
  have h4 : kind % 4 < 4 := Nat.mod_lt _ (by decide)
  generalize kind % 4 = r at *
  match r, h4 with
  | 0, _ => simp
  | 1, _ => simp
  | 2, _ => simp
  | 3, _ => simp

/-- the index guard of the model is the generated guard `val.first<0 || val.first>=nmax` with the generated `NItemsMax` -/
theorem C08_gen_bad_index (n mrows kind : Nat) (entries : List (Nat × Rat)) :
    solSuffixOk n mrows kind entries = entries.all (fun e => !sufBadIndex e.1 (nItemsMax kind n mrows 0 1)) := by
  have guard_eq : ∀ (a nm : Nat), decide (a < nm) = !(decide ((a : Int) < 0) || decide ((a : Int) ≥ (nm : Int))) := by
    intro a nm
    rw [← Bool.decide_or, ← decide_not, decide_eq_decide]
    omega
  unfold solSuffixOk sufBadIndex
  rw [← C08_gen_nitemsmax]
  exact congrArg entries.all (funext fun e => guard_eq _ _)

/-- un-permutation index arithmetic: the index written by `SOLHandler_Easy::OnSuffix` / `OnPrimalSolution` and by
`FeedSuffixes`, as the model uses them (`sufTarget_leaves`, `primalTarget_leaves`, `feedSufIndex_leaves` say which
arrays the parameters stand for: `pd_.vperm_inv_[…]` on the way back, `VPerm(i)` on the way out) -/
theorem C08_gen_index_arithmetic (kind i invAt permAt : Nat) :
    (((if kind % 4 == 0 then invAt else i) : Nat) : Int) = sufTarget (sufIsVar kind) invAt i ∧
    primalTarget (invAt : Int) i = invAt ∧
    (((if kind % 4 == 0 then permAt else i) : Nat) : Int) = feedSufIndex (feedSufIsVar kind) permAt i := by
  obtain ⟨h1, h2⟩ := C08_gen_suffix_is_var kind
  unfold sufTarget primalTarget feedSufIndex
  rw [h1, h2]
  cases (kind % 4 == 0) <;> simp

/-- the CSR row walk: the model's `qEntries` (used by `nlv`, `supp`, `feedObjExpr`, `computeObjValue`) is the fold of the
GENERATED loop components of `ComputeObjValue` (`pos_end = num_nz; for rows descending { for (pos = start[i]; pos != pos_end;
++pos) visit; pos_end = start[i] }`) -/
theorem C08_gen_walk (m : MatrixModel) :
    (qEntries m).map (fun e => (e.1, (e.2 : Int))) =
      if m.Q.nnz = 0 then []
      else outerLoop walk_ComputeObjValue_init walk_ComputeObjValue_next walk_ComputeObjValue_cond walk_ComputeObjValue_inc
             m.Q.start m.n (walk_ComputeObjValue_posEnd0 m.Q.nnz) := by
  unfold qEntries
  split
  · rfl
  · exact walkDesc_eq_outerLoop m.Q.start m.n m.Q.nnz

/-- the three other functions that walk the Hessian use the same five components -/
theorem C08_gen_walk_same :
    walk_functions = ["FillNonlinearVars", "FillObjNonzeros", "FeedObjExpression", "ComputeObjValue"] ∧
    (walk_FillNonlinearVars_posEnd0 = walk_ComputeObjValue_posEnd0 ∧ walk_FillNonlinearVars_init = walk_ComputeObjValue_init ∧
     walk_FillNonlinearVars_cond = walk_ComputeObjValue_cond ∧ walk_FillNonlinearVars_inc = walk_ComputeObjValue_inc ∧
     walk_FillNonlinearVars_next = walk_ComputeObjValue_next) ∧
    (walk_FillObjNonzeros_posEnd0 = walk_ComputeObjValue_posEnd0 ∧ walk_FillObjNonzeros_init = walk_ComputeObjValue_init ∧
     walk_FillObjNonzeros_cond = walk_ComputeObjValue_cond ∧ walk_FillObjNonzeros_inc = walk_ComputeObjValue_inc ∧
     walk_FillObjNonzeros_next = walk_ComputeObjValue_next) ∧
    (walk_FeedObjExpression_posEnd0 = walk_ComputeObjValue_posEnd0 ∧ walk_FeedObjExpression_init = walk_ComputeObjValue_init ∧
     walk_FeedObjExpression_cond = walk_ComputeObjValue_cond ∧ walk_FeedObjExpression_inc = walk_ComputeObjValue_inc ∧
     walk_FeedObjExpression_next = walk_ComputeObjValue_next) := by
  refine ⟨rfl, ⟨rfl, rfl, rfl, rfl, rfl⟩, ⟨rfl, rfl, rfl, rfl, rfl⟩, ⟨rfl, rfl, rfl, rfl, rfl⟩⟩

/-- on a row whose start is not beyond its end (`s ≤ e`: what nondecreasing row starts give) the generated inner loop stops by its own test `pos != pos_end` exactly at `pos_end`:
any additional fuel changes nothing (so the fuel in `outerLoop` is not what ends the loop) -/
theorem C08_gen_walk_terminates (s e g : Nat) (h : s ≤ e) :
    innerLoop walk_ComputeObjValue_cond walk_ComputeObjValue_inc ((e - s) + g) s e =
    innerLoop walk_ComputeObjValue_cond walk_ComputeObjValue_inc (e - s) s e :=
  innerLoop_more_fuel (e - s) g s e (by omega)

/-- `VPerm` / `VPermInv` after the GENERATED reverse-mapping loop: running `var_perm_[var_perm_[i].second].first = i` for `i`
descending over the sorted array leaves, at caller index `j`, `first` = the model's `vperm m j` and `second` = the model's
`vpermInv m j`; `VPerm` returns `.first`, `VPermInv` returns `.second` -/
theorem C08_gen_vperm (m : MatrixModel) (j : Nat) (hj : j < m.n) :
    ((revLoop (sortedPairs m) m.n).getD j (0, 0)).1 = (vperm m j : Int) ∧
    ((revLoop (sortedPairs m) m.n).getD j (0, 0)).2 = vpermInv m j ∧
    VPerm_field = "first" ∧ VPermInv_field = "second" ∧ revMap_field = "first" ∧
    revMap_header = Expected.permuteLoop_header := by
  obtain ⟨h1, h2⟩ := revLoop_spec (order m) (order_nodup m) m.n (sortedPairs m) rfl (Nat.le_of_eq (order_length m).symm)
  refine ⟨?_, ?_, rfl, rfl, rfl, rfl⟩
  · exact (h2 j ((mem_order m j).mpr hj) ((order_length m).symm ▸ hj)).trans (if_pos (vperm_lt m hj))
  · rw [← getD_map' Prod.snd, h1]; rfl

/-- the removal rule of the model's `writeNameFile` is the GENERATED destructor condition of `StringFileWriter`: a writer
that was never opened and wrote nothing (feeder without names) removes the file; one that was opened never does -/
theorem C08_gen_namefile_removed :
    sfwRemoves 0 false = true ∧ (∀ cnt, sfwRemoves cnt true = false) ∧ (∀ cnt, cnt ≠ 0 → ∀ b, sfwRemoves cnt b = false) ∧
    (∀ old, writeNameFile old none = none) ∧ (∀ old l, writeNameFile old (some l) = some l) := by
  refine ⟨by decide, ?_, ?_, fun _ => rfl, fun _ _ => rfl⟩
  · intro cnt; simp [sfwRemoves]
  · intro cnt h b; simp [sfwRemoves, h]

/-- THE READER SIDE, generated: `NLProblemBuilder<Problem>::AddVariables` (include/mp/nl-reader.h, incl. its header
consistency checks and `MP_ASSERT_ALWAYS`s) run on the header the model writes never throws, and the `is_var_int_` vector
its `AddVars` calls build (`varTypesOf`: vector resize semantics of `BasicProblem::AddVars`) is the model's `decodeIsInt` at
every position; hence (with `C08_types`) the real reader's rule gives every caller column its own integrality at `vperm j` -/
theorem C08_gen_reader_types (m : MatrixModel) (text : Bool) (flags : Nat) :
    (addVariables m.n 0 (nlvo m) 0 (nbv m) (niv m) 0 0 (nlvoi m)).map varTypesOf =
      some ((List.range m.n).map (decodeIsInt (header m text flags))) ∧
    ∃ tys, (addVariables m.n 0 (nlvo m) 0 (nbv m) (niv m) 0 0 (nlvoi m)).map varTypesOf = some tys ∧
      tys.length = m.n ∧ ∀ j, j < m.n → tys.getD (vperm m j) false = isInt m j := by
  obtain ⟨hb, hs⟩ := header_counts_consistent m
  have h := (addVariables_easy m.n (nlvo m) (nlvoi m) (nbv m) (niv m) hb hs).trans
    (congrArg some (blocks_eq_decode (header m text flags) hb hs))
  refine ⟨h, _, h, by simp [header], ?_⟩
  intro j hj
  exact (getD_map_range (vperm_lt m hj)).trans (C08_types m text flags j hj)

/-- the last hand-written link of the reader chain: each `AddVars(count, type)` call made by the generated `AddVariables`
acts on `is_var_int_` as `std::vector::resize` (library semantics `vecResize`, hand-written) to the GENERATED new size with the
GENERATED fill value of `BasicProblem<>::AddVars` (include/mp/problem.h); so `varTypesOf` in `C08_gen_reader_types` is the fold of
generated steps, for any two distinct enum codes of `var::CONTINUOUS` / `var::INTEGER` -/
theorem C08_gen_addvars (calls : List (Int × Bool)) (contVal intVal : Int) (h : contVal ≠ intVal) :
    varTypesOf calls =
      calls.foldl (fun l c => vecResize l (addVarsNewSize l.length c.1).toNat
        (addVarsFill (if c.2 then intVal else contVal) contVal)) [] := by
  unfold varTypesOf
  congr 1
  funext l c
  exact applyAddVars_eq_gen l c contVal intVal h

/-- instance: `AddVars(2, CONTINUOUS)`, `AddVars(1, INTEGER)`, then a negative count truncates (release build) -/
example : varTypesOf [(2, false), (1, true), (-2, false)] = [false] := by decide

/-- the model's `readable` (does the reader accept the `sum` node the feeder writes) is the GENERATED arity test of
`NLReader::ReadNumArgs` with the generated default minimum `MIN_ITER_ARGS`; with `C08_readable` the generated test never fails on
what the (padded) writer produces.  That the `sum` case of `ReadNumericExpr` calls `ReadNumArgs()` with the default is sampled. -/
theorem C08_gen_readable (m : MatrixModel) :
    readable m = (decide (m.Q.nnz = 0) || !readNumArgsFails (sumArity m) minIterArgs) ∧
    (m.Q.nnz ≠ 0 → readNumArgsFails (sumArity m) minIterArgs = false) := by
  have h : (!readNumArgsFails (sumArity m) minIterArgs) = decide (3 ≤ sumArity m) := by
    rw [readNumArgsFails, minIterArgs, ← decide_not, decide_eq_decide]
    omega
  refine ⟨by rw [readable, h], fun hn => ?_⟩
  have hr := C08_readable m
  rw [readable, ← h, decide_eq_false hn, Bool.false_or] at hr
  simpa using hr

/-- instance: the header of the library's 6-variable MIQP (nlvo 3, nlvoi 1, nbv 1, niv 1) -/
example : (addVariables 6 0 3 0 1 1 0 0 1).map varTypesOf = some [false, false, true, false, true, true] := by decide
/-- an inconsistent header (more nonlinear variables than variables) makes the generated reader throw -/
example : addVariables 2 0 3 0 0 0 0 0 2 = none := by decide

end Gen

/-! ## 9. Guards of the real code, error branch, instances of the hypotheses

The model is total (`getD` with defaults, truncated subtraction in the row walk) where the C++ reads arrays without a test
and would loop forever on decreasing row starts.  `WF` states the caller contract the real code relies on;
`C08_reads_in_range` shows that under `WF` the Hessian walk never uses a default (the other reads have no such theorem),
and `C08_bounds_follow_exact` states the bound feed on the stored cells themselves, without defaults. -/

/-- the caller contract of `NLModel` (nl-model.h: arrays of `num_col_` / `num_row_` / `num_nz_` entries, indices in range,
row starts nondecreasing and inside the nonzero array) -/
structure WF (m : MatrixModel) : Prop where
  lb_len : m.lb.length = m.n
  ub_len : m.ub.length = m.n
  types_len : ∀ t, m.types = some t → t.length = m.n
  c_len : ∀ c, m.c = some c → c.length = m.n
  q_start_len : m.Q.start.length = m.n
  q_val_len : m.Q.value.length = m.Q.index.length
  q_idx : ∀ c ∈ m.Q.index, c < m.n
  q_start_le : ∀ s ∈ m.Q.start, s ≤ m.Q.nnz
  q_start_mono : m.Q.start.Pairwise (· ≤ ·)
  a_start_len : m.A.start.length = m.m
  a_val_len : m.A.value.length = m.A.index.length
  a_idx : ∀ c ∈ m.A.index, c < m.n
  a_start_le : ∀ s ∈ m.A.start, s ≤ m.A.nnz
  a_start_mono : m.A.start.Pairwise (· ≤ ·)
  rlb_len : m.rlb.length = m.m
  rub_len : m.rub.length = m.m
  ws_idx : ∀ e ∈ m.ws, e.1 < m.n
  dws_idx : ∀ e ∈ m.dws, e.1 < m.m

/-- under the caller contract every array read of the Hessian walk (`FillNonlinearVars`, `FillObjNonzeros`,
`FeedObjExpression`, `ComputeObjValue`) is in range: the `getD` defaults of `qCol` / `qVal` are never used -/
theorem C08_reads_in_range (m : MatrixModel) (h : WF m) (e : Nat × Nat) (he : e ∈ qEntries m) :
    e.1 < m.n ∧ e.2 < m.Q.index.length ∧ e.2 < m.Q.value.length ∧ qCol m e.2 < m.n ∧
    m.Q.index[e.2]? = some (qCol m e.2) := by
  have h1 : e.1 < m.n := qEntries_row_lt m e he
  have h2 : e.2 < m.Q.index.length := qEntries_pos_lt m h.q_start_le e he
  refine ⟨h1, h2, by rw [h.q_val_len]; exact h2, qCol_lt m h.q_idx (by omega) _, ?_⟩
  unfold qCol
  rw [getD_eq_getElem' h2, List.getElem?_eq_getElem h2]

/-- bounds without defaults: whatever the caller stored for column `j` is what is written at position `vperm j` -/
theorem C08_bounds_follow_exact (m : MatrixModel) (j : Nat) (hj : j < m.n) (l u : Bnd)
    (hl : m.lb[j]? = some l) (hu : m.ub[j]? = some u) :
    (feedVarBounds m)[vperm m j]? = some (l, u) := by
  unfold feedVarBounds
  rw [List.getElem?_map, List.getElem?_range (vperm_lt m hj), Option.map_some, vpermInv_vperm m hj,
    List.getD_eq_getElem?_getD, List.getD_eq_getElem?_getD, hl, hu]
  rfl

/-- ERROR BRANCH of the solution side: a suffix with an out-of-range index is never delivered: everything delivered comes
from a suffix of the file with only in-range indices and is the un-permuted dense vector of that suffix's entries.  (That
the reader stops at the first bad suffix is the `takeWhile` of `readSolSuffixes`, not part of this statement;
`C08_bad_first_suffix` states it for a bad first suffix.) -/
theorem C08_solution_suffixes_in_range (pd : Pd) (n mrows : Nat) (l : List (String × Nat × List (Nat × Rat)))
    (s : String × Nat × List Rat) (hs : s ∈ readSolSuffixes pd n mrows l) :
    ∃ t ∈ l, t.1 = s.1 ∧ t.2.1 = s.2.1 ∧ solSuffixOk n mrows t.2.1 t.2.2 = true ∧
      s.2.2 = onSuffixPd pd n mrows t.2.1 t.2.2 := by
  unfold readSolSuffixes at hs
  rw [List.mem_map] at hs
  obtain ⟨t, ht, rfl⟩ := hs
  exact ⟨t, (List.takeWhile_sublist _).subset ht, rfl, rfl,
    List.all_eq_true.mp List.all_takeWhile t ht, rfl⟩

/-- and if the first suffix of the file is bad nothing is delivered -/
theorem C08_bad_first_suffix (pd : Pd) (n mrows : Nat) (t : String × Nat × List (Nat × Rat))
    (rest : List (String × Nat × List (Nat × Rat))) (hbad : solSuffixOk n mrows t.2.1 t.2.2 = false) :
    readSolSuffixes pd n mrows (t :: rest) = [] ∧ solReadError n mrows (t :: rest) = true := by
  constructor
  · simp [readSolSuffixes, hbad]
  · simp [solReadError, hbad]

/-! ### Instances: the hypotheses used above are met by non-trivial models -/

/-- the worked example of the library (6 variables, MIQP): header counts are consistent here -/
def ex6 : MatrixModel :=
  { api := 0, n := 6, types := some [0, 1, 1, 1, 0, 0],
    lb := [.fin 0, .fin (-3), .fin 0, .fin (-1), .fin (-1), .fin (-2)], ub := [.fin 0, .fin 20, .fin 1, .pinf, .fin (-1), .fin 10],
    sense := 0, c0 := 13/4, c := some [0, 1, 0, 0, 0, 0], qfmt := 2,
    Q := { start := [0, 0, 0, 0, 2, 3], index := [3, 5, 4], value := [10, 12, 14] }, m := 2,
    rlb := [.fin 15, .fin 10], rub := [.fin 15, .pinf],
    A := { start := [0, 4], index := [1, 2, 3, 5, 1, 2, 3, 5], value := [1, 1, 1, 1, 1, -1, -1, 1] },
    ws := [], dws := [], sufs := [], colNames := none, rowNames := none, objName := "obj[1]" }

/-- the library's 6-variable MIQP meets the whole caller contract -/
example : WF ex6 := by
  -- every field is a closed fact; `types_len` and `c_len` quantify over the optional array, whose equation is opened first
  constructor <;> first | decide | (intro t ht; cases ht; decide)

example : (∀ c ∈ ex6.A.index, c < ex6.n) ∧ 0 < ex6.n ∧ ex6.Q.nnz = 3 ∧ ex6.A.nnz = 8 := by decide
example : cxTypes.n = 2 ∧ (∀ c ∈ cxTypes.Q.index, c < cxTypes.n) ∧ (∀ s ∈ cxTypes.Q.start, s ≤ cxTypes.Q.nnz) ∧ ¬ cxTypes.Q.index.Nodup := by decide
/-- `C08_suffix_follow`, direction ⇐: a nonzero value of a (double, variable) suffix is written at `vperm j` -/
example : (vperm ex6 1, (5 : Rat)) ∈ (feedSuffix ex6 ⟨"priority", 4, [0, 5, 0, 0, 0, 0]⟩).entries :=
  (C08_suffix_follow ex6 ⟨"priority", 4, [0, 5, 0, 0, 0, 0]⟩ (by decide) _).mpr ⟨1, 5, by decide, by decide, by simp⟩
/-- direction ⇒: every written entry comes from a nonzero value -/
example (e : Nat × Rat) (h : e ∈ (feedSuffix ex6 ⟨"priority", 4, [0, 5, 0, 0, 0, 0]⟩).entries) :
    ∃ j v, ([0, 5, 0, 0, 0, 0] : List Rat)[j]? = some v ∧ v ≠ 0 ∧ e.1 = vperm ex6 j := by
  obtain ⟨j, v, h1, h2, h3⟩ := (C08_suffix_follow ex6 ⟨"priority", 4, [0, 5, 0, 0, 0, 0]⟩ (by decide) e).mp h
  exact ⟨j, v, h1, h2, by rw [h3]⟩
/-- a history of four models alternating between 6 and 2 columns, from a stale state: the state is that of the last one -/
example : runHistory ⟨[7, 7, 7, 7, 7, 7, 7], []⟩ [ex6, cxTypes, ex6, cxTypes] = pdOf cxTypes :=
  C08_history_last _ [ex6, cxTypes, ex6] cxTypes
/-- error branch instance: second suffix of the file has index 6 for 6 columns -/
example : solSuffixOk 6 2 0 [(6, 1)] = false ∧ solSuffixOk 6 2 0 [(5, 1)] = true := by decide

example : ex6.Q.index.Nodup ∧ (∀ c ∈ ex6.Q.index, c < ex6.n) ∧ (∀ s ∈ ex6.Q.start, s ≤ ex6.Q.nnz) := by decide
example : (header ex6 true 1).nlvo = 3 ∧ (header ex6 true 1).nlvoi = 1 ∧ (header ex6 true 1).nbv = 1 ∧ (header ex6 true 1).niv = 1 := by decide
example : readable ex6 = true := C08_readable ex6
example : qEntries ex6 = [(4, 2), (3, 0), (3, 1)] ∧ entriesAsc ex6.Q.start ex6.n ex6.Q.nnz = [(3, 0), (3, 1), (4, 2)] := by decide

end MpVerif.C08
