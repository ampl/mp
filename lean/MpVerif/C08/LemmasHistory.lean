import MpVerif.C08.LemmasFeeds
/-! Lemmas about the state that outlives one model (`PreprocessData`) and the SOL handler reading it. -/
namespace MpVerif.C08

theorem foldl_set_prefix (f : Nat → Nat) (l : List Nat) (k : Nat) (hk : k ≤ l.length) :
    (List.range k).foldl (fun acc i => acc.set i (f i)) l = (List.range k).map f ++ l.drop k := by
  induction k with
  | zero => rfl
  | succ k ih =>
    rw [List.range_succ, List.foldl_append, ih (by omega), List.map_append, List.append_assoc]
    simp only [List.foldl_cons, List.foldl_nil, List.map_cons, List.map_nil]
    rw [List.set_append_right _ _ (by simp), List.length_map, List.length_range, Nat.sub_self,
      List.drop_eq_getElem_cons (by omega)]
    rfl

theorem resizeTo_length (l : List Nat) (n : Nat) : (resizeTo l n).length = n := by
  simp [resizeTo]; omega

/-- `ExportPreproData` overwrites whatever the `PreprocessData` held before -/
theorem exportPrepro_eq (old : Pd) (m : MatrixModel) : exportPrepro old m = pdOf m := by
  have h : ∀ (f : Nat → Nat) (old : List Nat),
      (List.range m.n).foldl (fun acc i => acc.set i (f i)) (resizeTo old m.n) = (List.range m.n).map f := fun f old => by
    rw [foldl_set_prefix _ _ _ (by rw [resizeTo_length]; exact Nat.le_refl _),
      List.drop_of_length_le (by rw [resizeTo_length]; exact Nat.le_refl _), List.append_nil]
  unfold exportPrepro pdOf
  rw [h, h]

theorem pdOf_vpermInv (m : MatrixModel) : (pdOf m).vpermInv = order m := (order_eq_map m).symm

theorem pdOf_vpermInv_getD (m : MatrixModel) (i : Nat) : (pdOf m).vpermInv.getD i 0 = vpermInv m i := by
  rw [pdOf_vpermInv]; rfl

/-- with the permutation of the model itself stored, `OnPrimalSolution` is `onPrimal`: the written cells are distinct
(`vpermInv` is injective), so cell `j` holds the one value whose position is `vperm j` -/
theorem onPrimalPd_pdOf (m : MatrixModel) (xs : List Rat) (hl : xs.length ≤ m.n) :
    onPrimalPd (pdOf m) m.n xs = onPrimal m xs := by
  unfold onPrimalPd onPrimal
  split
  · rfl
  · rw [dense_eq]
    refine List.map_congr_left fun j hj => ?_
    have hj : j < m.n := List.mem_range.mp hj
    rw [lookup_of_graph _ (fun j => if j < m.n then xs[vperm m j]? else none), if_pos hj, List.getD_eq_getElem?_getD]
    intro b
    simp only [List.mem_map, Prod.exists, List.mem_zipIdx_iff_getElem?, pdOf_vpermInv_getD]
    constructor
    · rintro ⟨v, i, hv, rfl⟩
      have hi : i < m.n := Nat.lt_of_lt_of_le (List.getElem?_eq_some_iff.mp hv).1 hl
      rw [if_pos (vpermInv_lt m hi), vperm_vpermInv m hi, hv]
    · intro h
      split at h
      · next hb => exact ⟨b.2, vperm m b.1, h, by rw [vpermInv_vperm m hb]⟩
      · cases h

theorem onSuffixPd_pdOf (m : MatrixModel) (kind : Nat) (entries : List (Nat × Rat)) :
    onSuffixPd (pdOf m) m.n m.m kind entries = onSuffix m kind entries := by
  unfold onSuffixPd onSuffix
  simp only [pdOf_vpermInv_getD]

end MpVerif.C08
