import MpVerif.C08.Model
import MpVerif.Gen.C08Easy
/-! Lemmas tying the hand model to the definitions generated from the source (`MpVerif.Gen.C08Easy`), and the vocabulary
in which `C08_gen_key` and `C08_gen_header_counts` are stated (`stepOf`, over `tyAt`, `lbAt`, `ubAt`). -/
namespace MpVerif.C08
open MpVerif.Gen.C08Easy

/-- `vars.type_[j]` as the code reads it (only read when the pointer is non-null) -/
def tyAt (m : MatrixModel) (j : Nat) : Int :=
  match m.types with
  | none => 0
  | some t => (t.getD j 0 : Nat)

def lbAt (m : MatrixModel) (j : Nat) : Bnd := m.lb.getD j (.fin 0)
def ubAt (m : MatrixModel) (j : Nat) : Bnd := m.ub.getD j (.fin 0)

/-- one iteration of the generated column loop of `PermuteVars` on the model's data -/
def stepOf (m : MatrixModel) (j : Nat) (s : Int × Int × Int × Int) : Int × Int × Int × Int :=
  permuteStep (nlv m j) m.types.isSome (tyAt m j) (lbAt m j) (ubAt m j) s.1 s.2.1 s.2.2.1 s.2.2.2

theorem abs_eq_zero_iff (q : Rat) : ((if q < 0 then -q else q) = 0) ↔ q = 0 := by
  constructor
  · intro h; split at h <;> grind
  · intro h; subst h; decide

theorem notBin_eq (lb ub : Bnd) :
    (dne (dlit (0 : Rat)) (dfabs lb) || dne (dlit (1 : Rat)) ub) = !(lb == .fin 0 && ub == .fin 1) := by
  rw [Bool.eq_iff_iff]
  cases lb <;> cases ub <;>
    simp [dne, dlit, dfabs, eq_comm (a := (0 : Rat)), eq_comm (a := (1 : Rat)), abs_eq_zero_iff]

theorem bne_zero_cast (x : Nat) : (x != 0) = decide ((x : Int) ≠ 0) := by
  rw [Bool.eq_iff_iff, bne_iff_ne, decide_eq_true_iff]
  omega

theorem isInt_eq_gen (m : MatrixModel) (j : Nat) :
    isInt m j = (m.types.isSome && decide (tyAt m j ≠ 0)) := by
  unfold isInt tyAt
  cases m.types with
  | none => rfl
  | some t =>
    simp only [Option.isSome_some, Bool.true_and]
    exact bne_zero_cast _

/-- the generated loop body computes the model's key and adds the model's class indicators to the counters -/
theorem stepOf_eq (m : MatrixModel) (j : Nat) (s : Int × Int × Int × Int) :
    stepOf m j s =
      (key m j,
       s.2.1 + b2i (isInt m j && nlv m j),
       s.2.2.1 + b2i (isInt m j && !nlv m j && !isBin01 m j),
       s.2.2.2 + b2i (isInt m j && !nlv m j && isBin01 m j)) := by
  unfold stepOf permuteStep key
  rw [notBin_eq, isInt_eq_gen]
  have hb : isBin01 m j = (lbAt m j == .fin 0 && ubAt m j == .fin 1) := rfl
  rw [hb]
  generalize nlv m j = a
  generalize (m.types.isSome && decide (tyAt m j ≠ 0)) = b
  generalize (lbAt m j == Bnd.fin 0 && ubAt m j == Bnd.fin 1) = c
  cases a <;> cases b <;> cases c <;> simp [b2i]

theorem foldl_counter {σ} (step : Nat → σ → σ) (get : σ → Int) (p : Nat → Bool)
    (h : ∀ j s, get (step j s) = get s + b2i (p j)) (l : List Nat) (s : σ) :
    get (l.foldl (fun s j => step j s) s) = get s + (l.countP p : Nat) := by
  induction l generalizing s with
  | nil => simp
  | cons a t ih =>
    rw [List.foldl_cons, ih, h, List.countP_cons]
    cases p a <;> simp [b2i] <;> omega

theorem and3_eq_mod4 (k : Nat) : cbitand (k : Int) 3 = ((k % 4 : Nat) : Int) := by
  unfold cbitand
  have h1 : ((k : Int)).toNat = k := Int.toNat_natCast k
  have h2 : (3 : Int).toNat = 3 := rfl
  rw [h1, h2]
  have := Nat.and_two_pow_sub_one_eq_mod k 2
  have h3 : (2 ^ 2 - 1 : Nat) = 3 := rfl
  rw [h3] at this
  rw [this]
  rfl

end MpVerif.C08
