import MpVerif.C08.Model
/-! The reported permutation (`vperm` / `vpermInv` mutually inverse, NL order sorted by the `std::pair` order) and the key
classes behind the header counts and the type-by-position decoding.  Core Lean only. -/
namespace MpVerif.C08

theorem getD_eq_getElem' {α} {l : List α} {d : α} {i : Nat} (h : i < l.length) : l.getD i d = l[i] :=
  (List.getElem_eq_getD d).symm

theorem getD_of_forall {α} (P : α → Prop) {l : List α} {d : α} (h : ∀ c ∈ l, P c) (hd : P d) (i : Nat) :
    P (l.getD i d) := by
  by_cases hi : i < l.length
  · rw [getD_eq_getElem' hi]; exact h _ (List.getElem_mem hi)
  · rw [List.getD_eq_getElem?_getD, List.getElem?_eq_none (by omega)]; exact hd

theorem getD_map' {α β} (f : α → β) (l : List α) (d : α) (i : Nat) : (l.map f).getD i (f d) = f (l.getD i d) := by
  rw [List.getD_eq_getElem?_getD, List.getD_eq_getElem?_getD, List.getElem?_map]
  cases l[i]? <;> rfl

theorem pairLE_iff (a b : Int × Nat) : pairLE a b = true ↔ a.1 < b.1 ∨ (a.1 = b.1 ∧ a.2 ≤ b.2) := by
  simp only [pairLE, Bool.or_eq_true, Bool.and_eq_true, decide_eq_true_eq]

theorem pairLE_trans (a b c : Int × Nat) : pairLE a b = true → pairLE b c = true → pairLE a c = true := by
  simp only [pairLE_iff]
  omega

theorem pairLE_total (a b : Int × Nat) : (pairLE a b || pairLE b a) = true := by
  simp only [Bool.or_eq_true, pairLE_iff]
  omega

theorem sortedPairs_perm (m : MatrixModel) : (sortedPairs m).Perm (pairs m) :=
  List.mergeSort_perm _ _

theorem sortedPairs_pairwise (m : MatrixModel) :
    (sortedPairs m).Pairwise (fun a b => pairLE a b = true) :=
  List.pairwise_mergeSort pairLE_trans pairLE_total _

theorem map_snd_pairs (m : MatrixModel) : (pairs m).map Prod.snd = List.range m.n := by
  simp [pairs, List.map_map, Function.comp_def]

theorem order_perm (m : MatrixModel) : (order m).Perm (List.range m.n) := by
  have h := (sortedPairs_perm m).map Prod.snd
  rw [map_snd_pairs] at h
  exact h

theorem order_nodup (m : MatrixModel) : (order m).Nodup :=
  (order_perm m).nodup_iff.mpr List.nodup_range

theorem order_length (m : MatrixModel) : (order m).length = m.n := by
  rw [(order_perm m).length_eq, List.length_range]

theorem mem_order (m : MatrixModel) (j : Nat) : j ∈ order m ↔ j < m.n := by
  rw [(order_perm m).mem_iff, List.mem_range]

theorem vperm_lt_length (m : MatrixModel) {j : Nat} (h : j < m.n) : vperm m j < (order m).length :=
  List.idxOf_lt_length_iff.mpr ((mem_order m j).mpr h)

theorem vperm_lt (m : MatrixModel) {j : Nat} (h : j < m.n) : vperm m j < m.n :=
  order_length m ▸ vperm_lt_length m h

theorem order_getElem (m : MatrixModel) {i : Nat} (h : i < (order m).length) : (order m)[i] = vpermInv m i :=
  (getD_eq_getElem' h).symm

theorem vpermInv_vperm (m : MatrixModel) {j : Nat} (h : j < m.n) : vpermInv m (vperm m j) = j :=
  (order_getElem m (vperm_lt_length m h)).symm.trans (List.getElem_idxOf _)

theorem vpermInv_lt (m : MatrixModel) {i : Nat} (h : i < m.n) : vpermInv m i < m.n := by
  have hl : i < (order m).length := (order_length m).symm ▸ h
  rw [← order_getElem m hl]
  exact (mem_order m _).mp (List.getElem_mem hl)

theorem vperm_vpermInv (m : MatrixModel) {i : Nat} (h : i < m.n) : vperm m (vpermInv m i) = i := by
  have hl : i < (order m).length := (order_length m).symm ▸ h
  rw [← order_getElem m hl]
  exact (order_nodup m).idxOf_getElem i hl

theorem vperm_inj (m : MatrixModel) {a b : Nat} (ha : a < m.n) (hb : b < m.n) (h : vperm m a = vperm m b) : a = b := by
  have := congrArg (vpermInv m) h
  rwa [vpermInv_vperm m ha, vpermInv_vperm m hb] at this

theorem vpermInv_inj (m : MatrixModel) {a b : Nat} (ha : a < m.n) (hb : b < m.n) (h : vpermInv m a = vpermInv m b) : a = b := by
  have := congrArg (vperm m) h
  rwa [vperm_vpermInv m ha, vperm_vpermInv m hb] at this

theorem lt_countP_iff_of_sorted {α} (f : α → Int) (k : Int) :
    ∀ (l : List α), l.Pairwise (fun a b => f a ≤ f b) → ∀ (i : Nat) (h : i < l.length),
      i < l.countP (fun x => decide (f x < k)) ↔ f l[i] < k
  | [], _, _, h => absurd h (Nat.not_lt_zero _)
  | a :: t, hs, i, h => by
    rw [List.pairwise_cons] at hs
    by_cases ha : f a < k
    · rw [List.countP_cons_of_pos (by simpa using ha)]
      cases i with
      | zero => simpa using ha
      | succ i => simpa using lt_countP_iff_of_sorted f k t hs.2 i (by simpa using h)
    · have hz : (a :: t).countP (fun x => decide (f x < k)) = 0 :=
        List.countP_eq_zero.mpr fun x hx => by
          rcases List.mem_cons.mp hx with rfl | hx
          · simpa using ha
          · have := hs.1 x hx; simp only [decide_eq_true_eq]; omega
      have : f a ≤ f (a :: t)[i] := by
        cases i with
        | zero => exact Int.le_refl _
        | succ i => exact hs.1 _ (List.getElem_mem _)
      rw [hz]; omega

theorem sortedPairs_eq (m : MatrixModel) : sortedPairs m = (order m).map (fun j => (key m j, j)) := by
  rw [order, List.map_map]
  refine (List.map_id _).symm.trans (List.map_congr_left fun e he => ?_)
  obtain ⟨j, _, rfl⟩ := List.mem_map.mp ((sortedPairs_perm m).mem_iff.mp he)
  rfl

theorem order_sorted (m : MatrixModel) :
    (order m).Pairwise (fun a b => key m a < key m b ∨ (key m a = key m b ∧ a < b)) := by
  have h := sortedPairs_pairwise m
  rw [sortedPairs_eq, List.pairwise_map] at h
  refine (h.and (order_nodup m)).imp fun {a b} ⟨hab, hne⟩ => ?_
  rw [pairLE_iff] at hab
  omega

/-- NL order is sorted by key, in counting form -/
theorem vperm_lt_count_iff (m : MatrixModel) {j : Nat} (hj : j < m.n) (k : Int) :
    vperm m j < (List.range m.n).countP (fun i => decide (key m i < k)) ↔ key m j < k := by
  have hl := vperm_lt_length m hj
  have h := lt_countP_iff_of_sorted (key m) k (order m) ((order_sorted m).imp (by omega)) _ hl
  rwa [(order_perm m).countP_eq, show (order m)[vperm m j] = j from List.getElem_idxOf hl] at h

/-- what the header classes need of the keys; `key m j` is a function of the three flags of column `j`, so it is decided on
their eight combinations -/
theorem key_table (m : MatrixModel) (j : Nat) :
    nlv m j = decide (key m j < 0) ∧ (isInt m j && nlv m j) = decide (key m j = -1) ∧
    (isInt m j && !nlv m j && !isBin01 m j) = decide (key m j = 2) ∧
    (isInt m j && !nlv m j && isBin01 m j) = decide (key m j = 1) ∧
    isInt m j = decide (key m j = -1 ∨ 1 ≤ key m j) ∧ key m j < 3 := by
  unfold key
  generalize nlv m j = a
  generalize isInt m j = b
  generalize isBin01 m j = c
  revert a b c
  decide

theorem nlv_eq_key (m : MatrixModel) (j : Nat) : nlv m j = decide (key m j < 0) := (key_table m j).1

theorem key_neg_of_nlv (m : MatrixModel) {j : Nat} (h : nlv m j = true) : key m j < 0 :=
  of_decide_eq_true (nlv_eq_key m j ▸ h)

theorem isInt_eq_key (m : MatrixModel) (j : Nat) : isInt m j = decide (key m j = -1 ∨ 1 ≤ key m j) :=
  (key_table m j).2.2.2.2.1

theorem key_lt_three (m : MatrixModel) (j : Nat) : key m j < 3 := (key_table m j).2.2.2.2.2

theorem nlvo_eq (m : MatrixModel) : nlvo m = (List.range m.n).countP (fun j => decide (key m j < 0)) :=
  List.countP_congr fun j _ => by rw [nlv_eq_key]

theorem nlvoi_eq (m : MatrixModel) : nlvoi m = (List.range m.n).countP (fun j => decide (key m j = -1)) :=
  List.countP_congr fun j _ => by rw [(key_table m j).2.1]

theorem niv_eq (m : MatrixModel) : niv m = (List.range m.n).countP (fun j => decide (key m j = 2)) :=
  List.countP_congr fun j _ => by rw [(key_table m j).2.2.1]

theorem nbv_eq (m : MatrixModel) : nbv m = (List.range m.n).countP (fun j => decide (key m j = 1)) :=
  List.countP_congr fun j _ => by rw [(key_table m j).2.2.2.1]

theorem countP_lt_succ {α} (f : α → Int) (l : List α) {k k' : Int} (h : k' = k + 1) :
    l.countP (fun x => decide (f x < k')) =
      l.countP (fun x => decide (f x < k)) + l.countP (fun x => decide (f x = k)) := by
  induction l with
  | nil => rfl
  | cons a t ih =>
    simp only [List.countP_cons, ih, decide_eq_true_eq]
    split <;> split <;> split <;> omega

theorem count_lt_zero_split (m : MatrixModel) :
    nlvo m = (List.range m.n).countP (fun i => decide (key m i < -1)) + nlvoi m := by
  rw [nlvo_eq, nlvoi_eq]
  exact countP_lt_succ _ _ rfl

theorem count_lt_one (m : MatrixModel) :
    nlvo m ≤ (List.range m.n).countP (fun i => decide (key m i < 1)) ∧
    (List.range m.n).countP (fun i => decide (key m i < 1)) + (nbv m + niv m) = m.n := by
  have h1 := countP_lt_succ (key m) (List.range m.n) (k := 0) (k' := 1) rfl
  have h2 := countP_lt_succ (key m) (List.range m.n) (k := 1) (k' := 2) rfl
  have h3 := countP_lt_succ (key m) (List.range m.n) (k := 2) (k' := 3) rfl
  have h4 : (List.range m.n).countP (fun i => decide (key m i < 3)) = m.n := by
    rw [List.countP_eq_length.mpr fun j _ => decide_eq_true (key_lt_three m j), List.length_range]
  rw [nlvo_eq, nbv_eq, niv_eq]
  omega

/-- header class counts of the model are consistent: what `AddVariables` checks -/
theorem header_counts_consistent (m : MatrixModel) : nlvoi m ≤ nlvo m ∧ nlvo m + nbv m + niv m ≤ m.n := by
  have h0 := count_lt_zero_split m
  have h1 := count_lt_one m
  omega

theorem decodeIsInt_iff (h : Header) (pos : Nat) :
    decodeIsInt h pos = true ↔ (h.nvars - (h.nbv + h.niv) ≤ pos ∨ (h.nlvo - h.nlvoi ≤ pos ∧ pos < h.nlvo)) := by
  unfold decodeIsInt
  split <;> simp [*]

end MpVerif.C08
