import MpVerif.C08.Model
import MpVerif.Gen.C08Easy
/-! The READER's type-by-position rule, generated from `NLProblemBuilder<Problem>::AddVariables`
(include/mp/nl-reader.h), executed on the vector semantics of `BasicProblem::AddVars`, equals the model's `decodeIsInt`. -/
namespace MpVerif.C08
open MpVerif.Gen.C08Easy

/-- `BasicProblem::AddVars(n, type)` in a release build: `is_var_int_.resize(size + n, type != CONTINUOUS)` -/
def applyAddVars (l : List Bool) (c : Int × Bool) : List Bool :=
  let newSize := ((l.length : Int) + c.1).toNat
  l.take newSize ++ List.replicate (newSize - l.length) c.2

/-- `is_var_int_` after the calls, starting from an empty problem -/
def varTypesOf (calls : List (Int × Bool)) : List Bool := calls.foldl applyAddVars []

theorem applyAddVars_of_eq (l : List Bool) (x : Int) (k : Nat) (t : Bool) (h : x = (k : Int)) :
    applyAddVars l (x, t) = l ++ List.replicate k t := by
  subst h
  unfold applyAddVars
  have h : ((l.length : Int) + (k : Int)).toNat = l.length + k := by omega
  simp only [h]
  rw [List.take_of_length_le (by omega)]
  congr 2
  omega

theorem foldl_applyAddVars_nonneg (calls : List (Int × Bool)) (h : ∀ c ∈ calls, 0 ≤ c.1) (l : List Bool) :
    calls.foldl applyAddVars l = l ++ calls.flatMap (fun c => List.replicate c.1.toNat c.2) := by
  induction calls generalizing l with
  | nil => simp
  | cons c t ih =>
    rw [List.foldl_cons, applyAddVars_of_eq l c.1 c.1.toNat c.2 (Int.toNat_of_nonneg (h c List.mem_cons_self)).symm,
      ih (fun x hx => h x (List.mem_cons_of_mem _ hx)), List.flatMap_cons, List.append_assoc]

theorem map_guard {α β} {c : Prop} [Decidable c] {x : Option α} {f : α → β} {y : Option β} (hc : ¬c)
    (h : x.map f = y) : (if c then none else x).map f = y := by
  rw [if_neg hc]; exact h

/-- the generated `AddVariables` on a header of the shape the easy feeder writes (`nlvc = nlvb = 0`, no nonlinear
integers in constraints): no exception, and the calls build exactly the four blocks -/
theorem addVariables_easy (n a b c d : Nat) (hb : b ≤ a) (hs : a + c + d ≤ n) :
    (addVariables n 0 a 0 c d 0 0 b).map varTypesOf =
      some (List.replicate (a - b) false ++ List.replicate b true ++
        List.replicate (n - (a + c + d)) false ++ List.replicate (c + d) true) := by
  have hmax : (if (0 : Int) < a then (a : Int) else 0) = a := by split <;> omega
  have e1 : ((a : Int) - b).toNat = a - b := by omega
  have e3 : ((n : Int) - (a + d + c)).toNat = n - (a + c + d) := by omega
  have e4 : ((d : Int) + c).toNat = c + d := by omega
  unfold addVariables
  simp only [Int.sub_zero, hmax]
  -- the guards are discharged one at a time, in program order (`split` on the whole tree is slow)
  refine map_guard (by simp; omega) (map_guard (by simp; omega) ?_)
  by_cases ha : (a : Int) = 0
  · have ha0 : a = 0 := by omega
    have hb0 : b = 0 := by omega
    simp only [ha, ne_eq, not_true_eq_false, decide_false, Bool.false_eq_true, if_false]
    refine map_guard (by simp) (map_guard (by simp) ?_)
    rw [Option.map_some, varTypesOf, foldl_applyAddVars_nonneg _ (by simp; omega)]
    simp [e4, ha0, hb0]
    omega
  · simp only [ha, ne_eq, not_false_eq_true, decide_true, if_true]
    refine map_guard (by simp) (map_guard (by simp; omega) ?_)
    rw [Option.map_some, varTypesOf, foldl_applyAddVars_nonneg _ (by simp; omega)]
    simp [e1, e3, e4]

theorem blocks_eq_decode (h : Header) (hb : h.nlvoi ≤ h.nlvo) (hs : h.nlvo + h.nbv + h.niv ≤ h.nvars) :
    List.replicate (h.nlvo - h.nlvoi) false ++ List.replicate h.nlvoi true ++
        List.replicate (h.nvars - (h.nlvo + h.nbv + h.niv)) false ++ List.replicate (h.nbv + h.niv) true =
      (List.range h.nvars).map (decodeIsInt h) := by
  apply List.ext_getElem
  · simp; omega
  · intro i h1 h2
    simp only [List.getElem_map, List.getElem_range, List.getElem_append, List.getElem_replicate, List.length_append,
      List.length_replicate, decodeIsInt]
    have hi : i < h.nvars := by simpa using h2
    -- both sides are nests of `if`s on where `i` lies among the block boundaries: open every test, each leaf is linear arithmetic
    repeat' split
    all_goals (simp at * <;> omega)

/-- `std::vector<bool>::resize(n, fill)` (library semantics, hand-written) -/
def vecResize (l : List Bool) (n : Nat) (fill : Bool) : List Bool := l.take n ++ List.replicate (n - l.length) fill

/-- the hand model `applyAddVars` is `vector::resize` to the GENERATED new size with the GENERATED fill value of
`BasicProblem::AddVars`, for any two distinct enum codes of `var::CONTINUOUS` / `var::INTEGER` -/
theorem applyAddVars_eq_gen (l : List Bool) (c : Int × Bool) (contVal intVal : Int) (h : contVal ≠ intVal) :
    applyAddVars l c =
      vecResize l (addVarsNewSize l.length c.1).toNat (addVarsFill (if c.2 then intVal else contVal) contVal) := by
  unfold applyAddVars vecResize addVarsNewSize addVarsFill
  have hf : decide ((if c.2 then intVal else contVal) ≠ contVal) = c.2 := by
    cases c.2
    · simp
    · simp; exact fun hh => h hh.symm
  simp only [hf]

end MpVerif.C08
