import MpVerif.C01.ModelProp
import MpVerif.C01.ModelGadgets2
/-!
# C01 — lemmas about the model's basic notions (core Lean only): values a `VarInfo` admits, 0/1 and integer values, `evalLin`
(kept by the insertion and merging of `sort_terms`) and sums of 0/1 variables, maximum and minimum of a list, soundness of the
bounds of linear expressions (`linBnd`, `affBnd`), the calculus of `req`, the order of contexts, what `propLin` / `propQuad` list
for one more term, and the extension of an assignment by values for auxiliary variables (`ext`).
-/
namespace MpVerif.C01

theorem binary_admits {q : Rat} (h : VarInfo.binary.admits q) : q = 0 ∨ q = 1 := by
  obtain ⟨h0, h1, hi⟩ := h
  have h0' := h0 0 rfl
  have h1' := h1 1 rfl
  obtain ⟨k, hk⟩ := hi rfl
  subst hk
  have a : (0:Int) ≤ k := by exact_mod_cast h0'
  have b : k ≤ 1 := by exact_mod_cast h1'
  have : k = 0 ∨ k = 1 := by omega
  rcases this with h | h <;> simp [h]

theorem admits_binary_of {q : Rat} (h : q = 0 ∨ q = 1) : VarInfo.binary.admits q := by
  refine ⟨?_, ?_, ?_⟩
  · intro l hl; simp [VarInfo.binary] at hl; subst hl; rcases h with h | h <;> subst h <;> decide
  · intro l hl; simp [VarInfo.binary] at hl; subst hl; rcases h with h | h <;> subst h <;> decide
  · intro _; rcases h with h | h
    · exact ⟨0, by simp [h]⟩
    · exact ⟨1, by simp [h]⟩

theorem admits_free (q : Rat) : ({} : VarInfo).admits q :=
  ⟨fun _ h => by simp at h, fun _ h => by simp at h, fun h => by simp at h⟩

theorem admits_box (l u q : Rat) (h1 : l ≤ q) (h2 : q ≤ u) : ({ lb := some l, ub := some u } : VarInfo).admits q :=
  ⟨fun l' h => by simp at h; subst h; exact h1, fun u' h => by simp at h; subst h; exact h2, fun h => by simp at h⟩

theorem point_admits {c q : Rat} {i : Bool} :
    VarInfo.admits { lb := some c, ub := some c, isInt := i } q ↔ q = c ∧ (i = true → isIntVal q) := by
  constructor
  · intro ⟨h1, h2, h3⟩; exact ⟨Rat.le_antisymm (h2 c rfl) (h1 c rfl), h3⟩
  · rintro ⟨rfl, h3⟩
    exact ⟨fun l hl => Option.some.inj hl ▸ Rat.le_refl, fun u hu => Option.some.inj hu ▸ Rat.le_refl, h3⟩

theorem inDom_congr {B B' : Bnds} {y y' : Asg} {v : Var} (hB : B' v = B v) (hy : y' v = y v) : inDom B' y' v ↔ inDom B y v := by
  unfold inDom; rw [hB, hy]

theorem fixed_val {B : Bnds} {x : Asg} {v : Var} (hf : (B v).isFixed = true) (hd : inDom B x v) :
    x v = (B v).fixedVal := by
  unfold VarInfo.isFixed at hf
  cases hl : (B v).lb with
  | none => simp [hl] at hf
  | some l =>
    cases hu : (B v).ub with
    | none => simp [hl, hu] at hf
    | some u =>
      simp [hl, hu] at hf
      have h1 := hd.1 l hl
      have h2 := hd.2.1 u hu
      simp [VarInfo.fixedVal, hl]; grind

theorem int_lt_add_one {a b : Rat} (ha : isIntVal a) (hb : isIntVal b) (h : a < b) : a + 1 ≤ b := by
  obtain ⟨i, rfl⟩ := ha
  obtain ⟨j, rfl⟩ := hb
  have : i < j := by exact_mod_cast h
  have : i + 1 ≤ j := by omega
  exact_mod_cast this

theorem isIntVal_intCast (k : Int) : isIntVal (k : Rat) := ⟨k, rfl⟩
theorem isIntVal_zero : isIntVal 0 := ⟨0, by simp⟩
theorem isIntVal_one : isIntVal 1 := ⟨1, by simp⟩

theorem isIntVal_neg {a : Rat} (h : isIntVal a) : isIntVal (-a) := by
  obtain ⟨k, hk⟩ := h; exact ⟨-k, by rw [hk]; exact (Rat.intCast_neg k).symm⟩

theorem isIntVal_natCast (n : Nat) : isIntVal (n : Rat) := ⟨(n : Int), (Rat.intCast_natCast n).symm⟩

theorem isIntVal_add {a b : Rat} (ha : isIntVal a) (hb : isIntVal b) : isIntVal (a + b) := by
  obtain ⟨i, rfl⟩ := ha
  obtain ⟨j, rfl⟩ := hb
  exact ⟨i + j, by push_cast; rfl⟩

theorem isIntVal_mul {a b : Rat} (ha : isIntVal a) (hb : isIntVal b) : isIntVal (a * b) := by
  obtain ⟨i, rfl⟩ := ha
  obtain ⟨j, rfl⟩ := hb
  exact ⟨i * j, by push_cast; rfl⟩

@[simp] theorem evalLin_nil (x : Asg) : evalLin x [] = 0 := rfl
@[simp] theorem evalLin_cons (x : Asg) (c : Rat) (v : Var) (t : Lin) :
    evalLin x ((c, v) :: t) = c * x v + evalLin x t := rfl

theorem evalLin_append (x : Asg) (a b : Lin) : evalLin x (a ++ b) = evalLin x a + evalLin x b := by
  induction a with
  | nil => simp only [List.nil_append, evalLin_nil]; grind
  | cons p t ih => obtain ⟨c, v⟩ := p; simp only [List.cons_append, evalLin_cons, ih]; grind

theorem evalLin_neg (x : Asg) (l : Lin) : evalLin x (negLin l) = - evalLin x l := by
  induction l with
  | nil => simp [negLin]
  | cons p t ih =>
    obtain ⟨c, v⟩ := p
    simp only [negLin, List.map_cons, evalLin_cons] at ih ⊢
    rw [ih]; grind

@[simp] theorem ones_nil : ones [] = [] := rfl
@[simp] theorem ones_cons (a : Var) (t : List Var) : ones (a :: t) = (1, a) :: ones t := rfl

theorem evalLin_congr (a e : Asg) (l : Lin) (h : ∀ p ∈ l, a p.2 = e p.2) : evalLin a l = evalLin e l := by
  induction l with
  | nil => rfl
  | cons p t ih =>
    obtain ⟨c, v⟩ := p
    simp only [evalLin_cons, h (c, v) (by simp), ih (fun p hp => h p (by simp [hp]))]

theorem evalLin_agree {n : Nat} {x x' : Asg} (hag : agree n x x') {l : Lin}
    (h : ∀ p ∈ l, p.2 < n) : evalLin x' l = evalLin x l :=
  evalLin_congr x' x l fun p hp => hag p.2 (h p hp)

theorem evalQuad_congr (a e : Asg) (q : Quad) (h : ∀ t ∈ q, a t.2.1 = e t.2.1 ∧ a t.2.2 = e t.2.2) :
    evalQuad a q = evalQuad e q := by
  induction q with
  | nil => rfl
  | cons t tl ih =>
    obtain ⟨c, v, w⟩ := t
    have := h (c, v, w) (by simp)
    simp only [evalQuad, this.1, this.2, ih (fun t ht => h t (by simp [ht]))]

theorem evalQuad_agree {n : Nat} {x x' : Asg} (hag : agree n x x') {q : Quad}
    (h : ∀ t ∈ q, t.2.1 < n ∧ t.2.2 < n) : evalQuad x' q = evalQuad x q :=
  evalQuad_congr x' x q fun t ht => ⟨hag _ (h t ht).1, hag _ (h t ht).2⟩

theorem evalLin_filter_nonzero (x : Asg) (l : Lin) : evalLin x (l.filter (fun p => p.1 != 0)) = evalLin x l := by
  induction l with
  | nil => rfl
  | cons p t ih =>
    obtain ⟨c, v⟩ := p
    by_cases h : c = 0
    · subst h; simp [List.filter, evalLin, ih]; grind
    · have : (c != 0) = true := by simp [h]
      simp [List.filter, this, evalLin, ih]

theorem evalLin_insertTerm (x : Asg) (c : Rat) (v : Var) (l : Lin) :
    evalLin x (insertTerm c v l) = c * x v + evalLin x l := by
  induction l with
  | nil => rfl
  | cons p t ih =>
    obtain ⟨c', v'⟩ := p
    simp only [insertTerm]
    split
    · simp [evalLin]
    · split
      · rename_i _ h; subst h; simp only [evalLin]; grind
      · simp only [evalLin, ih]; grind

theorem evalLin_mergeTerms (x : Asg) (l : Lin) : evalLin x (mergeTerms l) = evalLin x l := by
  induction l with
  | nil => rfl
  | cons p t ih =>
    obtain ⟨c, v⟩ := p
    have hm : mergeTerms ((c, v) :: t) = if (c == 0) = true then mergeTerms t else insertTerm c v (mergeTerms t) := rfl
    rw [hm]
    by_cases h : c = 0
    · subst h; simp [evalLin, ih]; grind
    · have : (c == 0) = false := by simp [h]
      simp only [this, Bool.false_eq_true, if_false, evalLin_insertTerm, ih, evalLin]

theorem all_congr_mem (p q : Var → Bool) (l : List Var) (h : ∀ v ∈ l, p v = q v) : l.all p = l.all q := by
  induction l with
  | nil => rfl
  | cons b t ih => simp only [List.all_cons, h b (by simp), ih (fun v hv => h v (by simp [hv]))]

theorem all_congr' (a f : Asg) (args : List Var) (h : ∀ v ∈ args, a v = f v) :
    args.all (fun v => a v == 1) = args.all (fun v => f v == 1) :=
  all_congr_mem _ _ args fun v hv => by rw [h v hv]

theorem any_congr' (a f : Asg) (args : List Var) (h : ∀ v ∈ args, a v = f v) :
    args.any (fun v => a v == 1) = args.any (fun v => f v == 1) := by
  rw [List.any_eq_not_all_not, List.any_eq_not_all_not, all_congr_mem _ _ args fun v hv => by rw [h v hv]]

theorem sum_bin_bounds (x : Asg) (vs : List Var) (h : ∀ a ∈ vs, x a = 0 ∨ x a = 1) :
    0 ≤ evalLin x (ones vs) ∧ evalLin x (ones vs) ≤ (vs.length : Rat) := by
  induction vs with
  | nil => simp
  | cons a t ih =>
    have ha := h a (by simp)
    have := ih (fun b hb => h b (by simp [hb]))
    simp only [ones_cons, evalLin_cons, List.length_cons]
    push_cast
    rcases ha with ha | ha <;> rw [ha] <;> grind

theorem sum_bin_all (x : Asg) (vs : List Var)
    (hall : vs.all (fun a => x a == 1) = true) : evalLin x (ones vs) = (vs.length : Rat) := by
  induction vs with
  | nil => simp
  | cons a t ih =>
    simp only [List.all_cons, Bool.and_eq_true, beq_iff_eq] at hall
    simp only [ones_cons, evalLin_cons, List.length_cons, ih hall.2, hall.1]
    push_cast; grind

theorem sum_bin_mem (x : Asg) (vs : List Var) (h : ∀ a ∈ vs, x a = 0 ∨ x a = 1) :
    ∀ a ∈ vs, x a ≤ evalLin x (ones vs) ∧ evalLin x (ones vs) ≤ (vs.length : Rat) - 1 + x a := by
  induction vs with
  | nil => simp
  | cons b t ih =>
    have ht : ∀ c ∈ t, x c = 0 ∨ x c = 1 := fun c hc => h c (List.mem_cons_of_mem _ hc)
    have hb := sum_bin_bounds x t ht
    have hxb := h b List.mem_cons_self
    intro a ha
    simp only [ones_cons, evalLin_cons, List.length_cons]
    push_cast
    rcases List.mem_cons.mp ha with rfl | ha
    · grind
    · have := ih ht a ha; grind

theorem sum_bin_notall (x : Asg) (vs : List Var) (h : ∀ a ∈ vs, x a = 0 ∨ x a = 1)
    (hall : vs.all (fun a => x a == 1) = false) : evalLin x (ones vs) ≤ (vs.length : Rat) - 1 := by
  obtain ⟨a, ha, h1⟩ : ∃ a ∈ vs, ¬ x a = 1 := by simpa using hall
  have := (sum_bin_mem x vs h a ha).2
  rw [(h a ha).resolve_right h1] at this; grind

theorem sum_bin_any (x : Asg) (vs : List Var) (h : ∀ a ∈ vs, x a = 0 ∨ x a = 1)
    (hany : vs.any (fun a => x a == 1) = true) : 1 ≤ evalLin x (ones vs) := by
  obtain ⟨a, ha, h1⟩ := List.any_eq_true.mp hany
  have := (sum_bin_mem x vs h a ha).1
  rwa [show x a = 1 by simpa using h1] at this

theorem ones_zero (y : Asg) (l : List Var) (h : ∀ f ∈ l, y f = 0) : evalLin y (ones l) = 0 := by
  induction l with
  | nil => rfl
  | cons f t ih =>
    simp only [ones_cons, evalLin_cons, h f (by simp), ih (fun g hg => h g (by simp [hg]))]; grind

theorem sum_bin_none (x : Asg) (vs : List Var) (h : ∀ a ∈ vs, x a = 0 ∨ x a = 1)
    (hany : vs.any (fun a => x a == 1) = false) : evalLin x (ones vs) = 0 :=
  ones_zero x vs fun a ha => (h a ha).resolve_right fun h1 => List.any_eq_false.mp hany a ha (by simp [h1])

theorem count_bin (x : Asg) (vs : List Var) (h : ∀ a ∈ vs, x a = 0 ∨ x a = 1) :
    countP (fun a => x a != 0) vs = evalLin x (ones vs) := by
  induction vs with
  | nil => rfl
  | cons a t ih =>
    have ha := h a (by simp)
    have ht : ∀ b ∈ t, x b = 0 ∨ x b = 1 := fun b hb => h b (by simp [hb])
    simp only [countP, ones_cons, evalLin_cons, ih ht]
    rcases ha with ha | ha <;> simp [ha]

theorem countP_ext {p q : Var → Bool} {l : List Var} (h : ∀ a ∈ l, p a = q a) : countP p l = countP q l := by
  induction l with
  | nil => rfl
  | cons a t ih => simp only [countP, h a List.mem_cons_self, ih fun b hb => h b (List.mem_cons_of_mem _ hb)]

/- the two-element maximum and minimum in the form `maxL` and `minL` compute them -/
theorem ite_max_le_iff (p q r : Rat) : (if p ≤ q then q else p) ≤ r ↔ p ≤ r ∧ q ≤ r := by split <;> grind
theorem le_ite_max_iff (p q r : Rat) : r ≤ (if p ≤ q then q else p) ↔ r ≤ p ∨ r ≤ q := by split <;> grind
theorem ite_min_le_iff (p q r : Rat) : (if p ≤ q then p else q) ≤ r ↔ p ≤ r ∨ q ≤ r := by split <;> grind
theorem le_ite_min_iff (p q r : Rat) : r ≤ (if p ≤ q then p else q) ↔ r ≤ p ∧ r ≤ q := by split <;> grind

theorem maxL_le_iff (x : Asg) (a : Var) (t : List Var) (r : Rat) :
    maxL x a t ≤ r ↔ ∀ b ∈ a :: t, x b ≤ r := by
  induction t generalizing a with
  | nil => simp [maxL]
  | cons b t ih => rw [maxL, ite_max_le_iff, ih b]; simp only [List.forall_mem_cons]

theorem le_minL_iff (x : Asg) (a : Var) (t : List Var) (r : Rat) :
    r ≤ minL x a t ↔ ∀ b ∈ a :: t, r ≤ x b := by
  induction t generalizing a with
  | nil => simp [minL]
  | cons b t ih => rw [minL, le_ite_min_iff, ih b]; simp only [List.forall_mem_cons]

theorem le_maxL_iff (x : Asg) (a : Var) (t : List Var) (r : Rat) :
    r ≤ maxL x a t ↔ ∃ b ∈ a :: t, r ≤ x b := by
  induction t generalizing a with
  | nil => simp [maxL]
  | cons b t ih => rw [maxL, le_ite_max_iff, ih b]; simp only [List.mem_cons, exists_eq_or_imp]

theorem minL_le_iff (x : Asg) (a : Var) (t : List Var) (r : Rat) :
    minL x a t ≤ r ↔ ∃ b ∈ a :: t, x b ≤ r := by
  induction t generalizing a with
  | nil => simp [minL]
  | cons b t ih => rw [minL, ite_min_le_iff, ih b]; simp only [List.mem_cons, exists_eq_or_imp]

theorem maxL_ge (y : Asg) (a : Var) (t : List Var) : ∀ b ∈ a :: t, y b ≤ maxL y a t :=
  (maxL_le_iff y a t _).mp Rat.le_refl

theorem minL_le (y : Asg) (a : Var) (t : List Var) : ∀ b ∈ a :: t, minL y a t ≤ y b :=
  fun b hb => (minL_le_iff y a t _).mpr ⟨b, hb, Rat.le_refl⟩

theorem maxL_mem (y : Asg) (a : Var) (t : List Var) : ∃ b ∈ a :: t, maxL y a t = y b := by
  obtain ⟨b, hb, h⟩ := (le_maxL_iff y a t _).mp Rat.le_refl
  exact ⟨b, hb, Rat.le_antisymm h (maxL_ge y a t b hb)⟩

theorem minL_mem (y : Asg) (a : Var) (t : List Var) : ∃ b ∈ a :: t, minL y a t = y b := by
  obtain ⟨b, hb, h⟩ := (minL_le_iff y a t _).mp Rat.le_refl
  exact ⟨b, hb, Rat.le_antisymm (minL_le y a t b hb) h⟩

/-! ## bounds of linear expressions (`ComputeBoundsAndType`) are sound -/

theorem optAdd_scale_some {c : Rat} {b l : Option Rat} {r : Rat} (h : optAdd (optScale c b) l = some r) :
    ∃ b' l', b = some b' ∧ l = some l' ∧ r = c * b' + l' := by
  cases b <;> cases l <;> simp [optAdd, optScale] at h
  exact ⟨_, _, rfl, rfl, h.symm⟩

theorem linBnd_sound (B : Bnds) (x : Asg) (l : Lin) (h : ∀ p ∈ l, inDom B x p.2) :
    (∀ lo, (linBnd B l).1 = some lo → lo ≤ evalLin x l) ∧
    (∀ up, (linBnd B l).2.1 = some up → evalLin x l ≤ up) := by
  induction l with
  | nil => simp [linBnd]
  | cons p t ih =>
    obtain ⟨c, v⟩ := p
    obtain ⟨hvl, hvu, _⟩ : inDom B x v := h (c, v) (by simp)
    obtain ⟨htl, htu⟩ := ih (fun p hp => h p (by simp [hp]))
    simp only [linBnd, evalLin_cons]
    -- a nonnegative coefficient keeps the sides of the bounds of `v`, a negative one exchanges them
    by_cases hc : 0 ≤ c
    · simp only [hc, if_true]
      refine ⟨fun lo hlo => ?_, fun up hup => ?_⟩
      · obtain ⟨b, r, hb, hr, rfl⟩ := optAdd_scale_some hlo
        have := Rat.mul_le_mul_of_nonneg_left (hvl b hb) hc
        have := htl r hr
        grind
      · obtain ⟨b, r, hb, hr, rfl⟩ := optAdd_scale_some hup
        have := Rat.mul_le_mul_of_nonneg_left (hvu b hb) hc
        have := htu r hr
        grind
    · simp only [hc, if_false]
      have hc' : 0 ≤ -c := by grind
      refine ⟨fun lo hlo => ?_, fun up hup => ?_⟩
      · obtain ⟨b, r, hb, hr, rfl⟩ := optAdd_scale_some hlo
        have := Rat.mul_le_mul_of_nonneg_left (hvu b hb) hc'
        have := htl r hr
        grind
      · obtain ⟨b, r, hb, hr, rfl⟩ := optAdd_scale_some hup
        have := Rat.mul_le_mul_of_nonneg_left (hvl b hb) hc'
        have := htu r hr
        grind

theorem linBnd_congr (B Br : Bnds) (body : Lin) (h : ∀ p ∈ body, Br p.2 = B p.2) : linBnd Br body = linBnd B body := by
  induction body with
  | nil => rfl
  | cons p t ih =>
    obtain ⟨c, v⟩ := p
    have hv := h (c, v) (by simp)
    have ht := ih (fun p hp => h p (by simp [hp]))
    simp only at hv
    simp only [linBnd, hv, ht]

theorem isIntQ_sound (c : Rat) (h : isIntQ c = true) : isIntVal c := by
  have hden : c.den = 1 := by simpa [isIntQ] using h
  refine ⟨c.num, ?_⟩
  have := Rat.mkRat_self c
  rw [hden] at this
  rw [← this]
  simp [Rat.mkRat_one]

theorem linBnd_int (B : Bnds) (x : Asg) (l : Lin) (h : ∀ p ∈ l, inDom B x p.2)
    (hty : (linBnd B l).2.2 = true) : isIntVal (evalLin x l) := by
  induction l with
  | nil => exact isIntVal_zero
  | cons p t ih =>
    obtain ⟨c, v⟩ := p
    have hv : inDom B x v := h (c, v) (by simp)
    have key : (linBnd B t).2.2 = true ∧ (B v).isInt = true ∧ isIntQ c = true := by
      simp only [linBnd] at hty
      split at hty <;> simp_all [Bool.and_eq_true]
    have ht := ih (fun p hp => h p (by simp [hp])) key.1
    have hxv := hv.2.2 key.2.1
    simp only [evalLin_cons]
    exact isIntVal_add (isIntVal_mul (isIntQ_sound c key.2.2) hxv) ht

theorem affBnd_admits (B : Bnds) (x : Asg) (body : Lin) (c : Rat) (h : ∀ p ∈ body, inDom B x p.2)
    (hc : isIntQ c = true → isIntVal c) :
    (affBnd B body c).admits (evalLin x body + c) := by
  have hs := linBnd_sound B x body h
  refine ⟨?_, ?_, ?_⟩
  · intro l hl
    simp only [affBnd] at hl
    cases h1 : (linBnd B body).1 with
    | none => simp [h1] at hl
    | some lo => simp [h1] at hl; have := hs.1 lo h1; grind
  · intro u hu
    simp only [affBnd] at hu
    cases h1 : (linBnd B body).2.1 with
    | none => simp [h1] at hu
    | some up => simp [h1] at hu; have := hs.2 up h1; grind
  · intro hi
    simp only [affBnd, Bool.and_eq_true] at hi
    exact isIntVal_add (linBnd_int B x body h hi.1) (hc hi.2)

/-! ## the calculus of `req`

`req c` is "`≤` in the directions `c` asks for": a preorder compatible with sums, with scaling (a negative factor
swaps the directions, as `Ctx.flip` does) and with monotone truth values.  The propagation rules are sound because
each hands to an argument the context this calculus needs for it. -/

theorem req_iff (c : Ctx) (r v : Rat) :
    req c r v ↔ (c.hasPos = true → r ≤ v) ∧ (c.hasNeg = true → v ≤ r) := by
  cases c <;> simp [req, Ctx.hasPos, Ctx.hasNeg]; grind

theorem req_refl (c : Ctx) (v : Rat) : req c v v := by cases c <;> simp [req]

theorem req_trans {c : Ctx} {r m v : Rat} (h1 : req c r m) (h2 : req c m v) : req c r v := by
  rw [req_iff] at *; grind

theorem req_mono {a b : Ctx} (hab : a ≤ b) {r v : Rat} (h : req b r v) : req a r v := by
  rw [req_iff] at *; exact ⟨fun e => h.1 (hab.1 e), fun e => h.2 (hab.2 e)⟩

theorem req_of_plus {ctx : Ctx} {r v : Rat} (h : req ctx.plus r v) : req ctx r v := by
  cases ctx <;> first | trivial | exact h

theorem req_add {c : Ctx} {r₁ v₁ r₂ v₂ : Rat} (h₁ : req c r₁ v₁) (h₂ : req c r₂ v₂) :
    req c (r₁ + r₂) (v₁ + v₂) := by
  rw [req_iff] at *; grind

theorem req_neg {c : Ctx} {r v : Rat} (h : req c.flip r v) : req c (-r) (-v) := by
  cases c <;> simp only [req, Ctx.flip] at * <;> grind

theorem req_flip {c : Ctx} {r v : Rat} : req c.flip r v → req c (-r) (-v) ∨ c = .none :=
  fun h => Or.inl (req_neg h)

/-- scaling by `k`: the argument is needed in the context itself for `k > 0`, in the flipped one for `k < 0`,
not at all for `k = 0` -/
theorem req_scale {c : Ctx} {k r v : Rat} (h : k ≠ 0 → req (if 0 ≤ k then c else c.flip) r v) :
    req c (k * r) (k * v) := by
  by_cases hk : k = 0
  · subst hk; simp only [Rat.zero_mul]; exact req_refl c 0
  · have h := h hk
    by_cases hp : 0 ≤ k
    · rw [if_pos hp] at h; rw [req_iff] at *
      exact ⟨fun e => Rat.mul_le_mul_of_nonneg_left (h.1 e) hp, fun e => Rat.mul_le_mul_of_nonneg_left (h.2 e) hp⟩
    · rw [if_neg hp] at h
      have h' := req_neg h
      rw [req_iff] at *
      have hn : 0 ≤ -k := by grind
      refine ⟨fun e => ?_, fun e => ?_⟩
      · have := Rat.mul_le_mul_of_nonneg_left (h'.1 e) hn; grind
      · have := Rat.mul_le_mul_of_nonneg_left (h'.2 e) hn; grind

theorem req_mul_nonneg {c : Ctx} {r₁ v₁ r₂ v₂ : Rat} (h₁ : req c r₁ v₁) (h₂ : req c r₂ v₂)
    (hr₁ : 0 ≤ r₁) (hr₂ : 0 ≤ r₂) (hv₁ : 0 ≤ v₁) (hv₂ : 0 ≤ v₂) : req c (r₁ * r₂) (v₁ * v₂) := by
  have mono : ∀ {a₁ a₂ b₁ b₂ : Rat}, a₁ ≤ b₁ → a₂ ≤ b₂ → 0 ≤ a₂ → 0 ≤ b₁ → a₁ * a₂ ≤ b₁ * b₂ := by
    intro a₁ a₂ b₁ b₂ h1 h2 ha hb
    have s1 := Rat.mul_le_mul_of_nonneg_right h1 ha
    have s2 := Rat.mul_le_mul_of_nonneg_left h2 hb
    grind
  rw [req_iff] at *
  exact ⟨fun e => mono (h₁.1 e) (h₂.1 e) hr₂ hv₁, fun e => mono (h₁.2 e) (h₂.2 e) hv₂ hr₁⟩

theorem b2r_mono {p q : Prop} [Decidable p] [Decidable q] (h : p → q) : b2r p ≤ b2r q := by
  unfold b2r; split <;> split <;> grind

theorem req_b2r {c : Ctx} {p q : Prop} [Decidable p] [Decidable q]
    (hp : c.hasPos = true → p → q) (hn : c.hasNeg = true → q → p) : req c (b2r p) (b2r q) :=
  (req_iff ..).2 ⟨fun e => b2r_mono (hp e), fun e => b2r_mono (hn e)⟩

theorem b2r_zero_one (p : Prop) [Decidable p] : b2r p = 0 ∨ b2r p = 1 := by unfold b2r; split <;> simp

theorem b2r_eq_one {p : Prop} [Decidable p] : b2r p = 1 ↔ p := by
  unfold b2r; split <;> simp [*]

theorem bin_le_iff {a b : Rat} (ha : a = 0 ∨ a = 1) (hb : b = 0 ∨ b = 1) : a ≤ b ↔ (a = 1 → b = 1) := by
  rcases ha with rfl | rfl <;> rcases hb with rfl | rfl <;> grind

/-- on 0/1 values the context reads as implications between "is true": pos `r ⇒ v`, neg `v ⇒ r` -/
theorem req_bin_iff (c : Ctx) {r v : Rat} (hr : r = 0 ∨ r = 1) (hv : v = 0 ∨ v = 1) :
    req c r v ↔ (c.hasPos = true → r = 1 → v = 1) ∧ (c.hasNeg = true → v = 1 → r = 1) := by
  rw [req_iff, bin_le_iff hr hv, bin_le_iff hv hr]

theorem rel_iff (c : Ctx) (r v : Rat) :
    rel c r v ↔ (c.eff.hasPos = true → r ≤ v) ∧ (c.eff.hasNeg = true → v ≤ r) := req_iff c.eff r v

theorem rel_refl (c : Ctx) (v : Rat) : rel c v v := req_refl _ v

theorem rel_to_req {ctx c : Ctx} (h : c ≤ ctx.eff) {r v : Rat} (hr : rel ctx r v) : req c r v :=
  req_mono h hr

theorem Ctx.plus_eff (c : Ctx) : c.eff.plus = c.eff := by cases c <;> rfl
theorem Ctx.eff_eff (c : Ctx) : c.eff.eff = c.eff := by cases c <;> rfl

theorem ctx_le_refl (a : Ctx) : a ≤ a := ⟨id, id⟩
theorem ctx_le_trans {a b c : Ctx} (h1 : a ≤ b) (h2 : b ≤ c) : a ≤ c := ⟨fun h => h2.1 (h1.1 h), fun h => h2.2 (h1.2 h)⟩
theorem ctx_le_eff (a : Ctx) : a ≤ a.eff := by cases a <;> decide
theorem ctx_le_mix (a : Ctx) : a ≤ Ctx.mix := by cases a <;> decide
theorem plus_le_eff (c : Ctx) : c.plus ≤ c.eff := by cases c <;> decide

theorem propLin_one_cons (ctx : Ctx) (v : Var) (t : Lin) : propLin ctx ((1, v) :: t) = (v, ctx.plus) :: propLin ctx t := by
  have h1 : ¬ ((1 : Rat) = 0) := by grind
  have h2 : (0 : Rat) ≤ 1 := by grind
  simp [propLin, h1, h2]

theorem forall_mem_propLin_cons {P : Var × Ctx → Prop} {ctx : Ctx} {c : Rat} {v : Var} {t : Lin} :
    (∀ p ∈ propLin ctx ((c, v) :: t), P p) ↔
      (c ≠ 0 → P (v, if 0 ≤ c then ctx.plus else ctx.flip)) ∧ ∀ p ∈ propLin ctx t, P p := by
  by_cases hc : c = 0 <;> simp [propLin, hc]

theorem forall_mem_propQuad_cons {P : Var × Ctx → Prop} {B : Bnds} {ctx : Ctx} {c : Rat} {v w : Var} {t : Quad} :
    (∀ p ∈ propQuad B ctx ((c, v, w) :: t), P p) ↔
      (c ≠ 0 → P (v, quadTermCtx B (if 0 ≤ c then ctx else ctx.flip) v w) ∧
        P (w, quadTermCtx B (if 0 ≤ c then ctx else ctx.flip) v w)) ∧ ∀ p ∈ propQuad B ctx t, P p := by
  by_cases hc : c = 0 <;> by_cases hvw : v = w <;> simp [propQuad, hc, hvw, or_imp, forall_and, and_assoc]

theorem propLin_mem (ctx : Ctx) (body : Lin) (p : Var × Ctx) (h : p ∈ propLin ctx body) :
    ∃ c, (c, p.1) ∈ body := by
  revert p
  induction body with
  | nil => simp [propLin]
  | cons t tl ih =>
    obtain ⟨c, v⟩ := t
    exact forall_mem_propLin_cons.mpr
      ⟨fun _ => ⟨c, List.mem_cons_self⟩, fun p hp => (ih p hp).imp fun _ h => List.mem_cons_of_mem _ h⟩

/-! ## extending an assignment by values for the auxiliary variables -/

/-- `x` with the values `l` on the variables `n, n+1, …` -/
def ext (x : Asg) (n : Nat) (l : List Rat) : Asg := fun v => if v < n then x v else l.getD (v - n) 0

theorem ext_lt {x : Asg} {n : Nat} {l : List Rat} {v : Var} (h : v < n) : ext x n l v = x v := if_pos h

theorem ext_add (x : Asg) (n : Nat) (l : List Rat) (i : Nat) : ext x n l (n + i) = l.getD i 0 := by
  have : ¬ n + i < n := by omega
  simp [ext, this]

theorem ext_self (x : Asg) (n : Nat) (l : List Rat) : ext x n l n = l.getD 0 0 := ext_add x n l 0

theorem agree_ext (x : Asg) (n : Nat) (l : List Rat) : agree n x (ext x n l) := fun _ h => ext_lt h

end MpVerif.C01
