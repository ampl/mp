import MpVerif.C01.LemmasConvertInv
import MpVerif.C01.Props
/-!
# C01 — the reference converter: the contexts assigned in reverse creation order cover every use, so everything the composition
theorem needs of the flat model holds for every input with `m.vok` and `checksSem` (finite root data).
-/
namespace MpVerif.C01

/-- what `C01_compose` needs of the flat model; holds for every input with `m.vok` and `checksSem` (`checked_of_vok`) -/
structure Checked (m : NLModel) (o : ConvOut) : Prop where
  wf : WF o.n0 o.defs
  n0N : o.n0 ≤ o.N
  resN : ∀ d ∈ o.defs, d.res < o.N
  defd : ∀ v, o.n0 ≤ v → v < o.N → ∃ d ∈ o.defs, d.res = v
  b0 : ∀ v, v < o.n0 → o.B0 v = m.B0 v
  typed : ∀ d ∈ o.defs, typedDef o.B0 d = true
  rootsN : ∀ r ∈ o.roots, ∀ p ∈ r.body, p.2 < o.N
  rootsFin : ∀ r ∈ o.roots, (∀ l, r.lb = some l → -pracInf < l) ∧ (∀ u, r.ub = some u → u < pracInf)
  cov : CtxCovers o.B0 o.defs o.roots
  objOK : ∀ ob, o.obj = some ob → (∀ v ∈ ob.vars, v < o.N) ∧ ob.quad = [] ∧ ObjCovers o.B0 o.defs ob

theorem finiteRoot_sound {r : Root} (h : finiteRoot r = true) :
    (∀ l, r.lb = some l → -pracInf < l) ∧ (∀ u, r.ub = some u → u < pracInf) := by
  simp only [finiteRoot, Bool.and_eq_true] at h
  exact ⟨fun l hl => by have := h.1; rw [hl] at this; simpa using this,
    fun u hu => by have := h.2; rw [hu] at this; simpa using this⟩

theorem obj_vars_lt {ob : Obj} {N : Nat} (hq : ob.quad = []) (hl : ∀ p ∈ ob.lin, p.2 < N) : ∀ v ∈ ob.vars, v < N := by
  intro v hv
  simp only [Obj.vars, hq, List.map_nil, List.append_nil, List.mem_map] at hv
  obtain ⟨p, hp, rfl⟩ := hv
  exact hl p hp

theorem foldUses_ge (v : Var) (uses : List (Var × Ctx)) (c : Ctx) :
    c ≤ uses.foldl (fun c p => if p.1 = v then c.add p.2 else c) c := by
  induction uses generalizing c with
  | nil => exact ctx_le_refl _
  | cons p t ih =>
    simp only [List.foldl_cons]
    split
    · exact ctx_le_trans (C01_ctx_add_upper c p.2).1 (ih _)
    · exact ih _

theorem addUses_ge (need : Var → Ctx) (uses : List (Var × Ctx)) (v : Var) : need v ≤ addUses need uses v :=
  foldUses_ge v uses _

theorem addUses_mem (need : Var → Ctx) (uses : List (Var × Ctx)) : ∀ p ∈ uses, p.2 ≤ addUses need uses p.1 := by
  intro p hp
  unfold addUses
  generalize need p.1 = c
  induction uses generalizing c with
  | nil => cases hp
  | cons q t ih =>
    simp only [List.foldl_cons]
    rcases List.mem_cons.mp hp with rfl | hp
    · rw [if_pos rfl]; exact ctx_le_trans (C01_ctx_add_upper c p.2).2 (foldUses_ge _ t _)
    · exact ih hp _

theorem assignCtx_ge (B : Bnds) (l : List Def) (need : Var → Ctx) : ∀ d' ∈ assignCtx B l need, need d'.res ≤ d'.ctx := by
  induction l generalizing need with
  | nil => simp [assignCtx]
  | cons d t ih =>
    intro d' hd'
    simp only [assignCtx, List.mem_cons] at hd'
    rcases hd' with h | h
    · subst h; exact ctx_le_refl _
    · exact ctx_le_trans (addUses_ge need _ d'.res) (ih _ d' h)

/-- the definition of a variable used comes later in the pass (results decrease), after the use was added to what is needed of it -/
theorem assignCtx_covers (B : Bnds) (l : List Def) (need : Var → Ctx)
    (hv : ∀ d ∈ l, ∀ v ∈ d.f.vars, v < d.res) (hlt : l.Pairwise (fun d e => e.res < d.res)) :
    ∀ d' ∈ assignCtx B l need, ∀ p ∈ propFun B d'.ctx.eff d'.f, ∀ d'' ∈ assignCtx B l need, d''.res = p.1 → p.2 ≤ d''.ctx := by
  induction l generalizing need with
  | nil => simp [assignCtx]
  | cons d t ih =>
    obtain ⟨hd, ht⟩ := List.pairwise_cons.mp hlt
    intro d' hd' p hp d'' hd'' hr
    have hpv : p.1 < d'.res := by
      obtain ⟨e, he, h1, h2⟩ := shape_mem (assignCtx_shape B (d :: t) need) d' hd'
      rw [← h1]; exact hv e he p.1 (by rw [h2]; exact propFun_vars B _ d'.f p hp)
    simp only [assignCtx, List.mem_cons] at hd' hd''
    rcases hd'' with h2 | h2
    · -- the head has the largest result: nothing in the list uses it
      have hle : d'.res ≤ d.res := by
        rcases hd' with h | h
        · rw [h]; exact Nat.le_refl _
        · obtain ⟨e, he, h1, _⟩ := shape_mem (assignCtx_shape B t _) d' h
          rw [← h1]; exact Nat.le_of_lt (hd e he)
      have hr' : d.res = p.1 := by rw [h2] at hr; exact hr
      exact absurd (hr' ▸ hle) (Nat.not_le.mpr hpv)
    · rcases hd' with h | h
      · subst h
        have := assignCtx_ge B t _ d'' h2
        rw [hr] at this
        exact ctx_le_trans (addUses_mem need _ p hp) this
      · exact ih _ (fun e he => hv e (List.mem_cons_of_mem _ he)) ht d' h p hp d'' h2 hr

theorem ctxOf_covers {n0 : Nat} {D : List Def} (hwf : WF n0 D) {v : Var} {c : Ctx}
    (h : ∀ d ∈ D, d.res = v → c ≤ d.ctx) : c ≤ (ctxOf D v).eff := by
  rcases defined_or_not D v with ⟨d, hd, rfl⟩ | hnd
  · rw [ctxOf_mem n0 D hwf d hd]; exact ctx_le_trans (h d hd rfl) (ctx_le_eff _)
  · rw [ctxOf_undef D v hnd]; exact ctx_le_mix _

theorem ctxDefs_covers (B : Bnds) (n0 : Nat) (defs : List Def) (roots : List Root) (obj : Option Obj) (hwf : WF n0 defs) :
    (∀ p ∈ rootUses roots obj, p.2 ≤ (ctxOf (ctxDefs B defs roots obj) p.1).eff) ∧
    (∀ d ∈ ctxDefs B defs roots obj, ∀ p ∈ propFun B d.ctx.eff d.f, p.2 ≤ (ctxOf (ctxDefs B defs roots obj) p.1).eff) := by
  have hwf' : WF n0 (ctxDefs B defs roots obj) := WF_shape (sameShape_symm (ctxDefs_shape B defs roots obj)) hwf
  have hmem : ∀ d, d ∈ ctxDefs B defs roots obj →
      d ∈ assignCtx B defs.reverse (addUses (fun _ => .none) (rootUses roots obj)) := fun d => List.mem_reverse.mp
  refine ⟨fun p hp => ctxOf_covers hwf' fun d hd hr => ?_, fun d hd p hp => ctxOf_covers hwf' fun d'' hd'' hr => ?_⟩
  · have := assignCtx_ge _ _ _ d (hmem d hd)
    rw [hr] at this
    exact ctx_le_trans (addUses_mem _ _ p hp) this
  · exact assignCtx_covers B _ _ (fun e he => wf_vars_lt hwf e (List.mem_reverse.mp he))
      (List.pairwise_reverse.mpr (wf_pairwise hwf)) d (hmem d hd) p hp d'' (hmem d'' hd'') hr

theorem convert_covers (m : NLModel) (cfg : Cfg) (hck_wf : WF m.n0 (convert m cfg).defs)
    (hq : ∀ o, (convert m cfg).obj = some o → o.quad = []) :
    CtxCovers (convert m cfg).B0 (convert m cfg).defs (convert m cfg).roots ∧
    (∀ o, (convert m cfg).obj = some o → ObjCovers (convert m cfg).B0 (convert m cfg).defs o) := by
  obtain ⟨hroot, hdef⟩ := ctxDefs_covers (flatAll m).S.B m.n0 (flatAll m).S.defs ((flatAll m).croots ++ (flatAll m).lroots)
    (flatAll m).obj (WF_shape (ctxDefs_shape _ _ _ _) hck_wf)
  refine ⟨⟨fun r hr p hp => hroot p ?_, hdef⟩, fun o ho p hp => hroot p ?_⟩
  · simp only [rootUses, List.mem_append, List.mem_flatMap]
    exact Or.inl ⟨r, List.mem_append.mp hr, hp⟩
  · have ho' : (flatAll m).obj = some o := ho
    simp only [propObj, hq o ho, propQuad, List.append_nil] at hp
    simp only [rootUses, ho', List.mem_append]
    exact Or.inr hp

/-- everything `C01_compose` needs about the flat model holds for every input; the only remaining conditions are finite root
data (and, for the linear acceptance set, `checksLin`) -/
theorem checked_of_vok (m : NLModel) (cfg : Cfg) (hv : m.vok = true) (hs : (convert m cfg).checksSem = true) :
    Checked m (convert m cfg) := by
  have st := structural_of_vok m cfg hv
  obtain ⟨hcov, hocov⟩ := convert_covers m cfg st.wf (fun o ho => (st.objIdx o ho).1)
  simp only [ConvOut.checksSem, Bool.and_eq_true, List.all_eq_true] at hs
  obtain ⟨hs, _⟩ := hs
  refine ⟨st.wf, st.ge, st.lt, st.defd, st.b0, st.typed, st.rootsN, ?_, hcov, ?_⟩
  · intro r hr; exact finiteRoot_sound (hs r hr)
  · intro ob hob
    obtain ⟨hq, hl⟩ := st.objIdx ob hob
    exact ⟨obj_vars_lt hq hl, hq, hocov ob hob⟩

end MpVerif.C01
