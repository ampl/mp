import MpVerif.C01.LemmasCompose
/-!
# C01 — composition theorem over an abstract flat model, and a depth-2 instance

Setting (`ModelCompose.lean`): original variables (`< n0`), definitions `res = f(args)` in creation order (`WF`), root
linear range constraints, each definition with its stored FINAL context; every definition is replaced by a conversion
step (`Step`: delivered rows + auxiliary-variable range), steps listed in conversion order (`Chain`).

Hypotheses of `C01_compose`:
* `CtxCovers` — for every use of a variable (root, or argument of a definition under that definition's context) the
  context stored on its definition includes what the propagation rule assigns.  Decidable; checked per run on the
  recorded contexts by `checks/c01.py`.  The findings late-context-map-reuse / redefine-variable-map-hit of that check
  are violations of this hypothesis (or of `hperm`: a result variable left without its definition).
* `StepOK` for every step (**GadgetExact**) — instantiated from the proved `C01_gadget_*` theorems through
  `C01_compose_step_of_gadget`, or `C01_compose_step_native` for natively accepted types.
* `Dom` — the variable domains (bounds, integrality, 0/1 logical variables) hold for the solver's assignment and for
  the exact values (`hDomE`: bounds soundness, property C06 — assumed here, not proved).

Conclusion: `NLsat x ⇔ ∃ y, Delivered … x y`: a point of the original variables satisfies the NL-level semantics
(roots with every result variable read as the exact value of its defining expression) iff values of the result and
auxiliary variables exist that satisfy all delivered rows.

The objective clause (best delivered objective = original objective) is `C01_compose_objective`, quadratic roots are
`C01_compose_quadroots` (both PropsObjective.lean); logical roots are `1 ≤ res`.  Outside these theorems: steps whose
gadget has no `C01_gadget_*` theorem, nested conversions of functional constraints *emitted by* gadgets (they are taken
with their `Con.sat` reading), and everything before the flat model exists (flattening, `MultiplyOut`, term merging, preprocessing shortcuts).
-/
namespace MpVerif.C01

/-- generic soundness of the propagation rules (`propFun`); the case analysis over the per-rule theorems of `Props.lean` is `fun_ctx_sound` -/
theorem C01_ctx_sound_fun (B : Bnds) (ctx : Ctx) (f : Fun) (a e : Asg) (oka : FunOK B f a) (oke : FunOK B f e)
    (h : ∀ p ∈ propFun B ctx f, req p.2 (a p.1) (e p.1)) : req ctx (f.val a) (f.val e) :=
  fun_ctx_sound B ctx f a e oka oke h

theorem C01_val_congr (f : Fun) (a e : Asg) (h : ∀ v ∈ f.vars, a v = e v) : f.val a = f.val e := val_congr f a e h
theorem C01_sat_congr (c : Con) (a e : Asg) (h : ∀ v ∈ c.vars, a v = e v) : c.sat a ↔ c.sat e := sat_congr c a e h

theorem C01_exact_spec (x : Asg) (m : Nat) (defs : List Def) (h : WF m defs) :
    ∀ d ∈ defs, exactAsg x defs d.res = d.f.val (exactAsg x defs) := exact_spec x m defs h

/-- Contexts only.  With covering contexts the relaxed model (every definition in its stored context's
one-sided reading) has a solution over a point `x` iff `x` satisfies the NL-level semantics. -/
theorem C01_compose_relaxed (B : Bnds) (n0 N : Nat) (defs : List Def) (roots : List Root) (x : Asg)
    (hwf : WF n0 defs) (hN : ∀ d ∈ defs, d.res < N) (hroots : ∀ r ∈ roots, ∀ p ∈ r.body, p.2 < N)
    (hfin : ∀ r ∈ roots, (∀ l, r.lb = some l → -pracInf < l) ∧ (∀ u, r.ub = some u → u < pracInf))
    (hcov : CtxCovers B defs roots) (hoke : ∀ d ∈ defs, FunOK B d.f (exactAsg x defs)) :
    NLsat defs roots x ↔ ∃ y, (∀ d ∈ defs, FunOK B d.f y) ∧ Relaxed N defs roots x y :=
  compose_relaxed B n0 N defs roots x hwf hroots hfin hcov hoke

theorem C01_compose_step_of_gadget (N : Nat) (Dom D : Asg → Prop) (d : Def) (o : Out) (n : Nat)
    (hN : N ≤ n) (hDD : ∀ y, Dom y → D y)
    (hex : Exact o n D (fun x => rel d.ctx (x d.res) (d.f.val x)))
    (hrows : ∀ c ∈ o.cons, ∀ v ∈ c.vars, v < n + o.vars.length) :
    StepOK N Dom (Step.ofGadget d o n) := stepOK_of_exact D hN hDD hex hrows

theorem C01_compose_step_native (N : Nat) (Dom : Asg → Prop) (d : Def) (hres : d.res < N)
    (hvars : ∀ v ∈ d.f.vars, v < N) : StepOK N Dom (Step.native d N) :=
  stepOK_native (Nat.le_refl N) hres hvars

/-- **C01_compose** — projection equivalence for whole flat models (any DAG depth, shared subexpressions, any number
of roots), under `CtxCovers`, `StepOK` for every step and domain soundness. -/
theorem C01_compose (B : Bnds) (n0 N : Nat) (defs : List Def) (steps : List Step) (roots : List Root) (Dom : Asg → Prop)
    (hDom : ∀ z z' : Asg, (∀ v, v < N → z' v = z v) → Dom z → Dom z')
    (hperm : ∀ d, d ∈ defs ↔ ∃ s ∈ steps, s.toDef = d)
    (hwf : WF n0 defs) (hN : ∀ d ∈ defs, d.res < N)
    (hroots : ∀ r ∈ roots, ∀ p ∈ r.body, p.2 < N)
    (hfin : ∀ r ∈ roots, (∀ l, r.lb = some l → -pracInf < l) ∧ (∀ u, r.ub = some u → u < pracInf))
    (hcov : CtxCovers B defs roots)
    (hchain : Chain N steps) (hok : ∀ s ∈ steps, StepOK N Dom s)
    (hDomOK : ∀ y, Dom y → ∀ d ∈ defs, FunOK B d.f y)
    (x : Asg) (hDomE : Dom (exactAsg x defs)) :
    NLsat defs roots x ↔ ∃ y, Delivered N defs steps roots Dom x y :=
  (Compose.mk hDom hperm hwf hN hroots hcov hchain hok hDomOK).iff hfin x hDomE


/-- the per-run validator (`ctxGaps`, `wfB`, executed by `drv_c01` on the contexts recorded from the real converter)
is sound: no gap ⇒ `CtxCovers`; `wfB` ⇒ creation order -/
theorem C01_validator_ctxcovers_sound (B : Bnds) (defs : List Def) (roots : List Root)
    (h : ctxGaps B defs roots = []) : CtxCovers B defs roots := ctxGaps_sound B defs roots h

theorem C01_validator_wf_sound (m : Nat) (defs : List Def) (h : wfB m defs = true) : WF m defs := wfB_sound m defs h



/-! ## non-vacuity: a depth-2 instance `y + max(abs(w), z) ≤ u` (variables y=0, z=1, w=2; r1 = abs(w) = 3, r2 = max(r1, z) = 4)

All hypotheses of `C01_compose` are discharged for this model from the proved gadget theorems; the contexts are the ones
the converter stores (root `≤` gives neg to `r2`; `max` hands mix to its arguments). -/

def exDefs : List Def := [⟨3, .mix, .abs 2⟩, ⟨4, .neg, .max [3, 1]⟩]
def exRoots (u : Rat) : List Root := [⟨[(1, 0), (1, 4)], none, some u⟩]
def exSteps (B : Bnds) : List Step :=
  [Step.ofGadget ⟨4, .neg, .max [3, 1]⟩ (gMax 4 [3, 1] .neg B 5) 5,
   Step.ofGadget ⟨3, .mix, .abs 2⟩ (gAbs 3 2 .mix B 5) 5]

theorem exMax_eq (B : Bnds) (n : Nat) : gMax 4 [3, 1] .neg B n = mmConvex 1 4 [3, 1] := by
  simp [gMax, dispatch, needNeg, needPos, Ctx.eff, Ctx.hasNeg, Ctx.hasPos, mmConvex]

theorem exMax_ok (B : Bnds) (N n : Nat) (hN : N ≤ n) (hn : 4 < n) :
    StepOK N (fun _ => True) (Step.ofGadget ⟨4, .neg, .max [3, 1]⟩ (gMax 4 [3, 1] .neg B n) n) := by
  apply C01_compose_step_of_gadget N (fun _ => True) (fun _ => True) _ _ n hN (fun _ _ => trivial)
  · exact C01_gadget_max 4 3 [1] .neg B n hn (by intro b hb; simp at hb; rcases hb with hb | hb <;> subst hb <;> grind)
  · intro c hc v hv
    rw [exMax_eq] at hc ⊢
    simp [mmConvex] at hc
    rcases hc with hc | hc <;> subst hc <;> simp [Con.vars] at hv <;> rcases hv with hv | hv <;> subst hv <;> grind

theorem exAbs_ok (B : Bnds) (N n : Nat) (hN : N ≤ n) (hn : 3 < n) :
    StepOK N (fun _ => True) (Step.ofGadget ⟨3, .mix, .abs 2⟩ (gAbs 3 2 .mix B n) n) := by
  apply C01_compose_step_of_gadget N (fun _ => True) (fun _ => True) _ _ n hN (fun _ _ => trivial)
  · exact C01_gadget_abs 3 2 .mix B n hn (by grind)
  · intro c hc v hv
    simp [gAbs, dispatch, needNeg, needPos, Ctx.eff, Ctx.hasNeg, Ctx.hasPos, absNeg, absPos] at hc ⊢
    have hv' : v = 3 ∨ v = 2 ∨ v = n := by
      rcases hc with hc | hc | hc | hc <;> subst hc <;> simp [Con.vars] at hv <;> grind
    rcases hv' with h | h | h <;> subst h <;> grind

theorem C01_compose_example_depth2 (B : Bnds) (u : Rat) (hu : u < pracInf) (x : Asg) :
    NLsat exDefs (exRoots u) x ↔ ∃ y, Delivered 5 exDefs (exSteps B) (exRoots u) (fun _ => True) x y := by
  apply C01_compose B 3 5 exDefs (exSteps B) (exRoots u) (fun _ => True)
  · intro _ _ _ _; trivial
  · -- the steps are the definitions in reverse order
    intro d; rw [← List.mem_map, ← List.mem_reverse]; rfl
  · simp [exDefs, WF, Fun.vars]
  · intro d hd; simp [exDefs] at hd; rcases hd with hd | hd <;> subst hd <;> simp
  · intro r hr p hp
    simp [exRoots] at hr; subst hr
    simp at hp; rcases hp with hp | hp <;> subst hp <;> simp
  · intro r hr
    simp [exRoots] at hr; subst hr
    exact ⟨by intro l hl; simp at hl, by intro v hv; simp at hv; subst hv; exact hu⟩
  · apply C01_validator_ctxcovers_sound
    simp [ctxGaps, ctxUses, exDefs, exRoots, propRangeLin, rangeCtx, propLin_one_cons, propLin, propFun, propDefault, Fun.vars,
      ctxOf, Ctx.eff, Ctx.plus]
    decide
  · simp [exSteps, Chain, Step.ofGadget, exMax_eq, mmConvex, gAbs, dispatch, needNeg, needPos, Ctx.eff, Ctx.hasNeg,
      Ctx.hasPos, absNeg, absPos]
  · intro s hs
    simp only [exSteps, List.mem_cons, List.not_mem_nil, or_false] at hs
    rcases hs with hs | hs <;> subst hs
    · exact exMax_ok B 5 5 (Nat.le_refl 5) (by decide)
    · exact exAbs_ok B 5 5 (Nat.le_refl 5) (by decide)
  · intro y _ d hd
    simp [exDefs] at hd; rcases hd with hd | hd <;> subst hd <;> simp [FunOK]
  · trivial


end MpVerif.C01
