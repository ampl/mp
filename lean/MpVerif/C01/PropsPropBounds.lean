import MpVerif.C01.ModelConvert
import MpVerif.Gen.C01PropBounds
/-!
# C01 — the downward propagation of the reference converter = the bounds `PropagateResult` hands down

`MpVerif.Gen.C01PropBounds` is generated on every run from include/mp/flat/constr_prop_down.h: for every
`PropagateResult(<Constraint>&, lb, ub, ctx)` overload the bound expressions of each propagation call as executable functions of
`(lb, ub)`, the guard of `DecrementVarUsage`, and the bound pairs the helpers `PropagateResult2Vars` / `PropagateResult2LinTerms` /
`PropagateIfThenResultIntoCondition` pass on.  The theorems below say that `propDown` (ModelConvert.lean) — the rule the proved
reference converter uses to fix arguments from a fixed result — is exactly what those generated functions give for a 0/1 variable,
for every fixing `c ∈ {0,1}`, every argument list and every row number; and that the usage count is decremented exactly where
`removedDef` looks for a removable definition.  A change of a bound expression, of a guard or of a helper in the header changes the
generated definitions and breaks these proofs.

Not translated (chosen by hand below): which helper `PropagateResult2Args` resolves to (`Vars` for argument arrays, `LinTerms` for
linear bodies — C++ overload resolution), and that `NarrowVarBounds` intersects with the current bounds (`fixOf01`).
-/
namespace MpVerif.C01
open MpVerif.Gen.C01PropBounds

/-- what `NarrowVarBounds(v, lb, ub)` makes of a 0/1 variable: fixed at 1 if `lb ≥ 1`, fixed at 0 if `ub ≤ 0`, else not fixed -/
def fixOf01 (b : Option Rat × Option Rat) : Option Rat :=
  match b.1, b.2 with
  | some l, some u => if 1 ≤ l then some 1 else if u ≤ 0 then some 0 else none
  | some l, none => if 1 ≤ l then some 1 else none
  | none, some u => if u ≤ 0 then some 0 else none
  | none, none => none

/-- bound pairs of the calls of an overload (callee and target text dropped) -/
def callBounds (cs : List (String × String × Option Rat × Option Rat)) : List (Option Rat × Option Rat) :=
  cs.map (fun c => (c.2.2.1, c.2.2.2))

/-- facts for one argument from the bound pairs it receives -/
def factsFor (a : Var) (j : Nat) (bs : List (Option Rat × Option Rat)) : List Fact :=
  bs.filterMap (fun b => (fixOf01 b).map (fun v => (a, v, j)))

theorem rat_arith : ((1 : Rat) - 0 = 1) ∧ ((1 : Rat) - 1 = 0) := by
  constructor <;> decide +kernel

theorem C01_gen_propbounds_not (r a : Var) (cx : Ctx) (c : Rat) (j : Nat) (hc : c = 0 ∨ c = 1) :
    propDown ⟨r, cx, .not a⟩ c j = factsFor a j (callBounds (calls_NotConstraint c c)) := by
  obtain ⟨e0, e1⟩ := rat_arith
  have h10 : ¬ ((1 : Rat) ≤ 0) := by decide +kernel
  rcases hc with h | h <;> subst h
  · simp [propDown, factsFor, callBounds, calls_NotConstraint, fixOf01, e0]
  · simp [propDown, factsFor, callBounds, calls_NotConstraint, fixOf01, e1, h10]

theorem rat_facts : ¬ ((1 : Rat) ≤ 0) ∧ (1 : Rat) ≤ 1 ∧ (0 : Rat) ≤ 0 ∧ ¬ ((0 : Rat) = 1) ∧ ¬ ((1 : Rat) = 0) := by
  refine ⟨by decide +kernel, Rat.le_refl, Rat.le_refl, by decide +kernel, by decide +kernel⟩

theorem C01_gen_propbounds_and (r : Var) (as : List Var) (cx : Ctx) (c : Rat) (j : Nat) (hc : c = 0 ∨ c = 1) :
    propDown ⟨r, cx, .and as⟩ c j =
      as.flatMap (fun a => factsFor a j ((callBounds (calls_AndConstraint c c)).flatMap
        (fun b => helper_PropagateResult2Vars b.1 b.2))) := by
  obtain ⟨h10, h11, h00, h01, h1n⟩ := rat_facts
  -- every argument receives one bound pair: the model's `map` is the `flatMap` of singletons
  rcases hc with h | h <;> subst h <;>
    simp [propDown, factsFor, callBounds, calls_AndConstraint, helper_PropagateResult2Vars, fixOf01, h10, h01, List.map_eq_flatMap]

theorem C01_gen_propbounds_or (r : Var) (as : List Var) (cx : Ctx) (c : Rat) (j : Nat) (hc : c = 0 ∨ c = 1) :
    propDown ⟨r, cx, .or as⟩ c j =
      as.flatMap (fun a => factsFor a j ((callBounds (calls_OrConstraint c c)).flatMap
        (fun b => helper_PropagateResult2Vars b.1 b.2))) := by
  obtain ⟨h10, h11, h00, h01, h1n⟩ := rat_facts
  rcases hc with h | h <;> subst h <;>
    simp [propDown, factsFor, callBounds, calls_OrConstraint, helper_PropagateResult2Vars, fixOf01, h10, h1n, List.map_eq_flatMap]

/-- conditional comparisons (`==`: `CondLinConEQ`, the others: `ConditionalConstraint<…>`): whatever bounds the overload passes,
`PropagateResult2LinTerms` hands ±inf to the body variables — nothing is fixed below a comparison -/
theorem C01_gen_propbounds_condlin (r : Var) (k : Cmp5) (body : Lin) (rhs : Rat) (cx : Ctx) (c : Rat) (j : Nat) :
    propDown ⟨r, cx, .condLin k body rhs⟩ c j = [] ∧
    (((callBounds (calls_CondLinConEQ c c)).flatMap (fun b => helper_PropagateResult2LinTerms b.1 b.2)).all
      (fun b => (fixOf01 b).isNone) = true) ∧
    (((callBounds (calls_ConditionalConstraint_AlgebraicConstraint_Body_AlgConRhs_kind c c)).flatMap
      (fun b => helper_PropagateResult2LinTerms b.1 b.2)).all (fun b => (fixOf01 b).isNone) = true) := by
  refine ⟨rfl, ?_, ?_⟩ <;>
    simp [callBounds, calls_CondLinConEQ, calls_ConditionalConstraint_AlgebraicConstraint_Body_AlgConRhs_kind,
      helper_PropagateResult2LinTerms, fixOf01]

/-- if-then-else: the condition receives `0..1`, the branches ±inf — nothing is fixed -/
theorem C01_gen_propbounds_ifthen (r cnd t e : Var) (cx : Ctx) (c : Rat) (j : Nat) :
    propDown ⟨r, cx, .ifthen cnd t e⟩ c j = [] ∧
    ((callBounds (calls_IfThenConstraint c c) ++ helper_PropagateIfThenResultIntoCondition (some c) (some c)).all
      (fun b => (fixOf01 b).isNone) = true) := by
  refine ⟨rfl, ?_⟩
  simp [callBounds, calls_IfThenConstraint, helper_PropagateIfThenResultIntoCondition, fixOf01]
  decide +kernel

/-- every other type of the fragment (abs, max, min, count; linear functional constraints) goes through the default overload
resp. the LFC overload: ±inf to every argument -/
theorem C01_gen_propbounds_default (c : Rat) :
    ((callBounds (calls_Constraint c c)).flatMap (fun b => helper_PropagateResult2Vars b.1 b.2)).all
      (fun b => (fixOf01 b).isNone) = true ∧
    ((callBounds (calls_LinearFunctionalConstraint c c)).flatMap (fun b => helper_PropagateResult2LinTerms b.1 b.2)).all
      (fun b => (fixOf01 b).isNone) = true ∧
    (∀ (r a : Var) (cx : Ctx) (j : Nat), propDown ⟨r, cx, .abs a⟩ c j = []) ∧
    (∀ (r : Var) (as : List Var) (cx : Ctx) (j : Nat), propDown ⟨r, cx, .max as⟩ c j = [] ∧ propDown ⟨r, cx, .min as⟩ c j = [] ∧
      propDown ⟨r, cx, .count as⟩ c j = []) ∧
    (∀ (r : Var) (body : Lin) (k : Rat) (cx : Ctx) (j : Nat), propDown ⟨r, cx, .affine body k⟩ c j = []) := by
  refine ⟨?_, ?_, fun _ _ _ _ => rfl, fun _ _ _ _ => ⟨rfl, rfl, rfl⟩, fun _ _ _ _ _ => rfl⟩ <;>
    simp [callBounds, calls_Constraint, calls_LinearFunctionalConstraint, helper_PropagateResult2Vars,
      helper_PropagateResult2LinTerms, fixOf01]

/-- the usage count of the result is decremented exactly for an `And` fixed at 1 and an `Or` fixed at 0 — the two cases in which
`removedDef` may remove a definition — and by no other overload of the fragment -/
theorem C01_gen_propbounds_decrement (c : Rat) (hc : c = 0 ∨ c = 1) :
    (decr_AndConstraint c c = decide (c = 1)) ∧ (decr_OrConstraint c c = decide (c = 0)) ∧
    decr_NotConstraint c c = false ∧ decr_IfThenConstraint c c = false ∧ decr_CondLinConEQ c c = false ∧
    decr_ConditionalConstraint_AlgebraicConstraint_Body_AlgConRhs_kind c c = false ∧ decr_Constraint c c = false ∧
    decr_LinearFunctionalConstraint c c = false := by
  rcases hc with h | h <;> subst h <;> decide +kernel

/-- the generated expressions themselves, for ALL bounds (not only fixings): `Not` hands `1-ub .. 1-lb` to its argument, `And`
`lb .. 1`, `Or` `0 .. ub` to every argument; the usage count is decremented for `lb > 1/2` resp. `ub ≤ 1/2`; the helpers pass the
bounds on unchanged (`Vars`), replace them by ±inf (`LinTerms`), give the condition `0..1` (`IfThen`) -/
theorem C01_gen_propbounds_exprs (lb ub : Rat) (olb oub : Option Rat) :
    callBounds (calls_NotConstraint lb ub) = [(some (1 - ub), some (1 - lb))] ∧
    callBounds (calls_AndConstraint lb ub) = [(some lb, some 1)] ∧
    callBounds (calls_OrConstraint lb ub) = [(some 0, some ub)] ∧
    decr_AndConstraint lb ub = decide ((1 / 2 : Rat) < lb) ∧ decr_OrConstraint lb ub = decide (ub ≤ (1 / 2 : Rat)) ∧
    helper_PropagateResult2Vars olb oub = [(olb, oub)] ∧ helper_PropagateResult2LinTerms olb oub = [(none, none)] ∧
    helper_PropagateIfThenResultIntoCondition olb oub = [(some 0, some 1)] :=
  ⟨rfl, rfl, rfl, rfl, rfl, rfl, rfl, rfl⟩

theorem C01_propbounds_removed_guard (F : List Fact) (nref : Var → Nat) (d : Def) (h : removedDef F nref d = true) :
    (∃ as, d.f = .and as ∧ factOf F d.res = some 1 ∧ decr_AndConstraint 1 1 = true) ∨
    (∃ as, d.f = .or as ∧ factOf F d.res = some 0 ∧ decr_OrConstraint 0 0 = true) := by
  simp only [removedDef, Bool.and_eq_true] at h
  obtain ⟨hk, _⟩ := h
  cases hf : d.f with
  | and as =>
    simp only [hf, Bool.and_eq_true, beq_iff_eq] at hk
    exact Or.inl ⟨as, rfl, hk.1, by decide +kernel⟩
  | or as =>
    simp only [hf, Bool.and_eq_true, beq_iff_eq] at hk
    exact Or.inr ⟨as, rfl, hk.1, by decide +kernel⟩
  | _ => simp [hf] at hk

end MpVerif.C01
