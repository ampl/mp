import MpVerif.C01.LemmasConvertLower
import MpVerif.C01.LemmasCompose
/-!
# C01 — the reference converter: the blocks `convDefs` delivers, read as steps of the composition theorem.
-/
namespace MpVerif.C01

/-- the step a block stands for: for a removed definition nothing is delivered; constants and natively accepted definitions are enforced as `res = f(args)`
(a fixed variable's bounds, resp. the solver), gadget blocks by their rows over their auxiliary variables -/
def Block.toStep (b : Block) : Step :=
  if b.removed then { b.d with Deliv := fun _ => True, lo := b.lo, hi := b.lo }
  else if b.native || isConst b.d then Step.native b.d b.lo
  else { b.d with Deliv := fun y => auxOk b.lo y b.vars ∧ ∀ c ∈ b.cons, c.sat y, lo := b.lo, hi := b.lo + b.vars.length }

theorem Block.toStep_def (b : Block) : b.toStep.toDef = b.d := by
  unfold Block.toStep; split
  · rfl
  · split <;> rfl

theorem Block.toStep_lo (b : Block) : b.toStep.lo = b.lo := by
  unfold Block.toStep; split
  · rfl
  · split <;> rfl

theorem mem_insRank (d e : Def) (l : List Def) : e ∈ insRank d l ↔ e = d ∨ e ∈ l := by
  induction l with
  | nil => simp [insRank]
  | cons a t ih =>
    simp only [insRank]
    split
    · simp
    · simp only [List.mem_cons, ih]; constructor <;> intro h <;> rcases h with h | h | h <;> simp [h]

theorem mem_sortRank (e : Def) (l : List Def) : e ∈ sortRank l ↔ e ∈ l := by
  induction l with
  | nil => simp [sortRank]
  | cons a t ih =>
    simp only [sortRank, List.foldr_cons] at ih ⊢
    rw [mem_insRank, ih]; simp

/-- the block delivered for one definition when `n` variables exist, under the running bounds `B` -/
def blockOf (cfg : Cfg) (d : Def) (B : Bnds) (n : Nat) : Block :=
  if isConst d then { d := d, vars := [], cons := [], lo := n, native := false }
  else if cfg.acc = .native && !isAffine d then { d := d, vars := [], cons := [.func d.res d.ctx d.f], lo := n, native := true }
  else
    let g := gadgetOf d B cfg.opts n
    let low : Out := if cfg.acc = .linear then lowerCons (extB B n g.vars) cfg.opts g.cons else { cons := g.cons }
    { d := d, vars := g.vars, cons := low.cons, raw := g.cons, lo := n, native := false,
      refusal := (match g.refusal with | some r => some r | none => low.refusal),
      unmodelled := g.unmodelled || low.unmodelled }

theorem convDefs_cons (cfg : Cfg) (d : Def) (t : List Def) (B : Bnds) (n : Nat) :
    convDefs cfg (d :: t) B n =
      blockOf cfg d B n :: convDefs cfg t (extB B n (blockOf cfg d B n).vars) (n + (blockOf cfg d B n).vars.length) := by
  unfold blockOf; simp only [convDefs]; split
  · rfl
  · split <;> rfl

theorem blockOf_toStep (cfg : Cfg) (d : Def) (B : Bnds) (n : Nat) :
    (blockOf cfg d B n).d = d ∧ (blockOf cfg d B n).lo = n ∧
    (((blockOf cfg d B n).vars = [] ∧ (blockOf cfg d B n).toStep = Step.native d n) ∨
     ((cfg.acc = .native → isAffine d = true) ∧
      ∃ low : Out, low = (if cfg.acc = .linear then
          lowerCons (extB B n (gadgetOf d B cfg.opts n).vars) cfg.opts (gadgetOf d B cfg.opts n).cons
        else { cons := (gadgetOf d B cfg.opts n).cons }) ∧
      (blockOf cfg d B n).vars = (gadgetOf d B cfg.opts n).vars ∧ (blockOf cfg d B n).raw = (gadgetOf d B cfg.opts n).cons ∧
      ((blockOf cfg d B n).refusal = none → low.refusal = none) ∧
      (blockOf cfg d B n).toStep = Step.ofGadget d { vars := (gadgetOf d B cfg.opts n).vars, cons := low.cons } n)) := by
  unfold blockOf; split
  · rename_i h; exact ⟨rfl, rfl, Or.inl ⟨rfl, by simp [Block.toStep, h]⟩⟩
  · rename_i h1; split
    · exact ⟨rfl, rfl, Or.inl ⟨rfl, by simp [Block.toStep]⟩⟩
    · rename_i h2
      refine ⟨rfl, rfl, Or.inr ⟨fun hacc => by simpa [hacc] using h2, _, rfl, rfl, rfl, fun hr => ?_, ?_⟩⟩
      · cases hg : (gadgetOf d B cfg.opts n).refusal with
        | some r => simp [hg] at hr
        | none => simpa [hg] using hr
      · simp [Block.toStep, h1, Step.ofGadget]

/-- every delivered block is the block of one of the definitions, made when at least the initial number of variables existed, under
bounds that agree with the initial ones on the initial variables -/
theorem convDefs_mem (cfg : Cfg) (l : List Def) (B : Bnds) (n : Nat) :
    ∀ b ∈ convDefs cfg l B n, ∃ d ∈ l, ∃ B' n', n ≤ n' ∧ (∀ v, v < n → B' v = B v) ∧ b = blockOf cfg d B' n' := by
  induction l generalizing B n with
  | nil => simp [convDefs]
  | cons d t ih =>
    intro b hb
    rw [convDefs_cons, List.mem_cons] at hb
    rcases hb with hb | hb
    · exact ⟨d, List.mem_cons_self, B, n, Nat.le_refl n, fun _ _ => rfl, hb⟩
    · obtain ⟨d', hd', B', n', hn, hB, he⟩ := ih _ _ b hb
      exact ⟨d', List.mem_cons_of_mem _ hd', B', n', Nat.le_trans (Nat.le_add_right _ _) hn,
        fun v hv => by rw [hB v (Nat.lt_of_lt_of_le hv (Nat.le_add_right _ _)), extB_below _ _ _ _ hv], he⟩

theorem convDefs_defs (cfg : Cfg) (l : List Def) (B : Bnds) (n : Nat) : (convDefs cfg l B n).map (·.d) = l := by
  induction l generalizing B n with
  | nil => rfl
  | cons d t ih => rw [convDefs_cons, List.map_cons, ih, (blockOf_toStep cfg d B n).1]

theorem convDefs_lo_ge (cfg : Cfg) (l : List Def) (B : Bnds) (n : Nat) : ∀ b ∈ convDefs cfg l B n, n ≤ b.lo := by
  intro b hb
  obtain ⟨d, _, B', n', hn, _, rfl⟩ := convDefs_mem cfg l B n b hb
  rw [(blockOf_toStep cfg d B' n').2.1]; exact hn

theorem convDefs_chain (cfg : Cfg) (l : List Def) (B : Bnds) (n : Nat) : Chain n ((convDefs cfg l B n).map Block.toStep) := by
  induction l generalizing B n with
  | nil => trivial
  | cons d t ih =>
    have hr : (blockOf cfg d B n).toStep.lo = n ∧ (blockOf cfg d B n).toStep.hi = n + (blockOf cfg d B n).vars.length := by
      obtain ⟨_, _, ⟨hv, hs⟩ | ⟨_, low, _, hv, _, _, hs⟩⟩ := blockOf_toStep cfg d B n <;> rw [hs, hv] <;> exact ⟨rfl, rfl⟩
    rw [convDefs_cons]
    simp only [List.map_cons, Chain, hr.1, hr.2]
    exact ⟨Nat.le_refl _, Nat.le_add_right _ _, ih _ _⟩

/-- `Not` with a fixed argument: the constant variable carries `1 - c`, the row equates the result with it -/
theorem gNotFixed_exact (res arg : Var) (B : Bnds) (n : Nat) (hr : res < n) (hf : (B arg).isFixed = true) :
    Exact (gNotFixed res arg B n) n (fun x => inDom B x arg) (fun x => x res = Fun.val x (.not arg)) := by
  constructor
  · intro y hd haux hc
    have hya := fixed_val hf hd
    simp only [gNotFixed, auxOk, point_admits, and_true] at haux
    have hc' := hc (.linRhs .eq [(-1, res), (1, n)] 0) (by simp [gNotFixed])
    simp [Con.sat, Cmp.holds, evalLin] at hc'
    simp only [Fun.val]
    grind
  · intro x hd h
    have hya := fixed_val hf hd
    refine ⟨ext x n [1 - x arg], agree_ext _ _ _, ?_, ?_⟩
    · simp [gNotFixed, auxOk, point_admits, ext_self, hya]
    · intro c hc
      simp only [gNotFixed, List.mem_singleton] at hc
      subst hc
      simp [Con.sat, Cmp.holds, evalLin, ext_self, ext_lt hr, Fun.val] at h ⊢
      grind

/-- raw gadget step: the rows the gadget emits (before lowering) over the gadget's auxiliary variables.  The bounds `B` may be
narrowed ones: what is needed of them is that results of logical types and logical arguments take 0/1 values only. -/
theorem raw_stepOK (N n : Nat) (B Br : Bnds) (o : Opts) (d : Def) (hn : N ≤ n)
    (hBr : ∀ v, v < N → Br v = B v) (hfr : d.f.inFrag = true)
    (h01r : isLogicalFun d.f = true → ∀ y, DomB N B y → (y d.res = 0 ∨ y d.res = 1))
    (h01a : ∀ a ∈ logicalArgs d.f, ∀ y, DomB N B y → (y a = 0 ∨ y a = 1))
    (hcnt : ∀ a ∈ logicalArgs d.f, (B a).isBinary = true)
    (hl : linDefOK B d = true)
    (hres : d.res < N) (hvars : ∀ v ∈ d.f.vars, v < N)
    (hrows : ∀ c ∈ (gadgetOf d Br o n).cons, ∀ v ∈ c.vars, v < n + (gadgetOf d Br o n).vars.length) :
    StepOK N (DomB N B) (Step.ofGadget d (gadgetOf d Br o n) n) := by
  obtain ⟨res, ctx, f⟩ := d
  dsimp only at hres hvars hfr h01r h01a hcnt
  have hresn : res < n := Nat.lt_of_lt_of_le hres hn
  have hvn : ∀ v ∈ f.vars, v < n := fun v hv => Nat.lt_of_lt_of_le (hvars v hv) hn
  have hdom : ∀ y, DomB N B y → ∀ v, v < N → inDom Br y v := fun y hy v hv =>
    (inDom_congr (hBr v hv) rfl).mpr (hy v hv)
  cases f with
  | affine body c =>
    apply stepOK_of_exact_eq (fun _ => True) hn (fun _ _ => trivial) _ hrows
    exact C01_gadget_lfc res body c n
  | abs a =>
    apply stepOK_of_exact (fun _ => True) hn (fun _ _ => trivial) _ hrows
    exact C01_gadget_abs res a ctx Br n hresn (hvn a (by simp [Fun.vars]))
  | max as =>
    cases as with
    | nil => simp [linDefOK] at hl
    | cons a t =>
      apply stepOK_of_exact (fun _ => True) hn (fun _ _ => trivial) _ hrows
      exact C01_gadget_max res a t ctx Br n hresn (fun b hb' => hvn b (by simpa [Fun.vars] using hb'))
  | min as =>
    cases as with
    | nil => simp [linDefOK] at hl
    | cons a t =>
      apply stepOK_of_exact (fun _ => True) hn (fun _ _ => trivial) _ hrows
      exact C01_gadget_min res a t ctx Br n hresn (fun b hb' => hvn b (by simpa [Fun.vars] using hb'))
  | and as =>
    apply stepOK_of_exact (binDom Br res as) hn _ (C01_gadget_and res as ctx Br n) hrows
    intro y hy
    exact ⟨h01r rfl y hy, fun a ha => h01a a (by simpa [logicalArgs] using ha) y hy, hdom y hy res hres⟩
  | or as =>
    apply stepOK_of_exact (binDom Br res as) hn _ (C01_gadget_or res as ctx Br n) hrows
    intro y hy
    exact ⟨h01r rfl y hy, fun a ha => h01a a (by simpa [logicalArgs] using ha) y hy, hdom y hy res hres⟩
  | not a =>
    have ha : a < N := hvars a (by simp [Fun.vars])
    by_cases hfx : (Br a).isFixed = true
    · have hg : gadgetOf ⟨res, ctx, .not a⟩ Br o n = gNotFixed res a Br n := by simp [gadgetOf, hfx]
      rw [hg] at hrows ⊢
      apply stepOK_of_exact_eq (fun x => inDom Br x a) hn (fun y hy => hdom y hy a ha) _ hrows
      exact gNotFixed_exact res a Br n hresn hfx
    · have hg : gadgetOf ⟨res, ctx, .not a⟩ Br o n = gNot res a Br n := by simp [gadgetOf, hfx]
      rw [hg] at hrows ⊢
      apply stepOK_of_exact_eq (fun x => inDom Br x a) hn (fun y hy => hdom y hy a ha) _ hrows
      exact C01_gadget_not res a Br n hresn (Nat.lt_of_lt_of_le ha hn)
  | ifthen c t e =>
    have hc : c < N := hvars c (by simp [Fun.vars])
    have htt : t < N := hvars t (by simp [Fun.vars])
    have he : e < N := hvars e (by simp [Fun.vars])
    apply stepOK_of_exact_eq _ hn _
      (C01_gadget_ifthen res c t e Br n hresn (Nat.lt_of_lt_of_le hc hn) (Nat.lt_of_lt_of_le htt hn) (Nat.lt_of_lt_of_le he hn)) hrows
    intro y hy
    exact ⟨h01a c (by simp [logicalArgs]) y hy, hdom y hy c hc, hdom y hy t htt, hdom y hy e he⟩
  | count as =>
    apply stepOK_of_exact_eq _ hn _
      (C01_gadget_count_binary_partial res as Br n (fun a ha => by
        rw [hBr a (hvars a (by simpa [Fun.vars] using ha))]; exact hcnt a (by simpa [logicalArgs] using ha))) hrows
    intro y hy a ha
    exact h01a a (by simpa [logicalArgs] using ha) y hy
  | condLin k body rhs =>
    simp only [linDefOK, Bool.and_eq_true, Bool.not_eq_true'] at hl
    obtain ⟨⟨hne, hty⟩, hrhs⟩ := hl
    have hbodyN : ∀ p ∈ body, p.2 < N := fun p hp => hvars p.2 (by simp only [Fun.vars, List.mem_map]; exact ⟨p, hp, rfl⟩)
    have htyr : (linBnd Br body).2.2 = true := by
      rw [linBnd_congr B Br body (fun p hp => hBr p.2 (hbodyN p hp))]; exact hty
    have hDD : ∀ y, DomB N B y → condDom Br res y ∧ ∀ p ∈ body, inDom Br y p.2 := by
      intro y hy
      exact ⟨⟨h01r rfl y hy, hdom y hy res hres⟩, fun p hp => hdom y hy p.2 (hbodyN p hp)⟩
    by_cases hk : k = .eq
    · subst hk
      have hem := C01_gadget_condeq_emits res body rhs ctx Br o n hne hresn (fun p hp => Nat.lt_of_lt_of_le (hbodyN p hp) hn)
      have hex : Exact (gCondEq res body rhs ctx Br o n) n (fun y => condDom Br res y ∧ ∀ p ∈ body, inDom Br y p.2)
          (fun x => rel ctx (x res) (Fun.val x (.condLin .eq body rhs))) := by
        apply Exact.congr hem (fun x hx => hx.1)
        intro x hx
        have hiv := linBnd_int Br x body hx.2 htyr
        have := C01_gadget_condeq_exact_int ctx o (evalLin x body) rhs (x res) hiv hx.1.1
        simp only [htyr]
        exact this
      exact stepOK_of_exact _ hn hDD hex hrows
    · have hem := C01_gadget_condineq_emits k hk res body rhs ctx Br o n hne
      have hg : gadgetOf ⟨res, ctx, .condLin k body rhs⟩ Br o n = gCondIneq k res body rhs ctx Br o n := by
        cases k <;> first | rfl | exact absurd rfl hk
      rw [hg] at hrows ⊢
      have hex : Exact (gCondIneq k res body rhs ctx Br o n) n (fun y => condDom Br res y ∧ ∀ p ∈ body, inDom Br y p.2)
          (fun x => rel ctx (x res) (Fun.val x (.condLin k body rhs))) := by
        apply Exact.congr hem (fun x hx => hx.1)
        intro x hx
        have hiv := linBnd_int Br x body hx.2 htyr
        have := C01_gadget_condineq_exact_int k hk ctx (evalLin x body) rhs (x res) hiv (isIntQ_sound rhs hrhs) hx.1.1
        simp only [htyr, cmpEpsOf, if_true]
        exact this
      exact stepOK_of_exact _ hn hDD hex hrows
  | _ => simp [Fun.inFrag] at hfr

theorem blockOf_native_stepOK (cfg : Cfg) (hacc : cfg.acc = .native) (N n : Nat) (Dom : Asg → Prop) (d : Def) (B : Bnds)
    (hn : N ≤ n) (hres : d.res < N) (hvN : ∀ v ∈ d.f.vars, v < N) : StepOK N Dom (blockOf cfg d B n).toStep := by
  obtain ⟨_, _, ⟨_, hs⟩ | ⟨haff, low, hlow, _, _, _, hs⟩⟩ := blockOf_toStep cfg d B n <;> rw [hs]
  · exact stepOK_native hn (Nat.lt_of_lt_of_le hres hn) (fun v hv => Nat.lt_of_lt_of_le (hvN v hv) hn)
  · obtain ⟨body, c, hf⟩ : ∃ body c, d.f = .affine body c := by
      have := haff hacc; unfold isAffine at this; split at this
      · exact ⟨_, _, ‹_›⟩
      · simp at this
    have hg : gadgetOf d B cfg.opts n = gLFC d.res body c := by simp [gadgetOf, hf]
    rw [hlow, hg, if_neg (by simp [hacc])]
    apply stepOK_of_exact_eq (fun _ => True) hn (fun _ _ => trivial)
    · rw [hf]; exact C01_gadget_lfc d.res body c n
    · intro k hk v hv
      simp only [gLFC, List.mem_singleton] at hk
      subst hk
      refine Nat.lt_of_lt_of_le ?_ (Nat.le_trans hn (Nat.le_add_right _ _))
      rcases mem_vars_linRhs_snoc.mp hv with hv | hv
      · rw [hv]; exact hres
      · exact hvN _ (by rw [hf]; exact hv)

/-- `raw_stepOK` for the rows the gadget emits, then `stepOK_lowered` for the delivered ones -/
theorem blockOf_linear_stepOK (cfg : Cfg) (hacc : cfg.acc = .linear) (N n : Nat) (d : Def) (B Bf : Bnds) (hn : N ≤ n)
    (hB : ∀ v, v < N → B v = Bf v) (hM : cfg.opts.bigM ≤ 0)
    (hres : d.res < N) (hvN : ∀ v ∈ d.f.vars, v < N) (hfr : d.f.inFrag = true)
    (h01r : isLogicalFun d.f = true → ∀ y, DomB N Bf y → (y d.res = 0 ∨ y d.res = 1))
    (h01a : ∀ a ∈ logicalArgs d.f, ∀ y, DomB N Bf y → (y a = 0 ∨ y a = 1))
    (hcnt : ∀ a ∈ logicalArgs d.f, (Bf a).isBinary = true) (hldef : linDefOK Bf d = true)
    (hrefn : (blockOf cfg d B n).refusal = none) (hlocal : (blockOf cfg d B n).localRows N = true) :
    StepOK N (DomB N Bf) (blockOf cfg d B n).toStep := by
  obtain ⟨_, hlo, ⟨_, hs⟩ | ⟨_, low, hlow, hvars, hraw, href, hs⟩⟩ := blockOf_toStep cfg d B n <;> rw [hs]
  · exact stepOK_native hn (Nat.lt_of_lt_of_le hres hn) (fun v hv => Nat.lt_of_lt_of_le (hvN v hv) hn)
  · simp only [Block.localRows, List.all_eq_true, Bool.or_eq_true, Bool.and_eq_true, decide_eq_true_eq, hraw, hvars, hlo] at hlocal
    rw [if_pos hacc] at hlow
    have hrawstep := raw_stepOK N n Bf B cfg.opts d hn hB hfr h01r h01a hcnt hldef hres hvN
      (fun c hc v hv => by
        rcases hlocal c hc v hv with h | ⟨_, h⟩
        · exact Nat.lt_of_lt_of_le h (Nat.le_trans hn (Nat.le_add_right _ _))
        · exact h)
    exact stepOK_lowered N n Bf (extB B n (gadgetOf d B cfg.opts n).vars) cfg.opts d
      (gadgetOf d B cfg.opts n) low hM hlow (href hrefn) hrawstep
      (fun v hv => by rw [extB_below _ _ _ _ (Nat.lt_of_lt_of_le hv hn)]; exact hB v hv)
      (fun y ha v h1 h2 => auxOk_extB B n _ y ha v h1 h2) hlocal

theorem foldl_extB_below (v : Nat) (bs : List Block) (B : Bnds) (h : ∀ b ∈ bs, v < b.lo) :
    (bs.foldl (fun B b => extB B b.lo b.vars) B) v = B v := by
  induction bs generalizing B with
  | nil => rfl
  | cons b t ih =>
    simp only [List.foldl_cons]
    rw [ih _ (fun b' hb' => h b' (by simp [hb']))]
    exact extB_below _ _ _ _ (h b (by simp))

end MpVerif.C01
