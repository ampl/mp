import MpVerif.C01.LemmasFlatModel
import MpVerif.C01.ModelConvert
/-!
# C01 — the reference converter: flattening keeps values.  In every well-formed extension of the state reached, the flat value of an
expression is its NL value; contexts change neither values nor creation order, so the flat model of `convert` has the NL semantics.
-/
namespace MpVerif.C01

theorem insTerm_eq_insertTerm (c : Rat) (v : Var) (l : Lin) : insTerm c v l = insertTerm c v l := by
  induction l with
  | nil => rfl
  | cons p t ih => simp only [insTerm, insertTerm, ih]

theorem insTerm_eval (x : Asg) (c : Rat) (v : Var) (l : Lin) : evalLin x (insTerm c v l) = c * x v + evalLin x l :=
  insTerm_eq_insertTerm c v l ▸ evalLin_insertTerm x c v l

theorem normLin_eval (x : Asg) (l : Lin) : evalLin x (normLin l) = evalLin x l := by
  unfold normLin
  rw [evalLin_filter_nonzero]
  induction l with
  | nil => rfl
  | cons p t ih =>
    obtain ⟨c, v⟩ := p
    simp only [List.foldr_cons, insTerm_eval, ih, evalLin]

theorem condBody_eval (x : Asg) (l : Lin) : evalLin x (condBody l) = evalLin x l := by
  unfold condBody; split
  · exact normLin_eval x l
  · rfl

theorem scaleLin_eval (x : Asg) (k : Rat) (l : Lin) : evalLin x (scaleLin k l) = k * evalLin x l := by
  induction l with
  | nil => simp [scaleLin, evalLin]
  | cons p t ih =>
    obtain ⟨c, v⟩ := p
    simp only [scaleLin, List.map_cons, evalLin] at ih ⊢
    rw [ih]; grind

theorem maxL_eq_maxQ (y : Asg) (a : Var) (t : List Var) : maxL y a t = maxQ ((a :: t).map y) := by
  induction t generalizing a with
  | nil => simp [maxL, maxQ]
  | cons b t ih => simp only [maxL, List.map_cons, maxQ, ih b]

theorem minL_eq_minQ (y : Asg) (a : Var) (t : List Var) : minL y a t = minQ ((a :: t).map y) := by
  induction t generalizing a with
  | nil => simp [minL, minQ]
  | cons b t ih => simp only [minL, List.map_cons, minQ, ih b]

theorem countP_eq_filter (y : Asg) (as : List Var) :
    countP (fun a => y a != 0) as = (((as.map y).filter (fun q => q != 0)).length : Nat) := by
  induction as with
  | nil => simp [countP]
  | cons a t ih =>
    simp only [countP, List.map_cons, List.filter]
    by_cases h : y a = 0
    · simp [h, ih]; grind
    · have : (y a != 0) = true := by simpa using h
      simp [this, ih]; grind

theorem mkDef_spec (f : Fun) (S : FS) :
    S.defs <+: (mkDef f S).2.defs ∧ ∃ d ∈ (mkDef f S).2.defs, d.res = (mkDef f S).1 ∧ d.f = f := by
  unfold mkDef
  cases h : S.defs.find? (fun d => decide (d.f = f)) with
  | some d =>
    simp only
    refine ⟨List.prefix_refl _, d, List.mem_of_find?_eq_some h, rfl, ?_⟩
    have := List.find?_some h
    simpa using this
  | none =>
    simp only
    exact ⟨List.prefix_append _ _, ⟨S.next, .none, f⟩, by simp, rfl, rfl⟩

theorem mkDef_back (n0 : Nat) (f : Fun) (S : FS) (D : List Def) (hpre : (mkDef f S).2.defs <+: D) :
    S.defs <+: D ∧ (WF n0 D → ∀ x, exactAsg x D (mkDef f S).1 = f.val (exactAsg x D)) := by
  obtain ⟨hp, d, hd, hr, hf⟩ := mkDef_spec f S
  exact ⟨hp.trans hpre, fun hwf x => by rw [← hr, exact_spec x n0 D hwf d (hpre.subset hd), hf]⟩

/-- value of an affine form `(terms, constant)` -/
def affVal (y : Asg) (p : Lin × Rat) : Rat := evalLin y p.1 + p.2

/-- `mkDef_back` for a result variable handed on as the affine form `1 * v + 0` -/
theorem mkDef_back_var (n0 : Nat) (f : Fun) (S : FS) (D : List Def) (hpre : (mkDef f S).2.defs <+: D) :
    S.defs <+: D ∧ (WF n0 D → ∀ x, affVal (exactAsg x D) ([(1, (mkDef f S).1)], 0) = f.val (exactAsg x D)) := by
  obtain ⟨h, v⟩ := mkDef_back n0 f S D hpre
  exact ⟨h, fun hwf x => by rw [← v hwf x]; simp only [affVal, evalLin]; grind⟩

theorem aff2var_cases (p : Lin × Rat) (S : FS) :
    (∃ v, p = ([(1, v)], 0) ∧ aff2var p S = (v, S)) ∨ aff2var p S = mkDef (.affine p.1 p.2) S := by
  obtain ⟨l, c0⟩ := p
  show (∃ v, (l, c0) = ([(1, v)], 0) ∧ aff2varL l c0 S = (v, S)) ∨ aff2varL l c0 S = mkDef (.affine l c0) S
  unfold aff2varL
  split
  · split
    · rename_i c v hc; exact Or.inl ⟨v, by rw [hc.1, hc.2], rfl⟩
    · exact Or.inr rfl
  · exact Or.inr rfl

theorem aff2var_back (n0 : Nat) (p : Lin × Rat) (S : FS) (D : List Def) (hpre : (aff2var p S).2.defs <+: D) :
    S.defs <+: D ∧ (WF n0 D → ∀ x, exactAsg x D (aff2var p S).1 = affVal (exactAsg x D) p) := by
  rcases aff2var_cases p S with ⟨v, rfl, h⟩ | h <;> rw [h] at hpre ⊢
  · exact ⟨hpre, fun _ x => by simp [affVal, evalLin]; grind⟩
  · exact mkDef_back n0 _ S D hpre

theorem cmp_shift (k : Cmp5) (a b ca cb la lb : Rat) (ha : la + ca = a) (hb : lb + cb = b) :
    k.holds (la + -lb) (cb - ca) ↔ k.holds a b := by
  cases k <;> simp only [Cmp5.holds] <;> grind

theorem flip_holds (k : Cmp5) (a b : Rat) : (flipCmp k).holds (-a) (-b) ↔ k.holds a b := by
  cases k <;> simp only [flipCmp, Cmp5.holds] <;> grind

theorem b2r_congr {p q : Prop} [Decidable p] [Decidable q] (h : p ↔ q) : b2r p = b2r q := by
  unfold b2r
  by_cases hp : p
  · simp [hp, h.mp hp]
  · have hq : ¬ q := fun hh => hp (h.mpr hh)
    simp [hp, hq]

theorem normCmp_val (y : Asg) (neg : Bool) (k : Cmp5) (body : Lin) (rhs : Rat) :
    Fun.val y (normCmp neg k body rhs) = b2r (k.holds (evalLin y body) rhs) := by
  cases neg with
  | false => rfl
  | true =>
    simp only [normCmp, if_true, Fun.val, evalLin_neg]
    exact b2r_congr (flip_holds k _ rhs)

/- Shape of the `_back` theorems: an extension `D` of the last state's definitions is handed backwards (`D` extends the state before
as well), so that a case peels its `let`-chain one call at a time and every intermediate state is found by unification. -/
mutual
theorem flatN_back (n0 : Nat) (e : NE) (S : FS) (D : List Def) (hpre : (flatN e S).2.defs <+: D) :
    S.defs <+: D ∧ (WF n0 D → e.vok n0 = true → ∀ x, affVal (exactAsg x D) (flatN e S).1 = e.eval x) := by
  cases e with
  | c q => exact ⟨hpre, fun _ _ x => by simp [flatN, affVal, NE.eval]; grind⟩
  | v i =>
    refine ⟨hpre, fun hwf hv x => ?_⟩
    have hi : i < n0 := by simpa [NE.vok] using hv
    simp [flatN, affVal, evalLin, NE.eval, exact_below x n0 D hwf i hi]; grind
  | add a b =>
    simp only [flatN] at hpre
    obtain ⟨h2, vb⟩ := flatN_back n0 b _ D hpre
    obtain ⟨h1, va⟩ := flatN_back n0 a S D h2
    refine ⟨h1, fun hwf hv x => ?_⟩
    simp only [NE.vok, Bool.and_eq_true] at hv
    have va := va hwf hv.1 x
    have vb := vb hwf hv.2 x
    simp only [flatN, affVal, evalLin_append, NE.eval] at va vb ⊢
    grind
  | mul k a =>
    simp only [flatN] at hpre
    obtain ⟨h1, va⟩ := flatN_back n0 a S D hpre
    refine ⟨h1, fun hwf hv x => ?_⟩
    have va := va hwf (by simpa [NE.vok] using hv) x
    simp only [flatN, affVal, scaleLin_eval, NE.eval] at va ⊢
    grind
  | abs a =>
    simp only [flatN] at hpre
    obtain ⟨h3, vm⟩ := mkDef_back_var n0 _ _ D hpre
    obtain ⟨h2, vv⟩ := aff2var_back n0 _ _ D h3
    obtain ⟨h1, va⟩ := flatN_back n0 a S D h2
    refine ⟨h1, fun hwf hv x => ?_⟩
    simp only [flatN, NE.eval, vm hwf x, Fun.val, vv hwf x, va hwf (by simpa [NE.vok] using hv) x]
  | max as =>
    simp only [flatN] at hpre
    obtain ⟨h3, vm⟩ := mkDef_back_var n0 _ _ D hpre
    obtain ⟨h1, va⟩ := flatNs_back n0 as S D h3
    refine ⟨h1, fun hwf hv x => ?_⟩
    simp only [flatN, NE.eval]
    rw [vm hwf x, ← va hwf (by simpa [NE.vok] using hv) x]
    cases hl : (flatNs as S).1 with
    | nil => simp [Fun.val, maxQ]
    | cons a t => simp only [Fun.val, maxL_eq_maxQ]
  | min as =>
    simp only [flatN] at hpre
    obtain ⟨h3, vm⟩ := mkDef_back_var n0 _ _ D hpre
    obtain ⟨h1, va⟩ := flatNs_back n0 as S D h3
    refine ⟨h1, fun hwf hv x => ?_⟩
    simp only [flatN, NE.eval]
    rw [vm hwf x, ← va hwf (by simpa [NE.vok] using hv) x]
    cases hl : (flatNs as S).1 with
    | nil => simp [Fun.val, minQ]
    | cons a t => simp only [Fun.val, minL_eq_minQ]
  | ite cnd t e =>
    simp only [flatN] at hpre
    obtain ⟨p5, vm⟩ := mkDef_back_var n0 _ _ D hpre
    obtain ⟨p4, vve⟩ := aff2var_back n0 _ _ D p5
    obtain ⟨p3, ve⟩ := flatN_back n0 e _ D p4
    obtain ⟨p2, vvt⟩ := aff2var_back n0 _ _ D p3
    obtain ⟨p1, vt⟩ := flatN_back n0 t _ D p2
    obtain ⟨p0, vc⟩ := flatL_back n0 cnd S D p1
    refine ⟨p0, fun hwf hv x => ?_⟩
    simp only [NE.vok, Bool.and_eq_true] at hv
    simp only [flatN, NE.eval, vm hwf x, Fun.val, vc hwf hv.1.1 x, vvt hwf x, vt hwf hv.1.2 x, vve hwf x, ve hwf hv.2 x]
  | count ls =>
    simp only [flatN] at hpre
    obtain ⟨h3, vm⟩ := mkDef_back_var n0 _ _ D hpre
    obtain ⟨h1, va⟩ := flatLs_back n0 ls S D h3
    refine ⟨h1, fun hwf hv x => ?_⟩
    simp only [flatN, NE.eval]
    rw [vm hwf x, ← va hwf (by simpa [NE.vok] using hv) x]
    simp only [Fun.val, countP_eq_filter]

theorem flatNs_back (n0 : Nat) (es : NEs) (S : FS) (D : List Def) (hpre : (flatNs es S).2.defs <+: D) :
    S.defs <+: D ∧ (WF n0 D → es.vok n0 = true → ∀ x, (flatNs es S).1.map (exactAsg x D) = es.evals x) := by
  cases es with
  | nil => exact ⟨hpre, fun _ _ x => by simp [flatNs, NEs.evals]⟩
  | cons a t =>
    simp only [flatNs] at hpre
    obtain ⟨h3, vt⟩ := flatNs_back n0 t _ D hpre
    obtain ⟨h2, vv⟩ := aff2var_back n0 _ _ D h3
    obtain ⟨h1, va⟩ := flatN_back n0 a S D h2
    refine ⟨h1, fun hwf hv x => ?_⟩
    simp only [NEs.vok, Bool.and_eq_true] at hv
    simp only [flatNs, List.map_cons, NEs.evals, vv hwf x, va hwf hv.1 x, vt hwf hv.2 x]

theorem flatL_back (n0 : Nat) (l : LE) (S : FS) (D : List Def) (hpre : (flatL l S).2.defs <+: D) :
    S.defs <+: D ∧ (WF n0 D → l.vok n0 = true → ∀ x, exactAsg x D (flatL l S).1 = l.eval x) := by
  cases l with
  | cmp k a b =>
    simp only [flatL] at hpre
    obtain ⟨h3, vm⟩ := mkDef_back n0 _ _ D hpre
    obtain ⟨h2, vb⟩ := flatN_back n0 b _ D h3
    obtain ⟨h1, va⟩ := flatN_back n0 a S D h2
    refine ⟨h1, fun hwf hv x => ?_⟩
    simp only [LE.vok, Bool.and_eq_true] at hv
    simp only [flatL, LE.eval]
    rw [vm hwf x, normCmp_val, condBody_eval, evalLin_append, evalLin_neg]
    exact b2r_congr (cmp_shift k _ _ _ _ _ _ (va hwf hv.1 x) (vb hwf hv.2 x))
  | and ls =>
    simp only [flatL] at hpre
    obtain ⟨h3, vm⟩ := mkDef_back n0 _ _ D hpre
    obtain ⟨h1, va⟩ := flatLs_back n0 ls S D h3
    refine ⟨h1, fun hwf hv x => ?_⟩
    simp only [flatL, LE.eval]
    rw [vm hwf x, ← va hwf (by simpa [LE.vok] using hv) x]
    simp [Fun.val, List.all_map]
  | or ls =>
    simp only [flatL] at hpre
    obtain ⟨h3, vm⟩ := mkDef_back n0 _ _ D hpre
    obtain ⟨h1, va⟩ := flatLs_back n0 ls S D h3
    refine ⟨h1, fun hwf hv x => ?_⟩
    simp only [flatL, LE.eval]
    rw [vm hwf x, ← va hwf (by simpa [LE.vok] using hv) x]
    simp [Fun.val, List.any_map]
  | not l =>
    simp only [flatL] at hpre
    obtain ⟨h3, vm⟩ := mkDef_back n0 _ _ D hpre
    obtain ⟨h1, va⟩ := flatL_back n0 l S D h3
    refine ⟨h1, fun hwf hv x => ?_⟩
    simp only [flatL, LE.eval]
    rw [vm hwf x]
    simp [Fun.val, va hwf (by simpa [LE.vok] using hv) x]
  | iff a b =>
    simp only [flatL] at hpre
    obtain ⟨h3, vm⟩ := mkDef_back n0 _ _ D hpre
    obtain ⟨h2, vb⟩ := flatL_back n0 b _ D h3
    obtain ⟨h1, va⟩ := flatL_back n0 a S D h2
    refine ⟨h1, fun hwf hv x => ?_⟩
    simp only [LE.vok, Bool.and_eq_true] at hv
    simp only [flatL, LE.eval]
    rw [vm hwf x, normCmp_val, condBody_eval, evalLin_append, evalLin_neg]
    refine b2r_congr ((cmp_shift .eq (a.eval x) (b.eval x) 0 0 _ _ ?_ ?_).trans (by simp [Cmp5.holds]))
    · rw [← va hwf hv.1 x]; simp only [evalLin_cons, evalLin_nil]; grind
    · rw [← vb hwf hv.2 x]; simp only [evalLin_cons, evalLin_nil]; grind

theorem flatLs_back (n0 : Nat) (ls : LEs) (S : FS) (D : List Def) (hpre : (flatLs ls S).2.defs <+: D) :
    S.defs <+: D ∧ (WF n0 D → ls.vok n0 = true → ∀ x, (flatLs ls S).1.map (exactAsg x D) = ls.evals x) := by
  cases ls with
  | nil => exact ⟨hpre, fun _ _ x => by simp [flatLs, LEs.evals]⟩
  | cons l t =>
    simp only [flatLs] at hpre
    obtain ⟨h3, vt⟩ := flatLs_back n0 t _ D hpre
    obtain ⟨h1, va⟩ := flatL_back n0 l S D h3
    refine ⟨h1, fun hwf hv x => ?_⟩
    simp only [LEs.vok, Bool.and_eq_true] at hv
    simp only [flatLs, List.map_cons, LEs.evals, va hwf hv.1 x, vt hwf hv.2 x]
end

theorem flatNs_spec (n0 : Nat) (es : NEs) (S : FS) :
    S.defs <+: (flatNs es S).2.defs ∧
    ∀ (D : List Def) (x : Asg), WF n0 D → (flatNs es S).2.defs <+: D → es.vok n0 = true →
      (flatNs es S).1.map (exactAsg x D) = es.evals x :=
  ⟨(flatNs_back n0 es S _ (List.prefix_refl _)).1, fun D x hwf hpre hv => (flatNs_back n0 es S D hpre).2 hwf hv x⟩

theorem flatLs_spec (n0 : Nat) (ls : LEs) (S : FS) :
    S.defs <+: (flatLs ls S).2.defs ∧
    ∀ (D : List Def) (x : Asg), WF n0 D → (flatLs ls S).2.defs <+: D → ls.vok n0 = true →
      (flatLs ls S).1.map (exactAsg x D) = ls.evals x :=
  ⟨(flatLs_back n0 ls S _ (List.prefix_refl _)).1, fun D x hwf hpre hv => (flatLs_back n0 ls S D hpre).2 hwf hv x⟩

theorem inRange_shift (lb ub : Option Rat) (v c : Rat) :
    inRange (lb.map (· - c)) (ub.map (· - c)) v ↔ inRange lb ub (v + c) := by
  unfold inRange
  cases lb <;> cases ub <;> simp <;> grind

theorem LE.eval_01 (x : Asg) : ∀ l : LE, l.eval x = 0 ∨ l.eval x = 1
  | .cmp k a b => by simp only [LE.eval, b2r]; split <;> simp
  | .and ls => by simp only [LE.eval, b2r]; split <;> simp
  | .or ls => by simp only [LE.eval, b2r]; split <;> simp
  | .not l => by
    have := LE.eval_01 x l
    simp only [LE.eval]
    rcases this with h | h <;> rw [h] <;> grind
  | .iff a b => by simp only [LE.eval, b2r]; split <;> simp

theorem lroot_sat {y : Asg} {v : Var} (h01 : y v = 0 ∨ y v = 1) : Root.sat y ⟨[(1, v)], some 1, none⟩ ↔ y v = 1 := by
  simp only [Root.sat, inRange, evalLin]
  constructor
  · intro h; have := h.1 1 rfl; rcases h01 with h0 | h0 <;> rw [h0] at this ⊢ <;> grind
  · intro h; rw [h]; exact ⟨fun l hl => by simp at hl; subst hl; grind, fun u hu => by simp at hu⟩

theorem flatCons_back (n0 : Nat) (cs : List (NE × Option Rat × Option Rat)) (S : FS) (D : List Def)
    (hpre : (flatCons cs S).2.defs <+: D) :
    S.defs <+: D ∧ (WF n0 D → (∀ c ∈ cs, c.1.vok n0 = true) → ∀ x,
      ((∀ r ∈ (flatCons cs S).1, r.sat (exactAsg x D)) ↔ (∀ c ∈ cs, inRange c.2.1 c.2.2 (c.1.eval x)))) := by
  induction cs generalizing S with
  | nil => exact ⟨hpre, fun _ _ x => by simp [flatCons]⟩
  | cons c t ih =>
    obtain ⟨e, lb, ub⟩ := c
    simp only [flatCons] at hpre
    obtain ⟨h2, vt⟩ := ih _ hpre
    obtain ⟨h1, ve⟩ := flatN_back n0 e S D h2
    refine ⟨h1, fun hwf hv x => ?_⟩
    have ve := ve hwf (hv (e, lb, ub) (by simp)) x
    simp only [affVal] at ve
    simp only [flatCons, List.forall_mem_cons, vt hwf (fun c hc => hv c (by simp [hc])) x]
    simp only [Root.sat, normLin_eval, inRange_shift, ve]

theorem flatLCons_back (n0 : Nat) (ls : List LE) (S : FS) (D : List Def) (hpre : (flatLCons ls S).2.defs <+: D) :
    S.defs <+: D ∧ (WF n0 D → (∀ l ∈ ls, l.vok n0 = true) → ∀ x,
      ((∀ r ∈ (flatLCons ls S).1, r.sat (exactAsg x D)) ↔ (∀ l ∈ ls, l.eval x = 1))) := by
  induction ls generalizing S with
  | nil => exact ⟨hpre, fun _ _ x => by simp [flatLCons]⟩
  | cons l t ih =>
    simp only [flatLCons] at hpre
    obtain ⟨h2, vt⟩ := ih _ hpre
    obtain ⟨h1, ve⟩ := flatL_back n0 l S D h2
    refine ⟨h1, fun hwf hv x => ?_⟩
    simp only [flatLCons, List.forall_mem_cons, vt hwf (fun c hc => hv c (by simp [hc])) x]
    have ve := ve hwf (hv l (by simp)) x
    rw [lroot_sat (ve ▸ LE.eval_01 x l), ve]

theorem flatObj_back (n0 : Nat) (ob : Option (Sense × NE)) (S : FS) (D : List Def) (hpre : (flatObj ob S).2.defs <+: D) :
    S.defs <+: D ∧ (WF n0 D → ∀ s e, ob = some (s, e) → e.vok n0 = true → ∀ x,
        ∃ o, (flatObj ob S).1 = some o ∧ o.sense = s ∧ o.quad = [] ∧ o.val (exactAsg x D) = e.eval x) := by
  cases ob with
  | none => exact ⟨hpre, fun _ s e h => by simp at h⟩
  | some p =>
    obtain ⟨s, e⟩ := p
    by_cases hc : (flatN e S).1.2 = 0
    · simp only [flatObj, hc, if_true] at hpre ⊢
      obtain ⟨h1, ve⟩ := flatN_back n0 e S D hpre
      refine ⟨h1, fun hwf s' e' he hv x => ?_⟩
      simp only [Option.some.injEq, Prod.mk.injEq] at he
      obtain ⟨rfl, rfl⟩ := he
      have ve := ve hwf hv x
      refine ⟨_, rfl, rfl, rfl, ?_⟩
      simp only [Obj.val, normLin_eval, evalQuad]
      simp only [affVal, hc] at ve
      grind
    · simp only [flatObj, hc, if_false] at hpre ⊢
      obtain ⟨h3, hcst⟩ := mkDef_back n0 _ _ D hpre
      obtain ⟨h1, ve⟩ := flatN_back n0 e S D h3
      refine ⟨h1, fun hwf s' e' he hv x => ?_⟩
      simp only [Option.some.injEq, Prod.mk.injEq] at he
      obtain ⟨rfl, rfl⟩ := he
      have ve := ve hwf hv x
      refine ⟨_, rfl, rfl, rfl, ?_⟩
      simp only [Obj.val, normLin_eval, evalQuad, evalLin_append, evalLin, hcst hwf x, Fun.val]
      simp only [affVal] at ve
      grind

def sameShape (l1 l2 : List Def) : Prop := l1.map (fun d => (d.res, d.f)) = l2.map (fun d => (d.res, d.f))

theorem sameShape_nil {l : List Def} (h : sameShape [] l) : l = [] := List.map_eq_nil_iff.mp h.symm

theorem sameShape_cons {d : Def} {t l : List Def} (h : sameShape (d :: t) l) :
    ∃ d2 t2, l = d2 :: t2 ∧ d.res = d2.res ∧ d.f = d2.f ∧ sameShape t t2 := by
  cases l with
  | nil => simp [sameShape] at h
  | cons d2 t2 =>
    simp only [sameShape, List.map_cons, List.cons.injEq, Prod.mk.injEq] at h
    exact ⟨d2, t2, rfl, h.1.1, h.1.2, h.2⟩

theorem exactAsg_shape (x : Asg) (l1 l2 : List Def) (h : sameShape l1 l2) : exactAsg x l1 = exactAsg x l2 := by
  induction l1 generalizing x l2 with
  | nil => rw [sameShape_nil h]
  | cons d t ih =>
    obtain ⟨d2, t2, rfl, hr, hf, ht⟩ := sameShape_cons h
    simp only [exactAsg, hr, hf]
    exact ih _ t2 ht

theorem assignCtx_shape (B : Bnds) (l : List Def) (need : Var → Ctx) : sameShape (assignCtx B l need) l := by
  induction l generalizing need with
  | nil => rfl
  | cons d t ih =>
    simp only [assignCtx, sameShape, List.map_cons, List.cons.injEq, true_and]
    exact ih _

theorem sameShape_reverse {l1 l2 : List Def} (h : sameShape l1 l2) : sameShape l1.reverse l2.reverse := by
  unfold sameShape at *
  rw [List.map_reverse, List.map_reverse, h]

theorem WF_shape {m : Nat} {l1 l2 : List Def} (h : sameShape l1 l2) (hw : WF m l1) : WF m l2 := by
  induction l1 generalizing m l2 with
  | nil => rw [sameShape_nil h]; trivial
  | cons d t ih =>
    obtain ⟨d2, t2, rfl, hr, hf, ht⟩ := sameShape_cons h
    exact ⟨hr ▸ hw.1, hr ▸ hf ▸ hw.2.1, hr ▸ ih ht hw.2.2⟩

theorem ctxDefs_shape (B : Bnds) (defs : List Def) (roots : List Root) (obj : Option Obj) :
    sameShape (ctxDefs B defs roots obj) defs := by
  unfold ctxDefs
  have := sameShape_reverse (assignCtx_shape B defs.reverse (addUses (fun _ => .none) (rootUses roots obj)))
  simpa using this

theorem sameShape_symm {l1 l2 : List Def} (h : sameShape l1 l2) : sameShape l2 l1 := h.symm

theorem flatAll_spec (m : NLModel) (x : Asg) (hv : m.vok = true) (hwf : WF m.n0 (flatAll m).S.defs) :
    ((∀ r ∈ (flatAll m).croots ++ (flatAll m).lroots, r.sat (exactAsg x (flatAll m).S.defs)) ↔
      ((∀ c ∈ m.cons, inRange c.2.1 c.2.2 (c.1.eval x)) ∧ (∀ l ∈ m.lcons, l.eval x = 1))) ∧
    ∀ s e, m.obj = some (s, e) →
      ∃ o, (flatAll m).obj = some o ∧ o.sense = s ∧ o.quad = [] ∧ o.val (exactAsg x (flatAll m).S.defs) = e.eval x := by
  simp only [NLModel.vok, Bool.and_eq_true, List.all_eq_true] at hv
  obtain ⟨⟨hvc, hvl⟩, hvo⟩ := hv
  have hpre : (flatLCons m.lcons (flatCons m.cons (flatObj m.obj { next := m.n0, defs := [], B := m.B0 }).2).2).2.defs <+:
      (flatAll m).S.defs := List.prefix_refl _
  obtain ⟨p2, vl⟩ := flatLCons_back m.n0 _ _ _ hpre
  obtain ⟨p1, vc⟩ := flatCons_back m.n0 _ _ _ p2
  refine ⟨?_, fun s e hobj => (flatObj_back m.n0 _ _ _ p1).2 hwf s e hobj (by rw [hobj] at hvo; exact hvo) x⟩
  simp only [List.forall_mem_append]
  exact and_congr (vc hwf hvc x) (vl hwf hvl x)

theorem convert_spec (m : NLModel) (cfg : Cfg) (x : Asg) (hv : m.vok = true) (hwf : WF m.n0 (convert m cfg).defs) :
    (NLsat (convert m cfg).defs (convert m cfg).roots x ↔
      ((∀ c ∈ m.cons, inRange c.2.1 c.2.2 (c.1.eval x)) ∧ (∀ l ∈ m.lcons, l.eval x = 1))) ∧
    ∀ s e, m.obj = some (s, e) →
      ∃ o, (convert m cfg).obj = some o ∧ o.sense = s ∧ o.quad = [] ∧ o.val (exactAsg x (convert m cfg).defs) = e.eval x := by
  have hsh := ctxDefs_shape (flatAll m).S.B (flatAll m).S.defs ((flatAll m).croots ++ (flatAll m).lroots) (flatAll m).obj
  have hE : exactAsg x (convert m cfg).defs = exactAsg x (flatAll m).S.defs := exactAsg_shape x _ _ hsh
  unfold NLsat; rw [hE]
  exact flatAll_spec m x hv (WF_shape hsh hwf)

end MpVerif.C01
