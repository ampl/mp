import MpVerif.C01.LemmasObjective
import MpVerif.C01.PropsCompose
/-!
# C01 — the objective clause of the composition theorem, equality-delivering steps, quadratic roots, and a depth-3
instance with a shared subexpression

`C01_compose` (PropsCompose.lean) is the feasibility half of the property: a point of the original variables satisfies the
NL-level semantics iff result/auxiliary values exist that satisfy the delivered rows — for definition lists of any length,
any nesting depth, shared result variables and any mix of stored contexts, by strong induction over the creation order.

This file adds the other half of the property statement: *"at every such point the best delivered-objective value over the
auxiliary variables equals the original objective value"* — `C01_compose_objective`, under one more decidable hypothesis
`ObjCovers` (the contexts stored on the definitions include what `ConvertObjective` propagates: pos for max, neg for min),
which the per-run validator decides with `objGaps` (`drv_c01 validate … objsense= objlin= objquad=`; sound by `C01_validator_objcovers_sound`).
-/
namespace MpVerif.C01

/-- **C01_compose_objective** — at an NL-feasible point `x` the original objective value `o.val (exactAsg x defs)` is
(1) attained by some delivered solution over `x` and (2) not beaten by any delivered solution over `x`:
the best delivered objective over the result and auxiliary variables *is* the original objective value.
Linear + quadratic objectives over original and result variables, both senses, any DAG of definitions. -/
theorem C01_compose_objective (B : Bnds) (n0 N : Nat) (defs : List Def) (steps : List Step) (roots : List Root)
    (Dom : Asg → Prop) (o : Obj)
    (hDom : ∀ z z' : Asg, (∀ v, v < N → z' v = z v) → Dom z → Dom z')
    (hperm : ∀ d, d ∈ defs ↔ ∃ s ∈ steps, s.toDef = d)
    (hwf : WF n0 defs) (hN : ∀ d ∈ defs, d.res < N)
    (hroots : ∀ r ∈ roots, ∀ p ∈ r.body, p.2 < N)
    (hcov : CtxCovers B defs roots)
    (hchain : Chain N steps) (hok : ∀ s ∈ steps, StepOK N Dom s)
    (hDomOK : ∀ y, Dom y → ∀ d ∈ defs, FunOK B d.f y)
    (hoN : ∀ v ∈ o.vars, v < N) (hcovO : ObjCovers B defs o)
    (hDomQ : ∀ y, Dom y → ∀ t ∈ o.quad, inDom B y t.2.1 ∧ inDom B y t.2.2)
    (x : Asg) (hDomE : Dom (exactAsg x defs)) (hnl : NLsat defs roots x) :
    (∃ y, Delivered N defs steps roots Dom x y ∧ o.val y = o.val (exactAsg x defs)) ∧
    (∀ y, Delivered N defs steps roots Dom x y → noWorse o.sense (o.val (exactAsg x defs)) (o.val y)) :=
  (Compose.mk hDom hperm hwf hN hroots hcov hchain hok hDomOK).objective o hoN hcovO hDomQ x hDomE hnl

/-- level-set form: over a point `x`, a delivered solution with objective value at least as good as `t` exists iff `x`
is NL-feasible and its original objective value is at least as good as `t` — so minimising/maximising the delivered
objective over all delivered solutions and the original objective over all NL-feasible points gives the same optimum. -/
theorem C01_compose_objective_level (B : Bnds) (n0 N : Nat) (defs : List Def) (steps : List Step) (roots : List Root)
    (Dom : Asg → Prop) (o : Obj)
    (hDom : ∀ z z' : Asg, (∀ v, v < N → z' v = z v) → Dom z → Dom z')
    (hperm : ∀ d, d ∈ defs ↔ ∃ s ∈ steps, s.toDef = d)
    (hwf : WF n0 defs) (hN : ∀ d ∈ defs, d.res < N)
    (hroots : ∀ r ∈ roots, ∀ p ∈ r.body, p.2 < N)
    (hfin : ∀ r ∈ roots, (∀ l, r.lb = some l → -pracInf < l) ∧ (∀ u, r.ub = some u → u < pracInf))
    (hcov : CtxCovers B defs roots)
    (hchain : Chain N steps) (hok : ∀ s ∈ steps, StepOK N Dom s)
    (hDomOK : ∀ y, Dom y → ∀ d ∈ defs, FunOK B d.f y)
    (hoN : ∀ v ∈ o.vars, v < N) (hcovO : ObjCovers B defs o)
    (hDomQ : ∀ y, Dom y → ∀ t ∈ o.quad, inDom B y t.2.1 ∧ inDom B y t.2.2)
    (x : Asg) (hDomE : Dom (exactAsg x defs)) (t : Rat) :
    (∃ y, Delivered N defs steps roots Dom x y ∧ noWorse o.sense (o.val y) t) ↔
    (NLsat defs roots x ∧ noWorse o.sense (o.val (exactAsg x defs)) t) := by
  have hcomp := C01_compose B n0 N defs steps roots Dom hDom hperm hwf hN hroots hfin hcov hchain hok hDomOK x hDomE
  have hobj := C01_compose_objective B n0 N defs steps roots Dom o hDom hperm hwf hN hroots hcov hchain hok hDomOK
    hoN hcovO hDomQ x hDomE
  constructor
  · intro ⟨y, hdel, hyt⟩
    have hnl := hcomp.mpr ⟨y, hdel⟩
    have h2 := (hobj hnl).2 y hdel
    refine ⟨hnl, ?_⟩
    cases hs : o.sense <;> simp only [hs, noWorse] at h2 hyt ⊢ <;> grind
  · intro ⟨hnl, het⟩
    obtain ⟨y, hdel, hval⟩ := (hobj hnl).1
    exact ⟨y, hdel, by rw [hval]; exact het⟩

/-- **C01_compose_quadroots** — the composition theorem with quadratic root constraints `lb ≤ lin + quad ≤ ub` over original and
result variables in addition to the linear/logical roots: a point satisfies the NL-level semantics (all linear roots and all
quadratic roots with every result variable read exactly) iff result/auxiliary values exist that satisfy the delivered rows
and the quadratic roots.  One more decidable hypothesis `QRootsCover` (validator `qrootGaps`). -/
theorem C01_compose_quadroots (B : Bnds) (n0 N : Nat) (defs : List Def) (steps : List Step) (roots : List Root)
    (qroots : List QRoot) (Dom : Asg → Prop)
    (hDom : ∀ z z' : Asg, (∀ v, v < N → z' v = z v) → Dom z → Dom z')
    (hperm : ∀ d, d ∈ defs ↔ ∃ s ∈ steps, s.toDef = d)
    (hwf : WF n0 defs) (hN : ∀ d ∈ defs, d.res < N)
    (hroots : ∀ r ∈ roots, ∀ p ∈ r.body, p.2 < N)
    (hfin : ∀ r ∈ roots, (∀ l, r.lb = some l → -pracInf < l) ∧ (∀ u, r.ub = some u → u < pracInf))
    (hcov : CtxCovers B defs roots)
    (hchain : Chain N steps) (hok : ∀ s ∈ steps, StepOK N Dom s)
    (hDomOK : ∀ y, Dom y → ∀ d ∈ defs, FunOK B d.f y)
    (hqN : ∀ r ∈ qroots, ∀ v ∈ r.vars, v < N)
    (hqfin : ∀ r ∈ qroots, (∀ l, r.lb = some l → -pracInf < l) ∧ (∀ u, r.ub = some u → u < pracInf))
    (hqcov : QRootsCover B defs qroots)
    (hDomQ : ∀ y, Dom y → ∀ r ∈ qroots, ∀ t ∈ r.quad, inDom B y t.2.1 ∧ inDom B y t.2.2)
    (x : Asg) (hDomE : Dom (exactAsg x defs)) :
    (NLsat defs roots x ∧ ∀ r ∈ qroots, r.sat (exactAsg x defs)) ↔
      ∃ y, Delivered N defs steps roots Dom x y ∧ ∀ r ∈ qroots, r.sat y := by
  have H : Compose B n0 N defs steps roots Dom := ⟨hDom, hperm, hwf, hN, hroots, hcov, hchain, hok, hDomOK⟩
  constructor
  · intro ⟨hnl, hq⟩
    obtain ⟨y, hdel, hag⟩ := H.deliver x hDomE hnl
    exact ⟨y, hdel, fun r hr => (qroot_sat_agree N r (exactAsg x defs) y hag (hqN r hr)).mpr (hq r hr)⟩
  · intro ⟨y, hdel, hq⟩
    refine ⟨H.sound hfin hdel (hDomOK _ hDomE), fun r hr => ?_⟩
    exact qroot_transfer B N defs r y (exactAsg x defs) (hqN r hr) (hqcov r hr) (hqfin r hr)
      (hDomQ y hdel.2.1 r hr) (hDomQ _ hDomE r hr) (H.invariant hdel (hDomOK _ hDomE)) (hq r hr)

theorem C01_validator_qrootscover_sound (B : Bnds) (defs : List Def) (qroots : List QRoot)
    (h : qrootGaps B defs qroots = []) : QRootsCover B defs qroots := qrootGaps_sound B defs qroots h

/-- a gadget proved to deliver the equality `res = f(args)` (LFC→LinConEQ, not, if-then-else, division by a constant)
is a valid conversion step under any stored context -/
theorem C01_compose_step_of_eq_gadget (N : Nat) (Dom D : Asg → Prop) (d : Def) (o : Out) (n : Nat)
    (hN : N ≤ n) (hDD : ∀ y, Dom y → D y)
    (hex : Exact o n D (fun x => x d.res = d.f.val x))
    (hrows : ∀ c ∈ o.cons, ∀ v ∈ c.vars, v < n + o.vars.length) :
    StepOK N Dom (Step.ofGadget d o n) := stepOK_of_exact_eq D hN hDD hex hrows

/-- the per-run validator for the objective (`objGaps`, executed by `drv_c01`) is sound -/
theorem C01_validator_objcovers_sound (B : Bnds) (defs : List Def) (o : Obj) (h : objGaps B defs o = []) :
    ObjCovers B defs o := objGaps_sound B defs o h


/-! ## non-vacuity: a 3-level model with a shared subexpression and mixed contexts

NL: `minimize x0 + (abs(x2) + max(abs(x2), x1))` subject to `x0 + (abs(x2) + max(abs(x2), x1)) ≤ u`.
Flat model (original variables 0,1,2):  `r3 = abs(x2)` (used twice: by `max` → mix, by the sum → neg; stored mix),
`r4 = max(r3, x1)` (neg), `r5 = r3 + r4` (LinearFunctionalConstraint, neg); root `x0 + r5 ≤ u`; objective `min x0 + r5`.
Every hypothesis of `C01_compose` and `C01_compose_objective` is discharged from the proved gadget theorems
(`C01_gadget_lfc` through `C01_compose_step_of_eq_gadget`, `C01_gadget_max`, `C01_gadget_abs`) and the executable validators. -/

def ex3Defs : List Def := [⟨3, .mix, .abs 2⟩, ⟨4, .neg, .max [3, 1]⟩, ⟨5, .neg, .affine [(1, 3), (1, 4)] 0⟩]
def ex3Roots (u : Rat) : List Root := [⟨[(1, 0), (1, 5)], none, some u⟩]
def ex3Obj : Obj := { sense := .min, lin := [(1, 0), (1, 5)] }
def ex3Steps (B : Bnds) : List Step :=
  [Step.ofGadget ⟨5, .neg, .affine [(1, 3), (1, 4)] 0⟩ (gLFC 5 [(1, 3), (1, 4)] 0) 6,
   Step.ofGadget ⟨4, .neg, .max [3, 1]⟩ (gMax 4 [3, 1] .neg B 6) 6,
   Step.ofGadget ⟨3, .mix, .abs 2⟩ (gAbs 3 2 .mix B 6) 6]

theorem ex3_perm (B : Bnds) : ∀ d, d ∈ ex3Defs ↔ ∃ s ∈ ex3Steps B, s.toDef = d := by
  -- the steps are the definitions in reverse order
  intro d; rw [← List.mem_map, ← List.mem_reverse]; rfl

theorem ex3_cov (B : Bnds) (u : Rat) : CtxCovers B ex3Defs (ex3Roots u) := by
  apply C01_validator_ctxcovers_sound
  simp [ctxGaps, ctxUses, ex3Defs, ex3Roots, propRangeLin, rangeCtx, propLin_one_cons, propLin, propFun, propDefault, propLFC,
    Fun.vars, ctxOf, Ctx.eff, Ctx.plus]
  decide

theorem ex3_objcov (B : Bnds) : ObjCovers B ex3Defs ex3Obj := by
  apply C01_validator_objcovers_sound
  simp [objGaps, propObj, ex3Obj, objCtx, propLin_one_cons, propLin, propQuad, ex3Defs, ctxOf, Ctx.eff, Ctx.plus]
  decide

theorem ex3_chain (B : Bnds) : Chain 6 (ex3Steps B) := by
  simp [ex3Steps, Chain, Step.ofGadget, exMax_eq, mmConvex, gLFC, gAbs, dispatch, needNeg, needPos, Ctx.eff, Ctx.hasNeg,
    Ctx.hasPos, absNeg, absPos]

theorem ex3_ok (B : Bnds) : ∀ s ∈ ex3Steps B, StepOK 6 (fun _ => True) s := by
  intro s hs
  simp only [ex3Steps, List.mem_cons, List.not_mem_nil, or_false] at hs
  rcases hs with hs | hs | hs <;> subst hs
  · apply C01_compose_step_of_eq_gadget 6 (fun _ => True) (fun _ => True) _ _ 6 (Nat.le_refl 6) (fun _ _ => trivial)
    · exact C01_gadget_lfc 5 [(1, 3), (1, 4)] 0 6
    · intro c hc v hv
      simp [gLFC] at hc ⊢
      subst hc
      simp [Con.vars] at hv
      rcases hv with hv | hv | hv <;> subst hv <;> decide
  · exact exMax_ok B 6 6 (Nat.le_refl 6) (by decide)
  · exact exAbs_ok B 6 6 (Nat.le_refl 6) (by decide)

theorem ex3_hyps (B : Bnds) (u : Rat) : Compose B 3 6 ex3Defs (ex3Steps B) (ex3Roots u) (fun _ => True) where
  dom := fun _ _ _ _ => trivial
  perm := ex3_perm B
  wf := by simp [ex3Defs, WF, Fun.vars]
  resN := by intro d hd; simp [ex3Defs] at hd; rcases hd with hd | hd | hd <;> subst hd <;> simp
  rootsN := by
    intro r hr p hp
    simp [ex3Roots] at hr; subst hr
    simp at hp; rcases hp with hp | hp <;> subst hp <;> simp
  cov := ex3_cov B u
  chain := ex3_chain B
  ok := ex3_ok B
  funOK := by
    intro y _ d hd
    simp [ex3Defs] at hd; rcases hd with hd | hd | hd <;> subst hd <;> simp [FunOK]

theorem ex3_fin (u : Rat) (hu : u < pracInf) :
    ∀ r ∈ ex3Roots u, (∀ l, r.lb = some l → -pracInf < l) ∧ (∀ v, r.ub = some v → v < pracInf) := by
  intro r hr
  simp [ex3Roots] at hr; subst hr
  exact ⟨by intro l hl; simp at hl, by intro v hv; simp at hv; subst hv; exact hu⟩

/-- feasibility half for the 3-level shared model: every hypothesis of `C01_compose` holds -/
theorem C01_compose_example_depth3_shared (B : Bnds) (u : Rat) (hu : u < pracInf) (x : Asg) :
    NLsat ex3Defs (ex3Roots u) x ↔ ∃ y, Delivered 6 ex3Defs (ex3Steps B) (ex3Roots u) (fun _ => True) x y :=
  have H := ex3_hyps B u
  C01_compose B 3 6 _ _ _ _ H.dom H.perm H.wf H.resN H.rootsN (ex3_fin u hu) H.cov H.chain H.ok H.funOK x trivial

/-- objective half for the same model: the best delivered value of `min x0 + r5` over the auxiliaries equals
`x0 + (|x2| + max(|x2|, x1))` at every feasible point -/
theorem C01_compose_objective_example_depth3_shared (B : Bnds) (u : Rat) (x : Asg) (hnl : NLsat ex3Defs (ex3Roots u) x) :
    (∃ y, Delivered 6 ex3Defs (ex3Steps B) (ex3Roots u) (fun _ => True) x y ∧
        ex3Obj.val y = ex3Obj.val (exactAsg x ex3Defs)) ∧
    (∀ y, Delivered 6 ex3Defs (ex3Steps B) (ex3Roots u) (fun _ => True) x y →
        ex3Obj.val (exactAsg x ex3Defs) ≤ ex3Obj.val y) := by
  have H := ex3_hyps B u
  exact C01_compose_objective B 3 6 _ _ _ _ ex3Obj H.dom H.perm H.wf H.resN H.rootsN H.cov H.chain H.ok H.funOK
    (by intro v hv; simp [Obj.vars, ex3Obj] at hv; rcases hv with hv | hv <;> subst hv <;> decide)
    (ex3_objcov B) (by intro y _ t ht; simp [ex3Obj] at ht) x trivial hnl

def ex3Q : List QRoot := [⟨[], [(1, 1, 3)], none, some 10⟩]

/-- the same model with the quadratic root `x1 · r3 ≤ 10` added (free bounds): every hypothesis of
`C01_compose_quadroots` holds -/
theorem C01_compose_quadroots_example (u : Rat) (hu : u < pracInf) (x : Asg) :
    (NLsat ex3Defs (ex3Roots u) x ∧ ∀ r ∈ ex3Q, r.sat (exactAsg x ex3Defs)) ↔
      ∃ y, Delivered 6 ex3Defs (ex3Steps (fun _ => {})) (ex3Roots u) (fun _ => True) x y ∧ ∀ r ∈ ex3Q, r.sat y := by
  have h1 : ¬ ((1 : Rat) = 0) := by grind
  have H := ex3_hyps (fun _ => {}) u
  apply C01_compose_quadroots (fun _ => {}) 3 6 _ _ _ ex3Q _ H.dom H.perm H.wf H.resN H.rootsN (ex3_fin u hu) H.cov H.chain
    H.ok H.funOK
  · intro r hr v hv
    simp [ex3Q] at hr; subst hr
    simp [QRoot.vars] at hv; rcases hv with hv | hv <;> subst hv <;> decide
  · intro r hr
    simp [ex3Q] at hr; subst hr
    exact ⟨by intro l hl; simp at hl, by intro v hv; simp at hv; subst hv; unfold pracInf; grind⟩
  · apply C01_validator_qrootscover_sound
    simp [qrootGaps, propQRoot, ex3Q, propLin, propQuad, h1, quadTermCtx, lbGE0, ubLE0, ex3Defs, ctxOf, Ctx.eff]
    decide
  · intro y _ r hr t ht
    simp [ex3Q] at hr; subst hr
    simp at ht; subst ht
    exact ⟨admits_free _, admits_free _⟩
  · trivial

/-- the instance is not degenerate: at `x = (0, 1, -2)` the exact values are `r3 = 2, r4 = 2, r5 = 4`, the point is feasible
for `u = 4` and infeasible for `u = 3` -/
example : exactAsg (fun v => if v = 1 then 1 else if v = 2 then -2 else 0) ex3Defs 5 = 4 := by
  simp [ex3Defs, exactAsg, setVar, Fun.val, maxL, evalLin]; grind
example : NLsat ex3Defs (ex3Roots 4) (fun v => if v = 1 then 1 else if v = 2 then -2 else 0) := by
  intro r hr
  simp [ex3Roots] at hr; subst hr
  simp [Root.sat, inRange, ex3Defs, exactAsg, setVar, Fun.val, maxL, evalLin]; grind
example : ¬ NLsat ex3Defs (ex3Roots 3) (fun v => if v = 1 then 1 else if v = 2 then -2 else 0) := by
  intro h
  have := h _ (List.mem_singleton.mpr rfl)
  simp [Root.sat, inRange, ex3Defs, exactAsg, setVar, Fun.val, maxL, evalLin] at this; grind

end MpVerif.C01
