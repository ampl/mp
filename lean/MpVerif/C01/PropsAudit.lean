import MpVerif.C01.Props
/-!
# C01 — non-vacuity instances for theorems of `Props.lean` with hypotheses

For each theorem named in a docstring below (`C01_gadget_and`, `_or`, `_ifthen`, `_div_const`, `_indicator_le`,
`_indicator_le_bigM_partial`, `_condineq_*`, `_unary_encoding`; `C01_ctx_sound_and`, `_quadterms`, `_range`), one concrete
non-trivial instance that meets all hypotheses, obtained *through the theorem* (so an unsatisfiable hypothesis or domain
predicate would make the example unprovable); only for `_indicator_le_bigM_partial` the two hypotheses are shown satisfiable
directly.  For `Exact o n D P` theorems the instance is a point with `D x ∧ P x`, at which the completeness half gives `realizable`.
The composition theorems have their instances in `PropsCompose.lean` (depth 2) and `PropsObjective.lean`
(depth 3, shared subexpression, objective).

Totalised definitions:
* `Fun.val (.div a b) = x a / x b` is Lean's total division (`x/0 = 0`); the real `DivConstraint` demands `v2 ≠ 0`.
  `C01_gadget_div_const` is stated under exactly the guard the converter has (divisor fixed, `fixedVal ≠ 0`, and the
  domain predicate forces `x b` to that value); the composition theorems read a division by a *variable* that takes the
  value 0 as 0 — they speak about the real semantics only at points where no divisor vanishes (generated models divide by
  constants only).
* `Fun.val (.min []) = Fun.val (.max []) = 0`: `C01_gadget_max/min` are stated for non-empty argument lists (`a :: t`),
  as the NL reader guarantees (`ReadNumArgs(1)`).
* `VarInfo.fixedVal = lb.getD 0` is only used under `isFixed = true` (`hf` in `C01_gadget_div_const`, `fixed_val`).
-/
namespace MpVerif.C01

theorem admits_binary_one : VarInfo.binary.admits 1 := admits_binary_of (Or.inr rfl)

theorem admits_binary_zero : VarInfo.binary.admits 0 := admits_binary_of (Or.inl rfl)

/-- `C01_gadget_and`: the domain `binDom` is inhabited by a non-trivial point (res = and(1,1) = 1), and the emitted rows are
realizable there -/
example : (gAnd 0 [1, 2] .mix (fun _ => VarInfo.binary) 3).realizable 3 (fun _ => 1) := by
  apply (C01_gadget_and 0 [1, 2] .mix (fun _ => VarInfo.binary) 3).2
  · exact ⟨Or.inr rfl, fun _ _ => Or.inr rfl, admits_binary_one⟩
  · simp [rel, req, Ctx.eff, Fun.val, b2r]

/-- `C01_gadget_or` -/
example : (gOr 0 [1, 2] .mix (fun _ => VarInfo.binary) 3).realizable 3 (fun v => if v = 2 then 0 else 1) := by
  apply (C01_gadget_or 0 [1, 2] .mix (fun _ => VarInfo.binary) 3).2
  · refine ⟨Or.inr (by simp), fun a ha => ?_, by simpa [inDom] using admits_binary_one⟩
    simp at ha; rcases ha with ha | ha <;> subst ha <;> simp
  · simp [rel, req, Ctx.eff, Fun.val, b2r]

/-- `C01_gadget_ifthen`: condition true, branches 5 and -2, result 5 -/
example : (gIfThen 0 1 2 3 (fun _ => {}) 4).realizable 4 (fun v => if v = 3 then -2 else if v = 1 then 1 else 5) := by
  apply (C01_gadget_ifthen 0 1 2 3 (fun _ => {}) 4 (by decide) (by decide) (by decide) (by decide)).2
  · exact ⟨Or.inr (by simp), admits_free _, admits_free _, admits_free _⟩
  · simp [Fun.val]

/-- `C01_gadget_div_const`: divisor fixed at 4 (`isFixed`, `fixedVal ≠ 0` satisfiable), 6 / 4 = 3/2 -/
example : (gDivConst 0 1 2 (fun v => if v = 2 then { lb := some 4, ub := some 4 } else {})).realizable 3
    (fun v => if v = 2 then 4 else if v = 1 then 6 else 3 / 2) := by
  apply (C01_gadget_div_const 0 1 2 (fun v => if v = 2 then { lb := some 4, ub := some 4 } else {}) 3
    (by simp [VarInfo.isFixed]) (by simp [VarInfo.fixedVal])).2
  · show VarInfo.admits _ _
    simpa using admits_box 4 4 4 (by grind) (by grind)
  · simp [Fun.val]; grind

/-- `C01_gadget_indicator_le`: `b = 1 ⇒ x0 + 2·x2 ≤ 3` with `x0 ∈ [0,4]`, `x2 ∈ [-1,1]`: the big-M hypothesis
`bigMFromBounds (linBnd B body).2.1 U` holds with `U = 6` -/
def auditB : Bnds := fun v => if v = 0 then { lb := some 0, ub := some 4 } else if v = 2 then { lb := some (-1), ub := some 1 }
  else VarInfo.binary

theorem audit_bigM : bigMFromBounds (linBnd auditB [(1, 0), (2, 2)]).2.1 6 := by
  refine ⟨?_, by unfold pracInf; grind⟩
  simp [linBnd, auditB, optAdd, optScale]
  grind

example : (gIndLE 1 1 [(1, 0), (2, 2)] 3 auditB {}).realizable 3 (fun v => if v = 1 then 1 else if v = 0 then 1 else 1) := by
  apply (C01_gadget_indicator_le 1 1 [(1, 0), (2, 2)] 3 auditB {} 3 6 audit_bigM (Or.inr rfl)).2
  · refine ⟨Or.inr (by simp), ?_⟩
    intro p hp
    simp at hp
    rcases hp with hp | hp <;> subst hp
    · show VarInfo.admits _ _
      simpa [auditB] using admits_box 0 4 1 (by grind) (by grind)
    · show VarInfo.admits _ _
      simpa [auditB] using admits_box (-1) 1 1 (by grind) (by grind)
  · intro _; simp [evalLin]; grind

/-- `C01_gadget_indicator_le_bigM_partial`: its hypotheses (infinite body bound, `cvt:bigM` set) are satisfiable;
`C01_refusal_indicator_le`: the refusal branch (infinite bound, no `cvt:bigM`) is reached -/
example : (linBnd (fun _ => {}) [(1, 0)]).2.1 = none ∧ (0 : Rat) < ({ bigM := 1000 } : Opts).bigM :=
  ⟨by simp [linBnd, optAdd, optScale], by show (0 : Rat) < 1000; grind⟩
example : (gIndLE 1 1 [(1, 0)] 3 (fun _ => {}) {}).refusal = some .indicatorInfBound :=
  (C01_refusal_indicator_le 1 1 [(1, 0)] 3 (fun _ => {}) {} (by simp [linBnd, optAdd, optScale]) (by simp; grind)).1

/-- `C01_ctx_sound_and` with a strictly smaller delivered value (a ≠ f): positive context, `a = (1,0)`, `f = (1,1)` -/
example : req .pos (Fun.val (fun v => if v = 2 then 0 else 1) (.and [1, 2])) (Fun.val (fun _ => 1) (.and [1, 2])) := by
  apply C01_ctx_sound_and .pos [1, 2] _ _
  · intro v hv; simp at hv; rcases hv with hv | hv <;> subst hv <;> simp
  · intro v _; exact Or.inr rfl
  · intro p hp
    simp [propAnd, Ctx.plus] at hp
    rcases hp with hp | hp <;> subst hp <;> simp [req] <;> grind

/-- `C01_ctx_sound_quadterms`: negative coefficient, both factors non-negative: the hypotheses (`quadDom`, per-variable
`req`) are met by `a = (5, 3)`, `f = (5, 2)` -/
def auditQ : Bnds := fun v => if v = 0 then { lb := some 0, ub := some 5 } else { lb := some 0, ub := some 3 }

example : req .pos (evalQuad (fun v => if v = 0 then 5 else 3) [(-1, 0, 1)]) (evalQuad (fun v => if v = 0 then 5 else 2) [(-1, 0, 1)]) := by
  apply C01_ctx_sound_quadterms auditQ .pos [(-1, 0, 1)]
  · intro t ht; simp at ht; subst ht
    constructor
    · show VarInfo.admits _ _
      simpa [auditQ] using admits_box 0 5 5 (by grind) (by grind)
    · show VarInfo.admits _ _
      simpa [auditQ] using admits_box 0 3 3 (by grind) (by grind)
  · intro t ht; simp at ht; subst ht
    constructor
    · show VarInfo.admits _ _
      simpa [auditQ] using admits_box 0 5 5 (by grind) (by grind)
    · show VarInfo.admits _ _
      simpa [auditQ] using admits_box 0 3 2 (by grind) (by grind)
  · intro p hp
    have h0 : ¬ ((-1 : Rat) = 0) := by grind
    have h1 : ¬ ((0 : Rat) ≤ -1) := by grind
    simp [propQuad, h0, h1, quadTermCtx, lbGE0, auditQ, Ctx.flip] at hp
    rcases hp with hp | hp <;> subst hp <;> simp [req] <;> grind

/-- `C01_ctx_sound_range`: `x0 + r ≤ 4` (ctx neg on `r`), delivered `r = 3 ≥` exact `r = 2` -/
example : inRange none (some 4) (evalLin (fun v => if v = 0 then 1 else 2) [(1, 0), (1, 1)]) := by
  apply C01_ctx_sound_range [(1, 0), (1, 1)] none (some 4) (fun v => if v = 0 then 1 else 3) _
    (by intro l h; simp at h) (by intro u h; simp at h; subst h; unfold pracInf; grind)
  · intro p hp
    simp [propRangeLin, rangeCtx, propLin_one_cons, propLin, Ctx.plus] at hp
    rcases hp with hp | hp <;> subst hp <;> simp [req] <;> grind
  · simp [inRange, evalLin]; grind

/-- `C01_gadget_condineq_exact_int` / `_complete_margin`: integer body 3, rhs 5, `<`: both directions of the iff meet
non-trivial instances (r = 1 with the comparison true; margin hypothesis with `b ≤ rhs - e`) -/
example : rel .mix 1 (b2r (Cmp5.lt.holds 3 5)) :=
  (C01_gadget_condineq_exact_int .lt (by decide) .mix 3 5 1 ⟨3, by simp⟩ ⟨5, by simp⟩ (Or.inr rfl)).mp
    ⟨fun _ _ => by simp [posPred]; grind, fun _ h => by simp at h⟩
example : posPred .lt (1 / 4) 3 5 :=
  ((C01_gadget_condineq_complete_margin .lt (by decide) .mix (1 / 4) 3 5 1 (Or.inr rfl) (Or.inl (by grind))
    (by simp [rel, req, Ctx.eff, b2r, Cmp5.holds]; grind) (by grind)).1 (by decide) rfl)

/-- `C01_gadget_unary_encoding`: `v ∈ {2,3,4}` with flags 1,2,3 and `y v = 3`: the hypothesis `hv` is met with `i = 1` -/
example : uencOK (fun w => if w = 0 then 3 else if w = 2 then 1 else 0) 3 2 [1, 2, 3] := by
  apply (C01_gadget_unary_encoding 0 2 [1, 2, 3] (fun w => if w = 0 then 3 else if w = 2 then 1 else 0)
    (by intro f hf; simp at hf; rcases hf with hf | hf | hf <;> subst hf <;> simp) ⟨1, by simp, by simp <;> grind⟩).mp
  intro c hc
  simp [gUnaryEnc] at hc
  rcases hc with hc | hc <;> subst hc <;> simp [Con.sat, Cmp.holds, evalLin, uencLin] <;> grind

end MpVerif.C01
