import MpVerif.C01.Props
/-!
# C01 — lemmas for the composition theorem (core Lean only): soundness of `propFun` from the per-rule theorems of `Props.lean`;
the composition core (`relaxed_invariant`, `compose_relaxed` for the contexts, `build_steps` for the auxiliary variables, packed in
`Compose`); `StepOK` from `Exact`.
-/
namespace MpVerif.C01

theorem default_sound (ctx : Ctx) (f : Fun) (a e : Asg)
    (h : ∀ p ∈ propDefault f.vars, req p.2 (a p.1) (e p.1)) : req ctx (f.val a) (f.val e) := by
  have : ∀ v ∈ f.vars, a v = e v := by
    intro v hv
    exact h (v, .mix) (List.mem_map.mpr ⟨v, hv, rfl⟩)
  rw [val_congr f a e this]; exact req_refl _ _

theorem fun_ctx_sound (B : Bnds) (ctx : Ctx) (f : Fun) (a e : Asg) (oka : FunOK B f a) (oke : FunOK B f e)
    (h : ∀ p ∈ propFun B ctx f, req p.2 (a p.1) (e p.1)) : req ctx (f.val a) (f.val e) := by
  cases f with
  | affine body c => exact C01_ctx_sound_lfc ctx body c a e h
  | quadratic lin q c =>
    simp only [propFun, propQFC, List.mem_append] at h
    have h1 := req_of_plus (C01_ctx_sound_linterms ctx.plus lin a e (fun p hp => h p (Or.inl hp)))
    have h2 := req_of_plus (C01_ctx_sound_quadterms B ctx.plus q a e oka oke (fun p hp => h p (Or.inr hp)))
    exact req_add (req_add h1 h2) (req_refl ctx c)
  | not v => exact C01_ctx_sound_not ctx v a e h
  | and as => exact C01_ctx_sound_and ctx as a e oka oke h
  | or as => exact C01_ctx_sound_or ctx as a e oka oke h
  | impl c t e' => exact C01_ctx_sound_impl ctx c t e' a e h
  | ifthen c t e' => exact C01_ctx_sound_ifthen B ctx c t e' a e oka.1 oke.1 oka.2.1 oka.2.2 oke.2.1 oke.2.2 h
  | condLin k body rhs => exact C01_ctx_sound_condlin k ctx body rhs a e h
  | _ => exact default_sound ctx _ a e h

/-- a relaxed solution: shared variables keep their values, every definition holds in its stored context's reading,
the roots hold -/
def Relaxed (N : Nat) (defs : List Def) (roots : List Root) (x y : Asg) : Prop :=
  (∀ v, v < N → (∀ d ∈ defs, d.res ≠ v) → y v = x v) ∧
  (∀ d ∈ defs, rel d.ctx (y d.res) (d.f.val y)) ∧ (∀ r ∈ roots, r.sat y)

/-- key invariant, by strong induction on the variable index (reverse creation order is the dependency order):
every variable's delivered value relates to its exact value as its stored context requires -/
theorem relaxed_invariant (B : Bnds) (n0 N : Nat) (defs : List Def) (roots : List Root) (x y : Asg)
    (hwf : WF n0 defs) (hcov : CtxCovers B defs roots)
    (hoky : ∀ d ∈ defs, FunOK B d.f y) (hoke : ∀ d ∈ defs, FunOK B d.f (exactAsg x defs))
    (hy : Relaxed N defs roots x y) :
    ∀ v, v < N → req (ctxOf defs v).eff (y v) (exactAsg x defs v) := by
  intro v
  induction v using Nat.strongRecOn with
  | _ v ih =>
    intro hv
    rcases defined_or_not defs v with ⟨d, hd, hdv⟩ | hnd
    · subst hdv
      rw [ctxOf_mem n0 defs hwf d hd, exact_spec x n0 defs hwf d hd]
      have hrel := hy.2.1 d hd
      have hvars := wf_vars_lt hwf d hd
      have hargs : ∀ p ∈ propFun B d.ctx.eff d.f, req p.2 (y p.1) (exactAsg x defs p.1) := by
        intro p hp
        have hpv := propFun_vars B _ d.f p hp
        have hlt := hvars p.1 hpv
        have := ih p.1 hlt (Nat.lt_trans hlt hv)
        exact req_mono (hcov.2 d hd p hp) this
      have hs := fun_ctx_sound B d.ctx.eff d.f y (exactAsg x defs) (hoky d hd) (hoke d hd) hargs
      exact req_trans hrel hs
    · rw [exact_undefined x defs v hnd, hy.1 v hv hnd]; exact req_refl _ _

theorem root_transfer {B : Bnds} {N : Nat} {defs : List Def} {roots : List Root} {y e : Asg}
    (hroots : ∀ r ∈ roots, ∀ p ∈ r.body, p.2 < N)
    (hfin : ∀ r ∈ roots, (∀ l, r.lb = some l → -pracInf < l) ∧ (∀ u, r.ub = some u → u < pracInf))
    (hcov : CtxCovers B defs roots) (inv : ∀ v, v < N → req (ctxOf defs v).eff (y v) (e v))
    (r : Root) (hr : r ∈ roots) (hy : r.sat y) : r.sat e := by
  apply C01_ctx_sound_range r.body r.lb r.ub y e (hfin r hr).1 (hfin r hr).2 _ hy
  intro p hp
  obtain ⟨c, hc⟩ := propLin_mem _ r.body p hp
  exact req_mono (hcov.1 r hr p hp) (inv p.1 (hroots r hr (c, p.1) hc))

/-- contexts only: with covering contexts the model in which every definition holds in its stored context's one-sided reading
has a solution over `x` iff `x` satisfies the NL-level semantics -/
theorem compose_relaxed (B : Bnds) (n0 N : Nat) (defs : List Def) (roots : List Root) (x : Asg)
    (hwf : WF n0 defs) (hroots : ∀ r ∈ roots, ∀ p ∈ r.body, p.2 < N)
    (hfin : ∀ r ∈ roots, (∀ l, r.lb = some l → -pracInf < l) ∧ (∀ u, r.ub = some u → u < pracInf))
    (hcov : CtxCovers B defs roots) (hoke : ∀ d ∈ defs, FunOK B d.f (exactAsg x defs)) :
    NLsat defs roots x ↔ ∃ y, (∀ d ∈ defs, FunOK B d.f y) ∧ Relaxed N defs roots x y := by
  constructor
  · intro h
    refine ⟨exactAsg x defs, hoke, ?_, ?_, h⟩
    · intro v _ hnd; exact exact_undefined x defs v hnd
    · intro d hd; rw [exact_spec x n0 defs hwf d hd]; exact req_refl _ _
  · intro ⟨y, hoky, hy⟩ r hr
    exact root_transfer hroots hfin hcov
      (relaxed_invariant B n0 N defs roots x y hwf hcov hoky hoke hy) r hr (hy.2.2 r hr)

/-- The steps are completed one by one in conversion order, starting from an assignment with exact values.  Completing a step
changes only variables from its `lo` on (the third conjunct of `StepOK`), so the later steps still see exact values; completing the
later ones changes only variables from `s.hi` on, and the fourth conjunct of `StepOK` keeps the rows of `s` true under such a change. -/
theorem build_steps (N : Nat) (Dom : Asg → Prop)
    (hDom : ∀ z z' : Asg, (∀ v, v < N → z' v = z v) → Dom z → Dom z') (steps : List Step) :
    ∀ (m : Nat) (z : Asg), N ≤ m → Chain m steps → (∀ s ∈ steps, StepOK N Dom s) →
      (∀ s ∈ steps, s.res < N ∧ ∀ v ∈ s.f.vars, v < N) → Dom z → (∀ s ∈ steps, z s.res = s.f.val z) →
      ∃ z', (∀ v, v < m → z' v = z v) ∧ ∀ s ∈ steps, s.Deliv z' := by
  induction steps with
  | nil => intro m z _ _ _ _ _ _; exact ⟨z, fun _ _ => rfl, by simp⟩
  | cons s t ih =>
    intro m z hm hch hok hlt hdz hex
    obtain ⟨c1, c2, c3⟩ := hch
    obtain ⟨o1, _, o3, o4⟩ := hok s (by simp)
    obtain ⟨z1, hag1, hd1⟩ := o3 z hdz (hex s (by simp))
    have hagN : ∀ v, v < N → z1 v = z v := fun v hv => hag1 v (Nat.lt_of_lt_of_le hv o1)
    have hdz1 : Dom z1 := hDom z z1 hagN hdz
    have hex1 : ∀ s' ∈ t, z1 s'.res = s'.f.val z1 := by
      intro s' hs'
      have hl := hlt s' (by simp [hs'])
      rw [hagN _ hl.1, hex s' (by simp [hs'])]
      exact (val_congr s'.f z1 z (fun v hv => hagN v (hl.2 v hv))).symm
    have hmh : N ≤ s.hi := Nat.le_trans o1 c2
    obtain ⟨z2, hag2, hd2⟩ := ih s.hi z1 hmh c3 (fun s' hs' => hok s' (by simp [hs']))
      (fun s' hs' => hlt s' (by simp [hs'])) hdz1 hex1
    refine ⟨z2, ?_, ?_⟩
    · intro v hv
      rw [hag2 v (Nat.lt_of_lt_of_le hv (Nat.le_trans c1 c2)), hag1 v (Nat.lt_of_lt_of_le hv c1)]
    · intro s' hs'
      simp only [List.mem_cons] at hs'
      rcases hs' with hs' | hs'
      · subst hs'; exact o4 z1 z2 hag2 hd1
      · exact hd2 s' hs'

/-- the hypotheses the composition theorems share: domains depend only on the variables below `N`; steps and definitions
correspond; creation order; indices below `N`; covering contexts; steps in conversion order, each valid; the domains give the side
conditions of the propagation rules -/
structure Compose (B : Bnds) (n0 N : Nat) (defs : List Def) (steps : List Step) (roots : List Root) (Dom : Asg → Prop) :
    Prop where
  dom : ∀ z z' : Asg, (∀ v, v < N → z' v = z v) → Dom z → Dom z'
  perm : ∀ d, d ∈ defs ↔ ∃ s ∈ steps, s.toDef = d
  wf : WF n0 defs
  resN : ∀ d ∈ defs, d.res < N
  rootsN : ∀ r ∈ roots, ∀ p ∈ r.body, p.2 < N
  cov : CtxCovers B defs roots
  chain : Chain N steps
  ok : ∀ s ∈ steps, StepOK N Dom s
  funOK : ∀ y, Dom y → ∀ d ∈ defs, FunOK B d.f y

variable {B : Bnds} {n0 N : Nat} {defs : List Def} {steps : List Step} {roots : List Root} {Dom : Asg → Prop}

theorem Compose.deliver (H : Compose B n0 N defs steps roots Dom) (x : Asg) (hDomE : Dom (exactAsg x defs))
    (hnl : NLsat defs roots x) :
    ∃ y, Delivered N defs steps roots Dom x y ∧ ∀ v, v < N → y v = exactAsg x defs v := by
  have hmem : ∀ s ∈ steps, s.toDef ∈ defs := fun s hs => (H.perm s.toDef).mpr ⟨s, hs, rfl⟩
  obtain ⟨y, hag, hdel⟩ := build_steps N Dom H.dom steps N (exactAsg x defs) (Nat.le_refl N) H.chain H.ok
    (fun s hs => ⟨H.resN _ (hmem s hs), wf_vars_lt_of_res H.wf H.resN _ (hmem s hs)⟩)
    hDomE (fun s hs => exact_spec x n0 defs H.wf s.toDef (hmem s hs))
  refine ⟨y, ⟨?_, H.dom _ y hag hDomE, hdel, ?_⟩, hag⟩
  · intro v hv hnd; rw [hag v hv]; exact exact_undefined x defs v hnd
  · intro r hr
    have := hnl r hr
    unfold Root.sat at this ⊢
    rwa [evalLin_agree (show agree N (exactAsg x defs) y from hag) (H.rootsN r hr)]

theorem Compose.relaxed (H : Compose B n0 N defs steps roots Dom) {x y : Asg}
    (h : Delivered N defs steps roots Dom x y) : Relaxed N defs roots x y := by
  refine ⟨h.1, ?_, h.2.2.2⟩
  intro d hd
  obtain ⟨s, hs, rfl⟩ := (H.perm d).mp hd
  exact (H.ok s hs).2.1 y h.2.1 (h.2.2.1 s hs)

theorem Compose.invariant (H : Compose B n0 N defs steps roots Dom) {x y : Asg}
    (h : Delivered N defs steps roots Dom x y) (hoke : ∀ d ∈ defs, FunOK B d.f (exactAsg x defs)) :
    ∀ v, v < N → req (ctxOf defs v).eff (y v) (exactAsg x defs v) :=
  relaxed_invariant B n0 N defs roots x y H.wf H.cov (H.funOK y h.2.1) hoke (H.relaxed h)

/-- a delivered solution is a relaxed one, so `compose_relaxed` applies: of the exact values only the side conditions of the
propagation rules are needed, not the domains -/
theorem Compose.sound (H : Compose B n0 N defs steps roots Dom)
    (hfin : ∀ r ∈ roots, (∀ l, r.lb = some l → -pracInf < l) ∧ (∀ u, r.ub = some u → u < pracInf))
    {x y : Asg} (h : Delivered N defs steps roots Dom x y) (hoke : ∀ d ∈ defs, FunOK B d.f (exactAsg x defs)) :
    NLsat defs roots x :=
  (compose_relaxed B n0 N defs roots x H.wf H.rootsN hfin H.cov hoke).mpr ⟨y, H.funOK y h.2.1, H.relaxed h⟩

theorem Compose.iff (H : Compose B n0 N defs steps roots Dom)
    (hfin : ∀ r ∈ roots, (∀ l, r.lb = some l → -pracInf < l) ∧ (∀ u, r.ub = some u → u < pracInf))
    (x : Asg) (hDomE : Dom (exactAsg x defs)) :
    NLsat defs roots x ↔ ∃ y, Delivered N defs steps roots Dom x y :=
  ⟨fun hnl => (H.deliver x hDomE hnl).imp fun _ h => h.1, fun ⟨_, h⟩ => H.sound hfin h (H.funOK _ hDomE)⟩

theorem stepOK_of_rows {N : Nat} {Dom : Asg → Prop} {d : Def} {o : Out} {n : Nat} (hN : N ≤ n)
    (hsound : ∀ y, Dom y → auxOk n y o.vars → (∀ c ∈ o.cons, c.sat y) → rel d.ctx (y d.res) (d.f.val y))
    (hcompl : ∀ z, Dom z → z d.res = d.f.val z → o.realizable n z)
    (hrows : ∀ c ∈ o.cons, ∀ v ∈ c.vars, v < n + o.vars.length) :
    StepOK N Dom (Step.ofGadget d o n) := by
  refine ⟨hN, fun y hd h => hsound y hd h.1 h.2, hcompl, ?_⟩
  intro y y' hag ⟨hax, hcs⟩
  exact ⟨(auxOk_congr n y' y o.vars hag).mpr hax,
    fun c hc => (sat_congr c y' y (fun v hv => hag v (hrows c hc v hv))).mpr (hcs c hc)⟩

theorem stepOK_of_exact {N : Nat} {Dom : Asg → Prop} (D : Asg → Prop) {d : Def} {o : Out} {n : Nat}
    (hN : N ≤ n) (hDD : ∀ y, Dom y → D y)
    (hex : Exact o n D (fun x => rel d.ctx (x d.res) (d.f.val x)))
    (hrows : ∀ c ∈ o.cons, ∀ v ∈ c.vars, v < n + o.vars.length) :
    StepOK N Dom (Step.ofGadget d o n) :=
  stepOK_of_rows hN (fun y hd => hex.1 y (hDD y hd))
    (fun z hd hz => hex.2 z (hDD z hd) (C01_mix_implies_ctx _ _ _ hz)) hrows

theorem stepOK_of_exact_eq {N : Nat} {Dom : Asg → Prop} (D : Asg → Prop) {d : Def} {o : Out} {n : Nat}
    (hN : N ≤ n) (hDD : ∀ y, Dom y → D y)
    (hex : Exact o n D (fun x => x d.res = d.f.val x))
    (hrows : ∀ c ∈ o.cons, ∀ v ∈ c.vars, v < n + o.vars.length) :
    StepOK N Dom (Step.ofGadget d o n) :=
  stepOK_of_rows hN (fun y hd hax hcs => C01_mix_implies_ctx _ _ _ (hex.1 y (hDD y hd) hax hcs))
    (fun z hd hz => hex.2 z (hDD z hd) hz) hrows

/-- a definition enforced as `res = f(args)` (by the solver, or by a fixed variable's bounds) when `n` variables exist -/
theorem stepOK_native {N n : Nat} {Dom : Asg → Prop} {d : Def} (hn : N ≤ n) (hres : d.res < n)
    (hvars : ∀ v ∈ d.f.vars, v < n) : StepOK N Dom (Step.native d n) := by
  refine ⟨hn, fun y _ h => C01_mix_implies_ctx _ _ _ h, fun z _ hz => ⟨z, fun _ _ => rfl, hz⟩, ?_⟩
  intro y y' hag h
  show y' d.res = d.f.val y'
  rw [hag d.res hres, val_congr d.f y' y (fun v hv => hag v (hvars v hv))]; exact h

end MpVerif.C01
