import MpVerif.C01.LemmasConvertBounds
import MpVerif.C01.Props
/-!
# C01 — the reference converter: lowering indicator rows and nested linear functional constraints to linear rows keeps the meaning
of the rows, and keeps a gadget block a valid conversion step.
-/
namespace MpVerif.C01

theorem bigMUpper_some {ub : Option Rat} {o : Opts} {U : Rat} (hM : o.bigM ≤ 0) (h : bigMUpper ub o = some U) :
    ub = some U := by
  have hm : ¬ (0 < o.bigM) := by grind
  unfold bigMUpper at h
  cases ub with
  | none => simp [hm] at h
  | some u =>
    simp only at h
    split at h
    · simp at h
    · simpa using h

theorem bigMLower_some {lb : Option Rat} {o : Opts} {L : Rat} (hM : o.bigM ≤ 0) (h : bigMLower lb o = some L) :
    lb = some L := by
  have hm : ¬ (0 < o.bigM) := by grind
  unfold bigMLower at h
  cases lb with
  | none => simp [hm] at h
  | some u =>
    simp only at h
    split at h
    · simp at h
    · simpa using h

theorem implLE_iff (b : Var) (val : Nat) (ub : Option Rat) (body : Lin) (rhs : Rat) (o : Opts) (y : Asg)
    (hM : o.bigM ≤ 0) (hb : y b = 0 ∨ y b = 1) (hval : val ≤ 1) (hub : ∀ u, ub = some u → evalLin y body ≤ u)
    (hnr : (implLE b val ub body rhs o).refusal = none) :
    (∀ c ∈ (implLE b val ub body rhs o).cons, c.sat y) ↔ (y b = (val : Rat) → evalLin y body ≤ rhs) := by
  cases hU : bigMUpper ub o with
  | none => simp [implLE, hU] at hnr
  | some U =>
    exact implLE_core b val body rhs o ub U y hU (Nat.le_one_iff_eq_zero_or_eq_one.mp hval) hb (hub U (bigMUpper_some hM hU))

theorem implGE_iff (b : Var) (val : Nat) (lb : Option Rat) (body : Lin) (rhs : Rat) (o : Opts) (y : Asg)
    (hM : o.bigM ≤ 0) (hb : y b = 0 ∨ y b = 1) (hval : val ≤ 1) (hlb : ∀ l, lb = some l → l ≤ evalLin y body)
    (hnr : (implGE b val lb body rhs o).refusal = none) :
    (∀ c ∈ (implGE b val lb body rhs o).cons, c.sat y) ↔ (y b = (val : Rat) → rhs ≤ evalLin y body) := by
  cases hL : bigMLower lb o with
  | none => simp [implGE, hL] at hnr
  | some L =>
    exact implGE_core b val body rhs o lb L y hL (Nat.le_one_iff_eq_zero_or_eq_one.mp hval) hb (hlb L (bigMLower_some hM hL))

theorem gIndEQ_iff (b : Var) (val : Nat) (body : Lin) (rhs : Rat) (B : Bnds) (o : Opts) (y : Asg)
    (hM : o.bigM ≤ 0) (hb : y b = 0 ∨ y b = 1) (hval : val ≤ 1) (hd : ∀ p ∈ body, inDom B y p.2)
    (hnr : (gIndEQ b val body rhs B o).refusal = none) :
    (∀ c ∈ (gIndEQ b val body rhs B o).cons, c.sat y) ↔ (y b = (val : Rat) → evalLin y body = rhs) := by
  have hs := linBnd_sound B y body hd
  unfold gIndEQ at hnr ⊢
  simp only [] at hnr ⊢
  cases h1 : (implLE b val (linBnd B body).2.1 body rhs o).refusal with
  | some r => simp [h1] at hnr
  | none =>
    simp only [h1] at hnr ⊢
    cases h2 : (implLE b val ((linBnd B body).1.map (- ·)) (negLin body) (-rhs) o).refusal with
    | some r => simp [h2] at hnr
    | none =>
      simp only [List.forall_mem_append]
      rw [implLE_iff b val _ body rhs o y hM hb hval hs.2 h1,
        implLE_iff b val _ (negLin body) (-rhs) o y hM hb hval (by
          intro u hu
          cases hl : (linBnd B body).1 with
          | none => simp [hl] at hu
          | some l => simp [hl] at hu; subst hu; rw [evalLin_neg]; have := hs.1 l hl; grind) h2]
      rw [evalLin_neg]
      constructor
      · intro ⟨ha, hb'⟩ hv; have := ha hv; have := hb' hv; grind
      · intro h; exact ⟨fun hv => by rw [h hv]; grind, fun hv => by rw [h hv]; grind⟩

theorem lowerCon_iff (B : Bnds) (o : Opts) (c : Con) (y : Asg) (hM : o.bigM ≤ 0) (hd : ∀ v ∈ c.vars, inDom B y v)
    (hnr : (lowerCon B o c).refusal = none) : (∀ c' ∈ (lowerCon B o c).cons, c'.sat y) ↔ c.sat y := by
  cases c with
  | indLin b bv k body rhs =>
    simp only [lowerCon] at hnr ⊢
    by_cases hc : (decide (bv ≤ 1) && isBin01 (B b)) = true
    · simp only [hc, if_true] at hnr ⊢
      simp only [Bool.and_eq_true, decide_eq_true_eq] at hc
      have hb : y b = 0 ∨ y b = 1 := bin01_vals hc.2 (hd b (by simp [Con.vars]))
      have hbody : ∀ p ∈ body, inDom B y p.2 := fun p hp =>
        hd p.2 (by simp only [Con.vars, List.mem_cons, List.mem_map]; exact Or.inr ⟨p, hp, rfl⟩)
      have hs := linBnd_sound B y body hbody
      cases k with
      | le =>
        simp only [gIndLE] at hnr ⊢
        rw [implLE_iff b bv _ body rhs o y hM hb hc.1 hs.2 hnr]; simp [Con.sat, Cmp.holds]
      | ge =>
        simp only [gIndGE] at hnr ⊢
        rw [implGE_iff b bv _ body rhs o y hM hb hc.1 hs.1 hnr]; simp [Con.sat, Cmp.holds]
      | eq =>
        simp only [] at hnr ⊢
        rw [gIndEQ_iff b bv body rhs B o y hM hb hc.1 hbody hnr]; simp [Con.sat, Cmp.holds]
    · simp [hc]
  | func r ctx f =>
    cases ctx with
    | none =>
      cases f with
      | affine body c =>
        simp only [lowerCon, gLFC, List.mem_singleton, forall_eq, Con.sat, Cmp.holds, evalLin_append, evalLin, rel, req,
          Ctx.eff, Fun.val]
        constructor <;> intro h <;> grind
      | _ => simp [lowerCon]
    | _ => simp [lowerCon]
  | _ => simp [lowerCon]

theorem mem_vars_linRhs_snoc {v b : Var} {k : Cmp} {body : Lin} {c rhs : Rat} :
    v ∈ (Con.linRhs k (body ++ [(c, b)]) rhs).vars ↔ v = b ∨ v ∈ body.map (·.2) := by
  simp [Con.vars, or_comm]

theorem implLE_vars (b : Var) (val : Nat) (ub : Option Rat) (body : Lin) (rhs : Rat) (o : Opts) :
    ∀ c ∈ (implLE b val ub body rhs o).cons, ∀ v ∈ c.vars, v = b ∨ v ∈ body.map (·.2) := by
  intro c hc v hv
  unfold implLE at hc
  split at hc
  · simp at hc
  · split at hc
    · split at hc <;> rw [List.mem_singleton.mp hc] at hv <;> exact mem_vars_linRhs_snoc.mp hv
    · simp at hc

theorem implGE_vars (b : Var) (val : Nat) (lb : Option Rat) (body : Lin) (rhs : Rat) (o : Opts) :
    ∀ c ∈ (implGE b val lb body rhs o).cons, ∀ v ∈ c.vars, v = b ∨ v ∈ body.map (·.2) := by
  intro c hc v hv
  unfold implGE at hc
  split at hc
  · simp at hc
  · split at hc
    · split at hc <;> rw [List.mem_singleton.mp hc] at hv <;> exact mem_vars_linRhs_snoc.mp hv
    · simp at hc

theorem negLin_vars (body : Lin) : (negLin body).map (·.2) = body.map (·.2) := by
  simp [negLin]

theorem lowerCon_vars (B : Bnds) (o : Opts) (c : Con) : ∀ c' ∈ (lowerCon B o c).cons, ∀ v ∈ c'.vars, v ∈ c.vars := by
  intro c' hc' v hv
  cases c with
  | indLin b bv k body rhs =>
    simp only [lowerCon] at hc'
    by_cases hc : (decide (bv ≤ 1) && isBin01 (B b)) = true
    · simp only [hc, if_true] at hc'
      have key : v = b ∨ v ∈ body.map (·.2) := by
        cases k with
        | le => exact implLE_vars b bv _ body rhs o c' hc' v hv
        | ge => exact implGE_vars b bv _ body rhs o c' hc' v hv
        | eq =>
          simp only [gIndEQ] at hc'
          split at hc'
          · simp at hc'
          · split at hc'
            · simp at hc'
            · simp only [List.mem_append] at hc'
              rcases hc' with h | h
              · exact implLE_vars b bv _ body rhs o c' h v hv
              · have := implLE_vars b bv _ (negLin body) (-rhs) o c' h v hv
                rw [negLin_vars] at this; exact this
      simp only [Con.vars, List.mem_cons]; exact key
    · simp only [hc] at hc'; simp at hc'; subst hc'; exact hv
  | func r ctx f =>
    cases ctx with
    | none =>
      cases f with
      | affine body c =>
        simp only [lowerCon, gLFC, List.mem_singleton] at hc'
        subst hc'
        simp only [Con.vars, Fun.vars, List.mem_cons]
        exact mem_vars_linRhs_snoc.mp hv
      | _ => simp [lowerCon] at hc'; subst hc'; exact hv
    | _ => simp [lowerCon] at hc'; subst hc'; exact hv
  | _ => simp [lowerCon] at hc'; subst hc'; exact hv

theorem lowerCons_ok (B : Bnds) (o : Opts) (cs : List Con) (h : (lowerCons B o cs).refusal = none) :
    (∀ c ∈ cs, (lowerCon B o c).refusal = none) ∧
    (lowerCons B o cs).cons = cs.flatMap (fun c => (lowerCon B o c).cons) := by
  induction cs with
  | nil => simp [lowerCons]
  | cons c t ih =>
    simp only [lowerCons] at h ⊢
    cases h1 : (lowerCon B o c).refusal with
    | some r => simp [h1] at h
    | none =>
      cases h2 : (lowerCons B o t).refusal with
      | some r => simp [h1, h2] at h
      | none =>
        obtain ⟨i1, i2⟩ := ih h2
        simp only [List.flatMap_cons, i2]
        exact ⟨fun c' hc' => by
          simp only [List.mem_cons] at hc'
          rcases hc' with hc' | hc'
          · subst hc'; exact h1
          · exact i1 c' hc', trivial⟩

theorem lowerCons_iff (B : Bnds) (o : Opts) (cs : List Con) (y : Asg) (hM : o.bigM ≤ 0)
    (hd : ∀ c ∈ cs, ∀ v ∈ c.vars, inDom B y v) (hnr : (lowerCons B o cs).refusal = none) :
    (∀ c' ∈ (lowerCons B o cs).cons, c'.sat y) ↔ (∀ c ∈ cs, c.sat y) := by
  obtain ⟨h1, h2⟩ := lowerCons_ok B o cs hnr
  rw [h2]
  simp only [List.mem_flatMap]
  constructor
  · intro h c hc
    exact (lowerCon_iff B o c y hM (hd c hc) (h1 c hc)).mp (fun c' hc' => h c' ⟨c, hc, hc'⟩)
  · intro h c' ⟨c, hc, hc'⟩
    exact (lowerCon_iff B o c y hM (hd c hc) (h1 c hc)).mpr (h c hc) c' hc'

theorem lowerCons_vars (B : Bnds) (o : Opts) (cs : List Con) (hnr : (lowerCons B o cs).refusal = none) :
    ∀ c' ∈ (lowerCons B o cs).cons, ∃ c ∈ cs, ∀ v ∈ c'.vars, v ∈ c.vars := by
  obtain ⟨_, h2⟩ := lowerCons_ok B o cs hnr
  rw [h2]
  intro c' hc'
  obtain ⟨c, hc, hcc⟩ := List.mem_flatMap.mp hc'
  exact ⟨c, hc, lowerCon_vars B o c c' hcc⟩

theorem extB_below (B : Bnds) (n : Nat) (l : List VarInfo) (v : Var) (h : v < n) : extB B n l v = B v := by
  induction l generalizing B n with
  | nil => rfl
  | cons i t ih =>
    simp only [extB]
    rw [ih (setB B n i) (n + 1) (Nat.lt_succ_of_lt h)]
    simp [setB, Nat.ne_of_lt h]

theorem auxOk_extB (B : Bnds) (n : Nat) (l : List VarInfo) (y : Asg) (h : auxOk n y l) :
    ∀ v, n ≤ v → v < n + l.length → inDom (extB B n l) y v := by
  induction l generalizing B n with
  | nil => intro v h1 h2; exact absurd (by simpa using h2) (Nat.not_lt.mpr h1)
  | cons i t ih =>
    intro v h1 h2
    obtain ⟨ha, ht⟩ := h
    simp only [extB]
    by_cases hv : v = n
    · subst hv
      unfold inDom
      rw [extB_below (setB B v i) (v + 1) t v (Nat.lt_succ_self v)]
      simpa [setB] using ha
    · exact ih (setB B n i) (n + 1) ht v (by omega) (by simp only [List.length_cons] at h2; omega)

/-- lowering keeps a gadget block a valid step: from the validity of the raw gadget step (gadget theorem), the locality
of the raw rows (original/result variables and the block's own auxiliaries) and non-refusal of the big-M rows -/
theorem stepOK_lowered (N n : Nat) (B B' : Bnds) (o : Opts) (d : Def) (g low : Out) (hM : o.bigM ≤ 0)
    (hlow : low = lowerCons B' o g.cons) (hnr : low.refusal = none)
    (hraw : StepOK N (DomB N B) (Step.ofGadget d g n))
    (hB' : ∀ v, v < N → B' v = B v)
    (haux : ∀ y, auxOk n y g.vars → ∀ v, n ≤ v → v < n + g.vars.length → inDom B' y v)
    (hloc : ∀ c ∈ g.cons, ∀ v ∈ c.vars, v < N ∨ (n ≤ v ∧ v < n + g.vars.length)) :
    StepOK N (DomB N B) { d with Deliv := fun y => auxOk n y g.vars ∧ ∀ c ∈ low.cons, c.sat y,
                                  lo := n, hi := n + g.vars.length } := by
  subst hlow
  obtain ⟨r1, r2, r3, r4⟩ := hraw
  have hNn : N ≤ n := r1
  have key : ∀ y, DomB N B y → auxOk n y g.vars →
      ((∀ c ∈ (lowerCons B' o g.cons).cons, c.sat y) ↔ (∀ c ∈ g.cons, c.sat y)) := by
    intro y hy ha
    apply lowerCons_iff B' o g.cons y hM _ hnr
    intro c hc v hv
    rcases hloc c hc v hv with h | ⟨h1, h2⟩
    · exact (inDom_congr (hB' v h) rfl).mpr (hy v h)
    · exact haux y ha v h1 h2
  refine ⟨r1, ?_, ?_, ?_⟩
  · intro y hy ⟨ha, hrows⟩
    exact r2 y hy ⟨ha, (key y hy ha).mp hrows⟩
  · intro z hz hres
    obtain ⟨z', hag, ha, hrows⟩ := r3 z hz hres
    have hz' : DomB N B z' := fun v hv => (inDom_congr rfl (hag v (Nat.lt_of_lt_of_le hv hNn))).mpr (hz v hv)
    exact ⟨z', hag, ha, (key z' hz' ha).mpr hrows⟩
  · intro y y' hag ⟨ha, hrows⟩
    refine ⟨(auxOk_congr n y' y g.vars hag).mpr ha, ?_⟩
    intro c' hc'
    obtain ⟨c, hc, hsub⟩ := lowerCons_vars B' o g.cons hnr c' hc'
    apply (sat_congr c' y' y _).mpr (hrows c' hc')
    intro v hv
    apply hag v
    show v < n + g.vars.length
    rcases hloc c hc v (hsub v hv) with h | ⟨_, h2⟩
    · exact Nat.lt_of_lt_of_le h (Nat.le_trans hNn (Nat.le_add_right _ _))
    · exact h2

end MpVerif.C01
