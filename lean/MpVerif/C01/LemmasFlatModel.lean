import MpVerif.C01.Lemmas
import MpVerif.C01.ModelCompose
/-!
# C01 — lemmas about the abstract flat model of `ModelCompose.lean` that rest on no gadget or propagation-rule theorem (core Lean
only): `Fun.val` and `Con.sat` depend only on the variables read; the propagation lists mention only those variables; creation order
`WF`, the exact assignment `exactAsg` and `ctxOf` of a definition list; soundness of the validators `ctxGaps` / `wfB`.
-/
namespace MpVerif.C01

theorem maxL_congr (a e : Asg) (v : Var) (t : List Var) (h : ∀ w ∈ v :: t, a w = e w) : maxL a v t = maxL e v t := by
  induction t generalizing v with
  | nil => simp [maxL, h v (by simp)]
  | cons b t ih =>
    have hb := ih b (fun w hw => h w (by simp only [List.mem_cons] at hw ⊢; exact Or.inr hw))
    simp only [maxL, h v (by simp), hb]

theorem minL_congr (a e : Asg) (v : Var) (t : List Var) (h : ∀ w ∈ v :: t, a w = e w) : minL a v t = minL e v t := by
  induction t generalizing v with
  | nil => simp [minL, h v (by simp)]
  | cons b t ih =>
    have hb := ih b (fun w hw => h w (by simp only [List.mem_cons] at hw ⊢; exact Or.inr hw))
    simp only [minL, h v (by simp), hb]

theorem allDiff_congr (a e : Asg) (l : List Var) (h : ∀ v ∈ l, a v = e v) : allDiffVals a l = allDiffVals e l := by
  induction l with
  | nil => rfl
  | cons b t ih =>
    have hb := h b (by simp)
    have ht : ∀ v ∈ t, a v = e v := fun v hv => h v (by simp [hv])
    simp only [allDiffVals, ih ht, hb]
    rw [all_congr_mem (fun w => e b != a w) (fun w => e b != e w) t (fun w hw => by rw [ht w hw])]

theorem linvars_congr {a e : Asg} {l : Lin} (h : ∀ v ∈ l.map (·.2), a v = e v) : evalLin a l = evalLin e l :=
  evalLin_congr a e l (fun p hp => h p.2 (List.mem_map.mpr ⟨p, hp, rfl⟩))

theorem quadvars_congr {a e : Asg} {q : Quad} (h : ∀ v ∈ q.map (·.2.1) ++ q.map (·.2.2), a v = e v) :
    evalQuad a q = evalQuad e q :=
  evalQuad_congr a e q (fun t ht =>
    ⟨h _ (List.mem_append.mpr (Or.inl (List.mem_map.mpr ⟨t, ht, rfl⟩))),
     h _ (List.mem_append.mpr (Or.inr (List.mem_map.mpr ⟨t, ht, rfl⟩)))⟩)

theorem linquad_congr {a e : Asg} {l : Lin} {q : Quad}
    (h : ∀ v ∈ l.map (·.2) ++ (q.map (·.2.1) ++ q.map (·.2.2)), a v = e v) :
    evalLin a l + evalQuad a q = evalLin e l + evalQuad e q := by
  rw [linvars_congr fun v hv => h v (List.mem_append_left _ hv), quadvars_congr fun v hv => h v (List.mem_append_right _ hv)]

theorem val_congr (f : Fun) (a e : Asg) (h : ∀ v ∈ f.vars, a v = e v) : f.val a = f.val e := by
  cases f with
  | affine body c => simp only [Fun.val, linvars_congr (l := body) h]
  | quadratic lin q c => simp only [Fun.val, linquad_congr (l := lin) (q := q) h]
  | abs v => simp only [Fun.val, h v (by simp [Fun.vars])]
  | min as =>
    cases as with
    | nil => rfl
    | cons v t => simp only [Fun.val]; exact minL_congr a e v t (fun w hw => h w (by simpa [Fun.vars] using hw))
  | max as =>
    cases as with
    | nil => rfl
    | cons v t => simp only [Fun.val]; exact maxL_congr a e v t (fun w hw => h w (by simpa [Fun.vars] using hw))
  | and as => simp only [Fun.val]; rw [all_congr' a e as (fun v hv => h v (by simpa [Fun.vars] using hv))]
  | or as => simp only [Fun.val]; rw [any_congr' a e as (fun v hv => h v (by simpa [Fun.vars] using hv))]
  | not v => simp only [Fun.val, h v (by simp [Fun.vars])]
  | impl c t e' => simp only [Fun.val, h c (by simp [Fun.vars]), h t (by simp [Fun.vars]), h e' (by simp [Fun.vars])]
  | ifthen c t e' => simp only [Fun.val, h c (by simp [Fun.vars]), h t (by simp [Fun.vars]), h e' (by simp [Fun.vars])]
  | condLin k body rhs => simp only [Fun.val, linvars_congr (l := body) h]
  | condQuad k lin q rhs => simp only [Fun.val, linquad_congr (l := lin) (q := q) h]
  | count as =>
    simp only [Fun.val]
    exact countP_ext (fun v hv => by rw [h v (by simpa [Fun.vars] using hv)])
  | numberofConst k as =>
    simp only [Fun.val]
    exact countP_ext (fun v hv => by rw [h v (by simpa [Fun.vars] using hv)])
  | numberofVar r as =>
    simp only [Fun.val]
    rw [h r (by simp [Fun.vars])]
    exact countP_ext (fun v hv => by rw [h v (by simp [Fun.vars]; exact Or.inr hv)])
  | alldiff as => simp only [Fun.val]; rw [allDiff_congr a e as (fun v hv => h v (by simpa [Fun.vars] using hv))]
  | div v w => simp only [Fun.val, h v (by simp [Fun.vars]), h w (by simp [Fun.vars])]
  | pow v p => simp only [Fun.val, h v (by simp [Fun.vars])]

theorem propLin_vars (ctx : Ctx) (body : Lin) (p : Var × Ctx) (h : p ∈ propLin ctx body) : p.1 ∈ body.map (·.2) := by
  obtain ⟨c, hc⟩ := propLin_mem ctx body p h
  exact List.mem_map.mpr ⟨(c, p.1), hc, rfl⟩

theorem propQuad_vars (B : Bnds) (ctx : Ctx) (q : Quad) (p : Var × Ctx) (h : p ∈ propQuad B ctx q) :
    p.1 ∈ q.map (·.2.1) ++ q.map (·.2.2) := by
  revert p
  induction q with
  | nil => simp [propQuad]
  | cons t tl ih =>
    obtain ⟨c, v, w⟩ := t
    refine forall_mem_propQuad_cons.mpr ⟨fun _ => ⟨by simp, by simp⟩, fun p hp => ?_⟩
    have := ih p hp
    simp only [List.map_cons, List.mem_append, List.mem_cons] at this ⊢
    exact this.imp Or.inr Or.inr

theorem propDefault_vars {vs : List Var} {p : Var × Ctx} (h : p ∈ propDefault vs) : p.1 ∈ vs := by
  obtain ⟨a, ha, rfl⟩ := List.mem_map.mp h; exact ha

theorem propFun_vars (B : Bnds) (ctx : Ctx) (f : Fun) (p : Var × Ctx) (h : p ∈ propFun B ctx f) : p.1 ∈ f.vars := by
  cases f with
  | affine body c => exact propLin_vars _ body p h
  | quadratic lin q c =>
    simp only [propFun, propQFC, List.mem_append] at h
    simp only [Fun.vars, List.mem_append]
    rcases h with h | h
    · exact Or.inl (propLin_vars _ lin p h)
    · have := propQuad_vars B _ q p h
      simp only [List.mem_append] at this; exact Or.inr this
  | not v => simp [propFun, propNot] at h; subst h; simp [Fun.vars]
  | and as => simp [propFun, propAnd] at h; obtain ⟨a, ha, e⟩ := h; subst e; simpa [Fun.vars] using ha
  | or as => simp [propFun, propOr] at h; obtain ⟨a, ha, e⟩ := h; subst e; simpa [Fun.vars] using ha
  | impl c t e => simp [propFun, propImpl] at h; rcases h with h | h | h <;> subst h <;> simp [Fun.vars]
  | ifthen c t e =>
    simp only [propFun, propIfThen, List.mem_cons, List.not_mem_nil, or_false] at h
    rcases h with h | h | h <;> subst h <;> simp [Fun.vars]
  | condLin k body rhs => exact propLin_vars _ body p h
  | _ => exact propDefault_vars (vs := Fun.vars _) h

theorem wf_res_ge {m : Nat} {defs : List Def} (h : WF m defs) : ∀ d ∈ defs, m ≤ d.res := by
  induction defs generalizing m with
  | nil => simp
  | cons d ds ih =>
    obtain ⟨h1, _, h3⟩ := h
    intro d' hd'
    simp only [List.mem_cons] at hd'
    rcases hd' with hd' | hd'
    · subst hd'; exact h1
    · have := ih h3 d' hd'; omega

theorem wf_vars_lt {m : Nat} {l : List Def} (hw : WF m l) : ∀ d' ∈ l, ∀ w ∈ d'.f.vars, w < d'.res := by
  induction l generalizing m with
  | nil => simp
  | cons a t iht =>
    intro d' hd'
    obtain ⟨_, h2, h3⟩ := hw
    simp only [List.mem_cons] at hd'
    rcases hd' with hd' | hd'
    · subst hd'; exact h2
    · exact iht h3 d' hd'

theorem wf_vars_lt_of_res {m N : Nat} {l : List Def} (hw : WF m l) (hN : ∀ d ∈ l, d.res < N) :
    ∀ d ∈ l, ∀ v ∈ d.f.vars, v < N :=
  fun d hd v hv => Nat.lt_trans (wf_vars_lt hw d hd v hv) (hN d hd)

theorem wf_pairwise {m : Nat} {l : List Def} (h : WF m l) : l.Pairwise (fun d e => d.res < e.res) := by
  induction l generalizing m with
  | nil => exact .nil
  | cons d t ih => exact .cons (fun e he => wf_res_ge h.2.2 e he) (ih h.2.2)

theorem setVar_same (x : Asg) (v : Var) (q : Rat) : setVar x v q v = q := if_pos rfl

theorem setVar_ne {x : Asg} {v w : Var} {q : Rat} (h : w ≠ v) : setVar x v q w = x w := if_neg h

theorem exact_undefined (x : Asg) (defs : List Def) (v : Var) (h : ∀ d ∈ defs, d.res ≠ v) :
    exactAsg x defs v = x v := by
  induction defs generalizing x with
  | nil => rfl
  | cons d ds ih =>
    simp only [exactAsg]
    rw [ih _ (fun d' hd' => h d' (by simp [hd']))]
    exact setVar_ne fun e => h d (by simp) e.symm

theorem exact_below (x : Asg) (m : Nat) (defs : List Def) (h : WF m defs) :
    ∀ v, v < m → exactAsg x defs v = x v :=
  fun v hv => exact_undefined x defs v fun d hd e => Nat.not_le.mpr hv (e ▸ wf_res_ge h d hd)

theorem exact_spec (x : Asg) (m : Nat) (defs : List Def) (h : WF m defs) :
    ∀ d ∈ defs, exactAsg x defs d.res = d.f.val (exactAsg x defs) := by
  induction defs generalizing x m with
  | nil => simp
  | cons d ds ih =>
    obtain ⟨h1, h2, h3⟩ := h
    intro d' hd'
    simp only [List.mem_cons] at hd'
    rcases hd' with hd' | hd'
    · subst hd'
      simp only [exactAsg]
      have hb := exact_below (setVar x d'.res (d'.f.val x)) (d'.res + 1) ds h3
      rw [hb d'.res (by omega)]
      rw [setVar_same]
      apply val_congr
      intro v hv
      have hlt := h2 v hv
      rw [hb v (Nat.lt_succ_of_lt hlt)]
      exact (setVar_ne (Nat.ne_of_lt hlt)).symm
    · simp only [exactAsg]; exact ih _ (d.res + 1) h3 d' hd'

theorem ctxOf_mem (m : Nat) (defs : List Def) (h : WF m defs) : ∀ d ∈ defs, ctxOf defs d.res = d.ctx := by
  induction defs generalizing m with
  | nil => simp
  | cons d ds ih =>
    obtain ⟨_, _, h3⟩ := h
    intro d' hd'
    simp only [List.mem_cons] at hd'
    rcases hd' with hd' | hd'
    · subst hd'; simp [ctxOf]
    · have hge := wf_res_ge h3 d' hd'
      have : d.res ≠ d'.res := Nat.ne_of_lt (Nat.lt_of_succ_le hge)
      simp only [ctxOf, this, if_false]
      exact ih (d.res + 1) h3 d' hd'

theorem ctxOf_undef (defs : List Def) (v : Var) (h : ∀ d ∈ defs, d.res ≠ v) : ctxOf defs v = .mix := by
  induction defs with
  | nil => rfl
  | cons d t ih =>
    have : d.res ≠ v := h d (by simp)
    simp only [ctxOf, this, if_false]
    exact ih (fun e he => h e (by simp [he]))

theorem defined_or_not (defs : List Def) (v : Var) : (∃ d ∈ defs, d.res = v) ∨ (∀ d ∈ defs, d.res ≠ v) := by
  by_cases h : ∃ d ∈ defs, d.res = v
  · exact Or.inl h
  · right; intro d hd e; exact h ⟨d, hd, e⟩

theorem sos1Ok_congr (a e : Asg) (l : List Var) (h : ∀ v ∈ l, a v = e v) : sos1Ok a l = sos1Ok e l := by
  induction l with
  | nil => rfl
  | cons b t ih =>
    have ht : ∀ v ∈ t, a v = e v := fun v hv => h v (by simp [hv])
    simp only [sos1Ok, h b (by simp), ih ht]
    rw [all_congr_mem (fun w => a w == 0) (fun w => e w == 0) t (fun w hw => by rw [ht w hw])]

theorem sos2Ok_congr (a e : Asg) (l : List Var) (h : ∀ v ∈ l, a v = e v) : sos2Ok a l = sos2Ok e l := by
  induction l with
  | nil => rfl
  | cons b t ih =>
    cases t with
    | nil => rfl
    | cons c t' =>
      have ht : ∀ v ∈ c :: t', a v = e v := fun v hv => h v (by simp only [List.mem_cons] at hv ⊢; exact Or.inr hv)
      have ht' : ∀ v ∈ t', a v = e v := fun v hv => ht v (by simp [hv])
      simp only [sos2Ok, h b (by simp), ih ht]
      rw [all_congr_mem (fun w => a w == 0) (fun w => e w == 0) t' (fun w hw => by rw [ht' w hw])]

theorem sat_congr (c : Con) (a e : Asg) (h : ∀ v ∈ c.vars, a v = e v) : c.sat a ↔ c.sat e := by
  cases c with
  | linRange body lb ub => simp only [Con.sat, linvars_congr (l := body) h]
  | linRhs k body rhs => simp only [Con.sat, linvars_congr (l := body) h]
  | quadRange lin q lb ub => simp only [Con.sat, linquad_congr (l := lin) (q := q) h]
  | quadRhs k lin q rhs => simp only [Con.sat, linquad_congr (l := lin) (q := q) h]
  | indLin b bv k body rhs =>
    simp only [Con.vars, List.mem_cons] at h
    simp only [Con.sat, h b (Or.inl rfl), linvars_congr (l := body) (fun v hv => h v (Or.inr hv))]
  | sos1 vs ws => simp only [Con.sat, sos1Ok_congr a e vs h]
  | sos2 vs ws => simp only [Con.sat, sos2Ok_congr a e vs h]
  | func res ctx f =>
    simp only [Con.vars, List.mem_cons] at h
    simp only [Con.sat, h res (Or.inl rfl), val_congr f a e (fun v hv => h v (Or.inr hv))]

theorem auxOk_congr (n : Nat) (a e : Asg) (l : List VarInfo) (h : ∀ v, v < n + l.length → a v = e v) :
    auxOk n a l ↔ auxOk n e l := by
  induction l generalizing n with
  | nil => simp [auxOk]
  | cons i t ih =>
    simp only [auxOk, List.length_cons] at h ⊢
    rw [h n (by omega), ih (n + 1) (fun v hv => h v (by omega))]

theorem ctxGaps_sound (B : Bnds) (defs : List Def) (roots : List Root) (h : ctxGaps B defs roots = []) :
    CtxCovers B defs roots := by
  have hf : ∀ p ∈ ctxUses B defs roots, p.2 ≤ (ctxOf defs p.1).eff := by
    intro p hp
    simp only [ctxGaps, List.map_eq_nil_iff, List.filter_eq_nil_iff] at h
    have := h p hp
    simpa using this
  constructor
  · intro r hr p hp
    exact hf p (by simp only [ctxUses, List.mem_append, List.mem_flatMap]; exact Or.inl ⟨r, hr, hp⟩)
  · intro d hd p hp
    exact hf p (by simp only [ctxUses, List.mem_append, List.mem_flatMap]; exact Or.inr ⟨d, hd, hp⟩)

theorem wfB_sound (m : Nat) (defs : List Def) (h : wfB m defs = true) : WF m defs := by
  induction defs generalizing m with
  | nil => trivial
  | cons d ds ih =>
    simp only [wfB, Bool.and_eq_true, decide_eq_true_eq, List.all_eq_true] at h
    exact ⟨h.1.1, fun v hv => h.1.2 v hv, ih (d.res + 1) h.2⟩

end MpVerif.C01
