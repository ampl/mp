import MpVerif.C01.LemmasConvertInv
import MpVerif.C01.Props
/-!
# C01 — the reference converter: the downward propagation from the logical rows.  Every fact of `narrowFacts` sits on a 0/1 variable
with a 0/1 value and holds at the exact assignment of an NL-feasible point; the narrowed bounds are tighter than the created ones.
A definition the propagation removed (`removedDef`: an `and` fixed at 1 or an `or` fixed at 0, all arguments fixed likewise) holds
at every point that obeys the facts, so it is a valid step that delivers nothing (`removed_stepOK`).
-/
namespace MpVerif.C01

theorem narrowFacts_sub (l : List Def) (F : List Fact) : ∀ f ∈ F, f ∈ narrowFacts l F := by
  induction l generalizing F with
  | nil => intro f hf; exact hf
  | cons d t ih =>
    intro f hf
    simp only [narrowFacts]
    exact ih _ f (List.mem_append_left _ hf)

theorem narrowFacts_inv (P : Fact → Prop) (l : List Def)
    (h : ∀ d ∈ l, ∀ f, P f → f.1 = d.res → ∀ g ∈ propDown d f.2.1 f.2.2, P g) (F : List Fact) (hF : ∀ f ∈ F, P f) :
    ∀ f ∈ narrowFacts l F, P f := by
  induction l generalizing F with
  | nil => exact hF
  | cons d t ih =>
    simp only [narrowFacts]
    apply ih (fun d' hd' => h d' (List.mem_cons_of_mem _ hd'))
    intro f hf
    simp only [List.mem_append, List.mem_flatMap, List.mem_filter, decide_eq_true_eq] at hf
    rcases hf with hf | ⟨f0, ⟨hf0, he⟩, hg⟩
    · exact hF f hf
    · exact h d (List.mem_cons_self) f0 (hF f0 hf0) he f hg

theorem rootFacts_mem (l : List Var) (j : Nat) : ∀ f ∈ rootFacts l j, f.1 ∈ l ∧ f.2.1 = 1 := by
  induction l generalizing j with
  | nil => intro f hf; simp [rootFacts] at hf
  | cons r t ih =>
    intro f hf
    simp only [rootFacts, List.mem_cons] at hf
    rcases hf with hf | hf
    · subst hf; exact ⟨List.mem_cons_self, rfl⟩
    · obtain ⟨h1, h2⟩ := ih (j + 1) f hf
      exact ⟨List.mem_cons_of_mem _ h1, h2⟩

theorem rootFacts_has (l : List Var) (j : Nat) (v : Var) (hv : v ∈ l) : ∃ k, (v, 1, k) ∈ rootFacts l j := by
  induction l generalizing j with
  | nil => simp at hv
  | cons r t ih =>
    simp only [List.mem_cons] at hv
    rcases hv with hv | hv
    · subst hv; exact ⟨j, by simp [rootFacts]⟩
    · obtain ⟨k, hk⟩ := ih (j + 1) hv
      exact ⟨k, by simp only [rootFacts, List.mem_cons]; exact Or.inr hk⟩

theorem factOf_mem {F : List Fact} {v : Var} {c : Rat} (h : factOf F v = some c) : ∃ j, (v, c, j) ∈ F := by
  unfold factOf at h
  cases hf : F.find? (fun f => decide (f.1 = v)) with
  | none => simp [hf] at h
  | some f =>
    simp only [hf, Option.map_some, Option.some.injEq] at h
    have hm := List.mem_of_find?_eq_some hf
    have hp := List.find?_some hf
    simp only [decide_eq_true_eq] at hp
    obtain ⟨v', c', j⟩ := f
    simp only at hp h
    subst hp; subst h
    exact ⟨j, hm⟩

theorem factOf_some {F : List Fact} {v : Var} {c : Rat} {j : Nat} (h : (v, c, j) ∈ F) : ∃ c', factOf F v = some c' := by
  unfold factOf
  cases hf : F.find? (fun f => decide (f.1 = v)) with
  | none =>
    have := List.find?_eq_none.mp hf (v, c, j) h
    simp at this
  | some f => exact ⟨f.2.1, rfl⟩

theorem factOf_noconflict {F : List Fact} (hc : factsConflict F = false) {v : Var} {c : Rat} {j : Nat} (h : (v, c, j) ∈ F) :
    factOf F v = some c := by
  obtain ⟨c', hc'⟩ := factOf_some h
  obtain ⟨j', hm⟩ := factOf_mem hc'
  rw [hc']
  by_cases he : c' = c
  · rw [he]
  · exfalso
    have : factsConflict F = true := by
      simp only [factsConflict, List.any_eq_true, Bool.and_eq_true, decide_eq_true_eq, bne_iff_ne, ne_eq]
      exact ⟨(v, c', j'), hm, (v, c, j), h, rfl, he⟩
    rw [hc] at this; exact Bool.noConfusion this

theorem mem_propDown {d : Def} {c : Rat} {j : Nat} {g : Fact} (hg : g ∈ propDown d c j) :
    g.1 ∈ logicalArgs d.f ∧ ((∃ a, d.f = .not a ∧ g.2.1 = 1 - c) ∨ (∃ as, d.f = .and as ∧ c = 1 ∧ g.2.1 = 1) ∨
      (∃ as, d.f = .or as ∧ c = 0 ∧ g.2.1 = 0)) := by
  unfold propDown at hg
  cases hf : d.f with
  | not a =>
    simp only [hf, List.mem_singleton] at hg
    subst hg
    exact ⟨by simp [logicalArgs], Or.inl ⟨a, rfl, rfl⟩⟩
  | and as =>
    simp only [hf] at hg
    split at hg
    · obtain ⟨a, ha, rfl⟩ := List.mem_map.mp hg
      exact ⟨ha, Or.inr (Or.inl ⟨as, rfl, ‹_›, rfl⟩)⟩
    · simp at hg
  | or as =>
    simp only [hf] at hg
    split at hg
    · obtain ⟨a, ha, rfl⟩ := List.mem_map.mp hg
      exact ⟨ha, Or.inr (Or.inr ⟨as, rfl, ‹_›, rfl⟩)⟩
    · simp at hg
  | _ => simp [hf] at hg

theorem propDown_sound (d : Def) (y : Asg) (c : Rat) (j : Nat) (hval : y d.res = d.f.val y) (hc : y d.res = c)
    (h01 : ∀ a ∈ logicalArgs d.f, y a = 0 ∨ y a = 1) : ∀ g ∈ propDown d c j, y g.1 = g.2.1 := by
  intro g hg
  obtain ⟨ha, h⟩ := mem_propDown hg
  rw [hc] at hval
  rcases h with ⟨a, hf, h⟩ | ⟨as, hf, h1, h⟩ | ⟨as, hf, h0, h⟩ <;> rw [h] <;> rw [hf] at hval ha <;>
    simp only [Fun.val, b2r] at hval
  · rw [List.mem_singleton.mp ha]; grind
  · split at hval
    · rename_i hall; simpa using List.all_eq_true.mp hall g.1 ha
    · rw [h1] at hval; exact absurd hval (by decide)
  · split at hval
    · rw [h0] at hval; exact absurd hval (by decide)
    · rename_i hany
      rcases h01 g.1 (by rw [hf]; exact ha) with h | h
      · exact h
      · exact absurd (List.any_eq_true.mpr ⟨g.1, ha, by simp [h]⟩) hany

theorem typed_logicalArgs (B : Bnds) (d : Def) (ht : typedDef B d = true) : ∀ a ∈ logicalArgs d.f, isBin01 (B a) = true :=
  ((typedDef_iff B d).mp ht).2.2

theorem propDown_bin (B0 : Bnds) (d : Def) (c : Rat) (j : Nat) (ht : typedDef B0 d = true) (hc : c = 0 ∨ c = 1) :
    ∀ g ∈ propDown d c j, isBin01 (B0 g.1) = true ∧ (g.2.1 = 0 ∨ g.2.1 = 1) := by
  intro g hg
  obtain ⟨ha, h⟩ := mem_propDown hg
  refine ⟨typed_logicalArgs B0 d ht _ ha, ?_⟩
  rcases h with ⟨_, _, h⟩ | ⟨_, _, _, h⟩ | ⟨_, _, _, h⟩ <;> rw [h]
  · rcases hc with h | h <;> subst h <;> grind
  · exact Or.inr rfl
  · exact Or.inl rfl

def FactsBin (B0 : Bnds) (F : List Fact) : Prop := ∀ f ∈ F, isBin01 (B0 f.1) = true ∧ (f.2.1 = 0 ∨ f.2.1 = 1)

theorem narrowB_none {B0 : Bnds} {F : List Fact} {v : Var} (h : factOf F v = none) : narrowB B0 F v = B0 v := by
  simp [narrowB, h]

theorem narrowB_some {B0 : Bnds} {F : List Fact} {v : Var} {c : Rat} (h : factOf F v = some c) :
    narrowB B0 F v = { lb := some c, ub := some c, isInt := (B0 v).isInt } := by
  simp [narrowB, h]

theorem domB_narrow {N : Nat} {B B0 : Bnds} {F : List Fact} (hb : FactsBin B0 F)
    (hB : ∀ v, v < N → B v = narrowB B0 F v) (y : Asg) :
    DomB N B y ↔ DomB N B0 y ∧ ∀ v c, v < N → factOf F v = some c → y v = c := by
  have key : ∀ v, v < N → (inDom B y v ↔ inDom B0 y v ∧ ∀ c, factOf F v = some c → y v = c) := by
    intro v hv
    unfold inDom; rw [hB v hv]
    cases hf : factOf F v with
    | none => simp [narrowB_none hf]
    | some c =>
      obtain ⟨j, hm⟩ := factOf_mem hf
      obtain ⟨hbin, h01⟩ := hb _ hm
      simp only [narrowB_some hf, isBin01_eq hbin, point_admits, Option.some.injEq, forall_eq']
      exact ⟨fun h => ⟨h.1 ▸ admits_binary_of h01, h.1⟩, fun h => ⟨h.2, h.1.2.2⟩⟩
  exact ⟨fun h => ⟨fun v hv => ((key v hv).mp (h v hv)).1, fun v c hv => ((key v hv).mp (h v hv)).2 c⟩,
    fun h v hv => (key v hv).mpr ⟨h.1 v hv, fun c => h.2 v c hv⟩⟩

theorem narrowB_isBinary (B0 : Bnds) (F : List Fact) (hb : FactsBin B0 F) (a : Var) (hbin : isBin01 (B0 a) = true) :
    (narrowB B0 F a).isBinary = true := by
  cases hf : factOf F a with
  | none => rw [narrowB_none hf, isBin01_eq hbin]; exact binary_isBinary
  | some c =>
    rw [narrowB_some hf]
    obtain ⟨j, hm⟩ := factOf_mem hf
    obtain ⟨_, h01⟩ := hb _ hm
    rcases h01 with h | h <;> (simp only at h; subst h; cases (B0 a).isInt <;> decide +kernel)

theorem fixTrue_mem (m : NLModel) (cfg : Cfg) (hv : m.vok = true) (v : Var) (h : v ∈ (convert m cfg).fixTrue) :
    (⟨[(1, v)], some 1, none⟩ : Root) ∈ (convert m cfg).roots ∧ isBin01 ((convert m cfg).B0 v) = true := by
  have h' : v ∈ (flatAll m).lroots.flatMap (fun r => r.body.map (·.2)) := h
  simp only [List.mem_flatMap, List.mem_map] at h'
  obtain ⟨r, hr, p, hp, hpv⟩ := h'
  obtain ⟨w, hw, hb⟩ := flatAll_lroots m hv r hr
  subst hw
  simp only [List.mem_singleton] at hp
  subst hp
  simp only at hpv
  subst hpv
  exact ⟨(List.mem_append_right _ hr : _ ∈ (flatAll m).croots ++ (flatAll m).lroots), hb⟩

theorem root_fixTrue (m : NLModel) (cfg : Cfg) (hv : m.vok = true) (r : Root) (hr : r ∈ (convert m cfg).roots) :
    r ∈ (convert m cfg).rootsD ∨ ∃ v, r = (⟨[(1, v)], some 1, none⟩ : Root) ∧ v ∈ (convert m cfg).fixTrue := by
  have h' : r ∈ (flatAll m).croots ++ (flatAll m).lroots := hr
  simp only [List.mem_append] at h'
  rcases h' with h | h
  · exact Or.inl h
  · right
    obtain ⟨w, hw, _⟩ := flatAll_lroots m hv r h
    refine ⟨w, hw, ?_⟩
    show w ∈ (flatAll m).lroots.flatMap (fun r => r.body.map (·.2))
    simp only [List.mem_flatMap, List.mem_map]
    exact ⟨r, h, (1, w), by rw [hw]; simp, rfl⟩

theorem convert_factsBin (m : NLModel) (cfg : Cfg) (hv : m.vok = true) :
    FactsBin (convert m cfg).B0 (convert m cfg).facts := by
  have st := structural_of_vok m cfg hv
  show ∀ f ∈ narrowFacts (convert m cfg).defs.reverse (rootFacts (convert m cfg).fixTrue 0), _
  apply narrowFacts_inv (fun f => isBin01 ((convert m cfg).B0 f.1) = true ∧ (f.2.1 = 0 ∨ f.2.1 = 1))
  · intro d hd f hf _ g hg
    exact propDown_bin _ d f.2.1 f.2.2 (st.typed d (List.mem_reverse.mp hd)) hf.2 g hg
  · intro f hf
    obtain ⟨h1, h2⟩ := rootFacts_mem _ _ f hf
    exact ⟨(fixTrue_mem m cfg hv f.1 h1).2, Or.inr h2⟩

theorem convert_factsSound (m : NLModel) (cfg : Cfg) (hv : m.vok = true) (x : Asg)
    (hdom : DomB (convert m cfg).N (convert m cfg).B0 (exactAsg x (convert m cfg).defs))
    (hnl : NLsat (convert m cfg).defs (convert m cfg).roots x) :
    ∀ f ∈ (convert m cfg).facts, exactAsg x (convert m cfg).defs f.1 = f.2.1 := by
  have st := structural_of_vok m cfg hv
  show ∀ f ∈ narrowFacts (convert m cfg).defs.reverse (rootFacts (convert m cfg).fixTrue 0), _
  apply narrowFacts_inv (fun f => exactAsg x (convert m cfg).defs f.1 = f.2.1)
  · intro d hd f hf he g hg
    have hd' := List.mem_reverse.mp hd
    exact propDown_sound d _ f.2.1 f.2.2 (exact_spec x _ _ st.wf d hd') (by rw [← he]; exact hf)
      (typed_args01 (st.typed d hd') fun a ha => hdom a (wf_vars_lt_of_res st.wf st.lt d hd' a ha)) g hg
  · intro f hf
    obtain ⟨h1, h2⟩ := rootFacts_mem _ _ f hf
    obtain ⟨hr, hb⟩ := fixTrue_mem m cfg hv f.1 h1
    have hN : f.1 < (convert m cfg).N := st.rootsN _ hr (1, f.1) (by simp)
    rw [h2]; exact (lroot_sat (bin01_vals hb (hdom f.1 hN))).mp (hnl _ hr)

theorem removed_stepOK (N : Nat) (Dom : Asg → Prop) (F : List Fact) (nref : Var → Nat) (d : Def)
    (hfix : ∀ y, Dom y → ∀ v c, v < N → factOf F v = some c → y v = c) (hres : d.res < N) (hvars : ∀ v ∈ d.f.vars, v < N)
    (hrm : removedDef F nref d = true) :
    StepOK N Dom { d with Deliv := fun _ => True, lo := N, hi := N } := by
  refine ⟨Nat.le_refl _, ?_, fun z _ _ => ⟨z, fun _ _ => rfl, trivial⟩, fun _ _ _ _ => trivial⟩
  intro y hy _
  apply C01_mix_implies_ctx
  have hfix := hfix y hy
  simp only [removedDef, Bool.and_eq_true] at hrm
  obtain ⟨hk, _⟩ := hrm
  show y d.res = d.f.val y
  cases hf : d.f with
  | and as =>
    simp only [hf, Bool.and_eq_true, beq_iff_eq, List.all_eq_true] at hk
    rw [hfix d.res 1 hres hk.1]
    simp only [Fun.val, b2r]
    rw [if_pos]
    apply List.all_eq_true.mpr
    intro a ha
    have := hfix a 1 (hvars a (by rw [hf]; simpa [Fun.vars] using ha)) (hk.2 a ha)
    simp [this]
  | or as =>
    simp only [hf, Bool.and_eq_true, beq_iff_eq, List.all_eq_true] at hk
    rw [hfix d.res 0 hres hk.1]
    simp only [Fun.val, b2r]
    rw [if_neg]
    intro hany
    obtain ⟨a, ha, h1⟩ := List.any_eq_true.mp hany
    have := hfix a 0 (hvars a (by rw [hf]; simpa [Fun.vars] using ha)) (hk.2 a ha)
    rw [this] at h1
    revert h1; decide +kernel
  | _ => simp [hf] at hk

end MpVerif.C01
