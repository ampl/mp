import MpVerif.C01.ModelGadgets2
import MpVerif.C01.Props
import MpVerif.Gen.C01Decisions
import MpVerif.Gen.C01Context
import MpVerif.Gen.C01PropDown
import MpVerif.Gen.C01Bodies
/-!
# C01 — ties between the hand model and definitions GENERATED from the source on every run

* `Gen/C01Context.lean` — clang-14 typed-AST translation of every member function of `mp::Context`
  (translators/gen_context_ast.py).  `C01_gen_ctx_*`: the hand model's `Ctx` operations ARE these functions, for all values.
  (`PropsCtxGen.lean` ties the same class a second time, to the function graphs tabulated from the compiled header; `Ctx.code'`
  here is its `Ctx.code`.)
* `Gen/C01PropDown.lean` — every `PropagateResult` overload of `constr_prop_down.h` with the context expression it hands to
  each argument group (translators/gen_propdown.py).  `C01_gen_propdown_*`: the set of overloads and their rules are the ones the
  model's `prop*` functions were written against (`expectedOverloads`, which names the Lean rule per overload), and for the rules
  that are a fixed context expression the Lean rule is proved equal to the *interpretation* of the generated entry.
* `Gen/C01Decisions.lean` — source-text translation of two decision functions: which constraint `RangeConstraintConverter::Convert`
  emits (`Relate`, `Convert`, `ConvertWithRhs`) and which directions `BasicFuncConstrCvt::Convert` converts, in which order
  (translators/gen_rangedec.py).  `C01_gen_range_decision`, `C01_gen_dispatch_*`: the Lean `gRangeLin` / `needNeg` / `needPos` agree.
* `Gen/C01Bodies.lean` — digests of the converter function bodies the Lean gadgets mirror.  `C01_gen_bodies`: they equal the table
  `expectedDigests` of the bodies the gadgets were written against, so an edit of such a body in the source breaks the theorem
  (re-read, update model + table).

Three groups at the end relate parts of the hand model to each other, not to generated code: the driver's unary-encoding front end
`gUnaryEncFull` emits the rows of `gUnaryEnc` (`C01_tie_unaryenc_*`); the `sort_terms` model keeps the value of a row
(`C01_sort_terms_value`, `C01_stored_sat`); the row the driver op `mulbin` emits (`gMulBinTerm`) gives the hypothesis `hr` of
`C01_gadget_mul_binary_term` (`C01_tie_mulbin_term`).
-/
namespace MpVerif.C01
open MpVerif.Gen

def Ctx.code' : Ctx → Nat
  | .none => 0 | .pos => 1 | .neg => 2 | .mix => 3

theorem C01_gen_ctx_enum : C01Context.enumCodes = [("CTX_NONE", 0), ("CTX_POS", 1), ("CTX_NEG", 2), ("CTX_MIX", 3)] := by rfl
theorem C01_gen_ctx_Add (a b : Ctx) : C01Context.Add a.code' b.code' = (a.add b).code' := by cases a <;> cases b <;> rfl
theorem C01_gen_ctx_opPlus (a : Ctx) : C01Context.opPlus a.code' = a.plus.code' := by cases a <;> rfl
theorem C01_gen_ctx_opMinus (a : Ctx) : C01Context.opMinus a.code' = a.flip.code' := by cases a <;> rfl
theorem C01_gen_ctx_HasPositive (a : Ctx) : C01Context.HasPositive a.code' = a.hasPos := by cases a <;> rfl
theorem C01_gen_ctx_HasNegative (a : Ctx) : C01Context.HasNegative a.code' = a.hasNeg := by cases a <;> rfl
theorem C01_gen_ctx_IsNone (a : Ctx) : C01Context.IsNone a.code' = decide (a = .none) := by cases a <;> rfl
theorem C01_gen_ctx_IsPositive (a : Ctx) : C01Context.IsPositive a.code' = decide (a = .pos) := by cases a <;> rfl
theorem C01_gen_ctx_IsNegative (a : Ctx) : C01Context.IsNegative a.code' = decide (a = .neg) := by cases a <;> rfl
theorem C01_gen_ctx_IsMixed (a : Ctx) : C01Context.IsMixed a.code' = decide (a = .mix) := by cases a <;> rfl

/-! ## `PropagateResult` overloads: structure and rules

Lean rule per overload (the model's table):
`Constraint` (default: abs, min, max, count, div, …) → `propDefault`; `LinearFunctionalConstraint` → `propLFC`;
`QuadraticFunctionalConstraint` → `propQFC`; root `AlgebraicConstraint<Body,AlgConRange>` → `rangeCtx`/`propRangeLin`;
`IndicatorConstraint<…>` → `propIndicator`; `NotConstraint` → `propNot`; `AndConstraint` → `propAnd`; `OrConstraint` → `propOr`;
`IfThenConstraint` → `propIfThen`; `ImplicationConstraint` → `propImpl`; `AllDiff/NumberofConst/NumberofVar` → `propDefault` (mixed);
`CondLinConEQ` → `propCondLin .eq`; `ConditionalConstraint<…AlgConRhs<kind>>` → `propCondLin k`; helpers `PropagateResult2LinTerms`
→ `propLin`, `PropagateResult2QuadTerms` → `propQuad`, `PropagateIfThenResultIntoCondition` → condition part of `propIfThen`.
Not modelled (outside the exact fragment or not reachable from NL): SOS, Complementarity (mixed everywhere), Pow, Log, LogA, Exp, ExpA,
CondQuadConEQ. -/

def expectedOverloads : List (String × String × List String × List (String × String × String)) := [
  ("Constraint", "ctx", [], [("PropagateResult2Args", "con.GetArguments()", "Context::CTX_MIX")]),
  ("LinearFunctionalConstraint", "ctx", [], [("PropagateResult2LinTerms", "con.GetAffineExpr()", "+ctx")]),
  ("QuadraticFunctionalConstraint", "ctx", [], [("PropagateResult2LinTerms", "args.GetLinTerms()", "+ctx"), ("PropagateResult2QuadTerms", "args.GetQPTerms()", "+ctx")]),
  ("AlgebraicConstraint<Body,AlgConRange>", "root", ["auto ctx=con.lb()<=MPD(PracticallyMinusInf())?Context::CTX_NEG:con.ub()>=MPD(PracticallyInf())?Context::CTX_POS:Context::CTX_MIX;"], [("PropagateResult2Args", "con.GetBody()", "ctx")]),
  ("IndicatorConstraint<AlgebraicConstraint<Body,AlgConRhs<sens>>>", "ctx", [], [("PropagateResultOfInitExpr", "con.get_binary_var()", "1==con.get_binary_value()?Context::CTX_NEG:Context::CTX_POS"), ("PropagateResult2Args", "con.get_constraint().GetBody()", "0==sens?Context::CTX_MIX:0<sens?+ctx:-ctx")]),
  ("SOS_1or2_Constraint<type>", "ctx", [], [("PropagateResult2Vars", "con.get_vars()", "Context::CTX_MIX")]),
  ("ComplementarityConstraint<ExprBody>", "root", [], [("PropagateResult", "con", "Context::CTX_MIX")]),
  ("ComplementarityConstraint<ExprBody>", "ctx", [], [("PropagateResult2Args", "con.GetExpression().GetBody()", "Context::CTX_MIX"), ("PropagateResultOfInitExpr", "con.GetVariable()", "Context::CTX_MIX")]),
  ("NotConstraint", "ctx", [], [("PropagateResultOfInitExpr", "con.GetArguments()[0]", "-ctx")]),
  ("AndConstraint", "ctx", [], [("PropagateResult2Vars", "con.GetArguments()", "+ctx")]),
  ("OrConstraint", "ctx", [], [("PropagateResult2Vars", "con.GetArguments()", "+ctx")]),
  ("IfThenConstraint", "ctx", [], [("PropagateIfThenResultIntoCondition", "args", "ctx"), ("PropagateResultOfInitExpr", "args[1]", "+ctx"), ("PropagateResultOfInitExpr", "args[2]", "+ctx")]),
  ("ImplicationConstraint", "ctx", [], [("PropagateResultOfInitExpr", "args[0]", "Context::CTX_MIX"), ("PropagateResultOfInitExpr", "args[1]", "+ctx"), ("PropagateResultOfInitExpr", "args[2]", "+ctx")]),
  ("AllDiffConstraint", "ctx", [], [("PropagateResult2Vars", "con.GetArguments()", "Context::CTX_MIX")]),
  ("NumberofConstConstraint", "ctx", [], [("PropagateResult2Vars", "con.GetArguments()", "Context::CTX_MIX")]),
  ("NumberofVarConstraint", "ctx", [], [("PropagateResult2Vars", "con.GetArguments()", "Context::CTX_MIX")]),
  ("PowConstraint", "ctx", ["auto pwr=con.GetParameters()[0];", "auto arg=con.GetArguments()[0];", "bool is_pow_int=(MPD(is_integer_value(pwr)));", "bool is_pow_odd=is_pow_int&&!MPD(is_integer_value(pwr/2.0));", "bool is_pow_odd_pos=(pwr>=0.0&&is_pow_odd);", "ctx_new=+ctx;", "ctx_new=(pwr>=0.0)?+ctx:-ctx;", "ctx_new=-ctx;", "ctx_new=is_pow_odd?-ctx:+ctx;", "ctx_new.Add(Context::CTX_MIX);"], [("PropagateResult2Args", "con.GetArguments()", "ctx_new")]),
  ("LogConstraint", "ctx", [], [("PropagateResult2Args", "con.GetArguments()", "ctx")]),
  ("LogAConstraint", "ctx", ["auto ctx_new=(con.GetParameters()[0]>=0.0)?ctx:-ctx;"], [("PropagateResult2Args", "con.GetArguments()", "ctx_new")]),
  ("ExpConstraint", "ctx", [], [("PropagateResult2Args", "con.GetArguments()", "ctx")]),
  ("ExpAConstraint", "ctx", [], [("PropagateResult2Args", "con.GetArguments()", "ctx")]),
  ("CondLinConEQ", "ctx", [], [("PropagateResult2LinTerms", "con.GetConstraint().GetBody()", "Context::CTX_MIX")]),
  ("CondQuadConEQ", "ctx", [], [("PropagateResult2QuadAndLinTerms", "con.GetConstraint().GetBody()", "Context::CTX_MIX")]),
  ("ConditionalConstraint<AlgebraicConstraint<Body,AlgConRhs<kind>>>", "ctx", ["auto ctx_new=kind>0?ctx:kind<0?-ctx:Context::CTX_MIX;"], [("PropagateResult2Args", "con.GetConstraint().GetBody()", "ctx_new")])
]


def expectedHelpers : List (String × String) := [
  ("PropagateIfThenResultIntoCondition", "Context ctx_cond=Context::CTX_MIX;if(ctx.IsPositive()||ctx.IsNegative()){if(MPCD(lb(args[1]))>=MPCD(ub(args[2])))ctx_cond=+ctx;else if(MPCD(lb(args[2]))>=MPCD(ub(args[1])))ctx_cond=-ctx;}MPD(PropagateResultOfInitExpr(args[0],0.0,1.0,ctx_cond));"),
  ("PropagateResult2LinTerms", "for(auto i=lint.size();i--;){if(0.0!=std::fabs(lint.coef(i))){MPD(PropagateResultOfInitExpr(lint.var(i),MPD(MinusInfty()),MPD(Infty()),(lint.coef(i)>=0.0)?+ctx:-ctx));}}"),
  ("PropagateResult2QuadTerms", "for(auto i=quadt.size();i--;){if(0.0!=std::fabs(quadt.coef(i))){auto var1=quadt.var1(i),var2=quadt.var2(i);auto ctx12=(quadt.coef(i)>=0.0)?ctx:-ctx;if(MPD(lb(var1))>=0.0&&MPD(lb(var2))>=0.0){}else if(MPD(ub(var1))<=0.0&&MPD(ub(var2))<=0.0){ctx12=-ctx12;}else ctx12=Context::CTX_MIX;MPD(PropagateResultOfInitExpr(var1,ctx12));if(var1!=var2)MPD(PropagateResultOfInitExpr(var2,ctx12));}}")
]


theorem C01_gen_propdown_overloads : C01PropDown.overloads = expectedOverloads := by rfl
theorem C01_gen_propdown_helpers : C01PropDown.helpers = expectedHelpers := by rfl

/-- interpretation of a context expression of the C++ source -/
def ctxExpr (e : String) (c : Ctx) : Option Ctx :=
  if e = "ctx" then some c else if e = "+ctx" then some c.plus else if e = "-ctx" then some c.flip
  else if e = "Context::CTX_MIX" then some .mix else none

/-- the context expressions an overload hands down, in call order -/
def ruleOf (ty : String) : List (String × String × String) :=
  match C01PropDown.overloads.find? (fun o => o.1 == ty && o.2.1 == "ctx") with
  | some o => o.2.2.2
  | none => []

def ruleCtxs (ty : String) (c : Ctx) : List (Option Ctx) := (ruleOf ty).map fun t => ctxExpr t.2.2 c

theorem C01_gen_rule_not (c : Ctx) (a : Var) : ruleCtxs "NotConstraint" c = (propNot c a).map (fun p => some p.2) := by
  have h : ruleCtxs "NotConstraint" c = [some c.flip] := by cases c <;> decide
  rw [h]; rfl
theorem C01_gen_rule_and (c : Ctx) (a : Var) : ruleCtxs "AndConstraint" c = (propAnd c [a]).map (fun p => some p.2) := by
  have h : ruleCtxs "AndConstraint" c = [some c.plus] := by cases c <;> decide
  rw [h]; rfl
theorem C01_gen_rule_or (c : Ctx) (a : Var) : ruleCtxs "OrConstraint" c = (propOr c [a]).map (fun p => some p.2) := by
  have h : ruleCtxs "OrConstraint" c = [some c.plus] := by cases c <;> decide
  rw [h]; rfl
theorem C01_gen_rule_impl (c : Ctx) (x t e : Var) :
    ruleCtxs "ImplicationConstraint" c = (propImpl c x t e).map (fun p => some p.2) := by
  have h : ruleCtxs "ImplicationConstraint" c = [some .mix, some c.plus, some c.plus] := by cases c <;> decide
  rw [h]; rfl
theorem C01_gen_rule_default (c : Ctx) (a : Var) : ruleCtxs "Constraint" c = (propDefault [a]).map (fun p => some p.2) := by
  have h : ruleCtxs "Constraint" c = [some .mix] := by cases c <;> decide
  rw [h]; rfl
theorem C01_gen_rule_lfc (c : Ctx) : ruleCtxs "LinearFunctionalConstraint" c = [some c.plus] := by cases c <;> decide
theorem C01_gen_rule_qfc (c : Ctx) : ruleCtxs "QuadraticFunctionalConstraint" c = [some c.plus, some c.plus] := by
  cases c <;> decide
theorem C01_gen_rule_ifthen_branches (c : Ctx) :
    (ruleCtxs "IfThenConstraint" c).drop 1 = [some c.plus, some c.plus] := by cases c <;> decide
theorem C01_gen_rule_counting (c : Ctx) :
    ruleCtxs "AllDiffConstraint" c = [some .mix] ∧ ruleCtxs "NumberofConstConstraint" c = [some .mix] ∧
    ruleCtxs "NumberofVarConstraint" c = [some .mix] ∧ ruleCtxs "CondLinConEQ" c = [some .mix] := by cases c <;> decide

def expectedDigests : List (String × String) := [
  ("redef/redef_base.h:Convert#0", "8ea71ad1d5ca2c16c9bb6622"),
  ("redef/redef_base.h:ConvertCtxNeg#0", "19d7fcbd8683eab1721d9d47"),
  ("redef/redef_base.h:ConvertCtxPos#0", "62e1a4cf82cf98416f9c2fe7"),
  ("redef/redef_base.h:Convert#1", "0a365cd40789d6566e250e4f"),
  ("redef/MIP/abs.h:ConvertCtxPos#0", "521c1e74a079ef85268a9d9f"),
  ("redef/MIP/abs.h:ConvertCtxNeg#0", "e780401d2ec33317f66cc03e"),
  ("redef/MIP/min_max.h:ConvertCtxPos#0", "13fcdedf59303fe3e74150b7"),
  ("redef/MIP/min_max.h:ConvertCtxNeg#0", "0fe4ad3c27dd21109bea6adc"),
  ("redef/MIP/min_max.h:ConvertConvexPart#0", "d1b1e22de795eafd3b9f70b5"),
  ("redef/MIP/min_max.h:ConvertNonConvexPart#0", "32539b043ab46ae118207105"),
  ("redef/MIP/logical_and.h:ConvertCtxPos#0", "68efd0cdc8c3029502c3b19c"),
  ("redef/MIP/logical_and.h:ConvertCtxNeg#0", "6660c71995e45c44cb06020b"),
  ("redef/MIP/logical_or.h:ConvertCtxPos#0", "ac9c4658410b251e380ee214"),
  ("redef/MIP/logical_or.h:ConvertCtxNeg#0", "c8e42c3b9e48f425999471bd"),
  ("redef/MIP/logical_not.h:Convert#0", "c5f0ab30ae707df75b0055aa"),
  ("redef/MIP/impl.h:Convert#0", "b81e636e133f21f1434e84ce"),
  ("redef/MIP/ifthenelse.h:Convert#0", "d2b1c1cb706c84c0e05c7ae5"),
  ("redef/MIP/ifthenelse.h:ConvertIfThen_constantThenElse#0", "e6bd0228274a1379c90e9944"),
  ("redef/MIP/ifthenelse.h:ConvertIfThen_variableThenElse#0", "cad6022da039cc1c1265da91"),
  ("redef/MIP/cond_eq.h:Convert#0", "9624ed7aa026a95053465ccd"),
  ("redef/MIP/cond_eq.h:ConvertCtxPos#0", "4d7c0d38147d0d52bb3b0aa3"),
  ("redef/MIP/cond_eq.h:ConvertCtxNeg#0", "33cf87a0f16f8170aa907b54"),
  ("redef/MIP/cond_ineq.h:ConvertCtxPos#0", "eff31d9cedf2e6e1ea4e0a88"),
  ("redef/MIP/cond_ineq.h:ConvertCtxNeg#0", "7a3cc20ce8e507c730fda704"),
  ("redef/MIP/cond_ineq.h:ConvertCondIneq#0", "092ab974b87c7cec0dc34706"),
  ("redef/MIP/indicator_le.h:Convert#0", "0121c098340b193daa369bda"),
  ("redef/MIP/indicator_le.h:ConvertImplicationLE#0", "1ae36ceb1fa7d4ce3ec73b55"),
  ("redef/MIP/indicator_ge.h:Convert#0", "898e87aa9aeec474a11cb426"),
  ("redef/MIP/indicator_ge.h:ConvertImplicationGE#0", "ac6e101f448845491f1f76c7"),
  ("redef/MIP/indicator_eq.h:Convert#0", "1f030cee6f5bd7414c282f23"),
  ("redef/MIP/count.h:Convert#0", "31fc3f79e3af87ba6ea8f7ee"),
  ("redef/MIP/numberof_const.h:Convert#0", "c7086047120ed34bb091382c"),
  ("redef/MIP/numberof_var.h:Convert#0", "fe1de42cf730ce8ec3d3c0b4"),
  ("redef/MIP/div.h:Convert#0", "f47a61e48d1d009f7f670073"),
  ("redef/MIP/div.h:ConvertWithConstDivisor#0", "9dc15965bc715d7ef369cf76"),
  ("redef/MIP/div.h:ConvertWithNonConstDivisor#0", "ca26f9b29101a2a180793617"),
  ("redef/MIP/mul.h:LinearizeProductWithBinaryVar#0", "4cadeb259f328a71b3af92de"),
  ("redef/std/range_con.h:Convert#0", "69fdaf4c925c6736f6c92609"),
  ("redef/std/range_con.h:Relate#0", "50106889cc90eb55aedbbed7"),
  ("redef/std/range_con.h:ConvertRange#0", "62f4ddb0bc2b34475f0f1c6e"),
  ("redef/std/range_con.h:ConvertWithRhs#0", "da35d3c8ea20f34fa88562af"),
  ("redef/MIP/converter_mip.h:ComparisonEps#0", "42c7da8ddc5db9c34441156b"),
  ("redef/MIP/converter_mip.h:ComparisonEps#1", "83a4932c81f215a4adb89cd5"),
  ("redef/MIP/converter_mip.h:IfMightUseEqualityEncodingForVar#0", "14cfae5963aafacd8da1444a"),
  ("redef/MIP/converter_mip.h:CreateUnaryEncoding#0", "bdbee71c43e146afcc634751"),
  ("expr_bounds.h:ComputeBoundsAndType#0", "1c6fa758d0800c79128bfae2"),
  ("expr_bounds.h:ComputeBoundsAndType#1", "86110982d5fc3845492da60f"),
  ("expr_bounds.h:ComputeBoundsAndType#2", "2964f0093cb1b3234ab343d4"),
  ("expr_bounds.h:ComputeBoundsAndType#3", "709672aeb8095f43d1dff24f"),
  ("constr_functional.h:to_linear_constraint#0", "53ebfe351acd6a8ccc9fad46"),
  ("constr_functional.h:AddQuadraticConstraint#0", "18b69d91330838be8e8a1de8")
]

theorem C01_gen_bodies : C01Bodies.digests = expectedDigests := by rfl

/-- what a range conversion produced, read off the output -/
def rangeKind (o : Out) : String :=
  match o.cons, o.vars with
  | [.linRhs .eq _ _], [_] => "range"
  | [.linRhs .eq _ _], [] => "EQ"
  | [.linRhs .ge _ _], [] => "GE"
  | [.linRhs .le _ _], [] => "LE"
  | [], [] => "none"
  | _, _ => "?"

/-- `lb != ub` on extended reals (an infinite bound differs from everything else that can occur here) -/
def boundsDiffer : Option Rat → Option Rat → Bool
  | some l, some u => l != u
  | _, _ => true

theorem C01_gen_range_decision (body : Lin) (lb ub : Option Rat) (n : Nat) :
    rangeKind (gRangeLin body lb ub n) = C01Decisions.rangeDecision (boundsDiffer lb ub) lb.isSome ub.isSome := by
  cases lb with
  | none => cases ub <;> simp [gRangeLin, rangeKind, boundsDiffer, C01Decisions.rangeDecision]
  | some l =>
    cases ub with
    | none => simp [gRangeLin, rangeKind, boundsDiffer, C01Decisions.rangeDecision]
    | some u =>
      by_cases h : l = u
      · subst h; simp [gRangeLin, rangeKind, boundsDiffer, C01Decisions.rangeDecision]
      · have hne : (l != u) = true := by simp [h]
        simp [gRangeLin, rangeKind, boundsDiffer, C01Decisions.rangeDecision, hne]

theorem C01_gen_relate_order : C01Decisions.relateOrder = ["neq", "lbFin", "ubFin"] := by rfl

theorem C01_gen_dispatch_neg (ctx : Ctx) (logical : Bool) (rv : VarInfo) :
    needNeg ctx logical rv = C01Decisions.dispatchNeg ctx.eff.hasNeg (if logical then optLT rv.lb 1 else true) := by
  rfl
theorem C01_gen_dispatch_pos (ctx : Ctx) (logical : Bool) (rv : VarInfo) :
    needPos ctx logical rv = C01Decisions.dispatchPos ctx.eff.hasPos (if logical then optGT rv.ub 0 else true) := by
  rfl
/-- the negative part is converted first (auxiliary variables of the positive part are numbered after it), as `dispatch` does -/
theorem C01_gen_dispatch_order : C01Decisions.negFirst = true := by rfl


/-! ## the driver's unary-encoding front end emits exactly the rows of `gUnaryEnc` (the function the gadget theorems are about) -/

theorem C01_tie_unaryenc_rows (v : Var) (B : Bnds) (taken : List (Int × Var)) (n : Nat) (l u : Rat)
    (hi : (B v).isInt = true) (hl : (B v).lb = some l) (hu : (B v).ub = some u) (hdl : l.den = 1) (hdu : u.den = 1) :
    (gUnaryEncFull v B taken n).cons
      = (gUnaryEnc v l.num (uencFlags taken l.num (u.num - l.num + 1).toNat n).1).cons := by
  simp [gUnaryEncFull, hi, hl, hu, hdl, hdu]

theorem C01_tie_unaryenc_flags_length (taken : List (Int × Var)) (k : Int) (len n : Nat) :
    (uencFlags taken k len n).1.length = len := by
  induction len generalizing k n with
  | zero => rfl
  | succ m ih =>
    simp only [uencFlags]
    split <;> simp [ih]

/-! ## `LinTerms::sort_terms`: the canonicalisation applied to every stored algebraic row preserves its value,
hence the truth of the row — the driver prints `Con.stored`, the gadget theorems speak about the rows before it -/

/-- `sort_terms` does not change the value of the body -/
theorem C01_sort_terms_value (x : Asg) (l : Lin) : evalLin x (sortTerms l) = evalLin x l := by
  unfold sortTerms
  split
  · rw [evalLin_filter_nonzero, evalLin_mergeTerms]
  · rfl

/-- … hence a stored row holds iff the row as emitted by the gadget holds -/
theorem C01_stored_sat (x : Asg) (c : Con) : c.stored.sat x ↔ c.sat x := by
  cases c <;> simp [Con.stored, Con.sat, C01_sort_terms_value]

/-- link between the function the driver op `mulbin` executes (`gMulBinTerm`) and `C01_gadget_mul_binary_term`: whenever the row emitted by
`gMulBinTerm b o zero B n` holds (result variable `n`, stored context `none` = equality), replacing the product term `c * b * o` by `c * n`
keeps the value of the body -/
theorem C01_tie_mulbin_term (c : Rat) (b o zr : Var) (B : Bnds) (n : Nat) (lin : Lin) (y : Asg)
    (hb : y b = 0 ∨ y b = 1) (hz : y zr = 0) (hsat : ∀ k ∈ (gMulBinTerm b o zr B n).cons, k.sat y) :
    evalLin y (lin ++ [(c, n)]) = evalLin y lin + evalQuad y [(c, b, o)] :=
  C01_gadget_mul_binary_term c b o zr n lin y hb hz (hsat (.func n .none (.ifthen b o zr)) (by simp [gMulBinTerm]))

end MpVerif.C01
