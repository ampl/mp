import MpVerif.C01.LemmasFlatModel
/-!
# C01 — property theorems (gadgets, context propagation)

Shape of a gadget theorem.  A conversion step performed when `n` variables exist produces
`o : Out`.  `Exact o n D P` says, for the relation `P` the step has to implement
(`P x := rel ctx (x res) (f.val x)`: the stored context's reading of `res = f(args)`), on the
domain `D` (argument variables of logical constraints are 0/1, values respect the bounds used):

* soundness    — every assignment `y` of *all* variables (auxiliaries included, auxiliaries in their
                 declared domains) that satisfies every emitted constraint satisfies `P y`;
* completeness — every `x` with `P x` can be extended by values for the auxiliary variables
                 (`x'` agreeing with `x` below `n`) so that all emitted constraints hold.

Since `P` only reads variables below `n`, the two together are: `P x ↔ ∃ aux, emitted constraints hold`.

Besides the gadget theorems the file holds the laws of `Ctx.add` (`C01_ctx_add_*`), the soundness of each propagation rule
(`C01_ctx_sound_*`) and the depth-1 composition `C01_compose_root_range_single_partial`.
-/
namespace MpVerif.C01

def Exact (o : Out) (n : Nat) (D P : Asg → Prop) : Prop :=
  (∀ y, D y → auxOk n y o.vars → (∀ c ∈ o.cons, c.sat y) → P y) ∧
  (∀ x, D x → P x → o.realizable n x)

theorem realizable_self {o : Out} {n : Nat} {x : Asg} (hv : o.vars = []) (h : ∀ c ∈ o.cons, c.sat x) :
    o.realizable n x := ⟨x, fun _ _ => rfl, by simp [hv, auxOk], h⟩

theorem Exact.of_iff {o : Out} {n : Nat} {D P : Asg → Prop} (hv : o.vars = [])
    (h : ∀ x, D x → ((∀ c ∈ o.cons, c.sat x) ↔ P x)) : Exact o n D P :=
  ⟨fun y hD _ hc => (h y hD).mp hc, fun x hD hP => realizable_self hv ((h x hD).mpr hP)⟩

theorem Exact.congr {o : Out} {n : Nat} {D D' P Q : Asg → Prop} (h : Exact o n D P)
    (hD : ∀ x, D' x → D x) (hPQ : ∀ x, D' x → (P x ↔ Q x)) : Exact o n D' Q :=
  ⟨fun y hy hax hc => (hPQ y hy).1 (h.1 y (hD y hy) hax hc), fun x hx hq => h.2 x (hD x hx) ((hPQ x hx).2 hq)⟩

theorem Exact.of_rows_iff {o o' : Out} {n : Nat} {D P : Asg → Prop} (h : Exact o' n D P) (hv : o.vars = o'.vars)
    (hc : ∀ x, (∀ c ∈ o.cons, c.sat x) ↔ ∀ c ∈ o'.cons, c.sat x) : Exact o n D P :=
  ⟨fun y hD hax hcs => h.1 y hD (hv ▸ hax) ((hc y).1 hcs),
   fun x hD hP => let ⟨x', hag, hax, hcs⟩ := h.2 x hD hP; ⟨x', hag, hv ▸ hax, (hc x').2 hcs⟩⟩

/-- a step made of two optional parts: `oA` (may create variables) exact for `PA`, `oB` (rows only) equivalent to `PB`,
where `PB` survives the choice of auxiliary values -/
theorem Exact.two_parts {o oA oB : Out} {n : Nat} {D PA PB : Asg → Prop} {gA gB : Prop} [Decidable gA]
    (hA : Exact oA n D PA) (hB : ∀ x, D x → ((∀ c ∈ oB.cons, c.sat x) ↔ PB x))
    (hvars : o.vars = if gA then oA.vars else [])
    (hcons : ∀ c, c ∈ o.cons ↔ (gA ∧ c ∈ oA.cons) ∨ (gB ∧ c ∈ oB.cons))
    (hDag : ∀ x x', agree n x x' → D x → D x') (hBag : ∀ x x', agree n x x' → D x → PB x → PB x') :
    Exact o n D (fun x => (gA → PA x) ∧ (gB → PB x)) := by
  constructor
  · intro y hD hax hc
    refine ⟨fun ga => hA.1 y hD ?_ fun c h => hc c ((hcons c).2 (Or.inl ⟨ga, h⟩)),
      fun gb => (hB y hD).1 fun c h => hc c ((hcons c).2 (Or.inr ⟨gb, h⟩))⟩
    rwa [hvars, if_pos ga] at hax
  · intro x hD ⟨hPA, hPB⟩
    by_cases ga : gA
    · obtain ⟨x', hag, hax, hcs⟩ := hA.2 x hD (hPA ga)
      refine ⟨x', hag, by rwa [hvars, if_pos ga], fun c hc => ?_⟩
      rcases (hcons c).1 hc with ⟨_, h⟩ | ⟨gb, h⟩
      · exact hcs c h
      · exact (hB x' (hDag x x' hag hD)).2 (hBag x x' hag hD (hPB gb)) c h
    · refine ⟨x, fun _ _ => rfl, by rw [hvars, if_neg ga]; trivial, fun c hc => ?_⟩
      rcases (hcons c).1 hc with ⟨ga', _⟩ | ⟨gb, h⟩
      · exact absurd ga' ga
      · exact (hB x hD).2 (hPB gb) c h

/-! ## `dispatch`

`hidx` below: the positive part does not depend on where its variables would start, or the negative part creates none.  In the
model one of the two always holds, by `rfl`. -/

theorem dispatch_vars {ctx : Ctx} {logical : Bool} {rv : VarInfo} {n : Nat} {cvtNeg cvtPos : Nat → Out}
    (hN : ∀ m, (cvtNeg m).refusal = none) (hP : ∀ m, (cvtPos m).refusal = none)
    (hidx : cvtPos (n + (cvtNeg n).vars.length) = cvtPos n) :
    (dispatch ctx logical rv n cvtNeg cvtPos).vars =
      (if needNeg ctx logical rv = true then (cvtNeg n).vars else []) ++
      (if needPos ctx logical rv = true then (cvtPos n).vars else []) := by
  cases hn : needNeg ctx logical rv <;> cases hp : needPos ctx logical rv <;> simp [dispatch, hn, hp, hN, hP, hidx]

theorem mem_dispatch_cons {ctx : Ctx} {logical : Bool} {rv : VarInfo} {n : Nat} {cvtNeg cvtPos : Nat → Out}
    (hN : ∀ m, (cvtNeg m).refusal = none) (hP : ∀ m, (cvtPos m).refusal = none)
    (hidx : cvtPos (n + (cvtNeg n).vars.length) = cvtPos n) (c : Con) :
    c ∈ (dispatch ctx logical rv n cvtNeg cvtPos).cons ↔
      (needNeg ctx logical rv = true ∧ c ∈ (cvtNeg n).cons) ∨ (needPos ctx logical rv = true ∧ c ∈ (cvtPos n).cons) := by
  cases hn : needNeg ctx logical rv <;> cases hp : needPos ctx logical rv <;> simp [dispatch, hn, hp, hN, hP, hidx]

theorem exact_dispatch_rows {ctx : Ctx} {logical : Bool} {rv : VarInfo} {n : Nat} {oN oP : Out} {D P PN PP : Asg → Prop}
    (hN0 : oN.refusal = none) (hP0 : oP.refusal = none) (hNv : oN.vars = []) (hPv : oP.vars = [])
    (cN : ∀ x, D x → ((∀ c ∈ oN.cons, c.sat x) ↔ PN x)) (cP : ∀ x, D x → ((∀ c ∈ oP.cons, c.sat x) ↔ PP x))
    (h : ∀ x, D x → (((needNeg ctx logical rv = true → PN x) ∧ (needPos ctx logical rv = true → PP x)) ↔ P x)) :
    Exact (dispatch ctx logical rv n (fun _ => oN) (fun _ => oP)) n D P := by
  refine Exact.of_iff (by simp [dispatch_vars (fun _ => hN0) (fun _ => hP0) rfl, hNv, hPv]) fun x hx => ?_
  rw [← h x hx, ← cN x hx, ← cP x hx]
  simp only [mem_dispatch_cons (fun _ => hN0) (fun _ => hP0) rfl, or_imp, forall_and, and_imp]
  exact and_congr forall_comm forall_comm

/-- a direction is skipped only where the bounds of a logical result already decide it (`lb ≥ 1`, resp. `ub ≤ 0`): nothing is lost
when the direction's predicate holds there anyway -/
theorem need_neg_iff {ctx : Ctx} {logical : Bool} {rv : VarInfo} {r : Rat} {P : Prop}
    (h : logical = true → rv.admits r ∧ (1 ≤ r → P)) :
    (needNeg ctx logical rv = true → P) ↔ (ctx.eff.hasNeg = true → P) := by
  cases logical
  · simp [needNeg]
  · obtain ⟨hd, hP⟩ := h rfl
    simp only [needNeg, if_true, Bool.and_eq_true, and_imp]
    refine ⟨fun a e => ?_, fun a e _ => a e⟩
    cases hl : rv.lb with
    | none => exact a e (by simp [optLT, hl])
    | some l =>
      by_cases h1 : l < 1
      · exact a e (by simp [optLT, hl, h1])
      · exact hP (by have := hd.1 l hl; grind)

theorem need_pos_iff {ctx : Ctx} {logical : Bool} {rv : VarInfo} {r : Rat} {P : Prop}
    (h : logical = true → rv.admits r ∧ (r ≤ 0 → P)) :
    (needPos ctx logical rv = true → P) ↔ (ctx.eff.hasPos = true → P) := by
  cases logical
  · simp [needPos]
  · obtain ⟨hd, hP⟩ := h rfl
    simp only [needPos, if_true, Bool.and_eq_true, and_imp]
    refine ⟨fun a e => ?_, fun a e _ => a e⟩
    cases hu : rv.ub with
    | none => exact a e (by simp [optGT, hu])
    | some u =>
      by_cases h1 : 0 < u
      · exact a e (by simp [optGT, hu, h1])
      · exact hP (by have := hd.2.1 u hu; grind)

/-- `BasicFuncConstrCvt::Convert` when only the positive part creates variables -/
theorem exact_dispatch_pos (ctx : Ctx) (logical : Bool) (rv : VarInfo) (n : Nat) (oN : Out) (cvtPos : Nat → Out)
    {D PP PN : Asg → Prop}
    (hN0 : oN.refusal = none) (hNv : oN.vars = []) (hP0 : ∀ m, (cvtPos m).refusal = none)
    (hP : Exact (cvtPos n) n D PP) (hN : ∀ x, D x → ((∀ c ∈ oN.cons, c.sat x) ↔ PN x))
    (hDag : ∀ x x', agree n x x' → D x → D x') (hNag : ∀ x x', agree n x x' → D x → PN x → PN x') :
    Exact (dispatch ctx logical rv n (fun _ => oN) cvtPos) n D
      (fun x => (needPos ctx logical rv = true → PP x) ∧ (needNeg ctx logical rv = true → PN x)) := by
  refine Exact.two_parts hP hN ?_ (fun c => ?_) hDag hNag
  · simp [dispatch_vars (fun _ => hN0) hP0 (by rw [hNv]; rfl), hNv]
  · rw [mem_dispatch_cons (fun _ => hN0) hP0 (by rw [hNv]; rfl), or_comm]

/-- `BasicFuncConstrCvt::Convert` when only the negative part creates variables -/
theorem exact_dispatch_neg (ctx : Ctx) (logical : Bool) (rv : VarInfo) (n : Nat) (cvtNeg : Nat → Out) (oP : Out)
    {D PP PN : Asg → Prop}
    (hN0 : ∀ m, (cvtNeg m).refusal = none) (hP0 : oP.refusal = none) (hPv : oP.vars = [])
    (hN : Exact (cvtNeg n) n D PN) (hP : ∀ x, D x → ((∀ c ∈ oP.cons, c.sat x) ↔ PP x))
    (hDag : ∀ x x', agree n x x' → D x → D x') (hPag : ∀ x x', agree n x x' → D x → PP x → PP x') :
    Exact (dispatch ctx logical rv n cvtNeg (fun _ => oP)) n D
      (fun x => (needNeg ctx logical rv = true → PN x) ∧ (needPos ctx logical rv = true → PP x)) :=
  Exact.two_parts hN hP (by simp [dispatch_vars hN0 (fun _ => hP0) rfl, hPv]) (mem_dispatch_cons hN0 (fun _ => hP0) rfl)
    hDag hPag

/-- numeric constraints: every direction the context has is converted -/
theorem rel_iff_need (ctx : Ctx) (rv : VarInfo) (r v : Rat) :
    rel ctx r v ↔ (needPos ctx false rv = true → r ≤ v) ∧ (needNeg ctx false rv = true → v ≤ r) := by
  rw [rel_iff, need_pos_iff (logical := false) (r := r) (by simp), need_neg_iff (logical := false) (r := r) (by simp)]

theorem absNeg_iff (res arg : Var) (y : Asg) :
    (∀ c ∈ (absNeg res arg).cons, c.sat y) ↔ Fun.val y (.abs arg) ≤ y res := by
  simp only [absNeg, List.forall_mem_cons, List.not_mem_nil, false_imp_iff, implies_true, and_true, Con.sat,
    Cmp.holds, evalLin_cons, evalLin_nil, Fun.val]
  split <;> grind

/-- the flag chooses the branch of `|arg|` that bounds `res` -/
theorem absPos_iff (res arg f : Var) (y : Asg) (hf : y f = 0 ∨ y f = 1) :
    (∀ c ∈ (absPos res arg f).cons, c.sat y) ↔ (if y f = 1 then y res ≤ - y arg else y res ≤ y arg) := by
  simp only [absPos, List.forall_mem_cons, List.not_mem_nil, false_imp_iff, implies_true, and_true, Con.sat,
    Cmp.holds, evalLin_cons, evalLin_nil]
  rcases hf with h | h <;> simp [h] <;> grind

theorem C01_gadget_abs (res arg : Var) (ctx : Ctx) (B : Bnds) (n : Nat) (hr : res < n) (ha : arg < n) :
    Exact (gAbs res arg ctx B n) n (fun _ => True)
      (fun x => rel ctx (x res) (Fun.val x (.abs arg))) := by
  refine (exact_dispatch_pos ctx false (B res) n (absNeg res arg) (absPos res arg) rfl rfl (fun _ => rfl)
    (PP := fun x => x res ≤ Fun.val x (.abs arg)) (PN := fun x => Fun.val x (.abs arg) ≤ x res) ⟨?_, ?_⟩
    (fun x _ => absNeg_iff res arg x) (fun _ _ _ _ => trivial) ?_).congr (fun _ h => h)
    (fun x _ => (rel_iff_need ctx (B res) _ _).symm)
  · intro y _ hax hc
    have := (absPos_iff res arg n y (binary_admits hax.1)).1 hc
    simp only [Fun.val]
    split at this <;> split <;> grind
  · intro x _ h
    have hf : ext x n [if x arg ≤ 0 then 1 else 0] n = if x arg ≤ 0 then 1 else 0 := ext_self ..
    have hb : ext x n [if x arg ≤ 0 then 1 else 0] n = 0 ∨ ext x n [if x arg ≤ 0 then 1 else 0] n = 1 := by
      rw [hf]; split <;> simp
    refine ⟨_, agree_ext x n [if x arg ≤ 0 then 1 else 0], ⟨admits_binary_of hb, trivial⟩, ?_⟩
    rw [absPos_iff res arg n _ hb, hf, ext_lt hr, ext_lt ha]
    simp only [Fun.val] at h
    split at h <;> simp [*] <;> grind
  · intro x x' hag _ h
    simpa only [Fun.val, hag arg ha, hag res hr] using h

def binDom (B : Bnds) (res : Var) (args : List Var) (x : Asg) : Prop :=
  (x res = 0 ∨ x res = 1) ∧ (∀ a ∈ args, x a = 0 ∨ x a = 1) ∧ inDom B x res

theorem and_pos_core (x : Asg) (res : Var) (args : List Var)
    (hr : x res = 0 ∨ x res = 1) (ha : ∀ a ∈ args, x a = 0 ∨ x a = 1) :
    (∀ a ∈ args, -1 * x a + (1 * x res + 0) ≤ 0) ↔ x res ≤ Fun.val x (.and args) := by
  simp only [Fun.val]
  rw [bin_le_iff hr (b2r_zero_one _), b2r_eq_one, List.all_eq_true]
  constructor
  · intro h h1 a ham
    have := (bin_le_iff hr (ha a ham)).1 (by have := h a ham; grind) h1
    simpa using this
  · intro h a ham
    have := (bin_le_iff hr (ha a ham)).2 fun h1 => by simpa using h h1 a ham
    grind

theorem and_neg_core (x : Asg) (res : Var) (args : List Var)
    (hr : x res = 0 ∨ x res = 1) (ha : ∀ a ∈ args, x a = 0 ∨ x a = 1) :
    evalLin x (ones args ++ [(-1, res)]) ≤ (args.length : Rat) - 1 ↔ Fun.val x (.and args) ≤ x res := by
  simp only [Fun.val, b2r, evalLin_append, evalLin_cons, evalLin_nil]
  cases hall : args.all (fun a => x a == 1)
  · have := sum_bin_notall x args ha hall
    simp only [Bool.false_eq_true, if_false]
    rcases hr with h0 | h0 <;> rw [h0] <;> grind
  · have := sum_bin_all x args hall
    simp only [if_true]
    rcases hr with h0 | h0 <;> rw [h0] <;> grind

theorem C01_gadget_and (res : Var) (args : List Var) (ctx : Ctx) (B : Bnds) (n : Nat) :
    Exact (gAnd res args ctx B n) n (binDom B res args)
      (fun x => rel ctx (x res) (Fun.val x (.and args))) := by
  refine exact_dispatch_rows rfl rfl rfl rfl (fun x hx => (?_ : _ ↔ Fun.val x (.and args) ≤ x res))
    (fun x hx => (?_ : _ ↔ x res ≤ Fun.val x (.and args))) fun x ⟨_, _, hd⟩ => ?_
  · rw [← and_neg_core x res args hx.1 hx.2.1]; simp [andNeg, Con.sat, Cmp.holds]
  · rw [← and_pos_core x res args hx.1 hx.2.1]; simp [andPos, Con.sat, Cmp.holds]
  · -- the value is 0 or 1, so a direction skipped for the bounds of `res` holds anyway
    have := b2r_zero_one (args.all (fun a => x a == 1) = true)
    rw [rel_iff, need_neg_iff fun _ => ⟨hd, by simp only [Fun.val]; grind⟩,
      need_pos_iff fun _ => ⟨hd, by simp only [Fun.val]; grind⟩, and_comm]

theorem or_pos_core (x : Asg) (res : Var) (args : List Var)
    (hr : x res = 0 ∨ x res = 1) (ha : ∀ a ∈ args, x a = 0 ∨ x a = 1) :
    0 ≤ evalLin x (ones args ++ [(-1, res)]) ↔ x res ≤ Fun.val x (.or args) := by
  simp only [Fun.val, b2r, evalLin_append, evalLin_cons, evalLin_nil]
  cases hany : args.any (fun a => x a == 1)
  · have := sum_bin_none x args ha hany
    simp only [Bool.false_eq_true, if_false]
    rcases hr with h0 | h0 <;> rw [h0] <;> grind
  · have := sum_bin_any x args ha hany
    have := sum_bin_bounds x args ha
    simp only [if_true]
    rcases hr with h0 | h0 <;> rw [h0] <;> grind

theorem or_neg_core (x : Asg) (res : Var) (args : List Var)
    (hr : x res = 0 ∨ x res = 1) (ha : ∀ a ∈ args, x a = 0 ∨ x a = 1) :
    (∀ a ∈ args, 1 * x a + (-1 * x res + 0) ≤ 0) ↔ Fun.val x (.or args) ≤ x res := by
  simp only [Fun.val]
  rw [bin_le_iff (b2r_zero_one _) hr, b2r_eq_one, List.any_eq_true]
  constructor
  · intro h ⟨a, ham, h1⟩
    exact (bin_le_iff (ha a ham) hr).1 (by have := h a ham; grind) (by simpa using h1)
  · intro h a ham
    have := (bin_le_iff (ha a ham) hr).2 fun h1 => h ⟨a, ham, by simpa using h1⟩
    grind

theorem C01_gadget_or (res : Var) (args : List Var) (ctx : Ctx) (B : Bnds) (n : Nat) :
    Exact (gOr res args ctx B n) n (binDom B res args)
      (fun x => rel ctx (x res) (Fun.val x (.or args))) := by
  refine exact_dispatch_rows rfl rfl rfl rfl (fun x hx => (?_ : _ ↔ Fun.val x (.or args) ≤ x res))
    (fun x hx => (?_ : _ ↔ x res ≤ Fun.val x (.or args))) fun x ⟨_, _, hd⟩ => ?_
  · rw [← or_neg_core x res args hx.1 hx.2.1]; simp [orNeg, Con.sat, Cmp.holds]
  · rw [← or_pos_core x res args hx.1 hx.2.1]; simp [orPos, Con.sat, Cmp.holds]
  · have := b2r_zero_one (args.any (fun a => x a == 1) = true)
    rw [rel_iff, need_neg_iff fun _ => ⟨hd, by simp only [Fun.val]; grind⟩,
      need_pos_iff fun _ => ⟨hd, by simp only [Fun.val]; grind⟩, and_comm]

/-- `res` redefined through a fresh variable for an affine expression (`AssignResultVar2Args` of a
`LinearFunctionalConstraint`, then `res = that variable`) -/
theorem exact_newAffine (B : Bnds) (body : Lin) (c : Rat) (res : Var) (n : Nat)
    (hr : res < n) (hb : ∀ p ∈ body, p.2 < n) (um : Bool) :
    Exact { vars := [(newAffine B body c n).1],
            cons := [(newAffine B body c n).2, .linRhs .eq [(-1, res), (1, n)] 0], unmodelled := um } n
      (fun x => ∀ p ∈ body, inDom B x p.2) (fun x => x res = evalLin x body + c) := by
  constructor
  · intro y _ _ hc
    have h1 : y n = evalLin y body + c := hc _ List.mem_cons_self
    have h2 : -1 * y res + (1 * y n + 0) = 0 := hc _ (List.mem_cons_of_mem _ List.mem_cons_self)
    grind
  · intro x hd h
    have hv : evalLin (ext x n [evalLin x body + c]) body = evalLin x body := evalLin_agree (agree_ext _ _ _) hb
    refine ⟨_, agree_ext x n [evalLin x body + c], ⟨?_, trivial⟩, ?_⟩
    · rw [ext_self]; exact affBnd_admits B x body c hd (isIntQ_sound c)
    · simp only [newAffine, List.forall_mem_cons, List.not_mem_nil, false_imp_iff, implies_true, and_true]
      refine ⟨?_, ?_⟩
      · show ext x n _ n = evalLin (ext x n _) body + c
        rw [hv, ext_self]; rfl
      · show -1 * ext x n _ res + (1 * ext x n _ n + 0) = 0
        rw [ext_lt hr, ext_self, h]; simp only [List.getD_cons_zero]; grind

/-! ## not (full reification whatever the context) -/

theorem C01_gadget_not (res arg : Var) (B : Bnds) (n : Nat) (hr : res < n) (ha : arg < n) :
    Exact (gNot res arg B n) n (fun x => inDom B x arg)
      (fun x => x res = Fun.val x (.not arg)) := by
  refine (exact_newAffine B [(-1, arg)] 1 res n hr (by simpa using ha) _).congr
    (fun x hx p hp => by rw [List.mem_singleton.mp hp]; exact hx) (fun x _ => ?_)
  simp only [evalLin_cons, evalLin_nil, Fun.val]; grind

/-- the reification is at least as strong as any context asks for -/
theorem C01_mix_implies_ctx (ctx : Ctx) (r v : Rat) (h : r = v) : rel ctx r v := h ▸ rel_refl ctx r

/-! ## if-then-else (full reification whatever the context) -/

theorem C01_gadget_ifthen (res c t e : Var) (B : Bnds) (n : Nat)
    (hr : res < n) (hc : c < n) (ht : t < n) (he : e < n) :
    Exact (gIfThen res c t e B n) n
      (fun x => (x c = 0 ∨ x c = 1) ∧ inDom B x c ∧ inDom B x t ∧ inDom B x e)
      (fun x => x res = Fun.val x (.ifthen c t e)) := by
  unfold gIfThen
  split
  · -- two indicator rows select the branch
    refine Exact.of_iff rfl fun x ⟨hb, _⟩ => ?_
    simp only [List.forall_mem_cons, List.not_mem_nil, false_imp_iff, implies_true, and_true, Con.sat, Cmp.holds,
      evalLin_cons, evalLin_nil, Fun.val]
    rcases hb with h0 | h0 <;> simp [h0] <;> grind
  · -- both branches constant: `res = (c1 - c2)·c + c2`
    rename_i hfix
    simp only [Bool.or_eq_true, Bool.not_eq_true', not_or, Bool.not_eq_false] at hfix
    refine (exact_newAffine B [((B t).fixedVal - (B e).fixedVal, c)] (B e).fixedVal res n hr (by simpa using hc) _).congr
      (fun x hx p hp => by rw [List.mem_singleton.mp hp]; exact hx.2.1) (fun x ⟨hb, _, hdt, hde⟩ => ?_)
    simp only [evalLin_cons, evalLin_nil, Fun.val, fixed_val hfix.1 hdt, fixed_val hfix.2 hde]
    rcases hb with h0 | h0 <;> simp [h0] <;> grind

theorem C01_gadget_lfc (res : Var) (body : Lin) (c : Rat) (n : Nat) :
    Exact (gLFC res body c) n (fun _ => True) (fun x => x res = Fun.val x (.affine body c)) := by
  refine Exact.of_iff rfl fun x _ => ?_
  simp [gLFC, Con.sat, Cmp.holds, Fun.val, evalLin_append]; grind

theorem C01_gadget_qfc (res : Var) (lin : Lin) (q : Quad) (c : Rat) (ctx : Ctx) (n : Nat) :
    Exact (gQFC res lin q c ctx) n (fun _ => True)
      (fun x => rel ctx (x res) (Fun.val x (.quadratic lin q c))) := by
  refine Exact.of_iff (by cases ctx <;> rfl) fun x _ => ?_
  cases ctx <;> simp [gQFC, Ctx.eff, Con.sat, Cmp.holds, Fun.val, evalLin_append, rel, req] <;> grind

theorem C01_gadget_div_const (res a b : Var) (B : Bnds) (n : Nat) (hf : (B b).isFixed = true)
    (hnz : (B b).fixedVal ≠ 0) :
    Exact (gDivConst res a b B) n (fun x => inDom B x b) (fun x => x res = Fun.val x (.div a b)) := by
  refine Exact.of_iff (by simp [gDivConst, hf]) fun x hd => ?_
  have vb := fixed_val hf hd
  simp only [gDivConst, hf, if_true, List.mem_singleton, forall_eq, Con.sat, Cmp.holds, Fun.val,
    evalLin_cons, evalLin_nil, vb]
  constructor
  · intro h
    have : (B b).fixedVal * x res = x a := by grind
    rw [← this, Rat.mul_comm, Rat.mul_div_cancel hnz]
  · intro h
    rw [h, Rat.mul_comm, Rat.div_mul_cancel hnz]; grind

theorem implLE_core (b : Var) (val : Nat) (body : Lin) (rhs : Rat) (o : Opts) (ub : Option Rat) (U : Rat) (x : Asg)
    (hU : bigMUpper ub o = some U) (hval : val = 0 ∨ val = 1) (hb : x b = 0 ∨ x b = 1)
    (hle : evalLin x body ≤ U) :
    (∀ c ∈ (implLE b val ub body rhs o).cons, c.sat x) ↔ (x b = (val : Rat) → evalLin x body ≤ rhs) := by
  simp only [implLE, hU]
  by_cases h : U = rhs
  · subst h; simp; intro _; exact hle
  · have hne : (U != rhs) = true := by simp [h]
    rcases hval with hv | hv <;> subst hv <;>
      simp [hne, Con.sat, Cmp.holds, evalLin_append] <;>
      rcases hb with h0 | h0 <;> rw [h0] <;> grind

theorem implGE_core (b : Var) (val : Nat) (body : Lin) (rhs : Rat) (o : Opts) (lb : Option Rat) (L : Rat) (x : Asg)
    (hL : bigMLower lb o = some L) (hval : val = 0 ∨ val = 1) (hb : x b = 0 ∨ x b = 1)
    (hge : L ≤ evalLin x body) :
    (∀ c ∈ (implGE b val lb body rhs o).cons, c.sat x) ↔ (x b = (val : Rat) → rhs ≤ evalLin x body) := by
  simp only [implGE, hL]
  by_cases h : L = rhs
  · subst h; simp; intro _; exact hge
  · have hne : (L != rhs) = true := by simp [h]
    rcases hval with hv | hv <;> subst hv <;>
      simp [hne, Con.sat, Cmp.holds, evalLin_append] <;>
      rcases hb with h0 | h0 <;> rw [h0] <;> grind

theorem implLE_plain (b : Var) (val : Nat) (body : Lin) (rhs : Rat) {o : Opts} {ub : Option Rat} {U : Rat}
    (hU : bigMUpper ub o = some U) :
    (implLE b val ub body rhs o).vars = [] ∧ (implLE b val ub body rhs o).refusal = none := by
  simp only [implLE, hU]; split <;> (try split) <;> exact ⟨rfl, rfl⟩

theorem implGE_plain (b : Var) (val : Nat) (body : Lin) (rhs : Rat) {o : Opts} {lb : Option Rat} {L : Rat}
    (hL : bigMLower lb o = some L) :
    (implGE b val lb body rhs o).vars = [] ∧ (implGE b val lb body rhs o).refusal = none := by
  simp only [implGE, hL]; split <;> (try split) <;> exact ⟨rfl, rfl⟩

/-- the big-M comes from the variable bounds (not from the `cvt:bigM` fallback) -/
def bigMFromBounds (ub : Option Rat) (U : Rat) : Prop := ub = some U ∧ U < pracInf

theorem bigMUpper_of_bounds {ub : Option Rat} {U : Rat} (o : Opts) (h : bigMFromBounds ub U) :
    bigMUpper ub o = some U := by
  obtain ⟨h1, h2⟩ := h
  subst h1
  have : ¬ pracInf ≤ U := by grind
  simp [bigMUpper, this]

theorem bigMLower_of_bounds {lb : Option Rat} {L : Rat} (o : Opts) (h1 : lb = some L) (h2 : -pracInf < L) :
    bigMLower lb o = some L := by
  subst h1
  have : ¬ L ≤ -pracInf := by grind
  simp [bigMLower, this]

def indDom (B : Bnds) (b : Var) (body : Lin) (x : Asg) : Prop :=
  (x b = 0 ∨ x b = 1) ∧ ∀ p ∈ body, inDom B x p.2

theorem C01_gadget_indicator_le (b : Var) (val : Nat) (body : Lin) (rhs : Rat) (B : Bnds) (o : Opts) (n : Nat)
    (U : Rat) (hU : bigMFromBounds (linBnd B body).2.1 U) (hval : val = 0 ∨ val = 1) :
    Exact (gIndLE b val body rhs B o) n (indDom B b body)
      (fun x => x b = (val : Rat) → evalLin x body ≤ rhs) := by
  exact Exact.of_iff (implLE_plain b val body rhs (bigMUpper_of_bounds o hU)).1 fun x ⟨hb, hd⟩ =>
    implLE_core b val body rhs o _ U x (bigMUpper_of_bounds o hU) hval hb ((linBnd_sound B x body hd).2 U hU.1)

theorem C01_gadget_indicator_ge (b : Var) (val : Nat) (body : Lin) (rhs : Rat) (B : Bnds) (o : Opts) (n : Nat)
    (L : Rat) (hL : (linBnd B body).1 = some L) (hL2 : -pracInf < L) (hval : val = 0 ∨ val = 1) :
    Exact (gIndGE b val body rhs B o) n (indDom B b body)
      (fun x => x b = (val : Rat) → rhs ≤ evalLin x body) := by
  exact Exact.of_iff (implGE_plain b val body rhs (bigMLower_of_bounds o hL hL2)).1 fun x ⟨hb, hd⟩ =>
    implGE_core b val body rhs o _ L x (bigMLower_of_bounds o hL hL2) hval hb ((linBnd_sound B x body hd).1 L hL)

theorem C01_gadget_indicator_eq (b : Var) (val : Nat) (body : Lin) (rhs : Rat) (B : Bnds) (o : Opts) (n : Nat)
    (L U : Rat) (hU : bigMFromBounds (linBnd B body).2.1 U)
    (hL : (linBnd B body).1 = some L) (hL2 : -pracInf < L) (hval : val = 0 ∨ val = 1) :
    Exact (gIndEQ b val body rhs B o) n (indDom B b body)
      (fun x => x b = (val : Rat) → evalLin x body = rhs) := by
  have hU1 := bigMUpper_of_bounds o hU
  have hU2 : bigMUpper ((linBnd B body).1.map (- ·)) o = some (-L) := by
    apply bigMUpper_of_bounds o
    constructor
    · simp [hL]
    · grind
  have r1 := (implLE_plain b val body rhs hU1).2
  have r2 := (implLE_plain b val (negLin body) (-rhs) hU2).2
  refine Exact.of_iff (by simp [gIndEQ, r1, r2]) fun x ⟨hb, hd⟩ => ?_
  -- the rows are those of `⇒ body ≤ rhs` and of `⇒ -body ≤ -rhs`
  have hs := linBnd_sound B x body hd
  have c1 := implLE_core b val body rhs o _ U x hU1 hval hb (hs.2 U hU.1)
  have c2 := implLE_core b val (negLin body) (-rhs) o _ (-L) x hU2 hval hb
    (by rw [evalLin_neg]; have := hs.1 L hL; grind)
  rw [evalLin_neg] at c2
  simp only [gIndEQ, r1, r2, List.mem_append]
  constructor
  · intro h hbv
    have a1 := c1.mp (fun c hc => h c (Or.inl hc)) hbv
    have a2 := c2.mp (fun c hc => h c (Or.inr hc)) hbv
    grind
  · intro h c hc
    rcases hc with hc | hc
    · exact c1.mpr (fun hbv => by have := h hbv; grind) c hc
    · exact c2.mpr (fun hbv => by have := h hbv; grind) c hc

/-- `cvt:bigM` fallback ("use with caution"): exact only for points whose body value is below the
user-supplied constant — the partial statement; the full statement (no extra hypothesis) is false:
see `C01_counterexample_bigM_fallback`. -/
theorem C01_gadget_indicator_le_bigM_partial (b : Var) (val : Nat) (body : Lin) (rhs : Rat) (B : Bnds) (o : Opts)
    (n : Nat) (hinf : (linBnd B body).2.1 = none) (hM : 0 < o.bigM) (hval : val = 0 ∨ val = 1) :
    Exact (gIndLE b val body rhs B o) n (fun x => (x b = 0 ∨ x b = 1) ∧ evalLin x body ≤ o.bigM)
      (fun x => x b = (val : Rat) → evalLin x body ≤ rhs) := by
  have hU : bigMUpper (linBnd B body).2.1 o = some o.bigM := by simp [bigMUpper, hinf, hM]
  exact Exact.of_iff (implLE_plain b val body rhs hU).1 fun x ⟨hb, hle⟩ =>
    implLE_core b val body rhs o _ o.bigM x hU hval hb hle

/-- with an unbounded body and `cvt:bigM=10` the delivered row cuts off `x0 = 20, b = 0`
although `b = 1 ⇒ x0 ≤ 3` allows it -/
theorem C01_counterexample_bigM_fallback :
    ∃ (B : Bnds) (o : Opts) (x : Asg),
      (x 1 = (1 : Nat) → evalLin x [(1, 0)] ≤ 3) ∧
      ¬ (∀ c ∈ (gIndLE 1 1 [(1, 0)] 3 B o).cons, c.sat x) := by
  refine ⟨fun _ => {}, { bigM := 10 }, fun v => if v = 0 then 20 else 0, ?_, ?_⟩
  · simp
  · have h1 : (0 : Rat) < 10 := by grind
    have h2 : ¬ ((10 : Rat) = 3) := by grind
    have e : (gIndLE 1 1 [(1, 0)] 3 (fun _ => {}) { bigM := 10 }).cons
        = [Con.linRhs .le ([(1, 0)] ++ [(10 - 3, 1)]) 10] := by
      simp [gIndLE, implLE, bigMUpper, linBnd, optAdd, optScale, h1, h2]
    rw [e]
    simp [Con.sat, Cmp.holds]
    grind

/-- refusal instead of a wrong model: infinite bound and no `cvt:bigM` -/
theorem C01_refusal_indicator_le (b : Var) (val : Nat) (body : Lin) (rhs : Rat) (B : Bnds) (o : Opts)
    (hinf : (linBnd B body).2.1 = none) (hM : o.bigM ≤ 0) :
    (gIndLE b val body rhs B o).refusal = some .indicatorInfBound ∧ (gIndLE b val body rhs B o).cons = [] := by
  have : ¬ 0 < o.bigM := by grind
  simp [gIndLE, implLE, bigMUpper, hinf, this]

theorem C01_refusal_indicator_ge (b : Var) (val : Nat) (body : Lin) (rhs : Rat) (B : Bnds) (o : Opts)
    (hinf : (linBnd B body).1 = none) (hM : o.bigM ≤ 0) :
    (gIndGE b val body rhs B o).refusal = some .indicatorInfBound ∧ (gIndGE b val body rhs B o).cons = [] := by
  have : ¬ 0 < o.bigM := by grind
  simp [gIndGE, implGE, bigMLower, hinf, this]



theorem C01_ctx_add_comm (a b : Ctx) : a.add b = b.add a := by
  cases a <;> cases b <;> rfl

theorem C01_ctx_add_assoc (a b c : Ctx) : (a.add b).add c = a.add (b.add c) := by
  cases a <;> cases b <;> cases c <;> rfl

theorem C01_ctx_add_upper (a b : Ctx) : a ≤ a.add b ∧ b ≤ a.add b := by
  cases a <;> cases b <;> decide

/-- a merged context asks for everything each merged request asks for -/
theorem C01_ctx_add_req (a b : Ctx) (r v : Rat) (h : req (a.add b) r v) : req a r v ∧ req b r v :=
  ⟨req_mono (C01_ctx_add_upper a b).1 h, req_mono (C01_ctx_add_upper a b).2 h⟩

theorem C01_ctx_flip_flip (c : Ctx) (h : c ≠ .none) : c.flip.flip = c := by
  cases c <;> simp_all [Ctx.flip]

/-- `PropagateResult2LinTerms` -/
theorem C01_ctx_sound_linterms (ctx : Ctx) (body : Lin) (a f : Asg)
    (h : ∀ p ∈ propLin ctx body, req p.2 (a p.1) (f p.1)) :
    req ctx (evalLin a body) (evalLin f body) := by
  induction body with
  | nil => exact req_refl ctx 0
  | cons p t ih =>
    obtain ⟨c, v⟩ := p
    obtain ⟨hv, ht⟩ := forall_mem_propLin_cons.mp h
    refine req_add (req_scale fun hc => ?_) (ih ht)
    have hv := hv hc
    by_cases hp : 0 ≤ c
    · rw [if_pos hp] at hv ⊢; exact req_of_plus hv
    · rw [if_neg hp] at hv ⊢; exact hv

theorem lbGE0_dom {B : Bnds} {x : Asg} {v : Var} (h : lbGE0 (B v) = true) (hd : inDom B x v) : 0 ≤ x v := by
  unfold lbGE0 at h
  cases hl : (B v).lb with
  | none => simp [hl] at h
  | some l => simp [hl] at h; have := hd.1 l hl; grind

theorem ubLE0_dom {B : Bnds} {x : Asg} {v : Var} (h : ubLE0 (B v) = true) (hd : inDom B x v) : x v ≤ 0 := by
  unfold ubLE0 at h
  cases hl : (B v).ub with
  | none => simp [hl] at h
  | some l => simp [hl] at h; have := hd.2.1 l hl; grind

/-- one product term: the context the rule hands to both factors justifies the parent context -/
theorem prod_req (B : Bnds) (ctx : Ctx) (v w : Var) (a f : Asg)
    (dav : inDom B a v) (daw : inDom B a w) (dfv : inDom B f v) (dfw : inDom B f w)
    (h1 : req (quadTermCtx B ctx v w) (a v) (f v)) (h2 : req (quadTermCtx B ctx v w) (a w) (f w)) :
    req ctx (a v * a w) (f v * f w) := by
  unfold quadTermCtx at h1 h2
  by_cases hP : (lbGE0 (B v) && lbGE0 (B w)) = true
  · rw [if_pos hP] at h1 h2
    simp only [Bool.and_eq_true] at hP
    exact req_mul_nonneg h1 h2 (lbGE0_dom hP.1 dav) (lbGE0_dom hP.2 daw) (lbGE0_dom hP.1 dfv) (lbGE0_dom hP.2 dfw)
  · rw [if_neg hP] at h1 h2
    by_cases hN : (ubLE0 (B v) && ubLE0 (B w)) = true
    · -- both factors nonpositive: the product of the negated factors
      rw [if_pos hN] at h1 h2
      simp only [Bool.and_eq_true] at hN
      have p1 := ubLE0_dom hN.1 dav
      have p2 := ubLE0_dom hN.2 daw
      have p3 := ubLE0_dom hN.1 dfv
      have p4 := ubLE0_dom hN.2 dfw
      have := req_mul_nonneg (req_neg h1) (req_neg h2) (by grind) (by grind) (by grind) (by grind)
      have ea : -a v * -a w = a v * a w := by grind
      have ef : -f v * -f w = f v * f w := by grind
      rwa [ea, ef] at this
    · rw [if_neg hN] at h1 h2
      have e1 : a v = f v := h1
      have e2 : a w = f w := h2
      rw [e1, e2]; exact req_refl ctx _

def quadDom (B : Bnds) (q : Quad) (x : Asg) : Prop := ∀ t ∈ q, inDom B x t.2.1 ∧ inDom B x t.2.2

/-- `PropagateResult2QuadTerms` is sound, for all coefficients.  The flip for a negative coefficient is needed: for a rule
that ignores the sign, B: x∈[0,5], v∈[0,3]; q = [(-1, x, v)]; ctx pos; a = (5,0), f = (5,3) satisfy all hypotheses and
`0 ≤ -15` fails. -/
theorem C01_ctx_sound_quadterms (B : Bnds) (ctx : Ctx) (q : Quad) (a f : Asg)
    (da : quadDom B q a) (df : quadDom B q f)
    (h : ∀ p ∈ propQuad B ctx q, req p.2 (a p.1) (f p.1)) :
    req ctx (evalQuad a q) (evalQuad f q) := by
  induction q with
  | nil => exact req_refl ctx 0
  | cons t tl ih =>
    obtain ⟨c, v, w⟩ := t
    obtain ⟨hvw, ht⟩ := forall_mem_propQuad_cons.mp h
    have dav := da (c, v, w) (by simp)
    have dfv := df (c, v, w) (by simp)
    exact req_add
      (req_scale fun hc => prod_req B _ v w a f dav.1 dav.2 dfv.1 dfv.2 (hvw hc).1 (hvw hc).2)
      (ih (fun t ht => da t (by simp [ht])) (fun t ht => df t (by simp [ht])) ht)

theorem C01_ctx_sound_not (ctx : Ctx) (v : Var) (a f : Asg)
    (h : ∀ p ∈ propNot ctx v, req p.2 (a p.1) (f p.1)) :
    req ctx (Fun.val a (.not v)) (Fun.val f (.not v)) := by
  have := req_add (req_refl ctx 1) (req_neg (h (v, ctx.flip) (by simp [propNot])))
  simpa only [Fun.val, Rat.sub_eq_add_neg] using this

def bin (x : Asg) (vs : List Var) : Prop := ∀ v ∈ vs, x v = 0 ∨ x v = 1

theorem C01_ctx_sound_and (ctx : Ctx) (args : List Var) (a f : Asg) (ha : bin a args) (hf : bin f args)
    (h : ∀ p ∈ propAnd ctx args, req p.2 (a p.1) (f p.1)) :
    req ctx (Fun.val a (.and args)) (Fun.val f (.and args)) := by
  -- on 0/1 values the context of each argument reads as an implication between "is true"
  have h' := fun v hv => (req_bin_iff ctx (ha v hv) (hf v hv)).1
    (req_of_plus (h (v, ctx.plus) (List.mem_map.mpr ⟨v, hv, rfl⟩)))
  simp only [Fun.val, List.all_eq_true, beq_iff_eq]
  exact req_b2r (fun e hall v hv => (h' v hv).1 e (hall v hv)) (fun e hall v hv => (h' v hv).2 e (hall v hv))

theorem C01_ctx_sound_or (ctx : Ctx) (args : List Var) (a f : Asg) (ha : bin a args) (hf : bin f args)
    (h : ∀ p ∈ propOr ctx args, req p.2 (a p.1) (f p.1)) :
    req ctx (Fun.val a (.or args)) (Fun.val f (.or args)) := by
  have h' := fun v hv => (req_bin_iff ctx (ha v hv) (hf v hv)).1
    (req_of_plus (h (v, ctx.plus) (List.mem_map.mpr ⟨v, hv, rfl⟩)))
  simp only [Fun.val, List.any_eq_true, beq_iff_eq]
  exact req_b2r (fun e ⟨v, hv, h1⟩ => ⟨v, hv, (h' v hv).1 e h1⟩) (fun e ⟨v, hv, h1⟩ => ⟨v, hv, (h' v hv).2 e h1⟩)

theorem C01_ctx_sound_impl (ctx : Ctx) (c t e : Var) (a f : Asg)
    (h : ∀ p ∈ propImpl ctx c t e, req p.2 (a p.1) (f p.1)) :
    req ctx (Fun.val a (.impl c t e)) (Fun.val f (.impl c t e)) := by
  have hc : a c = f c := h (c, .mix) (by simp [propImpl])
  have ht := req_of_plus (h (t, ctx.plus) (by simp [propImpl]))
  have he := req_of_plus (h (e, ctx.plus) (by simp [propImpl]))
  simp only [Fun.val, hc]
  split <;> assumption

theorem optGE_dom {B : Bnds} {x y : Asg} {t e : Var} (h : optGE (B t).lb (B e).ub = true)
    (dt : inDom B x t) (de : inDom B y e) : y e ≤ x t := by
  unfold optGE at h
  cases hl : (B t).lb with
  | none => simp [hl] at h
  | some l =>
    cases hu : (B e).ub with
    | none => simp [hl, hu] at h
    | some u =>
      simp [hl, hu] at h
      have := dt.1 l hl
      have := de.2.1 u hu
      grind

/-- `if c then t else e` is monotone in the branches, and in the condition when the bounds order the branches -/
theorem ifthen_le (B : Bnds) (c t e : Var) (a f : Asg) (hac : a c = 0 ∨ a c = 1) (hfc : f c = 0 ∨ f c = 1)
    (dft : inDom B f t) (dfe : inDom B f e) (ht : a t ≤ f t) (he : a e ≤ f e)
    (hc : a c = f c ∨ (optGE (B t).lb (B e).ub = true ∧ a c ≤ f c) ∨
      (optGE (B e).lb (B t).ub = true ∧ f c ≤ a c)) :
    Fun.val a (.ifthen c t e) ≤ Fun.val f (.ifthen c t e) := by
  simp only [Fun.val]
  rcases hc with hc | ⟨o, hc⟩ | ⟨o, hc⟩
  · rw [hc]; split <;> assumption
  · have k := optGE_dom o dft dfe
    rcases hac with h0 | h0 <;> rcases hfc with h1 | h1 <;> simp [h0, h1] at hc ⊢ <;> grind
  · have k := optGE_dom o dfe dft
    rcases hac with h0 | h0 <;> rcases hfc with h1 | h1 <;> simp [h0, h1] at hc ⊢ <;> grind

theorem cond_of_req {o1 o2 : Bool} {k : Ctx} {r v : Rat}
    (h : req (if o1 = true then k else if o2 = true then k.flip else .mix) r v) :
    r = v ∨ (o1 = true ∧ req k r v) ∨ (o2 = true ∧ req k.flip r v) := by
  cases o1 <;> cases o2 <;> simp_all [req]

/-- if-then-else: the condition gets `+ctx`/`-ctx` when the bounds order the branches, else mix -/
theorem C01_ctx_sound_ifthen (B : Bnds) (ctx : Ctx) (c t e : Var) (a f : Asg)
    (hac : a c = 0 ∨ a c = 1) (hfc : f c = 0 ∨ f c = 1)
    (dat : inDom B a t) (dae : inDom B a e) (dft : inDom B f t) (dfe : inDom B f e)
    (h : ∀ p ∈ propIfThen B ctx c t e, req p.2 (a p.1) (f p.1)) :
    req ctx (Fun.val a (.ifthen c t e)) (Fun.val f (.ifthen c t e)) := by
  have ht := h (t, ctx.plus) (by simp [propIfThen])
  have he := h (e, ctx.plus) (by simp [propIfThen])
  have hc := h (c, _) (by simp only [propIfThen]; exact List.mem_cons_self)
  cases ctx
  · trivial
  · exact ifthen_le B c t e a f hac hfc dft dfe ht he (cond_of_req hc)
  · -- the negative context is the positive one with the two assignments exchanged
    exact ifthen_le B c t e f a hfc hac dat dae ht he ((cond_of_req hc).imp Eq.symm id)
  · have hc : a c = f c := hc
    have ht : a t = f t := ht
    have he : a e = f e := he
    simp only [req, Fun.val, hc, ht, he]

theorem C01_ctx_sound_condlin (k : Cmp5) (ctx : Ctx) (body : Lin) (rhs : Rat) (a f : Asg)
    (h : ∀ p ∈ propCondLin k ctx body, req p.2 (a p.1) (f p.1)) :
    req ctx (Fun.val a (.condLin k body rhs)) (Fun.val f (.condLin k body rhs)) := by
  have hb := C01_ctx_sound_linterms _ body a f h
  cases k <;> simp only [Fun.val, Cmp5.holds]
  · have := (req_iff ..).1 (req_neg hb)
    exact req_b2r (fun e _ => by have := this.1 e; grind) (fun e _ => by have := this.2 e; grind)
  · have := (req_iff ..).1 (req_neg hb)
    exact req_b2r (fun e _ => by have := this.1 e; grind) (fun e _ => by have := this.2 e; grind)
  · have e : evalLin a body = evalLin f body := hb
    rw [e]; exact req_refl ctx _
  · have := (req_iff ..).1 hb
    exact req_b2r (fun e _ => by have := this.1 e; grind) (fun e _ => by have := this.2 e; grind)
  · have := (req_iff ..).1 hb
    exact req_b2r (fun e _ => by have := this.1 e; grind) (fun e _ => by have := this.2 e; grind)

/-- `PropagateResult(LinearFunctionalConstraint&)` -/
theorem C01_ctx_sound_lfc (ctx : Ctx) (body : Lin) (c : Rat) (a f : Asg)
    (h : ∀ p ∈ propLFC ctx body, req p.2 (a p.1) (f p.1)) :
    req ctx (Fun.val a (.affine body c)) (Fun.val f (.affine body c)) :=
  req_add (req_of_plus (C01_ctx_sound_linterms ctx.plus body a f h)) (req_refl ctx c)

theorem inRange_of_req (lb ub : Option Rat) (a f : Rat)
    (hlb : ∀ l, lb = some l → -pracInf < l) (hub : ∀ u, ub = some u → u < pracInf)
    (hb : req (rangeCtx lb ub) a f) (hfeas : inRange lb ub a) : inRange lb ub f := by
  unfold rangeCtx at hb
  cases lb with
  | none =>
    simp only [if_true, req] at hb
    simp only [inRange] at hfeas ⊢
    refine ⟨by simp, ?_⟩
    intro u hu; have := hfeas.2 u hu; grind
  | some l =>
    have hl : ¬ l ≤ -pracInf := by have := hlb l rfl; grind
    cases ub with
    | none =>
      simp [hl, req] at hb
      simp only [inRange] at hfeas ⊢
      refine ⟨?_, by simp⟩
      intro l' hl'; have := hfeas.1 l' hl'; grind
    | some u =>
      have hu : ¬ pracInf ≤ u := by have := hub u rfl; grind
      simp [hl, hu, req] at hb
      rw [← hb]; exact hfeas

/-- root range constraint `lb ≤ body ≤ ub`: if the delivered body value relates to the true one as the
chosen context requires, then feasibility of the delivered value implies feasibility of the true one -/
theorem C01_ctx_sound_range (body : Lin) (lb ub : Option Rat) (a f : Asg)
    (hlb : ∀ l, lb = some l → -pracInf < l) (hub : ∀ u, ub = some u → u < pracInf)
    (h : ∀ p ∈ propRangeLin body lb ub, req p.2 (a p.1) (f p.1))
    (hfeas : inRange lb ub (evalLin a body)) : inRange lb ub (evalLin f body) :=
  inRange_of_req lb ub _ _ hlb hub (C01_ctx_sound_linterms _ body a f h) hfeas


/-! ## conditional comparisons `res ⇔ body (k) rhs`, k ∈ {<, ≤, ≥, >} -/

/-- enforced when `res = 1` (positive direction); `e` is the comparison epsilon -/
def posPred (k : Cmp5) (e b rhs : Rat) : Prop :=
  match k with
  | .lt => b ≤ rhs + -1 * e | .le => b ≤ rhs + 0 | .ge => rhs + 0 ≤ b | .gt => rhs + 1 * e ≤ b | .eq => b = rhs

/-- enforced when `res = 0` (negative direction) -/
def negPred (k : Cmp5) (e b rhs : Rat) : Prop :=
  match k with
  | .lt => rhs + 0 ≤ b | .le => rhs + 1 * e ≤ b | .ge => b ≤ rhs + -1 * e | .gt => b ≤ rhs + 0 | .eq => True

theorem emit_core (res : Var) (body : Lin) (rhs : Rat) (B : Bnds) (kout : Cmp) (value : Nat) (eps : Rat) (x : Asg)
    (hne : body.isEmpty = false) (hd : inDom B x res) :
    (∀ c ∈ (condIneqEmit res body rhs B kout value eps).cons, c.sat x) ↔
      (x res = (value : Rat) → kout.holds (evalLin x body) (rhs + eps)) := by
  simp only [condIneqEmit, hne, Bool.false_eq_true, if_false]
  by_cases hf : (B res).isFixed = true
  · have hv := fixed_val hf hd
    simp only [hf, if_true]
    by_cases he : ((value : Rat) == (B res).fixedVal) = true
    · have he' : (value : Rat) = (B res).fixedVal := by simpa using he
      simp [Con.sat, hv, he']
    · have he' : ¬ (value : Rat) = (B res).fixedVal := by simpa using he
      simp only [he, Bool.false_eq_true, if_false]
      constructor
      · intro _ h; rw [hv] at h; exact absurd h.symm he'
      · intro _ c hc; exact absurd hc (by simp)
  · simp [hf, Con.sat]

theorem emit_refusal (res : Var) (body : Lin) (rhs : Rat) (B : Bnds) (kout : Cmp) (value : Nat) (eps : Rat) :
    (condIneqEmit res body rhs B kout value eps).refusal = none ∧
    (condIneqEmit res body rhs B kout value eps).vars = [] := by
  unfold condIneqEmit
  cases kout <;> simp only [] <;> split <;> (try split) <;> (try split) <;> exact ⟨rfl, rfl⟩

def condDom (B : Bnds) (res : Var) (x : Asg) : Prop := (x res = 0 ∨ x res = 1) ∧ inDom B x res

/-- what `Cond_LE_LT_GT_GE_Converter_MIP` emits is exactly: `res = 1 ⇒ posPred` when the context has a
positive part and `res = 0 ⇒ negPred` when it has a negative part (eps = `ComparisonEps` of the body type) -/
theorem C01_gadget_condineq_emits (k : Cmp5) (hk : k ≠ .eq) (res : Var) (body : Lin) (rhs : Rat) (ctx : Ctx) (B : Bnds)
    (o : Opts) (n : Nat) (hne : body.isEmpty = false) :
    Exact (gCondIneq k res body rhs ctx B o n) n (condDom B res)
      (fun x => (ctx.eff.hasPos = true → x res = 1 → posPred k (cmpEpsOf o (linBnd B body).2.2) (evalLin x body) rhs) ∧
                (ctx.eff.hasNeg = true → x res = 0 → negPred k (cmpEpsOf o (linBnd B body).2.2) (evalLin x body) rhs)) := by
  refine exact_dispatch_rows (emit_refusal ..).1 (emit_refusal ..).1 (emit_refusal ..).2 (emit_refusal ..).2
    (PN := fun x => x res = 0 → negPred k (cmpEpsOf o (linBnd B body).2.2) (evalLin x body) rhs)
    (PP := fun x => x res = 1 → posPred k (cmpEpsOf o (linBnd B body).2.2) (evalLin x body) rhs)
    (fun x hx => ?_) (fun x hx => ?_) fun x hx => ?_
  · unfold condIneqNeg; rw [emit_core res body rhs B _ 0 _ x hne hx.2]
    cases k <;> simp [Cmp5.isGreater, Cmp5.isStrict, Cmp.holds, negPred] at hk ⊢
  · unfold condIneqPos; rw [emit_core res body rhs B _ 1 _ x hne hx.2]
    cases k <;> simp [Cmp5.isGreater, Cmp5.isStrict, Cmp.holds, posPred] at hk ⊢
  · -- `res = 0 → …` holds where `res ≥ 1`, `res = 1 → …` where `res ≤ 0`
    rw [need_neg_iff fun _ => ⟨hx.2, by grind⟩, need_pos_iff fun _ => ⟨hx.2, by grind⟩, and_comm]

theorem rel_b2r_iff (ctx : Ctx) (r : Rat) (p : Prop) [Decidable p] (hr : r = 0 ∨ r = 1) :
    rel ctx r (b2r p) ↔ ((ctx.eff.hasPos = true → r = 1 → p) ∧ (ctx.eff.hasNeg = true → r = 0 → ¬ p)) := by
  rw [rel_iff]
  by_cases hp : p <;> rcases hr with h0 | h0 <;> subst h0 <;> simp [b2r, hp] <;> grind

theorem C01_gadget_condineq_sound (k : Cmp5) (hk : k ≠ .eq) (ctx : Ctx) (e b rhs r : Rat) (he : 0 < e) (hr : r = 0 ∨ r = 1)
    (h : (ctx.eff.hasPos = true → r = 1 → posPred k e b rhs) ∧ (ctx.eff.hasNeg = true → r = 0 → negPred k e b rhs)) :
    rel ctx r (b2r (k.holds b rhs)) := by
  rw [rel_b2r_iff ctx r _ hr]
  obtain ⟨h1, h2⟩ := h
  constructor
  · intro hp h0
    have := h1 hp h0
    cases k <;> simp only [posPred, Cmp5.holds] at this hk ⊢ <;> grind
  · intro hn h0
    have := h2 hn h0
    cases k <;> simp only [negPred, Cmp5.holds] at this hk ⊢ <;> grind

/-- completeness away from the boundary for continuous bodies: at a point at distance ≥ eps from the
boundary (or on it) every value of `res` the original relation allows is still allowed -/
theorem C01_gadget_condineq_complete_margin (k : Cmp5) (hk : k ≠ .eq) (ctx : Ctx) (e b rhs r : Rat)
    (hr : r = 0 ∨ r = 1)
    (hmargin : b ≤ rhs + -1 * e ∨ b = rhs ∨ rhs + 1 * e ≤ b)
    (h : rel ctx r (b2r (k.holds b rhs))) (he : 0 < e) :
    (ctx.eff.hasPos = true → r = 1 → posPred k e b rhs) ∧ (ctx.eff.hasNeg = true → r = 0 → negPred k e b rhs) := by
  rw [rel_b2r_iff ctx r _ hr] at h
  obtain ⟨h1, h2⟩ := h
  constructor
  · intro hp h0
    have := h1 hp h0
    cases k <;> simp only [posPred, Cmp5.holds] at this hk ⊢ <;> grind
  · intro hn h0
    have := h2 hn h0
    cases k <;> simp only [negPred, Cmp5.holds] at this hk ⊢ <;> grind

/-- exactness for integer bodies (`eps = 1`, integer right-hand side after the preprocessing rounding) -/
theorem C01_gadget_condineq_exact_int (k : Cmp5) (hk : k ≠ .eq) (ctx : Ctx) (b rhs r : Rat)
    (hb : isIntVal b) (hrhs : isIntVal rhs) (hr : r = 0 ∨ r = 1) :
    ((ctx.eff.hasPos = true → r = 1 → posPred k 1 b rhs) ∧ (ctx.eff.hasNeg = true → r = 0 → negPred k 1 b rhs))
      ↔ rel ctx r (b2r (k.holds b rhs)) := by
  -- integers are on the boundary or at distance at least 1 from it
  refine ⟨C01_gadget_condineq_sound k hk ctx 1 b rhs r (by grind) hr,
    fun h => C01_gadget_condineq_complete_margin k hk ctx 1 b rhs r hr ?_ h (by grind)⟩
  have lt1 : b < rhs → b + 1 ≤ rhs := int_lt_add_one hb hrhs
  have lt2 : rhs < b → rhs + 1 ≤ b := int_lt_add_one hrhs hb
  grind



/-! ## non-vacuity: the hypotheses of the gadget theorems are satisfiable and the steps do emit constraints -/

example : (gAbs 0 1 .mix (fun _ => {}) 2).cons.length = 4 ∧ (gAbs 0 1 .mix (fun _ => {}) 2).vars.length = 1 := by
  decide

example : (gAbs 0 1 .mix (fun _ => {}) 2).realizable 2 (fun v => if v = 0 then 3 else -3) := by
  apply (C01_gadget_abs 0 1 .mix (fun _ => {}) 2 (by decide) (by decide)).2 _ trivial
  simp [rel, req, Ctx.eff, Fun.val]; grind

example : ¬ (gAbs 0 1 .neg (fun _ => {}) 2).realizable 2 (fun v => if v = 0 then 2 else -3) := by
  intro ⟨y, hag, haux, hc⟩
  have := (C01_gadget_abs 0 1 .neg (fun _ => {}) 2 (by decide) (by decide)).1 y trivial haux hc
  have e0 := hag 0 (by decide)
  have e1 := hag 1 (by decide)
  simp [rel, req, Ctx.eff, Fun.val, e0, e1] at this
  grind

example : (gIndLE 1 1 [(1, 0), (2, 2)] 3
    (fun v => if v = 0 then { lb := some 0, ub := some 5 } else { lb := some (-1), ub := some 4, isInt := true }) {}).cons
    = [Con.linRhs .le [(1, 0), (2, 2), (10, 1)] 13] := by
  have h : ¬ ((13 : Rat) = 3) := by grind
  have h2 : ¬ (pracInf ≤ (13 : Rat)) := by unfold pracInf; grind
  have e : (5 : Rat) + (2 * 4 + 0) = 13 := by grind
  simp [gIndLE, implLE, bigMUpper, linBnd, optAdd, optScale]
  grind



/-! ## range constraints (range_con.h): slack form for proper ranges, one-sided / equality otherwise -/

theorem C01_gadget_range_quad (lin : Lin) (q : Quad) (lb ub : Option Rat) (n : Nat)
    (hb : ∀ p ∈ lin, p.2 < n) (hq : ∀ t ∈ q, t.2.1 < n ∧ t.2.2 < n) :
    Exact (gRangeQuad lin q lb ub n) n (fun _ => True)
      (fun x => inRange lb ub (evalLin x lin + evalQuad x q)) := by
  rcases lb with _ | l <;> rcases ub with _ | u
  · exact Exact.of_iff rfl fun x _ => by simp [gRangeQuad, inRange]
  · exact Exact.of_iff rfl fun x _ => by simp [gRangeQuad, Con.sat, Cmp.holds, inRange]
  · exact Exact.of_iff rfl fun x _ => by simp [gRangeQuad, Con.sat, Cmp.holds, inRange]
  · by_cases hlu : l = u
    · subst hlu
      have e : (l + l) / 2 = l := by grind
      exact Exact.of_iff (by simp [gRangeQuad]) fun x _ => by
        simp [gRangeQuad, Con.sat, Cmp.holds, inRange, e]; grind
    · -- a proper range: the slack variable `n` measures the distance to the upper bound
      have hne : (l != u) = true := by simp [hlu]
      simp only [gRangeQuad, hne, if_true]
      constructor
      · intro y _ hax hc
        have h1 := hax.1.1 0 rfl
        have h2 := hax.1.2.1 (u - l) rfl
        have h3 : evalLin y (lin ++ [(1, n)]) + evalQuad y q = u := hc _ List.mem_cons_self
        simp only [evalLin_append, evalLin_cons, evalLin_nil] at h3
        simp only [inRange, Option.some.injEq, forall_eq']; grind
      · intro x _ h
        simp only [inRange, Option.some.injEq, forall_eq'] at h
        let x' := ext x n [u - (evalLin x lin + evalQuad x q)]
        have hag : agree n x x' := agree_ext _ _ _
        refine ⟨x', hag, ⟨⟨?_, ?_, fun h => nomatch h⟩, trivial⟩, ?_⟩
        · intro l' hl'; cases hl'; show 0 ≤ ext x n _ n; rw [ext_self]; simp only [List.getD_cons_zero]; grind
        · intro u' hu'; cases hu'; show ext x n _ n ≤ u - l; rw [ext_self]; simp only [List.getD_cons_zero]; grind
        · intro c hc
          rw [List.mem_singleton.mp hc]
          show evalLin x' (lin ++ [(1, n)]) + evalQuad x' q = u
          rw [evalLin_append, evalLin_agree hag hb, evalQuad_agree hag hq]
          simp only [evalLin_cons, evalLin_nil, x', ext_self, List.getD_cons_zero]; grind

theorem C01_gadget_range_lin (body : Lin) (lb ub : Option Rat) (n : Nat) (hb : ∀ p ∈ body, p.2 < n) :
    Exact (gRangeLin body lb ub n) n (fun _ => True) (fun x => inRange lb ub (evalLin x body)) := by
  refine ((C01_gadget_range_quad body [] lb ub n hb (by simp)).of_rows_iff ?_ fun x => ?_).congr (fun _ h => h)
    (fun x _ => by simp only [evalQuad, Rat.add_zero])
  · rcases lb with _ | l <;> rcases ub with _ | u <;> simp only [gRangeLin, gRangeQuad] <;> split <;> rfl
  · rcases lb with _ | l <;> rcases ub with _ | u <;> simp only [gRangeLin, gRangeQuad] <;>
      (try split) <;> simp [Con.sat, evalQuad, Rat.add_zero]

/-! ## one fresh binary flag per alternative

`numberof`, max/min and the negative part of a conditional equality create the flags `n, n+1, …`, one per argument
(alternative), and one row `mk flag arg` each. -/

def flagCons {α : Type} (mk : Var → α → Con) : Nat → List α → List Con
  | _, [] => []
  | n, a :: t => mk n a :: flagCons mk (n + 1) t

theorem flagCons_eq {α : Type} (mk : Var → α → Con) (n : Nat) (args : List α) :
    ((List.zip (List.range' n args.length) args).map fun p => mk p.1 p.2) = flagCons mk n args := by
  induction args generalizing n with
  | nil => rfl
  | cons a t ih =>
    simp only [List.length_cons, List.range'_succ, List.zip_cons_cons, List.map_cons, flagCons]
    rw [ih (n + 1)]

/-- the flags can always be set: the flag of `a` to `val · a` (0 or 1, computed from the variables below `n0`) -/
theorem flagCons_complete {α : Type} (mk : Var → α → Con) (val : Asg → α → Rat) (n0 : Nat) (args : List α)
    (h01 : ∀ x a, val x a = 0 ∨ val x a = 1)
    (hloc : ∀ a ∈ args, ∀ x x', agree n0 x x' → val x' a = val x a)
    (hrow : ∀ a ∈ args, ∀ f y, n0 ≤ f → y f = val y a → (mk f a).sat y) :
    ∀ (n : Nat) (x : Asg), n0 ≤ n →
      ∃ x' : Asg, agree n x x' ∧ (∀ c ∈ flagCons mk n args, c.sat x') ∧
        auxOk n x' (args.map fun _ => VarInfo.binary) ∧ 0 ≤ evalLin x' (ones (List.range' n args.length)) ∧
        ∀ a ∈ args, val x' a ≤ evalLin x' (ones (List.range' n args.length)) := by
  induction args with
  | nil => intro n x _; exact ⟨x, fun _ _ => rfl, by simp [flagCons], trivial, Rat.le_refl, by simp⟩
  | cons a t ih =>
    intro n x hn
    obtain ⟨x', hag, hcs, hax, h0, hle⟩ := ih (fun b hb => hloc b (List.mem_cons_of_mem _ hb))
      (fun b hb => hrow b (List.mem_cons_of_mem _ hb)) (n + 1) (fun v => if v = n then val x a else x v) (by omega)
    have hxn : agree n x x' := fun v hv => by rw [hag v (by omega)]; simp [Nat.ne_of_lt hv]
    have en : x' n = val x' a := by
      rw [hag n (by omega), hloc a List.mem_cons_self x x' fun v hv => hxn v (by omega)]; simp
    have := h01 x' a
    refine ⟨x', hxn, ?_, ⟨?_, hax⟩, ?_, ?_⟩
    · intro c hc
      rcases List.mem_cons.mp hc with rfl | hc
      · exact hrow a List.mem_cons_self n x' hn en
      · exact hcs c hc
    · rw [en]; exact admits_binary_of this
    · simp only [List.length_cons, List.range'_succ, ones_cons, evalLin_cons, en]; grind
    · intro b hb
      simp only [List.length_cons, List.range'_succ, ones_cons, evalLin_cons, en]
      rcases List.mem_cons.mp hb with rfl | hb
      · grind
      · have := hle b hb; grind

theorem flagCons_sound {α : Type} (mk : Var → α → Con) (n : Nat) (args : List α) (y : Asg)
    (hax : auxOk n y (args.map fun _ => VarInfo.binary))
    (hs : 1 ≤ evalLin y (ones (List.range' n args.length))) :
    ∃ f, ∃ a ∈ args, y f = 1 ∧ mk f a ∈ flagCons mk n args := by
  induction args generalizing n with
  | nil => exact absurd hs (by simp; grind)
  | cons a t ih =>
    simp only [List.length_cons, List.range'_succ, ones_cons, evalLin_cons] at hs
    rcases binary_admits hax.1 with h0 | h1
    · obtain ⟨f, b, hb, hf, hm⟩ := ih (n + 1) hax.2 (by rw [h0] at hs; grind)
      exact ⟨f, b, List.mem_cons_of_mem _ hb, hf, List.mem_cons_of_mem _ hm⟩
    · exact ⟨n, a, List.mem_cons_self, h1, List.mem_cons_self⟩

/-! ## conditional equality `res ⇔ body = rhs` (cond_eq.h) -/

/-- enforced when `res = 0`: the body is outside the open interval `(lo, hi)` around rhs -/
def neqPred (lo hi b : Rat) : Prop := b ≤ lo ∨ hi ≤ b

theorem condEqPos_core (res : Var) (body : Lin) (rhs : Rat) (B : Bnds) (y : Asg)
    (hne : body.isEmpty = false) (hr : y res = 0 ∨ y res = 1) (hd : inDom B y res) :
    (∀ c ∈ (condEqPos res body rhs B).cons, c.sat y) ↔ (y res = 1 → evalLin y body = rhs) := by
  simp only [condEqPos, hne, Bool.false_eq_true, if_false]
  by_cases hf : (B res).isFixed = true
  · have hv := fixed_val hf hd
    simp only [hf, if_true]
    by_cases h0 : (B res).fixedVal = 0
    · have : ((B res).fixedVal != 0) = false := by simp [h0]
      simp only [this, Bool.false_eq_true, if_false]
      constructor
      · intro _ h1; rw [hv, h0] at h1; exact absurd h1 (by grind)
      · intro _ c hc; exact absurd hc (by simp)
    · have : ((B res).fixedVal != 0) = true := by simp [h0]
      have h1 : y res = 1 := by rcases hr with h | h <;> grind
      simp [this, Con.sat, Cmp.holds, h1]
  · simp [hf, Con.sat, Cmp.holds]

theorem condEqPos_noaux (res : Var) (body : Lin) (rhs : Rat) (B : Bnds) :
    (condEqPos res body rhs B).refusal = none ∧ (condEqPos res body rhs B).vars = [] := by
  unfold condEqPos; split <;> (try split) <;> (try split) <;> exact ⟨rfl, rfl⟩

theorem condEqNeg_refusal (res : Var) (body : Lin) (rhs : Rat) (B : Bnds) (o : Opts) (n : Nat) :
    (condEqNeg res body rhs B o n).refusal = none := by
  unfold condEqNeg; split <;> (try split) <;> rfl

/-- the negative part, soundness: with the two flags binary, `res = 0` forces the body away from rhs -/
theorem condEqNeg_sound (res : Var) (body : Lin) (rhs : Rat) (B : Bnds) (o : Opts) (n : Nat) (y : Asg)
    (hne : body.isEmpty = false) (hd : inDom B y res)
    (haux : auxOk n y (condEqNeg res body rhs B o n).vars)
    (hc : ∀ c ∈ (condEqNeg res body rhs B o n).cons, c.sat y) :
    y res = 0 → neqPred (condEqLo o (linBnd B body).2.2 rhs) (condEqHi o (linBnd B body).2.2 rhs) (evalLin y body) := by
  intro h0
  simp only [condEqNeg, hne, Bool.false_eq_true, if_false] at haux hc
  by_cases hcond : (!(B res).isFixed || (B res).fixedVal == 0) = true
  · simp only [hcond, if_true, auxOk, and_true] at haux
    simp [hcond, Con.sat, Cmp.holds] at hc
    have b1 := binary_admits haux.1
    have b2 := binary_admits haux.2
    obtain ⟨c1, c2, c3⟩ := hc
    unfold neqPred
    rcases b1 with e1 | e1 <;> rcases b2 with e2 | e2 <;> simp [e1, e2, h0] at c1 c2 c3 ⊢ <;> grind
  · -- fixed at a nonzero value: contradiction with res = 0
    have hf : (B res).isFixed = true := by
      cases h1 : (B res).isFixed <;> simp [h1] at hcond ⊢
    have hv := fixed_val hf hd
    have : (B res).fixedVal ≠ 0 := by
      intro h; simp [hf, h] at hcond
    rw [hv] at h0; exact absurd h0 this

theorem condEqNeg_complete (res : Var) (body : Lin) (rhs : Rat) (B : Bnds) (o : Opts) (n : Nat) (x : Asg)
    (hne : body.isEmpty = false) (hrn : res < n) (hb : ∀ p ∈ body, p.2 < n)
    (hr : x res = 0 ∨ x res = 1)
    (h : x res = 0 → neqPred (condEqLo o (linBnd B body).2.2 rhs) (condEqHi o (linBnd B body).2.2 rhs) (evalLin x body)) :
    ∃ x' : Asg, agree n x x' ∧ auxOk n x' (condEqNeg res body rhs B o n).vars ∧
      ∀ c ∈ (condEqNeg res body rhs B o n).cons, c.sat x' := by
  -- each of the two flags says truthfully whether its side of the separation holds
  obtain ⟨x', hag, hcs, hax, _, hsum⟩ := flagCons_complete (fun f (a : Cmp × Rat) => Con.indLin f 1 a.1 body a.2)
    (fun y a => if a.1.holds (evalLin y body) a.2 then 1 else 0) n
    [(.le, condEqLo o (linBnd B body).2.2 rhs), (.ge, condEqHi o (linBnd B body).2.2 rhs)] (fun _ _ => by split <;> simp)
    (fun a _ x x' hag => by rw [evalLin_agree hag hb])
    (fun a _ f y _ hf => by simp only [Con.sat, hf]; split <;> simp [*]) n x (Nat.le_refl n)
  refine ⟨x', hag, ?_, ?_⟩ <;> simp only [condEqNeg, hne, Bool.false_eq_true, if_false] <;> split
  · exact hax
  · trivial
  · intro c hc
    rcases List.mem_cons.mp hc with rfl | hc
    · have h1 := hsum _ List.mem_cons_self
      have h2 := hsum _ (List.mem_cons_of_mem _ List.mem_cons_self)
      simp only [Con.sat, Cmp.holds, evalLin_cons, evalLin_nil, evalLin_agree hag hb, hag res hrn, List.length_cons,
        List.length_nil, List.range'_succ, List.range'_zero, ones_cons, ones_nil] at h1 h2 ⊢
      rcases hr with h0 | h0
      · have := h h0; unfold neqPred at this
        rw [h0]; rcases this with hp | hp <;> simp [hp] at h1 h2 <;> grind
      · rw [h0]; split at h1 <;> grind
    · exact hcs c hc
  · simp

/-- what `CondEQConverter_MIP` emits (cases converted by `Base::Convert`): `res = 1 ⇒ body = rhs` for a positive
part of the context, `res = 0 ⇒ body ≤ lo ∨ body ≥ hi` (two fresh binaries; `lo/hi = condEqLo/condEqHi`) for a negative part -/
theorem C01_gadget_condeq_emits (res : Var) (body : Lin) (rhs : Rat) (ctx : Ctx) (B : Bnds) (o : Opts) (n : Nat)
    (hne : body.isEmpty = false) (hrn : res < n) (hb : ∀ p ∈ body, p.2 < n) :
    Exact (gCondEq res body rhs ctx B o n) n (condDom B res)
      (fun x => (ctx.eff.hasPos = true → x res = 1 → evalLin x body = rhs) ∧
                (ctx.eff.hasNeg = true → x res = 0 → neqPred (condEqLo o (linBnd B body).2.2 rhs) (condEqHi o (linBnd B body).2.2 rhs) (evalLin x body))) := by
  refine (exact_dispatch_neg ctx true (B res) n (fun m => condEqNeg res body rhs B o m) (condEqPos res body rhs B)
    (condEqNeg_refusal res body rhs B o) (condEqPos_noaux res body rhs B).1 (condEqPos_noaux res body rhs B).2
    ⟨fun y ⟨_, hd⟩ hax hc => condEqNeg_sound res body rhs B o n y hne hd hax hc,
     fun x ⟨hr, _⟩ h => condEqNeg_complete res body rhs B o n x hne hrn hb hr h⟩
    (fun x ⟨hr, hd⟩ => condEqPos_core res body rhs B x hne hr hd) ?_ ?_).congr (fun _ h => h)
    (fun x hx => by rw [need_neg_iff fun _ => ⟨hx.2, by grind⟩, need_pos_iff fun _ => ⟨hx.2, by grind⟩, and_comm])
  · intro x x' hag ⟨hr, hd⟩
    unfold condDom inDom; rw [hag res hrn]; exact ⟨hr, hd⟩
  · intro x x' hag _ h
    rw [hag res hrn, evalLin_agree hag hb]; exact h

theorem condEqLo_lt (o : Opts) (isI : Bool) (rhs : Rat) (h : isI = true ∨ 0 < o.cmpEps) : condEqLo o isI rhs < rhs := by
  unfold condEqLo
  cases isI
  · have he : 0 < o.cmpEps := by rcases h with h | h; exact absurd h (by decide); exact h
    simp [cmpEpsOf]; grind
  · simp only [if_true]
    have h1 : ¬ (rhs.ceil ≤ rhs.ceil - 1) := by omega
    rw [Rat.ceil_le_iff] at h1
    have : ((rhs.ceil - 1 : Int) : Rat) = (rhs.ceil : Rat) - 1 := by push_cast; rfl
    rw [this] at h1; grind

theorem condEqHi_gt (o : Opts) (isI : Bool) (rhs : Rat) (h : isI = true ∨ 0 < o.cmpEps) : rhs < condEqHi o isI rhs := by
  unfold condEqHi
  cases isI
  · have he : 0 < o.cmpEps := by rcases h with h | h; exact absurd h (by decide); exact h
    simp [cmpEpsOf]; grind
  · simp only [if_true]
    have := Rat.lt_floor_add_one rhs
    have e : ((rhs.floor + 1 : Int) : Rat) = (rhs.floor : Rat) + 1 := by push_cast; rfl
    rw [e] at this; exact this

/-- soundness: whenever the separation bounds straddle rhs (integer body, or eps > 0) what is emitted implies the
context's reading of `res ⇔ body = rhs` -/
theorem C01_gadget_condeq_sound (ctx : Ctx) (lo hi b rhs r : Rat) (hlo : lo < rhs) (hhi : rhs < hi) (hr : r = 0 ∨ r = 1)
    (h : (ctx.eff.hasPos = true → r = 1 → b = rhs) ∧ (ctx.eff.hasNeg = true → r = 0 → neqPred lo hi b)) :
    rel ctx r (b2r (Cmp5.eq.holds b rhs)) := by
  rw [rel_b2r_iff ctx r _ hr]
  obtain ⟨h1, h2⟩ := h
  refine ⟨fun hp h0 => h1 hp h0, fun hn h0 => ?_⟩
  have := h2 hn h0
  unfold neqPred at this
  simp only [Cmp5.holds]; grind

/-- exact for integer bodies, for EVERY right-hand side.  With bounds `rhs ∓ 1` instead of `condEqLo`/`condEqHi` the claim
fails for a fractional `rhs`: body value 1, rhs 3/2, res 0 is excluded by `body ≤ 1/2 ∨ body ≥ 5/2`
(`b==1 or not (2*x == 3)` over integer x). -/
theorem C01_gadget_condeq_exact_int (ctx : Ctx) (o : Opts) (b rhs r : Rat) (hb : isIntVal b) (hr : r = 0 ∨ r = 1) :
    ((ctx.eff.hasPos = true → r = 1 → b = rhs) ∧
      (ctx.eff.hasNeg = true → r = 0 → neqPred (condEqLo o true rhs) (condEqHi o true rhs) b))
      ↔ rel ctx r (b2r (Cmp5.eq.holds b rhs)) := by
  constructor
  · exact C01_gadget_condeq_sound ctx _ _ b rhs r (condEqLo_lt o true rhs (Or.inl rfl)) (condEqHi_gt o true rhs (Or.inl rfl)) hr
  · rw [rel_b2r_iff ctx r _ hr]
    intro ⟨h1, h2⟩
    refine ⟨fun hp h0 => h1 hp h0, fun hn h0 => ?_⟩
    have hne := h2 hn h0
    simp only [Cmp5.holds] at hne
    obtain ⟨k, rfl⟩ := hb
    unfold neqPred condEqLo condEqHi
    simp only [if_true]
    by_cases hlt : (k : Rat) < rhs
    · left
      have h1 : ¬ (rhs.ceil ≤ k) := by rw [Rat.ceil_le_iff]; grind
      have h2 : k ≤ rhs.ceil - 1 := by omega
      have : ((k : Int) : Rat) ≤ ((rhs.ceil - 1 : Int) : Rat) := by exact_mod_cast h2
      have e : ((rhs.ceil - 1 : Int) : Rat) = (rhs.ceil : Rat) - 1 := by push_cast; rfl
      rw [e] at this; exact this
    · right
      have hgt : rhs < (k : Rat) := by grind
      have h1 : ¬ (k ≤ rhs.floor) := by rw [Rat.le_floor_iff]; grind
      have h2 : rhs.floor + 1 ≤ k := by omega
      have : ((rhs.floor + 1 : Int) : Rat) ≤ ((k : Int) : Rat) := by exact_mod_cast h2
      have e : ((rhs.floor + 1 : Int) : Rat) = (rhs.floor : Rat) + 1 := by push_cast; rfl
      rw [e] at this; exact this

/-- continuous bodies: complete at distance ≥ eps from rhs (or on it) -/
theorem C01_gadget_condeq_complete_margin (ctx : Ctx) (o : Opts) (b rhs r : Rat) (hr : r = 0 ∨ r = 1)
    (hmargin : b ≤ rhs - o.cmpEps ∨ b = rhs ∨ rhs + o.cmpEps ≤ b)
    (h : rel ctx r (b2r (Cmp5.eq.holds b rhs))) :
    (ctx.eff.hasPos = true → r = 1 → b = rhs) ∧
      (ctx.eff.hasNeg = true → r = 0 → neqPred (condEqLo o false rhs) (condEqHi o false rhs) b) := by
  rw [rel_b2r_iff ctx r _ hr] at h
  obtain ⟨h1, h2⟩ := h
  refine ⟨fun hp h0 => h1 hp h0, fun hn h0 => ?_⟩
  have hne := h2 hn h0
  simp only [Cmp5.holds] at hne
  unfold neqPred condEqLo condEqHi
  simp [cmpEpsOf]
  rcases hmargin with hm | hm | hm
  · left; exact hm
  · exact absurd hm hne
  · right; exact hm

/-! ## implication `c ==> t else e`  →  `And(Or(!c, t), Or(c, e))` -/

/-- `MakeComplementVar` of a binary variable creates a binary variable -/
theorem compl_eq {B : Bnds} {c : Var} (hl : (B c).lb = some 0) (hu : (B c).ub = some 1) (hi : (B c).isInt = true) :
    affBnd B [(-1, c)] 1 = VarInfo.binary := by
  have hneg : ¬ ((0 : Rat) ≤ -1) := by grind
  simp [affBnd, linBnd, hneg, hl, hu, hi, optAdd, optScale, isIntQ, VarInfo.binary]
  constructor <;> grind

def implDom (res c t e : Var) (x : Asg) : Prop :=
  (x res = 0 ∨ x res = 1) ∧ (x c = 0 ∨ x c = 1) ∧ (x t = 0 ∨ x t = 1) ∧ (x e = 0 ∨ x e = 1)

theorem val_compl (y : Asg) (c : Var) : Fun.val y (.affine [(-1, c)] 1) = 1 - y c := by
  simp [Fun.val]; grind
theorem val_or_pair (y : Asg) (a b : Var) : Fun.val y (.or [a, b]) = b2r (y a = 1 ∨ y b = 1) := by
  simp [Fun.val]
theorem val_and_pair (y : Asg) (a b : Var) : Fun.val y (.and [a, b]) = b2r (y a = 1 ∧ y b = 1) := by
  simp [Fun.val]

/-- `And(Or(¬c, t), Or(c, e))` computes `if c then t else e` on 0/1 values -/
theorem and_or_or_eq_ite {c t e : Rat} (hc : c = 0 ∨ c = 1) (ht : t = 0 ∨ t = 1) (he : e = 0 ∨ e = 1) :
    b2r (b2r (1 - c = 1 ∨ t = 1) = 1 ∧ b2r (c = 1 ∨ e = 1) = 1) = if c = 1 then t else e := by
  rcases hc with rfl | rfl <;> rcases ht with rfl | rfl <;> rcases he with rfl | rfl <;> simp [b2r] <;> grind

theorem gImpl_eq {res c t e : Var} {ctx : Ctx} {B : Bnds} {n : Nat}
    (hl : (B c).lb = some 0) (hu : (B c).ub = some 1) (hi : (B c).isInt = true)
    (hft : (B t).isFixed = false) (hfe : (B e).isFixed = false) (hfr : (B res).isFixed = false) :
    gImpl res c t e ctx B n =
      { vars := [VarInfo.binary, VarInfo.binary, VarInfo.binary],
        cons := [Con.func n ctx.eff (.affine [(-1, c)] 1), Con.func (n + 1) ctx.eff (.or [n, t]),
                 Con.func (n + 2) ctx.eff (.or [c, e]), Con.func res ctx.eff (.and [n + 1, n + 2])] } := by
  simp [gImpl, hl, hu, hft, hfe, hfr, Ctx.plus_eff, compl_eq hl hu hi]

theorem sat_func_eff (y : Asg) (r : Var) (ctx : Ctx) (f : Fun) :
    (Con.func r ctx.eff f).sat y ↔ req ctx.eff (y r) (f.val y) := by
  simp only [Con.sat, rel, Ctx.eff_eff]

/-- implication with a non-fixed result (the case with a fixed-true result — two disjunctions fixed true —
is modelled and correspondence-checked, not proved) -/
theorem C01_gadget_impl (res c t e : Var) (ctx : Ctx) (B : Bnds) (n : Nat)
    (hr : res < n) (hc : c < n) (ht : t < n) (he : e < n)
    (hl : (B c).lb = some 0) (hu : (B c).ub = some 1) (hi : (B c).isInt = true)
    (hft : (B t).isFixed = false) (hfe : (B e).isFixed = false) (hfr : (B res).isFixed = false) :
    Exact (gImpl res c t e ctx B n) n (implDom res c t e)
      (fun x => rel ctx (x res) (Fun.val x (.impl c t e))) := by
  rw [gImpl_eq hl hu hi hft hfe hfr]
  constructor
  · -- every stored definition read as implications between truth values; the rest is propositional
    intro y ⟨hyr, hyc, hyt, hye⟩ ⟨a0, a1, a2, _⟩ hcs
    have b0 := binary_admits a0
    have b1 := binary_admits a1
    have b2 : y (n + 2) = 0 ∨ y (n + 2) = 1 := binary_admits a2
    simp only [List.forall_mem_cons, List.not_mem_nil, false_imp_iff, implies_true, and_true, sat_func_eff,
      val_compl, val_or_pair, val_and_pair] at hcs
    obtain ⟨c0, c1, c2, c3⟩ := hcs
    rw [req_bin_iff _ b0 (by grind)] at c0
    rw [req_bin_iff _ b1 (b2r_zero_one _), b2r_eq_one] at c1
    rw [req_bin_iff _ b2 (b2r_zero_one _), b2r_eq_one] at c2
    rw [req_bin_iff _ hyr (b2r_zero_one _), b2r_eq_one] at c3
    have hv : Fun.val y (.impl c t e) = 0 ∨ Fun.val y (.impl c t e) = 1 := by
      simp only [Fun.val]; split <;> assumption
    show req ctx.eff _ _
    rw [req_bin_iff _ hyr hv]
    simp only [Fun.val]
    grind
  · -- the auxiliary variables take the exact values of their definitions
    intro x ⟨hxr, hxc, hxt, hxe⟩ h
    refine ⟨ext x n [1 - x c, b2r (1 - x c = 1 ∨ x t = 1), b2r (x c = 1 ∨ x e = 1)], agree_ext _ _ _, ?_, ?_⟩
    · refine ⟨admits_binary_of ?_, admits_binary_of ?_, admits_binary_of ?_, trivial⟩
      · simp only [ext_self, List.getD_cons_zero]; grind
      · rw [ext_add]; exact b2r_zero_one _
      · rw [show n + 1 + 1 = n + 2 from rfl, ext_add]; exact b2r_zero_one _
    · simp only [List.forall_mem_cons, List.not_mem_nil, false_imp_iff, implies_true, and_true, sat_func_eff,
        val_compl, val_or_pair, val_and_pair, ext_self, ext_add, ext_lt hr, ext_lt hc, ext_lt ht, ext_lt he,
        List.getD_cons_zero, List.getD_cons_succ]
      refine ⟨req_refl _ _, req_refl _ _, req_refl _ _, ?_⟩
      rw [and_or_or_eq_ite hxc hxt hxe]; exact h

/-! ## Composition, the depth-1 case: one functional constraint nested once under a root linear range constraint
(the general statement, for any nesting depth and shared subexpressions, is `C01_compose` in PropsCompose.lean)

NL constraint:  `lb ≤ body[res := F(args)] ≤ ub`, where `body` is linear over original variables and the
result variable `res` of one functional constraint `res = F(args)` (arguments are original variables).
Delivered: the root range constraint over `res` itself + whatever the conversion step `o` emitted for `F`
in the context `ctx` stored on it.  Hypotheses tie the pieces exactly as the converter does:
`hctx`  — the stored context includes what `PropagateResult` of the root constraint assigns to `res`;
`hex`   — the step is exact for that context (any `C01_gadget_*` theorem);
`hF`    — `F` does not read `res` or auxiliary variables.
Conclusion: a point is feasible for the NL constraint iff values for `res` and the auxiliaries exist that
satisfy the delivered constraints (projection equivalence for this fragment). -/


theorem C01_compose_root_range_single_partial
    (body : Lin) (lb ub : Option Rat) (res : Var) (n : Nat) (F : Fun) (ctx : Ctx) (o : Out) (D : Asg → Prop)
    (hlb : ∀ l, lb = some l → -pracInf < l) (hub : ∀ u, ub = some u → u < pracInf)
    (hres : res < n) (hbody : ∀ p ∈ body, p.2 < n)
    (hctx : ∀ p ∈ propRangeLin body lb ub, p.1 = res → p.2 ≤ ctx.eff)
    (hex : Exact o n D (fun x => rel ctx (x res) (F.val x)))
    (hF : ∀ x x' : Asg, (∀ v, v < n → v ≠ res → x' v = x v) → F.val x' = F.val x)
    (hDag : ∀ x x' : Asg, agree n x x' → D x → D x')
    (x : Asg) (hD : D (setVar x res (F.val x))) :
    inRange lb ub (evalLin (setVar x res (F.val x)) body) ↔
      ∃ x' : Asg, (∀ v, v < n → v ≠ res → x' v = x v) ∧ D x' ∧ auxOk n x' o.vars ∧
        (∀ c ∈ o.cons, c.sat x') ∧ inRange lb ub (evalLin x' body) := by
  constructor
  · intro hfeas
    let x1 := setVar x res (F.val x)
    have hFx1 : F.val x1 = F.val x := hF x x1 fun v _ hne => setVar_ne hne
    have hP : rel ctx (x1 res) (F.val x1) := by
      rw [hFx1, show x1 res = F.val x from setVar_same ..]; exact rel_refl _ _
    obtain ⟨x', hag, hax, hcs⟩ := hex.2 x1 hD hP
    refine ⟨x', ?_, ?_, hax, hcs, ?_⟩
    · intro v hv hne; rw [hag v hv]; exact setVar_ne hne
    · exact hDag x1 x' hag hD
    · rw [evalLin_agree hag hbody]; exact hfeas
  · intro ⟨x', hag, hDx', hax, hcs, hfeas⟩
    have hrel : rel ctx (x' res) (F.val x') := hex.1 x' hDx' hax hcs
    have hFx' : F.val x' = F.val x := hF x x' hag
    rw [hFx'] at hrel
    apply C01_ctx_sound_range body lb ub x' (setVar x res (F.val x)) hlb hub _ hfeas
    intro p hp
    by_cases hpr : p.1 = res
    · rw [hpr, setVar_same]
      exact rel_to_req (hctx p hp hpr) hrel
    · have hlt : p.1 < n := by
        obtain ⟨c, hc⟩ := propLin_mem _ body p hp
        exact hbody (c, p.1) hc
      rw [setVar_ne hpr, hag p.1 hlt hpr]; exact req_refl _ _


/-- end-to-end instance of the fragment: `lb ≤ y + abs(z) ≤ ub` with `abs` linearised by `AbsConverter_MIP`
in the context the root constraint propagates (`rangeCtx lb ub`): the delivered model (root row over the
result variable `r` + the abs gadget's rows and flag) has the same feasible set projected on `(y, z)`. -/
theorem C01_compose_example_abs (y z r n : Nat) (hy : y < n) (hz : z < n) (hr : r < n) (hyr : y ≠ r) (hzr : z ≠ r)
    (lb ub : Option Rat) (hlb : ∀ l, lb = some l → -pracInf < l) (hub : ∀ u, ub = some u → u < pracInf)
    (B : Bnds) (x : Asg) :
    inRange lb ub (x y + (if x z ≤ 0 then - x z else x z)) ↔
      ∃ x' : Asg, (∀ v, v < n → v ≠ r → x' v = x v) ∧ auxOk n x' (gAbs r z (rangeCtx lb ub) B n).vars ∧
        (∀ c ∈ (gAbs r z (rangeCtx lb ub) B n).cons, c.sat x') ∧ inRange lb ub (x' y + x' r) := by
  have h := C01_compose_root_range_single_partial [(1, y), (1, r)] lb ub r n (.abs z) (rangeCtx lb ub)
    (gAbs r z (rangeCtx lb ub) B n) (fun _ => True) hlb hub hr
    (by intro p hp; simp at hp; rcases hp with hp | hp <;> subst hp <;> assumption)
    (by
      intro p hp hpr
      simp [propRangeLin, propLin] at hp
      rcases hp with hp | hp
      · subst hp; exact absurd hpr hyr
      · subst hp; exact plus_le_eff _)
    (C01_gadget_abs r z (rangeCtx lb ub) B n hr hz)
    (by intro x1 x2 hag; simp only [Fun.val]; rw [hag z hz hzr])
    (by intro _ _ _ _; trivial)
    x trivial
  have e1 : evalLin (setVar x r (Fun.val x (.abs z))) [(1, y), (1, r)]
      = x y + (if x z ≤ 0 then - x z else x z) := by
    simp [setVar, hyr, Fun.val]; grind
  rw [e1] at h
  rw [h]
  constructor
  · intro ⟨x', a, _, b, c, d⟩
    refine ⟨x', a, b, c, ?_⟩
    have : evalLin x' [(1, y), (1, r)] = x' y + x' r := by simp; grind
    rw [← this]; exact d
  · intro ⟨x', a, b, c, d⟩
    refine ⟨x', a, trivial, b, c, ?_⟩
    have : evalLin x' [(1, y), (1, r)] = x' y + x' r := by simp; grind
    rw [this]; exact d



/-! ## count over 0/1 arguments (the case without auxiliary reification) -/

theorem countFlags_binary (B : Bnds) (args : List Var) (n : Nat) (h : ∀ a ∈ args, (B a).isBinary = true) :
    countFlags B args n = (args, [], [], false) := by
  induction args with
  | nil => rfl
  | cons a t ih =>
    have ha := h a (by simp)
    have ht := ih (fun b hb => h b (by simp [hb]))
    simp [countFlags, ha, ht]

/-- `CountConverter_MIP` when every argument is a binary variable: `res = Σ args`.
(The general case — non-binary arguments reified through `(a == 0)` and `not` — is modelled and
correspondence-checked, not proved.) -/
theorem C01_gadget_count_binary_partial (res : Var) (args : List Var) (B : Bnds) (n : Nat)
    (hbin : ∀ a ∈ args, (B a).isBinary = true) :
    Exact (gCount res args B n) n (fun x => ∀ a ∈ args, x a = 0 ∨ x a = 1)
      (fun x => x res = Fun.val x (.count args)) := by
  have hg : gCount res args B n = { cons := [.linRhs .eq (ones args ++ [(-1, res)]) 0] } := by
    simp [gCount, countFlags_binary B args n hbin]
  rw [hg]
  refine Exact.of_iff rfl fun x hx => ?_
  simp only [List.mem_singleton, forall_eq, Con.sat, Cmp.holds, evalLin_append, evalLin_cons, evalLin_nil,
    Fun.val, count_bin x args hx]
  grind


/-- the reification `flag = (body == rhs)` -/
def reif (body : Var → Lin) (rhs : Rat) (f a : Var) : Con := .func f .none (.condLin .eq (body a) rhs)

theorem reif_sat (body : Var → Lin) (rhs : Rat) (f a : Var) (y : Asg) :
    (reif body rhs f a).sat y ↔ y f = if evalLin y (body a) = rhs then 1 else 0 := Iff.rfl

theorem reif_sound (body : Var → Lin) (rhs : Rat) (n : Nat) (args : List Var) (y : Asg)
    (h : ∀ c ∈ flagCons (reif body rhs) n args, c.sat y) :
    evalLin y (ones (List.range' n args.length)) = countP (fun a => evalLin y (body a) == rhs) args := by
  induction args generalizing n with
  | nil => rfl
  | cons a t ih =>
    have h0 := (reif_sat ..).1 (h _ List.mem_cons_self)
    have ht := ih (n + 1) (fun c hc => h c (List.mem_cons_of_mem _ hc))
    simp only [List.length_cons, List.range'_succ, ones_cons, evalLin_cons, countP, ht, h0, beq_iff_eq]
    grind

/-- the flags can always be set: each to the truth value of its comparison (which reads variables below `n0` only) -/
theorem reif_complete (body : Var → Lin) (rhs : Rat) (n0 : Nat) (args : List Var)
    (hargs : ∀ a ∈ args, ∀ p ∈ body a, p.2 < n0) (n : Nat) (x : Asg) (hn : n0 ≤ n) :
    ∃ x' : Asg, agree n x x' ∧ (∀ c ∈ flagCons (reif body rhs) n args, c.sat x') ∧
      auxOk n x' (args.map fun _ => VarInfo.binary) := by
  obtain ⟨x', h1, h2, h3, _⟩ := flagCons_complete (reif body rhs) (fun y a => if evalLin y (body a) = rhs then 1 else 0) n0 args
    (fun _ _ => by split <;> simp) (fun a ha x x' hag => by rw [evalLin_agree hag (hargs a ha)])
    (fun a _ f y _ h => (reif_sat ..).2 h) n x hn
  exact ⟨x', h1, h2, h3⟩

/-! ## numberof: reified comparisons and their sum -/

/-- flags reifying `body a = rhs` for the arguments, then one row tying their sum to `res`: `res` is the number of
arguments that satisfy the comparison -/
theorem exact_numberof {o : Out} {n : Nat} {res : Var} {args : List Var} {sumRow : Con} (body : Var → Lin) (rhs : Rat)
    (count : Asg → Rat)
    (hvars : o.vars = args.map fun _ => VarInfo.binary)
    (hcons : o.cons = flagCons (reif body rhs) n args ++ [sumRow])
    (hrow : ∀ y, sumRow.sat y ↔ y res = evalLin y (ones (List.range' n args.length)))
    (hcount : ∀ y, countP (fun a => evalLin y (body a) == rhs) args = count y)
    (hag : ∀ x x', agree n x x' → count x' = count x)
    (hr : res < n) (hargs : ∀ a ∈ args, ∀ p ∈ body a, p.2 < n) :
    Exact o n (fun _ => True) (fun x => x res = count x) := by
  constructor
  · intro y _ _ hc
    rw [hcons] at hc
    have s1 := reif_sound body rhs n args y (fun c h => hc c (List.mem_append_left _ h))
    rw [(hrow y).1 (hc _ (List.mem_append_right _ (List.mem_singleton_self _))), s1, hcount]
  · intro x _ h
    obtain ⟨x', hxx, hcs, hax⟩ := reif_complete body rhs n args hargs n x (Nat.le_refl n)
    refine ⟨x', hxx, hvars ▸ hax, ?_⟩
    rw [hcons]
    intro c hc
    rcases List.mem_append.mp hc with hc | hc
    · exact hcs c hc
    · rw [List.mem_singleton.mp hc, hrow, reif_sound body rhs n args x' hcs, hcount, hag x x' hxx, hxx res hr]
      exact h

/-- `NumberofConstConverter_MIP`: fresh reified comparisons `flag_i = (a_i == k)` and `Σ flag_i = res`.
(Inputs where the preprocessing of `a_i == k` takes a shortcut are outside the model: `unmodelled`.) -/
theorem C01_gadget_numberof_const (res : Var) (k : Rat) (args : List Var) (B : Bnds) (n : Nat)
    (hr : res < n) (hargs : ∀ a ∈ args, a < n) :
    Exact (gNumberofConst res k args B n) n (fun _ => True)
      (fun x => x res = Fun.val x (.numberofConst k args)) := by
  refine exact_numberof (fun a => [(1, a)]) k (fun x => Fun.val x (.numberofConst k args)) rfl
    (by rw [← flagCons_eq]; rfl) (fun y => ?_) (fun y => ?_) (fun x x' hxx => ?_) hr ?_
  · simp only [Con.sat, Cmp.holds, evalLin_append, evalLin_cons, evalLin_nil]; grind
  · exact countP_ext fun a _ => by simp only [evalLin_cons, evalLin_nil]; congr 1; grind
  · exact countP_ext fun a ha => by rw [hxx a (hargs a ha)]
  · intro a ha p hp; rw [List.mem_singleton.mp hp]; exact hargs a ha

/-- `NumberofVarConverter_MIP`: `flag_i = (a_i - ref == 0)`, `-res + Σ flag_i = 0` -/
theorem C01_gadget_numberof_var (res ref : Var) (args : List Var) (B : Bnds) (n : Nat)
    (hr : res < n) (hrf : ref < n) (hargs : ∀ a ∈ args, a < n) :
    Exact (gNumberofVar res ref args B n) n (fun _ => True)
      (fun x => x res = Fun.val x (.numberofVar ref args)) := by
  refine exact_numberof (fun a => [(1, a), (-1, ref)]) 0 (fun x => Fun.val x (.numberofVar ref args)) rfl
    (by rw [← flagCons_eq]; rfl) (fun y => ?_) (fun y => ?_) (fun x x' hxx => ?_) hr ?_
  · simp only [Con.sat, Cmp.holds, evalLin_cons]; grind
  · exact countP_ext fun a _ => by
      simp only [evalLin_cons, evalLin_nil]; rw [Bool.eq_iff_iff, beq_iff_eq, beq_iff_eq]; grind
  · exact countP_ext fun a ha => by rw [hxx a (hargs a ha), hxx ref hrf]
  · intro a ha p hp
    rcases List.mem_cons.mp hp with rfl | hp
    · exact hargs a ha
    · rw [List.mem_singleton.mp hp]; exact hrf

/-! ## max / min: the non-convex direction (`res ≤ max`, `res ≥ min`) with one binary flag per argument -/

theorem mm_cons (s : Rat) (res : Var) (args : List Var) (n : Nat) :
    (mmNonConvex s res args n).cons = .linRhs .ge (ones (List.range' n args.length)) 1 ::
      flagCons (fun f a => Con.indLin f 1 .le [(1 * s, res), (-1 * s, a)] 0) n args := by
  rw [← flagCons_eq]; rfl

theorem mmConvex_iff (s : Rat) (res : Var) (args : List Var) (y : Asg) :
    (∀ c ∈ (mmConvex s res args).cons, c.sat y) ↔ ∀ b ∈ args, s * y b ≤ s * y res := by
  simp only [mmConvex, List.mem_map, forall_exists_index, and_imp, forall_apply_eq_imp_iff₂, Con.sat, Cmp.holds,
    evalLin_cons, evalLin_nil]
  constructor
  · intro h b hb; have := h b hb; grind
  · intro h b hb; have := h b hb; grind

theorem mmNonConvex_sound (s : Rat) (res : Var) (args : List Var) (n : Nat) (y : Asg)
    (hax : auxOk n y (mmNonConvex s res args n).vars) (hc : ∀ c ∈ (mmNonConvex s res args n).cons, c.sat y) :
    ∃ b ∈ args, s * y res ≤ s * y b := by
  rw [mm_cons] at hc
  -- the sum row gives a flag that is 1; its indicator row says that its argument bounds `res`
  obtain ⟨f, b, hb, hf, hm⟩ := flagCons_sound _ n args y hax (hc _ List.mem_cons_self)
  have := hc _ (List.mem_cons_of_mem _ hm) (by rw [hf]; simp)
  simp only [Cmp.holds, evalLin_cons, evalLin_nil] at this
  exact ⟨b, hb, by grind⟩

theorem mmNonConvex_complete (s : Rat) (res : Var) (args : List Var) (n : Nat) (x : Asg)
    (hr : res < n) (hargs : ∀ b ∈ args, b < n) (h : ∃ b ∈ args, s * x res ≤ s * x b) :
    ∃ x' : Asg, agree n x x' ∧ auxOk n x' (mmNonConvex s res args n).vars ∧
      ∀ c ∈ (mmNonConvex s res args n).cons, c.sat x' := by
  -- each flag says whether its argument bounds `res`; the row asks for at least one flag, not exactly one
  obtain ⟨x', hag, hcs, hax, _, hsum⟩ := flagCons_complete (fun f a => Con.indLin f 1 .le [(1 * s, res), (-1 * s, a)] 0)
    (fun y a => if s * y res ≤ s * y a then 1 else 0) n args (fun _ _ => by split <;> simp)
    (fun a ha x x' hag => by rw [hag res hr, hag a (hargs a ha)])
    (fun a _ f y _ hf => by simp only [Con.sat, Cmp.holds, evalLin_cons, evalLin_nil, hf]; grind) n x (Nat.le_refl n)
  refine ⟨x', hag, by simpa [mmNonConvex] using hax, ?_⟩
  rw [mm_cons]
  intro c hc
  simp only [List.mem_cons] at hc
  rcases hc with hc | hc
  · obtain ⟨b, hb, hle⟩ := h
    have := hsum b hb
    rw [hag res hr, hag b (hargs b hb), if_pos hle] at this
    subst hc; simpa [Con.sat, Cmp.holds] using this
  · exact hcs c hc

/-- `MaxConverter_MIP`, every context: convex rows for `res ≥ max`, flags + indicators for `res ≤ max` -/
theorem C01_gadget_max (res a : Var) (t : List Var) (ctx : Ctx) (B : Bnds) (n : Nat)
    (hr : res < n) (hargs : ∀ b ∈ a :: t, b < n) :
    Exact (gMax res (a :: t) ctx B n) n (fun _ => True)
      (fun x => rel ctx (x res) (Fun.val x (.max (a :: t)))) := by
  refine (exact_dispatch_pos ctx false (B res) n (mmConvex 1 res (a :: t)) (mmNonConvex 1 res (a :: t)) rfl rfl
    (fun _ => rfl) (PP := fun x => x res ≤ maxL x a t) (PN := fun x => maxL x a t ≤ x res) ⟨?_, ?_⟩ ?_
    (fun _ _ _ _ => trivial) ?_).congr (fun _ h => h) (fun x _ => (rel_iff_need ctx (B res) _ _).symm)
  · intro y _ hax hc
    obtain ⟨b, hb, hle⟩ := mmNonConvex_sound 1 res (a :: t) n y hax hc
    exact (le_maxL_iff y a t _).mpr ⟨b, hb, by grind⟩
  · intro x _ h
    obtain ⟨b, hb, hle⟩ := (le_maxL_iff x a t _).mp h
    exact mmNonConvex_complete 1 res (a :: t) n x hr hargs ⟨b, hb, by grind⟩
  · intro x _
    rw [mmConvex_iff, maxL_le_iff]
    exact ⟨fun h b hb => by have := h b hb; grind, fun h b hb => by have := h b hb; grind⟩
  · intro x x' hag _ h
    rw [maxL_le_iff] at h ⊢
    intro b hb; rw [hag b (hargs b hb), hag res hr]; exact h b hb

/-- `MinConverter_MIP`, every context: convex rows for `res ≤ min`, flags + indicators for `res ≥ min` -/
theorem C01_gadget_min (res a : Var) (t : List Var) (ctx : Ctx) (B : Bnds) (n : Nat)
    (hr : res < n) (hargs : ∀ b ∈ a :: t, b < n) :
    Exact (gMin res (a :: t) ctx B n) n (fun _ => True)
      (fun x => rel ctx (x res) (Fun.val x (.min (a :: t)))) := by
  refine (exact_dispatch_neg ctx false (B res) n (mmNonConvex (-1) res (a :: t)) (mmConvex (-1) res (a :: t))
    (fun _ => rfl) rfl rfl (PN := fun x => minL x a t ≤ x res) (PP := fun x => x res ≤ minL x a t) ⟨?_, ?_⟩ ?_
    (fun _ _ _ _ => trivial) ?_).congr (fun _ h => h)
    (fun x _ => and_comm.trans (rel_iff_need ctx (B res) _ _).symm)
  · intro y _ hax hc
    obtain ⟨b, hb, hle⟩ := mmNonConvex_sound (-1) res (a :: t) n y hax hc
    exact (minL_le_iff y a t _).mpr ⟨b, hb, by grind⟩
  · intro x _ h
    obtain ⟨b, hb, hle⟩ := (minL_le_iff x a t _).mp h
    exact mmNonConvex_complete (-1) res (a :: t) n x hr hargs ⟨b, hb, by grind⟩
  · intro x _
    rw [mmConvex_iff, le_minL_iff]
    exact ⟨fun h b hb => by have := h b hb; grind, fun h b hb => by have := h b hb; grind⟩
  · intro x x' hag _ h
    rw [le_minL_iff] at h ⊢
    intro b hb; rw [hag b (hargs b hb), hag res hr]; exact h b hb

theorem uencOK_iff_zero (y : Asg) (w : Rat) (k : Int) (flags : List Var) (hb : ∀ f ∈ flags, y f = 0 ∨ y f = 1)
    (hw : w < (k : Rat)) : uencOK y w k flags ↔ ∀ f ∈ flags, y f = 0 := by
  induction flags generalizing k with
  | nil => simp [uencOK]
  | cons f t ih =>
    have hne : w ≠ (k : Rat) := by grind
    rw [uencOK, ih (k + 1) (fun g hg => hb g (List.mem_cons_of_mem _ hg)) (by push_cast; grind), List.forall_mem_cons]
    have := hb f List.mem_cons_self
    exact and_congr_left' ⟨fun h => this.resolve_right fun h1 => hne (h.1 h1), fun h => by simp [h, hne]⟩

theorem uencLin_zero (y : Asg) (k : Int) (flags : List Var) (hz : ∀ f ∈ flags, y f = 0) :
    evalLin y (uencLin k flags) = 0 := by
  induction flags generalizing k with
  | nil => rfl
  | cons f t ih =>
    simp only [uencLin, evalLin_cons, hz f (by simp), ih (k + 1) (fun g hg => hz g (by simp [hg]))]; grind

theorem all_zero_of_sum (y : Asg) (flags : List Var) (hb : ∀ f ∈ flags, y f = 0 ∨ y f = 1)
    (hs : evalLin y (ones flags) = 0) : ∀ f ∈ flags, y f = 0 := by
  intro g hg
  have := (sum_bin_mem y flags hb g hg).1
  refine (hb g hg).resolve_right fun h => ?_
  rw [h, hs] at this; exact absurd this (by grind)

theorem uenc_iff (y : Asg) (w : Rat) (k : Int) (flags : List Var) (hb : ∀ f ∈ flags, y f = 0 ∨ y f = 1) :
    (evalLin y (ones flags) = 1 ∧ evalLin y (uencLin k flags) = w) ↔
      (uencOK y w k flags ∧ ∃ i : Nat, i < flags.length ∧ w = ((k + (i : Int) : Int) : Rat)) := by
  induction flags generalizing k with
  | nil => simp
  | cons f t ih =>
    have hbt : ∀ g ∈ t, y g = 0 ∨ y g = 1 := fun g hg => hb g (by simp [hg])
    have hk : ((k + 1 : Int) : Rat) = (k : Rat) + 1 := by push_cast; rfl
    simp only [ones_cons, uencLin, evalLin_cons, uencOK, List.length_cons]
    rcases hb f (by simp) with h0 | h0 <;> rw [h0]
    · -- flag 0: `w` is encoded by the tail
      have e : (1 * (0 : Rat) + evalLin y (ones t) = 1 ∧ (k : Rat) * 0 + evalLin y (uencLin (k + 1) t) = w) ↔
          (evalLin y (ones t) = 1 ∧ evalLin y (uencLin (k + 1) t) = w) := by
        constructor <;> intro ⟨a, b⟩ <;> constructor <;> grind
      rw [e, ih (k + 1) hbt]
      constructor
      · intro ⟨hok, i, hi, hw⟩
        refine ⟨⟨⟨fun h => absurd h (by grind), fun h => ?_⟩, hok⟩, i + 1, by omega, by rw [hw]; congr 1; omega⟩
        rw [hw] at h; have : k + 1 + (i : Int) = k := by exact_mod_cast h
        omega
      · intro ⟨⟨hf, hok⟩, i, hi, hw⟩
        refine ⟨hok, ?_⟩
        cases i with
        | zero => exact absurd (hf.2 (by rw [hw]; simp)) (by grind)
        | succ j => exact ⟨j, by omega, by rw [hw]; congr 1; omega⟩
    · -- flag 1: all other flags are 0 and `w = k`
      constructor
      · intro ⟨h1, h2⟩
        have hz := all_zero_of_sum y t hbt (by grind)
        rw [uencLin_zero y (k + 1) t hz] at h2
        have hw : w = (k : Rat) := by grind
        exact ⟨⟨⟨fun _ => hw, fun _ => rfl⟩, (uencOK_iff_zero y w (k + 1) t hbt (by rw [hw, hk]; grind)).2 hz⟩, 0, by omega, by rw [hw]; simp⟩
      · intro ⟨⟨hf, hok⟩, _⟩
        have hw := hf.1 rfl
        have hz := (uencOK_iff_zero y w (k + 1) t hbt (by rw [hw, hk]; grind)).1 hok
        rw [ones_zero y t hz, uencLin_zero y (k + 1) t hz, hw]; constructor <;> grind

/-- `CreateUnaryEncoding`: with binary flags and `v` an integer of the encoded range, the two rows hold iff every flag
is the reification of `v = its value` -/
theorem C01_gadget_unary_encoding (v : Var) (lb : Int) (flags : List Var) (y : Asg)
    (hb : ∀ f ∈ flags, y f = 0 ∨ y f = 1)
    (hv : ∃ i : Nat, i < flags.length ∧ y v = ((lb + (i : Int) : Int) : Rat)) :
    (∀ c ∈ (gUnaryEnc v lb flags).cons, c.sat y) ↔ uencOK y (y v) lb flags := by
  have := uenc_iff y (y v) lb flags hb
  simp only [gUnaryEnc, List.mem_cons, List.not_mem_nil, or_false, forall_eq_or_imp, forall_eq, Con.sat, Cmp.holds,
    evalLin_append, evalLin_cons, evalLin_nil]
  constructor
  · intro ⟨h1, h2⟩; exact (this.1 ⟨h1, by grind⟩).1
  · intro hok; have := this.2 ⟨hok, hv⟩; exact ⟨this.1, by grind⟩

/-- ⇒ of `C01_gadget_unary_encoding` from the rows alone, without `hv`; of the range and integrality of `v` that `uenc_iff`
yields from the rows, the statement keeps only `lb ≤ v` -/
theorem C01_gadget_unary_encoding_sound (v : Var) (lb : Int) (flags : List Var) (y : Asg)
    (hb : ∀ f ∈ flags, y f = 0 ∨ y f = 1) (hc : ∀ c ∈ (gUnaryEnc v lb flags).cons, c.sat y) :
    uencOK y (y v) lb flags ∧ (lb : Rat) ≤ y v := by
  simp only [gUnaryEnc, List.mem_cons, List.not_mem_nil, or_false, forall_eq_or_imp, forall_eq, Con.sat, Cmp.holds,
    evalLin_append, evalLin_cons, evalLin_nil] at hc
  obtain ⟨hok, i, _, hw⟩ := (uenc_iff y (y v) lb flags hb).1 ⟨hc.1, by grind⟩
  refine ⟨hok, ?_⟩
  rw [hw]; push_cast; have : (0 : Rat) ≤ (i : Rat) := by exact_mod_cast Nat.zero_le i
  grind


/-! ## product with a binary variable (mul.h), term level -/

/-- `c·b·o = c·r` whenever `r = IfThen(b, o, zero)`, `b` is 0/1 and `zero` is fixed at 0: the linearised row has the
same value as the quadratic one -/
theorem C01_gadget_mul_binary_term (c : Rat) (b o zero r : Var) (lin : Lin) (y : Asg)
    (hb : y b = 0 ∨ y b = 1) (hz : y zero = 0) (hr : y r = Fun.val y (.ifthen b o zero)) :
    evalLin y (lin ++ [(c, r)]) = evalLin y lin + evalQuad y [(c, b, o)] := by
  simp only [evalLin_append, evalLin_cons, evalLin_nil, evalQuad, hr, Fun.val]
  rcases hb with h | h <;> simp [h, hz] <;> grind

/-- the step's functional constraint is realizable for every point (fresh result variable within the
preprocessed if-then bounds when `o` respects its bounds) -/
theorem C01_gadget_mul_binary_term_realizable (b o zero : Var) (B : Bnds) (n : Nat) (x : Asg)
    (hbn : b < n) (hon : o < n) (hzn : zero < n) (hb : x b = 0 ∨ x b = 1) (hz : x zero = 0) (hd : inDom B x o) :
    (gMulBinTerm b o zero B n).realizable n x := by
  refine ⟨ext x n [if x b = 1 then x o else 0], agree_ext _ _ _, ⟨?_, trivial⟩, ?_⟩
  · rw [ext_self, List.getD_cons_zero]
    refine ⟨?_, ?_, ?_⟩
    · intro l hl
      cases h1 : (B o).lb with
      | none => simp [h1] at hl
      | some l1 =>
        simp [h1] at hl; subst hl
        have := hd.1 l1 h1
        split <;> split <;> grind
    · intro u hu
      cases h1 : (B o).ub with
      | none => simp [h1] at hu
      | some u1 =>
        simp [h1] at hu; subst hu
        have := hd.2.1 u1 h1
        split <;> split <;> grind
    · intro hi
      split
      · exact hd.2.2 hi
      · exact isIntVal_zero
  · intro c hc
    rw [List.mem_singleton.mp hc]
    show ext x n _ n = Fun.val (ext x n _) (.ifthen b o zero)
    simp only [Fun.val, ext_self, ext_lt hbn, ext_lt hon, ext_lt hzn, List.getD_cons_zero, hz]

end MpVerif.C01
