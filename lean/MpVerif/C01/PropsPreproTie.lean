import MpVerif.C01.ModelConvert
import MpVerif.Gen.C06Prepro
import MpVerif.C06.LemmasER
/-!
# C01 — the created bounds/type of `convert`'s result variables (`resBnd`) are the ones `PreprocessConstraint` computes,
and `linBnd` / `affBnd` are `ComputeBoundsAndType` of expr_bounds.h

`lean/MpVerif/Gen/C06Prepro.lean` is GENERATED from include/mp/flat/constr_prepro.h on every run (translators/gen_c06.py, clang AST →
executable Lean over extended reals `ER` with IEEE comparison semantics).  The theorems below prove, for ALL bounds and ALL argument
lists, that the generated `prepro_<Kind>` leaves exactly the bounds/type that the hand-written `resBnd` of the reference converter
(ModelConvert.lean) assigns — so a change of `PreprocessConstraint(MaxConstraint&…)` etc. in the source breaks an obligation.
The generated overloads call the array helpers and `common_type` of C06's hand model (`MpVerif.C06.lbMaxArray`, `commonType`,
C06/Model.lean); they are tied to the C01 folds below.
The embedding: a C01 bound `none` is `-inf` (lower) / `+inf` (upper); NaN does not occur.
-/
namespace MpVerif.C01
open MpVerif.C06 (ER isInteger_fin le_fin ratIsInt)
open MpVerif.C06.ER

def erLb : Option Rat → ER
  | none => .ninf
  | some q => .fin q
def erUb : Option Rat → ER
  | none => .pinf
  | some q => .fin q
def optOf : ER → Option Rat
  | .fin q => some q
  | _ => none

/-- the C06 environment that describes the same bounds/types as `B` -/
def envOf (B : Bnds) : MpVerif.C06.Env := fun v => ⟨erLb (B v).lb, erUb (B v).ub, (B v).isInt⟩

/-- the `PreprocessInfo` left by an overload, read back as a C01 `VarInfo` -/
def viOfPre (p : MpVerif.C06.Pre) : VarInfo := { lb := optOf p.lb, ub := optOf p.ub, isInt := p.int }

@[simp] theorem optOf_erLb (x : Option Rat) : optOf (erLb x) = x := by cases x <;> rfl
@[simp] theorem optOf_erUb (x : Option Rat) : optOf (erUb x) = x := by cases x <;> rfl

/-! ### `std::max` / `std::min` on embedded bounds -/

theorem smax_lb (x y : Option Rat) : smax (erLb x) (erLb y) = erLb (optMaxI x y) := by
  cases x <;> cases y <;> simp [smax, erLb, optMaxI, lt]
  rename_i a b
  by_cases h : a < b <;> by_cases h2 : a ≤ b <;> simp [h, h2] <;> grind

theorem smin_lb (x y : Option Rat) : smin (erLb x) (erLb y) = erLb (optMin2 x y) := by
  cases x <;> cases y <;> simp [smin, erLb, optMin2, lt]
  rename_i a b
  by_cases h : b < a <;> by_cases h2 : a ≤ b <;> simp [h, h2] <;> grind

theorem smax_ub (x y : Option Rat) : smax (erUb x) (erUb y) = erUb (optMax2 x y) := by
  cases x <;> cases y <;> simp [smax, erUb, optMax2, lt]
  rename_i a b
  by_cases h : a < b <;> by_cases h2 : a ≤ b <;> simp [h, h2] <;> grind

theorem smin_ub (x y : Option Rat) : smin (erUb x) (erUb y) = erUb (optMinI x y) := by
  cases x <;> cases y <;> simp [smin, erUb, optMinI, lt]
  rename_i a b
  by_cases h : b < a <;> by_cases h2 : a ≤ b <;> simp [h, h2] <;> grind

theorem smax_ninf_lb (x : Option Rat) : smax .ninf (erLb x) = erLb x := by cases x <;> simp [smax, erLb, lt]
theorem smax_ninf_ub (x : Option Rat) : smax .ninf (erUb x) = erUb x := by cases x <;> simp [smax, erUb, lt]
theorem smin_pinf_lb (x : Option Rat) : smin .pinf (erLb x) = erLb x := by cases x <;> simp [smin, erLb, lt]
theorem smin_pinf_ub (x : Option Rat) : smin .pinf (erUb x) = erUb x := by cases x <;> simp [smin, erUb, lt]

theorem optMaxI_assoc (x y z : Option Rat) : optMaxI (optMaxI x y) z = optMaxI x (optMaxI y z) := by
  cases x <;> cases y <;> cases z <;> simp [optMaxI] <;> grind
theorem optMinI_assoc (x y z : Option Rat) : optMinI (optMinI x y) z = optMinI x (optMinI y z) := by
  cases x <;> cases y <;> cases z <;> simp [optMinI] <;> grind
theorem optMax2_assoc (x y z : Option Rat) : optMax2 (optMax2 x y) z = optMax2 x (optMax2 y z) := by
  cases x <;> cases y <;> cases z <;> simp [optMax2] <;> grind
theorem optMin2_assoc (x y z : Option Rat) : optMin2 (optMin2 x y) z = optMin2 x (optMin2 y z) := by
  cases x <;> cases y <;> cases z <;> simp [optMin2] <;> grind

/-! ### the array helpers: left fold of the C++ loop = the right-recursive definition of the model -/

theorem lbMax_cons2 (B : Bnds) (a b : Var) (t : List Var) : lbMax B (a :: b :: t) = optMaxI (B a).lb (lbMax B (b :: t)) := rfl
theorem ubMax_cons2 (B : Bnds) (a b : Var) (t : List Var) : ubMax B (a :: b :: t) = optMax2 (B a).ub (ubMax B (b :: t)) := rfl
theorem lbMin_cons2 (B : Bnds) (a b : Var) (t : List Var) : lbMin B (a :: b :: t) = optMin2 (B a).lb (lbMin B (b :: t)) := rfl
theorem ubMin_cons2 (B : Bnds) (a b : Var) (t : List Var) : ubMin B (a :: b :: t) = optMinI (B a).ub (ubMin B (b :: t)) := rfl

/-- the C++ array helper (left fold from the neutral element, over embedded bounds) against the model's right recursion -/
theorem array_eq (op : ER → ER → ER) (e0 : ER) (emb : Option Rat → ER) (f : Option Rat → Option Rat → Option Rat)
    (g : Var → Option Rat) (R : List Var → Option Rat)
    (h0 : ∀ x, op e0 (emb x) = emb x) (hop : ∀ x y, op (emb x) (emb y) = emb (f x y))
    (hassoc : ∀ x y z, f (f x y) z = f x (f y z))
    (h1 : ∀ a, R [a] = g a) (h2 : ∀ a b t, R (a :: b :: t) = f (g a) (R (b :: t))) (a : Var) (t : List Var) :
    (a :: t).foldl (fun r v => op r (emb (g v))) e0 = emb (R (a :: t)) := by
  -- with an accumulator already embedded, the rest of the loop adds `R` of the rest
  have hfold : ∀ (b : Var) (t : List Var) (acc : Option Rat),
      (b :: t).foldl (fun r v => op r (emb (g v))) (emb acc) = emb (f acc (R (b :: t))) := by
    intro b t
    induction t generalizing b with
    | nil => intro acc; simp only [List.foldl_cons, List.foldl_nil, hop, h1]
    | cons c t ih => intro acc; rw [List.foldl_cons, hop, ih, hassoc, h2]
  rw [List.foldl_cons, h0]
  cases t with
  | nil => rw [List.foldl_nil, h1]
  | cons b t => rw [hfold, h2]

theorem lbMaxArray_eq (B : Bnds) (a : Var) (t : List Var) :
    MpVerif.C06.lbMaxArray (envOf B) (a :: t) = erLb (lbMax B (a :: t)) :=
  array_eq smax .ninf erLb optMaxI (fun v => (B v).lb) (lbMax B) smax_ninf_lb smax_lb optMaxI_assoc (fun _ => rfl)
    (lbMax_cons2 B) a t

theorem ubArray_eq (B : Bnds) (a : Var) (t : List Var) :
    MpVerif.C06.ubArray (envOf B) (a :: t) = erUb (ubMax B (a :: t)) :=
  array_eq smax .ninf erUb optMax2 (fun v => (B v).ub) (ubMax B) smax_ninf_ub smax_ub optMax2_assoc (fun _ => rfl)
    (ubMax_cons2 B) a t

theorem lbArray_eq (B : Bnds) (a : Var) (t : List Var) :
    MpVerif.C06.lbArray (envOf B) (a :: t) = erLb (lbMin B (a :: t)) :=
  array_eq smin .pinf erLb optMin2 (fun v => (B v).lb) (lbMin B) smin_pinf_lb smin_lb optMin2_assoc (fun _ => rfl)
    (lbMin_cons2 B) a t

theorem ubMinArray_eq (B : Bnds) (a : Var) (t : List Var) :
    MpVerif.C06.ubMinArray (envOf B) (a :: t) = erUb (ubMin B (a :: t)) :=
  array_eq smin .pinf erUb optMinI (fun v => (B v).ub) (ubMin B) smin_pinf_ub smin_ub optMinI_assoc (fun _ => rfl)
    (ubMin_cons2 B) a t

theorem intLike_eq (B : Bnds) (v : Var) :
    (((envOf B) v).int || (MpVerif.C06.isFixed (envOf B) v && isInteger ((envOf B) v).lb)) = intLike (B v) := by
  simp only [envOf, MpVerif.C06.isFixed, intLike, VarInfo.isFixed, VarInfo.fixedVal, isIntQ]
  cases h1 : (B v).lb <;> cases h2 : (B v).ub <;> simp [erLb, erUb, ER.eq, isInteger_fin, ratIsInt, Bool.beq_eq_decide_eq]

theorem commonType_eq (B : Bnds) (as : List Var) :
    MpVerif.C06.commonType (envOf B) as = as.all (fun a => intLike (B a)) := by
  simp only [MpVerif.C06.commonType]
  induction as with
  | nil => rfl
  | cons a t _ => simp only [List.all_cons, intLike_eq]

open MpVerif.Gen.C06 in
/-- `PreprocessConstraint(MaxConstraint&)`: bounds `[lb_max_array, ub_array]`, `common_type` — for every non-empty argument list -/
theorem C01_gen_prepro_max (B : Bnds) (a : Var) (t : List Var) :
    viOfPre (prepro_Max (envOf B) (a :: t) []).pre = resBnd B (.max (a :: t)) ∧
    (prepro_Max (envOf B) (a :: t) []).rv = none ∧ (prepro_Max (envOf B) (a :: t) []).narrow = [] := by
  refine ⟨?_, rfl, rfl⟩
  simp only [prepro_Max, MpVerif.C06.Pre.narrow, MpVerif.C06.Pre.setType, viOfPre, resBnd, lbMaxArray_eq, ubArray_eq,
    smax_ninf_lb, smin_pinf_ub, optOf_erLb, optOf_erUb, commonType_eq]

open MpVerif.Gen.C06 in
/-- `PreprocessConstraint(MinConstraint&)`: bounds `[lb_array, ub_min_array]`, `common_type` -/
theorem C01_gen_prepro_min (B : Bnds) (a : Var) (t : List Var) :
    viOfPre (prepro_Min (envOf B) (a :: t) []).pre = resBnd B (.min (a :: t)) ∧
    (prepro_Min (envOf B) (a :: t) []).rv = none ∧ (prepro_Min (envOf B) (a :: t) []).narrow = [] := by
  refine ⟨?_, rfl, rfl⟩
  simp only [prepro_Min, MpVerif.C06.Pre.narrow, MpVerif.C06.Pre.setType, viOfPre, resBnd, lbArray_eq, ubMinArray_eq,
    smax_ninf_lb, smin_pinf_ub, optOf_erLb, optOf_erUb, commonType_eq]

open MpVerif.Gen.C06 in
/-- `PreprocessConstraint(IfThenConstraint&)`: `[min(lb_then, lb_else), max(ub_then, ub_else)]`, `common_type` of the two branches -/
theorem C01_gen_prepro_ifthen (B : Bnds) (c t e : Var) :
    viOfPre (prepro_IfThen (envOf B) [c, t, e] []).pre = resBnd B (.ifthen c t e) ∧
    (prepro_IfThen (envOf B) [c, t, e] []).rv = none ∧ (prepro_IfThen (envOf B) [c, t, e] []).narrow = [] := by
  refine ⟨?_, rfl, rfl⟩
  have hl : smin ((envOf B) t).lb ((envOf B) e).lb = erLb (optMin2 (B t).lb (B e).lb) := by simp [envOf, smin_lb]
  have hu : smax ((envOf B) t).ub ((envOf B) e).ub = erUb (optMax2 (B t).ub (B e).ub) := by simp [envOf, smax_ub]
  simp only [prepro_IfThen, MpVerif.C06.Pre.narrow, MpVerif.C06.Pre.setType, viOfPre, resBnd, List.getD_cons_succ, List.getD_cons_zero,
    hl, hu, smax_ninf_lb, smin_pinf_ub, optOf_erLb, optOf_erUb, commonType_eq, List.all_cons, List.all_nil, Bool.and_true]

open MpVerif.Gen.C06 in
/-- `PreprocessConstraint(CountConstraint&)`: `[0, number of arguments]`, integer -/
theorem C01_gen_prepro_count (B : Bnds) (as : List Var) :
    viOfPre (prepro_Count (envOf B) as []).pre = resBnd B (.count as) ∧
    (prepro_Count (envOf B) as []).rv = none ∧ (prepro_Count (envOf B) as []).narrow = [] := by
  refine ⟨?_, rfl, rfl⟩
  simp [prepro_Count, MpVerif.C06.Pre.narrow, MpVerif.C06.Pre.setType, viOfPre, resBnd, smax, smin, lt, optOf]

open MpVerif.Gen.C06 in
/-- `PreprocessConstraint(NotConstraint&)`: a binary result -/
theorem C01_gen_prepro_not (B : Bnds) (a : Var) :
    viOfPre (prepro_Not (envOf B) [a] []).pre = resBnd B (.not a) ∧ (prepro_Not (envOf B) [a] []).rv = none := by
  refine ⟨?_, rfl⟩
  simp [prepro_Not, MpVerif.C06.Pre.narrow, MpVerif.C06.Pre.setType, viOfPre, resBnd, VarInfo.binary, smax, smin, lt, optOf]

theorem zero_le_erLb (i : VarInfo) : le (.fin 0) (erLb i.lb) = lbGE0 i := by
  cases h : i.lb <;> simp [h, erLb, lbGE0, le, lt, ER.eq] <;> grind

theorem erUb_le_zero (i : VarInfo) : le (erUb i.ub) (.fin 0) = ubLE0 i := by
  cases h : i.ub <;> simp [h, erUb, ubLE0, le, lt, ER.eq] <;> grind

theorem neg_erLb (x : Option Rat) : ER.neg (erLb x) = erUb (x.map (- ·)) := by cases x <;> rfl

open MpVerif.Gen.C06 in
/-- `PreprocessConstraint(AbsConstraint&)`: the overload returns an existing / affine result variable (no new definition) exactly on
the inputs the reference converter flags as preprocessing shortcut (`shortcutDef`: argument with `lb ≥ 0` or `ub ≤ 0`) -/
theorem C01_gen_prepro_abs_shortcut (B : Bnds) (a : Var) :
    ((prepro_Abs (envOf B) [a] []).rv.isSome) = (lbGE0 (B a) || ubLE0 (B a)) := by
  simp only [prepro_Abs, List.getD_cons_zero, envOf, zero_le_erLb, erUb_le_zero]
  cases lbGE0 (B a) <;> cases ubLE0 (B a) <;> rfl

open MpVerif.Gen.C06 in
/-- … and otherwise leaves `[0, max(-lb, ub)]` with the argument's type: the bounds `resBnd` creates -/
theorem C01_gen_prepro_abs (B : Bnds) (a : Var) (h : (lbGE0 (B a) || ubLE0 (B a)) = false) :
    viOfPre (prepro_Abs (envOf B) [a] []).pre = resBnd B (.abs a) := by
  rw [Bool.or_eq_false_iff] at h
  have h0 : smax ER.ninf (ER.fin 0) = erLb (some 0) := by simp [smax, lt, erLb]
  simp only [prepro_Abs, List.getD_cons_zero, envOf, zero_le_erLb, erUb_le_zero, h.1, h.2, Bool.false_eq_true, if_false,
    MpVerif.C06.Pre.narrow, MpVerif.C06.Pre.setType, viOfPre, resBnd, neg_erLb, smax_ub, smin_pinf_ub, h0, optOf_erLb, optOf_erUb]

/-! ### non-vacuity: the generated overloads evaluated on concrete bounds (a change of the source changes these values) -/

def exB : Bnds := fun v => if v = 0 then { lb := some (-3), ub := some 2, isInt := true }
  else if v = 1 then { lb := some 1, ub := none, isInt := false }
  else { lb := some (1/2), ub := some (1/2), isInt := false }

open MpVerif.Gen.C06 in
example : viOfPre (prepro_Max (envOf exB) [0, 1] []).pre = { lb := some 1, ub := none, isInt := false } := by decide +kernel
open MpVerif.Gen.C06 in
example : viOfPre (prepro_Min (envOf exB) [0, 1, 2] []).pre = { lb := some (-3), ub := some (1/2), isInt := false } := by decide +kernel
open MpVerif.Gen.C06 in
example : viOfPre (prepro_Abs (envOf exB) [0] []).pre = { lb := some 0, ub := some 3, isInt := true } := by decide +kernel

/-! ## `ComputeBoundsAndType(const LinTerms&)` / `(const AffineExpr&)` of expr_bounds.h = `linBnd` / `affBnd`

`linBnd` gives every big-M constant of the indicator gadgets (`gIndLE/gIndGE/gIndEQ`), the integer/continuous decision behind the
comparison epsilon and the created bounds of affine result variables.  The generated `linInit` / `linStep` / `withConst`
(lean/MpVerif/Gen/C06Prepro.lean) are the initialisation, the loop body and the constant step translated from the source.
Divergence kept explicit: a ZERO coefficient on a variable with an infinite bound is `0 * inf = NaN` in the C++ and "infinite" in the
model (documented at `linBnd`); the tie is stated for bodies without such a term. -/

/-- no term `0 * x` with `x` unbounded on a side -/
def noZeroInf (B : Bnds) (body : Lin) : Prop :=
  ∀ p ∈ body, p.1 ≠ 0 ∨ ((B p.2).lb.isSome ∧ (B p.2).ub.isSome)

/-- a `PreprocessInfo` that is the embedding of model bounds `(l, u, ty)` -/
def preIs (r : MpVerif.C06.Pre) (l u : Option Rat) (ty : Bool) : Prop := r.lb = erLb l ∧ r.ub = erUb u ∧ r.int = ty

theorem mul_fin_erLb (c : Rat) (x : Option Rat) (h : c ≠ 0 ∨ x.isSome) :
    mul (.fin c) (erLb x) = if 0 ≤ c then erLb (optScale c x) else erUb (optScale c x) := by
  cases x with
  | some a => simp [erLb, erUb, optScale, mul]
  | none =>
    have h0 : c ≠ 0 := by simpa using h
    by_cases hc : 0 ≤ c <;> simp [erLb, erUb, optScale, mul, infTimes, h0, hc] <;> grind

theorem mul_fin_erUb (c : Rat) (x : Option Rat) (h : c ≠ 0 ∨ x.isSome) :
    mul (.fin c) (erUb x) = if 0 ≤ c then erUb (optScale c x) else erLb (optScale c x) := by
  cases x with
  | some a => simp [erLb, erUb, optScale, mul]
  | none =>
    have h0 : c ≠ 0 := by simpa using h
    by_cases hc : 0 ≤ c <;> simp [erLb, erUb, optScale, mul, infTimes, h0, hc] <;> grind

theorem add_erLb (l s : Option Rat) : add (erLb l) (erLb s) = erLb (optAdd s l) := by
  cases l <;> cases s <;> simp [erLb, optAdd, add] <;> grind

theorem add_erUb (u s : Option Rat) : add (erUb u) (erUb s) = erUb (optAdd s u) := by
  cases u <;> cases s <;> simp [erUb, optAdd, add] <;> grind

theorem ratIsInt_eq (q : Rat) : ratIsInt q = isIntQ q := rfl

open MpVerif.Gen.C06 in
/-- one iteration of the translated loop body = one step of `linBnd` -/
theorem linStep_pre (B : Bnds) (c : Rat) (v : Var) (t : Lin) (r : MpVerif.C06.Pre)
    (hr : preIs r (linBnd B t).1 (linBnd B t).2.1 (linBnd B t).2.2)
    (hz : c ≠ 0 ∨ ((B v).lb.isSome ∧ (B v).ub.isSome)) :
    preIs (linStep (envOf B) c v r) (linBnd B ((c, v) :: t)).1 (linBnd B ((c, v) :: t)).2.1 (linBnd B ((c, v) :: t)).2.2 := by
  obtain ⟨h1, h2, h3⟩ := hr
  have ml := mul_fin_erLb c (B v).lb (hz.imp_right And.left)
  have mu := mul_fin_erUb c (B v).ub (hz.imp_right And.right)
  by_cases hc : 0 ≤ c <;> cases hi : (B v).isInt <;> cases hq : ratIsInt c <;>
    simp [linStep, le_fin, isInteger_fin, ← ratIsInt_eq, linBnd, envOf, preIs, hc, hi, hq, h1, h2, h3, ml, mu, add_erLb, add_erUb]

open MpVerif.Gen.C06 in
/-- **`ComputeBoundsAndType(const LinTerms&)`** (initialisation and loop body translated from expr_bounds.h, folded last term first like
the C++ loop) computes exactly `linBnd`, for all bounds and all bodies without a `0 * unbounded` term -/
theorem C01_gen_linbnd (B : Bnds) (body : Lin) (hz : noZeroInf B body) :
    preIs (body.foldr (fun t r => linStep (envOf B) t.1 t.2 r) linInit) (linBnd B body).1 (linBnd B body).2.1 (linBnd B body).2.2 := by
  induction body with
  | nil => exact ⟨rfl, rfl, rfl⟩
  | cons p t ih =>
    exact linStep_pre B p.1 p.2 t _ (ih fun q hq => hz q (List.mem_cons_of_mem _ hq)) (hz p List.mem_cons_self)

open MpVerif.Gen.C06 in
/-- **`ComputeBoundsAndType(const AffineExpr&)`** = `affBnd` (the created bounds/type of a `LinearFunctionalConstraint` result) -/
theorem C01_gen_affbnd (B : Bnds) (body : Lin) (c0 : Rat) (hz : noZeroInf B body) :
    viOfPre (withConst (body.foldr (fun t r => linStep (envOf B) t.1 t.2 r) linInit) c0) = affBnd B body c0 := by
  obtain ⟨h1, h2, h3⟩ := C01_gen_linbnd B body hz
  have ha : ∀ l : Option Rat, add (erLb l) (.fin c0) = erLb (l.map (· + c0)) := by intro l; cases l <;> simp [erLb, add]
  have hb : ∀ u : Option Rat, add (erUb u) (.fin c0) = erUb (u.map (· + c0)) := by intro u; cases u <;> simp [erUb, add]
  simp only [withConst, affBnd, viOfPre, isInteger_fin, h1, h2, h3, ha, hb]
  cases hq : ratIsInt c0 <;> simp [hq, ← ratIsInt_eq, optOf_erLb, optOf_erUb]

/-- non-vacuity: the translated loop on concrete bounds (`2*x0 - x1 + 1/2` with `x0 ∈ [-3,2]` integer, `x1 ∈ [1, inf)`) -/
example : viOfPre (MpVerif.Gen.C06.withConst
    (([(2, 0), (-1, 1)] : Lin).foldr (fun t r => MpVerif.Gen.C06.linStep (envOf exB) t.1 t.2 r) MpVerif.Gen.C06.linInit) (1/2))
    = { lb := none, ub := some (7/2), isInt := false } := by decide +kernel
example : noZeroInf exB [(2, 0), (-1, 1)] := by intro p hp; left; simp at hp; rcases hp with h | h <;> simp [h] <;> grind

end MpVerif.C01
