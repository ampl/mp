import MpVerif.C01.Model
import MpVerif.Gen.Context
/-!
# C01 — the hand model of `mp::Context` equals the code

`MpVerif/Gen/Context.lean` is regenerated on every check run from `include/mp/flat/context.h` of the tree under
test (compiled, every member function tabulated on every value / pair: the complete function graphs).  The theorems
below state that the hand-written `Ctx` operations, which all context theorems (`C01_ctx_*`, `C01_compose`) are
about, are these functions.  A change of `context.h` that alters any value makes one of them fail.
`PropsGenTie.lean` (`C01_gen_ctx_*`) ties the same operations to a second, independent rendering: the translated source text.
-/
namespace MpVerif.C01

def Ctx.code : Ctx → Nat
  | .none => 0 | .pos => 1 | .neg => 2 | .mix => 3

theorem C01_ctxgen_enum : Gen.Context.enumValues.Nodup ∧ Gen.Context.enumValues.length = 4 := by decide
theorem C01_ctxgen_default : Gen.Context.defaultValue = Ctx.none.code := by decide
theorem C01_ctxgen_add (a b : Ctx) : Gen.Context.add a.code b.code = (a.add b).code := by
  cases a <;> cases b <;> rfl
theorem C01_ctxgen_plus (a : Ctx) : Gen.Context.unaryPlus a.code = a.plus.code := by cases a <;> rfl
theorem C01_ctxgen_minus (a : Ctx) : Gen.Context.unaryMinus a.code = a.flip.code := by cases a <;> rfl
theorem C01_ctxgen_hasPositive (a : Ctx) : Gen.Context.hasPositive a.code = a.hasPos := by cases a <;> rfl
theorem C01_ctxgen_hasNegative (a : Ctx) : Gen.Context.hasNegative a.code = a.hasNeg := by cases a <;> rfl
theorem C01_ctxgen_isNone (a : Ctx) : Gen.Context.isNone a.code = decide (a = .none) := by cases a <;> rfl
theorem C01_ctxgen_isPositive (a : Ctx) : Gen.Context.isPositive a.code = decide (a = .pos) := by cases a <;> rfl
theorem C01_ctxgen_isNegative (a : Ctx) : Gen.Context.isNegative a.code = decide (a = .neg) := by cases a <;> rfl
theorem C01_ctxgen_isMixed (a : Ctx) : Gen.Context.isMixed a.code = decide (a = .mix) := by cases a <;> rfl

end MpVerif.C01
