import MpVerif.C01.LemmasCompose
import MpVerif.C01.ModelObjective
/-!
# C01 — lemmas for the objective clause and for quadratic roots: a linear-plus-quadratic form over original and result variables
relates, between a delivered solution and the exact values, as the context it hands to its variables requires
-/
namespace MpVerif.C01

theorem linquad_agree (N : Nat) (l : Lin) (q : Quad) (a b : Asg) (hag : ∀ v, v < N → b v = a v)
    (hN : ∀ v ∈ l.map (·.2) ++ (q.map (·.2.1) ++ q.map (·.2.2)), v < N) :
    evalLin b l + evalQuad b q = evalLin a l + evalQuad a q :=
  linquad_congr fun v hv => hag v (hN v hv)

theorem linquad_req (B : Bnds) (N : Nat) (defs : List Def) (c : Ctx) (l : Lin) (q : Quad) (y e : Asg)
    (hN : ∀ v ∈ l.map (·.2) ++ (q.map (·.2.1) ++ q.map (·.2.2)), v < N)
    (hcov : ∀ p ∈ propLin c l ++ propQuad B c q, p.2 ≤ (ctxOf defs p.1).eff)
    (hqy : quadDom B q y) (hqe : quadDom B q e)
    (inv : ∀ v, v < N → req (ctxOf defs v).eff (y v) (e v)) :
    req c (evalLin y l + evalQuad y q) (evalLin e l + evalQuad e q) := by
  apply req_add
  · apply C01_ctx_sound_linterms
    intro p hp
    exact req_mono (hcov p (List.mem_append_left _ hp)) (inv p.1 (hN p.1 (List.mem_append_left _ (propLin_vars _ l p hp))))
  · apply C01_ctx_sound_quadterms B _ q y e hqy hqe
    intro p hp
    exact req_mono (hcov p (List.mem_append_right _ hp)) (inv p.1 (hN p.1 (List.mem_append_right _ (propQuad_vars B _ q p hp))))

theorem obj_val_agree (N : Nat) (o : Obj) (a b : Asg) (hag : ∀ v, v < N → b v = a v) (hoN : ∀ v ∈ o.vars, v < N) :
    o.val b = o.val a := linquad_agree N o.lin o.quad a b hag hoN

theorem obj_req (B : Bnds) (N : Nat) (defs : List Def) (o : Obj) (y e : Asg)
    (hoN : ∀ v ∈ o.vars, v < N) (hcovO : ObjCovers B defs o)
    (hqy : quadDom B o.quad y) (hqe : quadDom B o.quad e)
    (inv : ∀ v, v < N → req (ctxOf defs v).eff (y v) (e v)) :
    req (objCtx o.sense) (o.val y) (o.val e) :=
  linquad_req B N defs _ o.lin o.quad y e hoN hcovO hqy hqe inv

theorem noWorse_of_req (s : Sense) (r v : Rat) (h : req (objCtx s) r v) : noWorse s v r := by
  cases s <;> simpa [objCtx, req, noWorse] using h

/-- the objective clause: the exact objective value is attained by a delivered solution over `x` and beaten by none -/
theorem Compose.objective {B : Bnds} {n0 N : Nat} {defs : List Def} {steps : List Step} {roots : List Root} {Dom : Asg → Prop}
    (H : Compose B n0 N defs steps roots Dom) (o : Obj) (hoN : ∀ v ∈ o.vars, v < N) (hcovO : ObjCovers B defs o)
    (hDomQ : ∀ y, Dom y → quadDom B o.quad y) (x : Asg) (hDomE : Dom (exactAsg x defs)) (hnl : NLsat defs roots x) :
    (∃ y, Delivered N defs steps roots Dom x y ∧ o.val y = o.val (exactAsg x defs)) ∧
    (∀ y, Delivered N defs steps roots Dom x y → noWorse o.sense (o.val (exactAsg x defs)) (o.val y)) := by
  constructor
  · obtain ⟨y, hdel, hag⟩ := H.deliver x hDomE hnl
    exact ⟨y, hdel, obj_val_agree N o (exactAsg x defs) y hag hoN⟩
  · intro y hdel
    exact noWorse_of_req _ _ _ (obj_req B N defs o y (exactAsg x defs) hoN hcovO (hDomQ y hdel.2.1) (hDomQ _ hDomE)
      (H.invariant hdel (H.funOK _ hDomE)))

theorem qroot_transfer (B : Bnds) (N : Nat) (defs : List Def) (r : QRoot) (y e : Asg)
    (hrN : ∀ v ∈ r.vars, v < N) (hcovR : ∀ p ∈ propQRoot B r, p.2 ≤ (ctxOf defs p.1).eff)
    (hfin : (∀ l, r.lb = some l → -pracInf < l) ∧ (∀ u, r.ub = some u → u < pracInf))
    (hqy : quadDom B r.quad y) (hqe : quadDom B r.quad e)
    (inv : ∀ v, v < N → req (ctxOf defs v).eff (y v) (e v)) (hy : r.sat y) : r.sat e :=
  inRange_of_req r.lb r.ub _ _ hfin.1 hfin.2 (linquad_req B N defs _ r.lin r.quad y e hrN hcovR hqy hqe inv) hy

theorem qroot_sat_agree (N : Nat) (r : QRoot) (a b : Asg) (hag : ∀ v, v < N → b v = a v) (hrN : ∀ v ∈ r.vars, v < N) :
    r.sat b ↔ r.sat a := by
  unfold QRoot.sat; rw [linquad_agree N r.lin r.quad a b hag hrN]

theorem qrootGaps_sound (B : Bnds) (defs : List Def) (qroots : List QRoot) (h : qrootGaps B defs qroots = []) :
    QRootsCover B defs qroots := by
  intro r hr p hp
  simp only [qrootGaps, List.map_eq_nil_iff, List.filter_eq_nil_iff] at h
  have := h p (List.mem_flatMap.mpr ⟨r, hr, hp⟩)
  simpa using this

theorem objGaps_sound (B : Bnds) (defs : List Def) (o : Obj) (h : objGaps B defs o = []) : ObjCovers B defs o := by
  intro p hp
  simp only [objGaps, List.map_eq_nil_iff, List.filter_eq_nil_iff] at h
  have := h p hp
  simpa using this

end MpVerif.C01
