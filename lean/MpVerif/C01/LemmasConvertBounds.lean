import MpVerif.C01.LemmasFlatModel
import MpVerif.C01.ModelConvert
/-!
# C01 — the reference converter: the bounds and type `resBnd` gives a new result variable admit the exact value of its defining
expression, hence the exact assignment respects the created bounds.
-/
namespace MpVerif.C01

theorem binary_isBinary : VarInfo.binary.isBinary = true := by decide

theorem isBin01_eq {i : VarInfo} (h : isBin01 i = true) : i = VarInfo.binary := by simpa [isBin01] using h

theorem bin01_vals {B : Bnds} {y : Asg} {a : Var} (h : isBin01 (B a) = true) (hd : inDom B y a) : y a = 0 ∨ y a = 1 := by
  have : B a = VarInfo.binary := isBin01_eq h
  unfold inDom at hd; rw [this] at hd; exact binary_admits hd

theorem intLike_sound {i : VarInfo} {q : Rat} (h : intLike i = true) (ha : i.admits q) : isIntVal q := by
  simp only [intLike, Bool.or_eq_true, Bool.and_eq_true] at h
  rcases h with h | ⟨hf, hq⟩
  · exact ha.2.2 h
  · -- fixed at an integer value
    have hv : q = i.fixedVal := fixed_val (B := fun _ => i) (x := fun _ => q) (v := 0) hf ha
    rw [hv]; exact isIntQ_sound _ hq

/- The bound folds of `resBnd`, in the shape of the conjuncts of `admits`: a lower bound is absent (`-inf`) or below the value. -/
theorem optMaxI_le {a b : Option Rat} {q : Rat} (ha : ∀ x, a = some x → x ≤ q) (hb : ∀ x, b = some x → x ≤ q) :
    ∀ m, optMaxI a b = some m → m ≤ q := by
  intro m h
  cases a <;> cases b <;> simp only [optMaxI] at h
  · exact hb m h
  · exact hb m h
  · exact ha m h
  · split at h
    · exact hb m h
    · exact ha m h

theorem optMinI_ge {a b : Option Rat} {q : Rat} (ha : ∀ x, a = some x → q ≤ x) (hb : ∀ x, b = some x → q ≤ x) :
    ∀ m, optMinI a b = some m → q ≤ m := by
  intro m h
  cases a <;> cases b <;> simp only [optMinI] at h
  · exact hb m h
  · exact hb m h
  · exact ha m h
  · split at h
    · exact ha m h
    · exact hb m h

theorem optMax2_ge {a b : Option Rat} {q : Rat} (h : (∀ x, a = some x → q ≤ x) ∨ (∀ x, b = some x → q ≤ x)) :
    ∀ m, optMax2 a b = some m → q ≤ m := by
  intro m hm
  cases a <;> cases b <;> simp [optMax2] at hm
  rename_i x y
  rcases h with h | h <;> have := h _ rfl <;> grind

theorem optMin2_le {a b : Option Rat} {q : Rat} (h : (∀ x, a = some x → x ≤ q) ∨ (∀ x, b = some x → x ≤ q)) :
    ∀ m, optMin2 a b = some m → m ≤ q := by
  intro m hm
  cases a <;> cases b <;> simp [optMin2] at hm
  rename_i x y
  rcases h with h | h <;> have := h _ rfl <;> grind

theorem lbMax_le {B : Bnds} {as : List Var} {q : Rat} (h : ∀ a ∈ as, ∀ l, (B a).lb = some l → l ≤ q) :
    ∀ L, lbMax B as = some L → L ≤ q := by
  induction as with
  | nil => simp [lbMax]
  | cons a t ih =>
    obtain ⟨ha, ht⟩ := List.forall_mem_cons.mp h
    cases t with
    | nil => exact ha
    | cons b t' => exact optMaxI_le ha (ih ht)

theorem ubMin_ge {B : Bnds} {as : List Var} {q : Rat} (h : ∀ a ∈ as, ∀ u, (B a).ub = some u → q ≤ u) :
    ∀ U, ubMin B as = some U → q ≤ U := by
  induction as with
  | nil => simp [ubMin]
  | cons a t ih =>
    obtain ⟨ha, ht⟩ := List.forall_mem_cons.mp h
    cases t with
    | nil => exact ha
    | cons b t' => exact optMinI_ge ha (ih ht)

theorem ubMax_ge {B : Bnds} {as : List Var} {q : Rat} (h : ∃ a ∈ as, ∀ u, (B a).ub = some u → q ≤ u) :
    ∀ U, ubMax B as = some U → q ≤ U := by
  induction as with
  | nil => simp at h
  | cons a t ih =>
    obtain ⟨c, hc, h⟩ := h
    cases t with
    | nil => rwa [List.mem_singleton.mp hc] at h
    | cons b t' =>
      refine optMax2_ge ?_
      rcases List.mem_cons.mp hc with rfl | hc
      · exact Or.inl h
      · exact Or.inr (ih ⟨c, hc, h⟩)

theorem lbMin_le {B : Bnds} {as : List Var} {q : Rat} (h : ∃ a ∈ as, ∀ l, (B a).lb = some l → l ≤ q) :
    ∀ L, lbMin B as = some L → L ≤ q := by
  induction as with
  | nil => simp at h
  | cons a t ih =>
    obtain ⟨c, hc, h⟩ := h
    cases t with
    | nil => rwa [List.mem_singleton.mp hc] at h
    | cons b t' =>
      refine optMin2_le ?_
      rcases List.mem_cons.mp hc with rfl | hc
      · exact Or.inl h
      · exact Or.inr (ih ⟨c, hc, h⟩)

theorem countP_le (p : Var → Bool) (as : List Var) : (0 : Rat) ≤ countP p as ∧ countP p as ≤ (as.length : Nat) ∧ isIntVal (countP p as) := by
  induction as with
  | nil => simp only [countP, List.length_nil]; exact ⟨by grind, by simp, isIntVal_zero⟩
  | cons a t ih =>
    simp only [countP, List.length_cons]
    obtain ⟨h1, h2, h3⟩ := ih
    have : ((t.length + 1 : Nat) : Rat) = (t.length : Nat) + 1 := by simp
    rw [this]
    split
    · exact ⟨by grind, by grind, isIntVal_add isIntVal_one h3⟩
    · exact ⟨by grind, by grind, isIntVal_add isIntVal_zero h3⟩

theorem resBnd_sound (B : Bnds) (y : Asg) (f : Fun) (hfr : f.inFrag = true)
    (h01 : ∀ a ∈ logicalArgs f, y a = 0 ∨ y a = 1)
    (hargs : ∀ a ∈ f.vars, inDom B y a) : (resBnd B f).admits (f.val y) := by
  cases f with
  | affine body c =>
    cases body with
    | nil =>
      simp only [resBnd, Fun.val, evalLin, point_admits]
      exact ⟨by grind, nofun⟩
    | cons p t =>
      simp only [resBnd, Fun.val]
      exact affBnd_admits B y (p :: t) c
        (fun q hq => hargs q.2 (by simp only [Fun.vars, List.mem_map]; exact ⟨q, hq, rfl⟩)) (isIntQ_sound c)
  | abs a =>
    have ha := hargs a (by simp [Fun.vars])
    simp only [resBnd, Fun.val]
    refine ⟨?_, ?_, ?_⟩
    · intro l hl; simp at hl; subst hl; split <;> grind
    · split
      · refine optMax2_ge (Or.inl fun x hx => ?_)
        obtain ⟨l, hl, rfl⟩ := Option.map_eq_some_iff.mp hx
        have := ha.1 l hl; grind
      · exact optMax2_ge (Or.inr ha.2.1)
    · intro hi
      have := ha.2.2 hi
      split
      · exact isIntVal_neg this
      · exact this
  | max as =>
    cases as with
    | nil =>
      simp only [resBnd, Fun.val]
      exact ⟨fun l h => by simp [lbMax] at h, fun u h => by simp [ubMax] at h, fun _ => isIntVal_zero⟩
    | cons a t =>
      have hd : ∀ b ∈ a :: t, inDom B y b := fun b hb => hargs b (by simpa [Fun.vars] using hb)
      simp only [resBnd, Fun.val]
      refine ⟨?_, ?_, ?_⟩
      · exact lbMax_le fun b hb l hl => Rat.le_trans ((hd b hb).1 l hl) (maxL_ge y a t b hb)
      · exact fun u hu => (maxL_le_iff y a t u).mpr fun b hb => ubMax_ge ⟨b, hb, (hd b hb).2.1⟩ u hu
      · intro hi
        simp only [List.all_eq_true] at hi
        obtain ⟨b, hb, he⟩ := maxL_mem y a t
        rw [he]; exact intLike_sound (hi b hb) (hd b hb)
  | min as =>
    cases as with
    | nil =>
      simp only [resBnd, Fun.val]
      exact ⟨fun l h => by simp [lbMin] at h, fun u h => by simp [ubMin] at h, fun _ => isIntVal_zero⟩
    | cons a t =>
      have hd : ∀ b ∈ a :: t, inDom B y b := fun b hb => hargs b (by simpa [Fun.vars] using hb)
      simp only [resBnd, Fun.val]
      refine ⟨?_, ?_, ?_⟩
      · exact fun l hl => (le_minL_iff y a t l).mpr fun b hb => lbMin_le ⟨b, hb, (hd b hb).1⟩ l hl
      · exact ubMin_ge fun b hb u hu => Rat.le_trans (minL_le y a t b hb) ((hd b hb).2.1 u hu)
      · intro hi
        simp only [List.all_eq_true] at hi
        obtain ⟨b, hb, he⟩ := minL_mem y a t
        rw [he]; exact intLike_sound (hi b hb) (hd b hb)
  | ifthen c t e =>
    have ht := hargs t (by simp [Fun.vars])
    have he := hargs e (by simp [Fun.vars])
    simp only [resBnd, Fun.val]
    refine ⟨?_, ?_, ?_⟩
    · split
      · exact optMin2_le (Or.inl ht.1)
      · exact optMin2_le (Or.inr he.1)
    · split
      · exact optMax2_ge (Or.inl ht.2.1)
      · exact optMax2_ge (Or.inr he.2.1)
    · intro hi
      simp only [Bool.and_eq_true] at hi
      split
      · exact intLike_sound hi.1 ht
      · exact intLike_sound hi.2 he
  | count as =>
    obtain ⟨h1, h2, h3⟩ := countP_le (fun a => y a != 0) as
    simp only [resBnd, Fun.val]
    exact ⟨fun l hl => by simp at hl; subst hl; exact h1, fun u hu => by simp at hu; subst hu; exact h2, fun _ => h3⟩
  | and as => simp only [resBnd, Fun.val]; exact admits_binary_of (b2r_zero_one _)
  | or as => simp only [resBnd, Fun.val]; exact admits_binary_of (b2r_zero_one _)
  | condLin k body rhs => simp only [resBnd, Fun.val]; exact admits_binary_of (b2r_zero_one _)
  | not a =>
    simp only [resBnd, Fun.val]
    apply admits_binary_of
    rcases h01 a (List.mem_singleton.mpr rfl) with h | h <;> rw [h] <;> grind
  | _ => simp [Fun.inFrag] at hfr

/-- variable domains below `N` -/
def DomB (N : Nat) (B : Bnds) (y : Asg) : Prop := ∀ v, v < N → inDom B y v

theorem logicalArgs_vars (f : Fun) : ∀ a ∈ logicalArgs f, a ∈ f.vars := by
  cases f <;> simp [logicalArgs, Fun.vars]

theorem typedDef_iff (B : Bnds) (d : Def) :
    typedDef B d = true ↔
      B d.res = resBnd B d.f ∧ d.f.inFrag = true ∧ ∀ a ∈ logicalArgs d.f, isBin01 (B a) = true := by
  unfold typedDef
  cases d.f <;> simp [logicalArgs, and_assoc]

theorem typed_args01 {B : Bnds} {d : Def} {y : Asg} (ht : typedDef B d = true) (hd : ∀ a ∈ d.f.vars, inDom B y a) :
    ∀ a ∈ logicalArgs d.f, y a = 0 ∨ y a = 1 :=
  fun a ha => bin01_vals (((typedDef_iff B d).mp ht).2.2 a ha) (hd a (logicalArgs_vars _ a ha))

theorem funOK_of_typed (N : Nat) (B : Bnds) (d : Def) (y : Asg) (ht : typedDef B d = true)
    (hv : ∀ a ∈ d.f.vars, a < N) (hy : DomB N B y) : FunOK B d.f y := by
  have hfr := ((typedDef_iff B d).mp ht).2.1
  have h01 := typed_args01 ht fun a ha => hy a (hv a ha)
  cases hf : d.f with
  | and as => rw [hf] at h01; exact h01
  | or as => rw [hf] at h01; exact h01
  | ifthen c t e =>
    rw [hf] at h01 hv
    exact ⟨h01 c (by simp [logicalArgs]), hy t (hv t (by simp [Fun.vars])), hy e (hv e (by simp [Fun.vars]))⟩
  | quadratic lin q c => rw [hf] at hfr; simp [Fun.inFrag] at hfr
  | _ => trivial

theorem exact_dom {n0 N : Nat} {B B0 : Bnds} {D : List Def} {x : Asg}
    (hwf : WF n0 D) (hdef : ∀ v, n0 ≤ v → v < N → ∃ d ∈ D, d.res = v)
    (hB0 : ∀ v, v < n0 → B v = B0 v) (htyped : ∀ d ∈ D, typedDef B d = true)
    (hx : ∀ v, v < n0 → inDom B0 x v) : DomB N B (exactAsg x D) := by
  intro v
  induction v using Nat.strongRecOn with
  | _ v ih =>
    intro hv
    by_cases hlt : v < n0
    · exact (inDom_congr (hB0 v hlt) (exact_below x n0 D hwf v hlt)).mpr (hx v hlt)
    · obtain ⟨d, hd, hr⟩ := hdef v (Nat.le_of_not_lt hlt) hv
      subst hr
      obtain ⟨hb, hfr, _⟩ := (typedDef_iff B d).mp (htyped d hd)
      have hvars := wf_vars_lt hwf d hd
      have hargs : ∀ a ∈ d.f.vars, inDom B (exactAsg x D) a := fun a ha =>
        ih a (hvars a ha) (Nat.lt_trans (hvars a ha) hv)
      unfold inDom
      rw [hb, exact_spec x n0 D hwf d hd]
      exact resBnd_sound B _ d.f hfr (typed_args01 (htyped d hd) hargs) hargs

end MpVerif.C01
