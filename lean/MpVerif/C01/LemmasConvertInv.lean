import MpVerif.C01.LemmasConvertFlatten
import MpVerif.C01.LemmasConvertBounds
/-!
# C01 — the reference converter: the flattening invariant `Inv` (creation order, indices in range and defined, bounds as created,
typing) is kept by every flattening function, so the structural facts about `convert`'s output hold for every input.
-/
namespace MpVerif.C01

theorem WF_append (m k : Nat) (defs : List Def) (c : Ctx) (f : Fun) (hw : WF m defs) (hlt : ∀ d ∈ defs, d.res < k)
    (hm : m ≤ k) (hv : ∀ v ∈ f.vars, v < k) : WF m (defs ++ [⟨k, c, f⟩]) := by
  induction defs generalizing m with
  | nil => exact ⟨hm, hv, trivial⟩
  | cons d t ih =>
    obtain ⟨h1, h2, h3⟩ := hw
    refine ⟨h1, h2, ?_⟩
    exact ih (d.res + 1) h3 (fun d' hd' => hlt d' (by simp [hd'])) (hlt d (by simp))

theorem bnds_congr (B B' : Bnds) (as : List Var) (h : ∀ a ∈ as, B' a = B a) :
    lbMax B' as = lbMax B as ∧ ubMax B' as = ubMax B as ∧ lbMin B' as = lbMin B as ∧ ubMin B' as = ubMin B as := by
  induction as with
  | nil => exact ⟨rfl, rfl, rfl, rfl⟩
  | cons a t ih =>
    have ha := h a (by simp)
    obtain ⟨h1, h2, h3, h4⟩ := ih (fun a' ha' => h a' (by simp [ha']))
    cases t with
    | nil => simp [lbMax, ubMax, lbMin, ubMin, ha]
    | cons b t' => simp only [lbMax, ubMax, lbMin, ubMin, ha, h1, h2, h3, h4, and_self]

theorem all_congr_B (p : VarInfo → Bool) (B B' : Bnds) (as : List Var) (h : ∀ a ∈ as, B' a = B a) :
    (as.all fun a => p (B' a)) = (as.all fun a => p (B a)) := by
  induction as with
  | nil => rfl
  | cons a t ih => simp only [List.all_cons, h a (by simp), ih (fun a' ha' => h a' (by simp [ha']))]

theorem resBnd_congr (B B' : Bnds) (f : Fun) (h : ∀ v ∈ f.vars, B' v = B v) : resBnd B' f = resBnd B f := by
  cases f with
  | affine body c =>
    cases body with
    | nil => rfl
    | cons p t =>
      simp only [resBnd, affBnd]
      rw [linBnd_congr B B' (p :: t) (fun q hq => h q.2 (by simp only [Fun.vars, List.mem_map]; exact ⟨q, hq, rfl⟩))]
  | abs a => simp only [resBnd, h a (by simp [Fun.vars])]
  | max as =>
    have h' : ∀ a ∈ as, B' a = B a := fun a ha => h a (by simpa [Fun.vars] using ha)
    simp only [resBnd, (bnds_congr B B' as h').1, (bnds_congr B B' as h').2.1, all_congr_B intLike B B' as h']
  | min as =>
    have h' : ∀ a ∈ as, B' a = B a := fun a ha => h a (by simpa [Fun.vars] using ha)
    simp only [resBnd, (bnds_congr B B' as h').2.2.1, (bnds_congr B B' as h').2.2.2, all_congr_B intLike B B' as h']
  | ifthen c t e => simp only [resBnd, h t (by simp [Fun.vars]), h e (by simp [Fun.vars])]
  | _ => rfl

theorem typedDef_congr (B B' : Bnds) (d : Def) (hr : B' d.res = B d.res) (h : ∀ v ∈ d.f.vars, B' v = B v) :
    typedDef B' d = true ↔ typedDef B d = true := by
  rw [typedDef_iff, typedDef_iff, hr, resBnd_congr B B' d.f h]
  exact and_congr_right fun _ => and_congr_right fun _ =>
    forall₂_congr fun a ha => by rw [h a (logicalArgs_vars _ a ha)]

/-- the flattening invariant: exactly what the structural part of `ConvOut.checks` tests -/
structure Inv (n0 : Nat) (B0 : Bnds) (S : FS) : Prop where
  wf : WF n0 S.defs
  lt : ∀ d ∈ S.defs, d.res < S.next
  ge : n0 ≤ S.next
  defd : ∀ v, n0 ≤ v → v < S.next → ∃ d ∈ S.defs, d.res = v
  b0 : ∀ v, v < n0 → S.B v = B0 v
  typed : ∀ d ∈ S.defs, typedDef S.B d = true

/-- later states only add variables and keep the bounds of the existing ones -/
def Ext (S S' : FS) : Prop := S.next ≤ S'.next ∧ ∀ v, v < S.next → S'.B v = S.B v

theorem Ext.refl (S : FS) : Ext S S := ⟨Nat.le_refl _, fun _ _ => rfl⟩
theorem Ext.trans {S1 S2 S3 : FS} (h1 : Ext S1 S2) (h2 : Ext S2 S3) : Ext S1 S3 :=
  ⟨Nat.le_trans h1.1 h2.1, fun v hv => by rw [h2.2 v (Nat.lt_of_lt_of_le hv h1.1), h1.2 v hv]⟩

theorem mkDef_inv (n0 : Nat) (B0 : Bnds) (f : Fun) (S : FS) (hI : Inv n0 B0 S)
    (hv : ∀ v ∈ f.vars, v < S.next) (hfr : f.inFrag = true) (hat : ∀ a ∈ logicalArgs f, isBin01 (S.B a) = true) :
    Inv n0 B0 (mkDef f S).2 ∧ Ext S (mkDef f S).2 ∧ (mkDef f S).1 < (mkDef f S).2.next ∧
    (mkDef f S).2.B (mkDef f S).1 = resBnd S.B f := by
  unfold mkDef
  cases h : S.defs.find? (fun d => decide (d.f = f)) with
  | some d =>
    dsimp only
    have hd : d ∈ S.defs := List.mem_of_find?_eq_some h
    have hf : d.f = f := by simpa using List.find?_some h
    refine ⟨hI, Ext.refl S, hI.lt d hd, ?_⟩
    rw [((typedDef_iff _ d).mp (hI.typed d hd)).1, hf]
  | none =>
    dsimp only
    have hBs : ∀ v, v < S.next → setB S.B S.next (resBnd S.B f) v = S.B v := by
      intro v hv'; have : v ≠ S.next := Nat.ne_of_lt hv'; simp [setB, this]
    refine ⟨⟨?_, ?_, ?_, ?_, ?_, ?_⟩, ⟨Nat.le_succ _, hBs⟩, Nat.lt_succ_self _, by simp [setB]⟩
    · exact WF_append n0 S.next S.defs .none f hI.wf hI.lt hI.ge hv
    · intro d hd
      simp only [List.mem_append, List.mem_singleton] at hd
      rcases hd with hd | hd
      · exact Nat.lt_succ_of_lt (hI.lt d hd)
      · subst hd; exact Nat.lt_succ_self _
    · exact Nat.le_succ_of_le hI.ge
    · intro v h1 h2
      by_cases hvn : v = S.next
      · exact ⟨⟨S.next, .none, f⟩, by simp, hvn.symm⟩
      · have h2' : v < S.next + 1 := h2
        obtain ⟨d, hd, hr⟩ := hI.defd v h1 (by omega)
        exact ⟨d, by simp [hd], hr⟩
    · intro v hv'
      show setB S.B S.next (resBnd S.B f) v = B0 v
      rw [hBs v (Nat.lt_of_lt_of_le hv' hI.ge)]; exact hI.b0 v hv'
    · intro d hd
      simp only [List.mem_append, List.mem_singleton] at hd
      rcases hd with hd | hd
      · have hres := hI.lt d hd
        have hvars := wf_vars_lt hI.wf d hd
        exact (typedDef_congr S.B _ d (hBs d.res hres) (fun v hv' => hBs v (Nat.lt_trans (hvars v hv') hres))).mpr
          (hI.typed d hd)
      · subst hd
        refine (typedDef_iff _ _).mpr ⟨?_, hfr, fun a ha => ?_⟩
        · rw [resBnd_congr S.B _ f (fun v hv' => hBs v (hv v hv'))]; simp [setB]
        · exact (congrArg isBin01 (hBs a (hv a (logicalArgs_vars f a ha)))).trans (hat a ha)

theorem aff2var_inv (n0 : Nat) (B0 : Bnds) (p : Lin × Rat) (S : FS) (hI : Inv n0 B0 S) (hp : ∀ q ∈ p.1, q.2 < S.next) :
    Inv n0 B0 (aff2var p S).2 ∧ Ext S (aff2var p S).2 ∧ (aff2var p S).1 < (aff2var p S).2.next := by
  rcases aff2var_cases p S with ⟨v, rfl, h⟩ | h <;> rw [h]
  · exact ⟨hI, Ext.refl S, hp (1, v) (by simp)⟩
  · have := mkDef_inv n0 B0 (.affine p.1 p.2) S hI
      (fun v hv => by simp only [Fun.vars, List.mem_map] at hv; obtain ⟨q, hq, rfl⟩ := hv; exact hp q hq) rfl nofun
    exact ⟨this.1, this.2.1, this.2.2.1⟩

theorem insTerm_bound {k : Nat} {c : Rat} {v : Var} {l : Lin} (hv : v < k) (hl : ∀ q ∈ l, q.2 < k) :
    ∀ p ∈ insTerm c v l, p.2 < k := by
  induction l with
  | nil => simpa [insTerm] using hv
  | cons a t ih =>
    obtain ⟨ha, ht⟩ := List.forall_mem_cons.mp hl
    simp only [insTerm]
    split
    · exact List.forall_mem_cons.mpr ⟨hv, hl⟩
    · split
      · exact List.forall_mem_cons.mpr ⟨ha, ht⟩
      · exact List.forall_mem_cons.mpr ⟨ha, ih ht⟩

theorem normLin_bound {l : Lin} {k : Nat} (hl : ∀ q ∈ l, q.2 < k) : ∀ p ∈ normLin l, p.2 < k := by
  suffices h : ∀ p ∈ l.foldr (fun p acc => insTerm p.1 p.2 acc) [], p.2 < k from fun p hp => h p (List.mem_filter.mp hp).1
  induction l with
  | nil => simp
  | cons a t ih => obtain ⟨ha, ht⟩ := List.forall_mem_cons.mp hl; exact insTerm_bound ha (ih ht)

theorem negLin_bound {l : Lin} {k : Nat} (hl : ∀ q ∈ l, q.2 < k) : ∀ p ∈ negLin l, p.2 < k := by
  intro p hp
  simp only [negLin, List.mem_map] at hp
  obtain ⟨q, hq, rfl⟩ := hp
  exact hl q hq

theorem scaleLin_bound {l : Lin} {k : Nat} (c : Rat) (hl : ∀ q ∈ l, q.2 < k) : ∀ p ∈ scaleLin c l, p.2 < k := by
  intro p hp
  simp only [scaleLin, List.mem_map] at hp
  obtain ⟨q, hq, rfl⟩ := hp
  exact hl q hq

theorem condBody_bound {l : Lin} {k : Nat} (hl : ∀ q ∈ l, q.2 < k) : ∀ p ∈ condBody l, p.2 < k := by
  unfold condBody; split
  · exact normLin_bound hl
  · exact hl

theorem binary_isBin01 : isBin01 VarInfo.binary = true := by simp [isBin01]

/-- the last step of a case of `flatN_inv` / `flatL_inv`, stated in the shape of those goals so that `f` and `S1` are read off the goal -/
theorem mkDef_sing {n0 : Nat} {B0 : Bnds} {f : Fun} {S S1 : FS} (hI : Inv n0 B0 S1) (e1 : Ext S S1)
    (hv : ∀ v ∈ f.vars, v < S1.next) (hfr : f.inFrag = true) (hat : ∀ a ∈ logicalArgs f, isBin01 (S1.B a) = true) :
    Inv n0 B0 (mkDef f S1).2 ∧ Ext S (mkDef f S1).2 ∧ ∀ p ∈ [((1 : Rat), (mkDef f S1).1)], p.2 < (mkDef f S1).2.next := by
  obtain ⟨h1, h2, h3, _⟩ := mkDef_inv n0 B0 f S1 hI hv hfr hat
  exact ⟨h1, e1.trans h2, fun p hp => by rw [List.mem_singleton.mp hp]; exact h3⟩

theorem mkDef_logical {n0 : Nat} {B0 : Bnds} {f : Fun} {S S1 : FS} (hI : Inv n0 B0 S1) (e1 : Ext S S1)
    (hv : ∀ v ∈ f.vars, v < S1.next) (hfr : f.inFrag = true) (hat : ∀ a ∈ logicalArgs f, isBin01 (S1.B a) = true)
    (hb : resBnd S1.B f = VarInfo.binary) :
    Inv n0 B0 (mkDef f S1).2 ∧ Ext S (mkDef f S1).2 ∧ (mkDef f S1).1 < (mkDef f S1).2.next ∧
      isBin01 ((mkDef f S1).2.B (mkDef f S1).1) = true := by
  obtain ⟨h1, h2, h3, h4⟩ := mkDef_inv n0 B0 f S1 hI hv hfr hat
  exact ⟨h1, e1.trans h2, h3, by rw [h4, hb]; exact binary_isBin01⟩

theorem mkDef_cmp {n0 : Nat} {B0 : Bnds} {S S1 : FS} (neg : Bool) (k : Cmp5) (rhs : Rat) {l1 l2 : Lin}
    (hI : Inv n0 B0 S1) (e1 : Ext S S1) (h1 : ∀ p ∈ l1, p.2 < S1.next) (h2 : ∀ p ∈ l2, p.2 < S1.next) :
    Inv n0 B0 (mkDef (normCmp neg k (condBody (l1 ++ negLin l2)) rhs) S1).2 ∧
    Ext S (mkDef (normCmp neg k (condBody (l1 ++ negLin l2)) rhs) S1).2 ∧
    (mkDef (normCmp neg k (condBody (l1 ++ negLin l2)) rhs) S1).1 < (mkDef (normCmp neg k (condBody (l1 ++ negLin l2)) rhs) S1).2.next ∧
    isBin01 ((mkDef (normCmp neg k (condBody (l1 ++ negLin l2)) rhs) S1).2.B
      (mkDef (normCmp neg k (condBody (l1 ++ negLin l2)) rhs) S1).1) = true := by
  have hbody : ∀ p ∈ condBody (l1 ++ negLin l2), p.2 < S1.next := condBody_bound fun p hp => by
    rcases List.mem_append.mp hp with hp | hp
    · exact h1 p hp
    · exact negLin_bound h2 p hp
  cases neg
  · refine mkDef_logical hI e1 (fun v hv => ?_) rfl nofun rfl
    have hv' : v ∈ (condBody (l1 ++ negLin l2)).map (·.2) := hv
    obtain ⟨p, hp, rfl⟩ := List.mem_map.mp hv'; exact hbody p hp
  · refine mkDef_logical hI e1 (fun v hv => ?_) rfl nofun rfl
    have hv' : v ∈ (negLin (condBody (l1 ++ negLin l2))).map (·.2) := hv
    obtain ⟨p, hp, rfl⟩ := List.mem_map.mp hv'; exact negLin_bound hbody p hp

mutual
theorem flatN_inv (n0 : Nat) (B0 : Bnds) (e : NE) (S : FS) (hI : Inv n0 B0 S) (hv : e.vok n0 = true) :
    Inv n0 B0 (flatN e S).2 ∧ Ext S (flatN e S).2 ∧ ∀ p ∈ (flatN e S).1.1, p.2 < (flatN e S).2.next := by
  cases e with
  | c q => exact ⟨hI, Ext.refl S, by simp [flatN]⟩
  | v i =>
    have hi : i < n0 := by simpa [NE.vok] using hv
    exact ⟨hI, Ext.refl S, by intro p hp; simp [flatN] at hp; subst hp; exact Nat.lt_of_lt_of_le hi hI.ge⟩
  | add a b =>
    simp only [NE.vok, Bool.and_eq_true] at hv
    obtain ⟨i1, e1, t1⟩ := flatN_inv n0 B0 a S hI hv.1
    obtain ⟨i2, e2, t2⟩ := flatN_inv n0 B0 b (flatN a S).2 i1 hv.2
    refine ⟨i2, (e1.trans e2), ?_⟩
    intro p hp
    simp only [flatN, List.mem_append] at hp ⊢
    rcases hp with hp | hp
    · exact Nat.lt_of_lt_of_le (t1 p hp) e2.1
    · exact t2 p hp
  | mul k a =>
    obtain ⟨i1, e1, t1⟩ := flatN_inv n0 B0 a S hI (by simpa [NE.vok] using hv)
    exact ⟨i1, e1, (scaleLin_bound k t1)⟩
  | abs a =>
    obtain ⟨i1, e1, t1⟩ := flatN_inv n0 B0 a S hI (by simpa [NE.vok] using hv)
    obtain ⟨i2, e2, r2⟩ := aff2var_inv n0 B0 _ _ i1 t1
    exact mkDef_sing i2 (e1.trans e2) (by intro v hv'; simp [Fun.vars] at hv'; subst hv'; exact r2) rfl nofun
  | max as =>
    obtain ⟨i1, e1, t1⟩ := flatNs_inv n0 B0 as S hI (by simpa [NE.vok] using hv)
    exact mkDef_sing i1 e1 (fun v hv' => t1 v (by simpa [Fun.vars] using hv')) rfl nofun
  | min as =>
    obtain ⟨i1, e1, t1⟩ := flatNs_inv n0 B0 as S hI (by simpa [NE.vok] using hv)
    exact mkDef_sing i1 e1 (fun v hv' => t1 v (by simpa [Fun.vars] using hv')) rfl nofun
  | ite cnd t e =>
    simp only [NE.vok, Bool.and_eq_true] at hv
    obtain ⟨ic, ec, rc, bc⟩ := flatL_inv n0 B0 cnd S hI hv.1.1
    obtain ⟨it, et, tt⟩ := flatN_inv n0 B0 t _ ic hv.1.2
    obtain ⟨ivt, evt, rvt⟩ := aff2var_inv n0 B0 _ _ it tt
    obtain ⟨ie, ee, te⟩ := flatN_inv n0 B0 e _ ivt hv.2
    obtain ⟨ive, eve, rve⟩ := aff2var_inv n0 B0 _ _ ie te
    have eB := ee.trans eve
    have eA := (et.trans evt).trans eB
    refine mkDef_sing ive (ec.trans eA) (fun v hv' => ?_) rfl (fun a ha => by rw [List.mem_singleton.mp ha, eA.2 _ rc]; exact bc)
    simp only [Fun.vars, List.mem_cons, List.not_mem_nil, or_false] at hv'
    rcases hv' with h | h | h <;> rw [h]
    · exact Nat.lt_of_lt_of_le rc eA.1
    · exact Nat.lt_of_lt_of_le rvt eB.1
    · exact rve
  | count ls =>
    obtain ⟨i1, e1, t1⟩ := flatLs_inv n0 B0 ls S hI (by simpa [NE.vok] using hv)
    exact mkDef_sing i1 e1 (fun v hv' => (t1 v (by simpa [Fun.vars] using hv')).1) rfl (fun a ha => (t1 a ha).2)

theorem flatNs_inv (n0 : Nat) (B0 : Bnds) (es : NEs) (S : FS) (hI : Inv n0 B0 S) (hv : es.vok n0 = true) :
    Inv n0 B0 (flatNs es S).2 ∧ Ext S (flatNs es S).2 ∧ ∀ v ∈ (flatNs es S).1, v < (flatNs es S).2.next := by
  cases es with
  | nil => exact ⟨hI, Ext.refl S, by simp [flatNs]⟩
  | cons a t =>
    simp only [NEs.vok, Bool.and_eq_true] at hv
    obtain ⟨i1, e1, t1⟩ := flatN_inv n0 B0 a S hI hv.1
    obtain ⟨i2, e2, r2⟩ := aff2var_inv n0 B0 (flatN a S).1 (flatN a S).2 i1 t1
    obtain ⟨i3, e3, t3⟩ := flatNs_inv n0 B0 t (aff2var (flatN a S).1 (flatN a S).2).2 i2 hv.2
    refine ⟨i3, ((e1.trans e2).trans e3), ?_⟩
    intro v hv'
    simp only [flatNs, List.mem_cons] at hv' ⊢
    rcases hv' with h | h
    · rw [h]; exact Nat.lt_of_lt_of_le r2 e3.1
    · exact t3 v h

theorem flatL_inv (n0 : Nat) (B0 : Bnds) (l : LE) (S : FS) (hI : Inv n0 B0 S) (hv : l.vok n0 = true) :
    Inv n0 B0 (flatL l S).2 ∧ Ext S (flatL l S).2 ∧ (flatL l S).1 < (flatL l S).2.next ∧
      isBin01 ((flatL l S).2.B (flatL l S).1) = true := by
  cases l with
  | cmp k a b =>
    simp only [LE.vok, Bool.and_eq_true] at hv
    obtain ⟨i1, e1, t1⟩ := flatN_inv n0 B0 a S hI hv.1
    obtain ⟨i2, e2, t2⟩ := flatN_inv n0 B0 b _ i1 hv.2
    exact mkDef_cmp _ k _ i2 (e1.trans e2) (fun p hp => Nat.lt_of_lt_of_le (t1 p hp) e2.1) t2
  | and ls =>
    obtain ⟨i1, e1, t1⟩ := flatLs_inv n0 B0 ls S hI (by simpa [LE.vok] using hv)
    exact mkDef_logical i1 e1 (fun v hv' => (t1 v (by simpa [Fun.vars] using hv')).1) rfl (fun a ha => (t1 a ha).2) rfl
  | or ls =>
    obtain ⟨i1, e1, t1⟩ := flatLs_inv n0 B0 ls S hI (by simpa [LE.vok] using hv)
    exact mkDef_logical i1 e1 (fun v hv' => (t1 v (by simpa [Fun.vars] using hv')).1) rfl (fun a ha => (t1 a ha).2) rfl
  | not l =>
    obtain ⟨i1, e1, r1, b1⟩ := flatL_inv n0 B0 l S hI (by simpa [LE.vok] using hv)
    exact mkDef_logical i1 e1 (by intro v hv'; simp [Fun.vars] at hv'; subst hv'; exact r1) rfl
      (fun a ha => by rw [List.mem_singleton.mp ha]; exact b1) rfl
  | iff a b =>
    simp only [LE.vok, Bool.and_eq_true] at hv
    obtain ⟨i1, e1, r1, _⟩ := flatL_inv n0 B0 a S hI hv.1
    obtain ⟨i2, e2, r2, _⟩ := flatL_inv n0 B0 b _ i1 hv.2
    exact mkDef_cmp _ .eq _ i2 (e1.trans e2)
      (fun p hp => by rw [List.mem_singleton.mp hp]; exact Nat.lt_of_lt_of_le r1 e2.1)
      (fun p hp => by rw [List.mem_singleton.mp hp]; exact r2)

theorem flatLs_inv (n0 : Nat) (B0 : Bnds) (ls : LEs) (S : FS) (hI : Inv n0 B0 S) (hv : ls.vok n0 = true) :
    Inv n0 B0 (flatLs ls S).2 ∧ Ext S (flatLs ls S).2 ∧
      ∀ r ∈ (flatLs ls S).1, r < (flatLs ls S).2.next ∧ isBin01 ((flatLs ls S).2.B r) = true := by
  cases ls with
  | nil => exact ⟨hI, Ext.refl S, by simp [flatLs]⟩
  | cons l t =>
    simp only [LEs.vok, Bool.and_eq_true] at hv
    obtain ⟨i1, e1, r1, b1⟩ := flatL_inv n0 B0 l S hI hv.1
    obtain ⟨i3, e3, t3⟩ := flatLs_inv n0 B0 t (flatL l S).2 i1 hv.2
    refine ⟨i3, (e1.trans e3), ?_⟩
    intro r hr
    simp only [flatLs, List.mem_cons] at hr ⊢
    rcases hr with h | h
    · rw [h]; exact ⟨Nat.lt_of_lt_of_le r1 e3.1, by rw [e3.2 _ r1]; exact b1⟩
    · exact t3 r h
end

theorem flatCons_inv (n0 : Nat) (B0 : Bnds) (cs : List (NE × Option Rat × Option Rat)) (S : FS) (hI : Inv n0 B0 S)
    (hv : ∀ c ∈ cs, c.1.vok n0 = true) :
    Inv n0 B0 (flatCons cs S).2 ∧ Ext S (flatCons cs S).2 ∧
      ∀ r ∈ (flatCons cs S).1, ∀ p ∈ r.body, p.2 < (flatCons cs S).2.next := by
  induction cs generalizing S with
  | nil => exact ⟨hI, Ext.refl S, by simp [flatCons]⟩
  | cons c t ih =>
    obtain ⟨e, lb, ub⟩ := c
    obtain ⟨i1, e1, t1⟩ := flatN_inv n0 B0 e S hI (hv (e, lb, ub) (by simp))
    obtain ⟨i2, e2, t2⟩ := ih (flatN e S).2 i1 (fun c hc => hv c (by simp [hc]))
    refine ⟨i2, (e1.trans e2), ?_⟩
    intro r hr
    simp only [flatCons, List.mem_cons] at hr ⊢
    rcases hr with h | h
    · subst h
      intro p hp
      exact Nat.lt_of_lt_of_le (normLin_bound t1 p hp) e2.1
    · exact t2 r h

theorem flatLCons_inv (n0 : Nat) (B0 : Bnds) (ls : List LE) (S : FS) (hI : Inv n0 B0 S)
    (hv : ∀ l ∈ ls, l.vok n0 = true) :
    Inv n0 B0 (flatLCons ls S).2 ∧ Ext S (flatLCons ls S).2 ∧
      ∀ r ∈ (flatLCons ls S).1, ∃ v, r = (⟨[(1, v)], some 1, none⟩ : Root) ∧ v < (flatLCons ls S).2.next ∧
        isBin01 ((flatLCons ls S).2.B v) = true := by
  induction ls generalizing S with
  | nil => exact ⟨hI, Ext.refl S, by simp [flatLCons]⟩
  | cons l t ih =>
    obtain ⟨i1, e1, r1, hb⟩ := flatL_inv n0 B0 l S hI (hv l (by simp))
    obtain ⟨i2, e2, t2⟩ := ih (flatL l S).2 i1 (fun c hc => hv c (by simp [hc]))
    refine ⟨i2, (e1.trans e2), ?_⟩
    intro r hr
    simp only [flatLCons, List.mem_cons] at hr ⊢
    rcases hr with h | h
    · exact ⟨_, h, Nat.lt_of_lt_of_le r1 e2.1, by rw [e2.2 _ r1]; exact hb⟩
    · exact t2 r h

theorem flatObj_inv (n0 : Nat) (B0 : Bnds) (ob : Option (Sense × NE)) (S : FS) (hI : Inv n0 B0 S)
    (hv : ∀ s e, ob = some (s, e) → e.vok n0 = true) :
    Inv n0 B0 (flatObj ob S).2 ∧ Ext S (flatObj ob S).2 ∧
      ∀ o, (flatObj ob S).1 = some o → o.quad = [] ∧ ∀ p ∈ o.lin, p.2 < (flatObj ob S).2.next := by
  cases ob with
  | none => exact ⟨hI, Ext.refl S, by simp [flatObj]⟩
  | some p =>
    obtain ⟨s, e⟩ := p
    obtain ⟨i1, e1, t1⟩ := flatN_inv n0 B0 e S hI (hv s e rfl)
    by_cases hc : (flatN e S).1.2 = 0
    · refine ⟨by simpa [flatObj, hc] using i1, by simpa [flatObj, hc] using e1, ?_⟩
      intro o ho
      simp only [flatObj, hc, if_true, Option.some.injEq] at ho ⊢
      subst ho
      exact ⟨rfl, normLin_bound t1⟩
    · obtain ⟨i3, e3, r3, _⟩ := mkDef_inv n0 B0 (.affine [] (flatN e S).1.2) (flatN e S).2 i1 (by simp [Fun.vars]) rfl nofun
      refine ⟨by simpa [flatObj, hc] using i3, by simpa [flatObj, hc] using e1.trans e3, ?_⟩
      intro o ho
      simp only [flatObj, hc, if_false, Option.some.injEq] at ho ⊢
      subst ho
      refine ⟨rfl, normLin_bound ?_⟩
      intro q hq
      simp only [List.mem_append, List.mem_singleton] at hq
      rcases hq with h | h
      · exact Nat.lt_of_lt_of_le (t1 q h) e3.1
      · subst h; exact r3

theorem inv_init (m : NLModel) : Inv m.n0 m.B0 { next := m.n0, defs := [], B := m.B0 } :=
  ⟨trivial, by simp, Nat.le_refl _, fun v h1 h2 => absurd h2 (Nat.not_lt.mpr h1), fun _ _ => rfl, by simp⟩

theorem flatAll_inv (m : NLModel) (hv : m.vok = true) :
    Inv m.n0 m.B0 (flatAll m).S ∧
    (∀ r ∈ (flatAll m).croots ++ (flatAll m).lroots, ∀ p ∈ r.body, p.2 < (flatAll m).S.next) ∧
    (∀ o, (flatAll m).obj = some o → o.quad = [] ∧ ∀ p ∈ o.lin, p.2 < (flatAll m).S.next) ∧
    (∀ r ∈ (flatAll m).lroots, ∃ v, r = (⟨[(1, v)], some 1, none⟩ : Root) ∧ isBin01 ((flatAll m).S.B v) = true) := by
  simp only [NLModel.vok, Bool.and_eq_true, List.all_eq_true] at hv
  obtain ⟨⟨hvc, hvl⟩, hvo⟩ := hv
  obtain ⟨i0, e0, t0⟩ := flatObj_inv m.n0 m.B0 m.obj _ (inv_init m) (fun s e he => by rw [he] at hvo; exact hvo)
  obtain ⟨i1, e1, t1⟩ := flatCons_inv m.n0 m.B0 m.cons _ i0 hvc
  obtain ⟨i2, e2, t2⟩ := flatLCons_inv m.n0 m.B0 m.lcons _ i1 hvl
  refine ⟨i2, ?_, ?_, fun r hr => (t2 r hr).imp fun v h => ⟨h.1, h.2.2⟩⟩
  · intro r hr p hp
    simp only [List.mem_append] at hr
    rcases hr with h | h
    · exact Nat.lt_of_lt_of_le (t1 r h p hp) e2.1
    · obtain ⟨v, rfl, hlt, _⟩ := t2 r h
      rw [List.mem_singleton.mp hp]; exact hlt
  · intro o ho
    obtain ⟨hq, hl⟩ := t0 o ho
    exact ⟨hq, fun p hp => Nat.lt_of_lt_of_le (hl p hp) (e1.trans e2).1⟩

theorem shape_mem {l1 l2 : List Def} (h : sameShape l1 l2) : ∀ d ∈ l1, ∃ d' ∈ l2, d'.res = d.res ∧ d'.f = d.f := by
  intro d hd
  have hm : (d.res, d.f) ∈ l2.map (fun d => (d.res, d.f)) := h ▸ List.mem_map.mpr ⟨d, hd, rfl⟩
  obtain ⟨d', hd', he⟩ := List.mem_map.mp hm
  exact ⟨d', hd', (Prod.mk.inj he).1, (Prod.mk.inj he).2⟩

theorem Inv.shape {n0 n : Nat} {B0 B : Bnds} {l1 l2 : List Def} (h : sameShape l1 l2) (hI : Inv n0 B0 ⟨n, l1, B⟩) :
    Inv n0 B0 ⟨n, l2, B⟩ := by
  have hmem := shape_mem (sameShape_symm h)
  refine ⟨WF_shape h hI.wf, fun d hd => ?_, hI.ge, fun v h1 h2 => ?_, hI.b0, fun d hd => ?_⟩
  · obtain ⟨d', hd', hr, _⟩ := hmem d hd
    rw [← hr]; exact hI.lt d' hd'
  · obtain ⟨d', hd', hr⟩ := hI.defd v h1 h2
    obtain ⟨d, hd, hr2, _⟩ := shape_mem h d' hd'
    exact ⟨d, hd, by rw [hr2, hr]⟩
  · obtain ⟨d', hd', hr, hf⟩ := hmem d hd
    have := hI.typed d' hd'
    rw [typedDef_iff, hr, hf] at this
    exact (typedDef_iff _ _).mpr this

/-- the structural facts about `convert`'s output: the flattening invariant of the state reached, with the contexts filled in -/
structure Structural (m : NLModel) (o : ConvOut) : Prop extends Inv o.n0 m.B0 ⟨o.N, o.defs, o.B0⟩ where
  rootsN : ∀ r ∈ o.roots, ∀ p ∈ r.body, p.2 < o.N
  objIdx : ∀ ob, o.obj = some ob → ob.quad = [] ∧ ∀ p ∈ ob.lin, p.2 < o.N

theorem structural_of_vok (m : NLModel) (cfg : Cfg) (hv : m.vok = true) : Structural m (convert m cfg) := by
  obtain ⟨hI, hroots, hobj, _⟩ := flatAll_inv m hv
  exact ⟨Inv.shape (sameShape_symm (ctxDefs_shape _ _ _ _)) hI, hroots, hobj⟩

theorem flatAll_lroots (m : NLModel) (hv : m.vok = true) :
    ∀ r ∈ (flatAll m).lroots, ∃ v, r = (⟨[(1, v)], some 1, none⟩ : Root) ∧ isBin01 ((flatAll m).S.B v) = true :=
  (flatAll_inv m hv).2.2.2

end MpVerif.C01
