import MpVerif.C11.Model
/-!
# C11 — the `std::string` operations `wc_match` and `wc_split` use, on byte lists, with `size_t` arithmetic

Trusted reading of the C++ standard library (libstdc++, LP64): `size()`, `rfind(pat, pos)` (last index
`i ≤ min(pos, size - pat.size)` at which `pat` occurs, `npos` if none or if `pat` is longer), `substr(pos, n)`
(`pos ≤ size`; at most `n` characters), `find_first_of(c)`, unsigned subtraction and addition modulo 2^64, and the
lemmas that turn them into prefix/suffix tests and `takeWhile`/`drop` cuts.  Generated definitions in
`MpVerif.Gen.C11Tok` are written with these.
-/
namespace MpVerif.C11.StdStr

def npos : Nat := 18446744073709551615

def usub (a b : Nat) : Nat := (a + 18446744073709551616 - b % 18446744073709551616) % 18446744073709551616

def matchAt (s pat : Bytes) (i : Nat) : Bool := pat.isPrefixOf (s.drop i)

def rfindFrom (s pat : Bytes) : Nat → Nat
  | 0 => if matchAt s pat 0 then 0 else npos
  | i + 1 => if matchAt s pat (i + 1) then i + 1 else rfindFrom s pat i

def rfind (s pat : Bytes) (pos : Nat) : Nat :=
  if pat.length > s.length then npos else rfindFrom s pat (min pos (s.length - pat.length))

def substr (s : Bytes) (pos n : Nat) : Bytes := (s.drop pos).take n

theorem rfindFrom_le_or_npos (s pat : Bytes) (i : Nat) : rfindFrom s pat i ≤ i ∨ rfindFrom s pat i = npos := by
  induction i with
  | zero => simp only [rfindFrom]; split <;> simp
  | succ k ih =>
    simp only [rfindFrom]
    split
    · left; exact Nat.le_refl _
    · cases ih with
      | inl h => left; omega
      | inr h => right; exact h

theorem rfindFrom_eq_self (s pat : Bytes) {m : Nat} (hm : m < npos) : (rfindFrom s pat m == m) = matchAt s pat m := by
  cases m with
  | zero => rw [rfindFrom]; split <;> simp [*, npos]
  | succ k =>
    rw [rfindFrom]; split
    · simp [*]
    · have := rfindFrom_le_or_npos s pat k
      simp [*]; omega

/-- `0 == key.rfind(head, 0)`  ⇔  `key` starts with `head` -/
theorem rfind_zero_iff (s pat : Bytes) : (rfind s pat 0 == 0) = pat.isPrefixOf s := by
  unfold rfind
  split
  · rename_i h
    have hf : pat.isPrefixOf s = false :=
      Bool.eq_false_iff.mpr fun hp => absurd (List.isPrefixOf_iff_prefix.mp hp).length_le (by omega)
    rw [hf]; decide
  · rw [Nat.zero_min, rfindFrom_eq_self s pat (by decide), matchAt, List.drop_zero]

theorem isPrefixOf_drop_iff_suffix (s pat : Bytes) (h : pat.length ≤ s.length) :
    pat.isPrefixOf (s.drop (s.length - pat.length)) = pat.isSuffixOf s := by
  rw [Bool.eq_iff_iff, List.isPrefixOf_iff_prefix, List.isSuffixOf_iff_suffix, List.suffix_iff_eq_drop]
  exact ⟨fun hp => hp.eq_of_length (by simp; omega), fun he => he ▸ List.prefix_rfl⟩

/-- for `tail` not longer than `key` (and `key` shorter than `npos`): `key.size()-tail.size() == key.rfind(tail)`
⇔ `key` ends with `tail` -/
theorem rfind_end_iff (s pat : Bytes) (h : pat.length ≤ s.length) (hs : s.length < npos) :
    (usub s.length pat.length == rfind s pat npos) = pat.isSuffixOf s := by
  have hu : usub s.length pat.length = s.length - pat.length := by
    unfold usub; unfold npos at hs; omega
  have hmin : min npos (s.length - pat.length) = s.length - pat.length := by unfold npos at *; omega
  rw [hu, rfind, if_neg (by omega), hmin, Bool.beq_comm, rfindFrom_eq_self s pat (by omega), matchAt,
    isPrefixOf_drop_iff_suffix s pat h]

/-- `a + b` on `size_t` -/
def uadd (a b : Nat) : Nat := (a + b) % 18446744073709551616

/-- `s.find_first_of(c)` (from position 0): index of the first occurrence of the character, `npos` if none -/
def findFirstOf (s : Bytes) (c : UInt8) : Nat :=
  if s.any (fun x => x == c) then (s.takeWhile (fun x => x != c)).length else npos

theorem take_takeWhile_length (p : UInt8 → Bool) (s : Bytes) : s.take (s.takeWhile p).length = s.takeWhile p :=
  (List.prefix_iff_eq_take.mp (List.takeWhile_prefix p)).symm

theorem drop_takeWhile_length (p : UInt8 → Bool) (s : Bytes) : s.drop (s.takeWhile p).length = s.dropWhile p := by
  have := List.drop_left' (l₁ := s.takeWhile p) (l₂ := s.dropWhile p) rfl
  rwa [List.takeWhile_append_dropWhile] at this

theorem takeWhile_length_lt_of_any (c : UInt8) (s : Bytes) (h : s.any (fun x => x == c) = true) :
    (s.takeWhile (fun x => x != c)).length < s.length := by
  have := List.findIdx_lt_length_of_exists (xs := s) (p := fun a => !(a != c)) (by simpa using h)
  rw [List.takeWhile_eq_take_findIdx_not, List.length_take]; omega

end MpVerif.C11.StdStr
