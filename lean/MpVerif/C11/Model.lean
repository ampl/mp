/-!
# C11 — model of the solver option parser of ampl/mp (lexical layer and numeric recognisers)

Mirrors, function by function, `src/solver.cc`:

* `SkipSpaces`, `SkipNonSpaces`, `SkipToEnd`, `SkipToMatchingQuote`
* `internal::OptionHelper<int|double|std::string>::Parse`

A C string is modelled by the list of its bytes *before* the terminating NUL
(`Bytes`); "the pointer `s`" is a suffix of that list and `*s == 0` is `s = []`.
All functions below only ever inspect the head of the suffix they hold, i.e. a
byte at an index ≤ the index of the NUL (`SkipToMatchingQuote` since ampl/mp 7d345ba, which added
its NUL test).  `MpVerif/C11/ModelPtr.lean` gives the same scanners as pointer machines
over a buffer with explicit read indices and proves the agreement.

`isspace`/`tolower` are the "C" locale ones (the harness never calls `setlocale`).
Core Lean only.
-/
namespace MpVerif.C11

abbrev Bytes := List UInt8

/-! ## character classes ("C" locale) -/

/-- `isspace` in the C locale: space, \t \n \v \f \r. -/
def isSpace (c : UInt8) : Bool := c.toNat == 32 || (9 ≤ c.toNat && c.toNat ≤ 13)

def isDigit (c : UInt8) : Bool := 48 ≤ c.toNat && c.toNat ≤ 57

/-- `tolower` in the C locale. -/
def lower (c : UInt8) : UInt8 :=
  if 65 ≤ c.toNat && c.toNat ≤ 90 then UInt8.ofNat (c.toNat + 32) else c

def isHex (c : UInt8) : Bool :=
  isDigit c || (97 ≤ (lower c).toNat && (lower c).toNat ≤ 102)

/-- characters glibc accepts inside `nan(...)`. -/
def isNanChar (c : UInt8) : Bool :=
  isDigit c || (97 ≤ (lower c).toNat && (lower c).toNat ≤ 122) || c.toNat == 95

/-- `'\''` or `'"'`. -/
def isQuote (c : UInt8) : Bool := c.toNat == 39 || c.toNat == 34

/-- characters of an option name token: `*s && !isspace(*s) && *s != '='`. -/
def isNameChar (c : UInt8) : Bool := !isSpace c && c.toNat != 61

/-! ## the four scanners -/

def skipSpaces (s : Bytes) : Bytes := s.dropWhile isSpace
def skipNonSpaces (s : Bytes) : Bytes := s.dropWhile (fun c => !isSpace c)
def skipToEnd (s : Bytes) : Bytes := s.dropWhile (fun c => c.toNat != 10)

/-- `SkipToMatchingQuote(s)` for `s = q :: r` (`q` a quote character) together with what
`OptionHelper<std::string>::Parse` makes of it (ampl/mp 7d345ba): the scan
`while (*s && *s != quote) ++s;` stops at the closing quote or at the terminating NUL; the value
is the text in between; the closing quote, if there is one, is skipped. -/
def skipToMatchingQuote (q : UInt8) (r : Bytes) : Bytes × Bytes :=
  (r.takeWhile (fun c => c != q), (r.dropWhile (fun c => c != q)).drop 1)

/-! ## integer values: `strtol(s, &end, 10)` then `long → int` -/

def digitVal (c : UInt8) : Nat := c.toNat - 48

/-- value of a decimal digit string, most significant first. -/
def digitsVal (ds : Bytes) : Nat := ds.foldl (fun a d => 10 * a + digitVal d) 0

def LONG_MAX : Int := 9223372036854775807
def LONG_MIN : Int := -9223372036854775808

/-- `strtol` saturates at `LONG_MIN`/`LONG_MAX` (errno is not inspected by the caller). -/
def clampLong (v : Int) : Int := if v < LONG_MIN then LONG_MIN else if v > LONG_MAX then LONG_MAX else v

/-- conversion `long → int` as g++/clang do it (modular). -/
def wrap32 (v : Int) : Int := (v + 2147483648) % 4294967296 - 2147483648

/-- an optional `+`/`-` is skipped. -/
def stripSign (t : Bytes) : Bytes :=
  match t with
  | c :: r => if c.toNat == 45 || c.toNat == 43 then r else t
  | [] => t

def startsNeg (t : Bytes) : Bool :=
  match t with
  | c :: _ => c.toNat == 45
  | [] => false

/-- `OptionHelper<int>::Parse`: value stored and the new `s`.  When no digits are
found `strtol` sets `end = s` (nothing consumed, not even blanks or the sign) and
returns 0. -/
def parseInt (s : Bytes) : Int × Bytes :=
  let t := skipSpaces s
  let u := stripSign t
  let ds := u.takeWhile isDigit
  if ds.isEmpty then (0, s)
  else
    let n : Int := (digitsVal ds : Nat)
    (wrap32 (clampLong (if startsNeg t then -n else n)), u.dropWhile isDigit)

/-! ## real values: the extent `strtod` consumes (glibc, C locale)

The numeric value is delegated to libc: the model carries the consumed text. -/

/-- optional exponent `[eE][+-]?digits+` (marker `101`) or `[pP][+-]?digits+` (marker `112`);
if it is malformed nothing of it is consumed. -/
def skipExp (marker : UInt8) (s : Bytes) : Bytes :=
  match s with
  | [] => s
  | c :: r =>
    if lower c == marker then
      let r' := stripSign r
      if (r'.takeWhile isDigit).isEmpty then s else r'.dropWhile isDigit
    else s

/-- mantissa `D+ [. D*] | . D+` followed by an optional exponent; `none` if there is no digit. -/
def mantExtent (isD : UInt8 → Bool) (marker : UInt8) (u : Bytes) : Option Bytes :=
  let ip := u.takeWhile isD
  let r1 := u.dropWhile isD
  match r1 with
  | c :: r2 =>
    if c.toNat == 46 then
      if ip.isEmpty && (r2.takeWhile isD).isEmpty then none
      else some (skipExp marker (r2.dropWhile isD))
    else if ip.isEmpty then none else some (skipExp marker r1)
  | [] => if ip.isEmpty then none else some r1

/-- case-insensitive prefix test against a lower-case pattern; returns the rest. -/
def ciStrip : (pat : Bytes) → (s : Bytes) → Option Bytes
  | [], s => some s
  | _ :: _, [] => none
  | p :: ps, c :: r => if lower c == p then ciStrip ps r else none

/-- `inf`, `infinity`, `nan`, `nan(n-char-seq)` (any case). -/
def specialExtent (u : Bytes) : Option Bytes :=
  match ciStrip [105, 110, 102] u with
  | some r =>
    match ciStrip [105, 110, 105, 116, 121] r with
    | some r' => some r'
    | none => some r
  | none =>
    match ciStrip [110, 97, 110] u with
    | some r =>
      match r with
      | c :: r1 =>
        if c.toNat == 40 then
          match r1.dropWhile isNanChar with
          | d :: r2 => if d.toNat == 41 then some r2 else some r
          | [] => some r
        else some r
      | [] => some r
    | none => none

/-- hexadecimal floating literal `0[xX]` mantissa `[pP]` exponent. -/
def hexExtent (u : Bytes) : Option Bytes :=
  match u with
  | z :: x :: r => if z.toNat == 48 && (lower x).toNat == 120 then mantExtent isHex 112 r else none
  | _ => none

/-- The end pointer of `strtod(s, &end)`: `s` itself if no conversion is performed. -/
def strtodRest (s : Bytes) : Bytes :=
  let u := stripSign (skipSpaces s)
  match specialExtent u with
  | some r => r
  | none =>
    match hexExtent u with
    | some r => r
    | none =>
      match mantExtent isDigit 101 u with
      | some r => r
      | none => s

/-- `OptionHelper<double>::Parse`: consumed text (whose `strtod` value is stored) and new `s`. -/
def parseDbl (s : Bytes) : Bytes × Bytes :=
  let r := strtodRest s
  (s.take (s.length - r.length), r)

/-! ## string values -/

/-- `OptionHelper<std::string>::Parse`: value and new `s`. -/
def parseStrVal (splitString : Bool) (s : Bytes) : Bytes × Bytes :=
  if splitString then (s.takeWhile (fun c => c.toNat != 10), skipToEnd s)
  else
    match s with
    | c :: r =>
      if isQuote c then skipToMatchingQuote c r
      else (s.takeWhile (fun c => !isSpace c), skipNonSpaces s)
    | [] => ([], [])

theorem dropWhile_length_le (p : UInt8 → Bool) (s : Bytes) : (s.dropWhile p).length ≤ s.length :=
  (List.dropWhile_suffix p).length_le

theorem skipSpaces_length_le (s : Bytes) : (skipSpaces s).length ≤ s.length := dropWhile_length_le _ s
theorem skipNonSpaces_length_le (s : Bytes) : (skipNonSpaces s).length ≤ s.length := dropWhile_length_le _ s
theorem skipToEnd_length_le (s : Bytes) : (skipToEnd s).length ≤ s.length := dropWhile_length_le _ s

theorem stripSign_length_le (t : Bytes) : (stripSign t).length ≤ t.length := by
  unfold stripSign
  split
  · split <;> simp
  · simp

theorem skipToMatchingQuote_length_le (q : UInt8) (r : Bytes) : (skipToMatchingQuote q r).2.length ≤ r.length := by
  unfold skipToMatchingQuote
  have := dropWhile_length_le (fun c => c != q) r
  simp; omega

theorem parseInt_length_le (s : Bytes) : (parseInt s).2.length ≤ s.length := by
  unfold parseInt
  simp only
  split
  · simp
  · simp only
    have h1 := skipSpaces_length_le s
    have h2 := stripSign_length_le (skipSpaces s)
    have h3 := dropWhile_length_le isDigit (stripSign (skipSpaces s))
    omega

theorem skipExp_length_le (m : UInt8) (s : Bytes) : (skipExp m s).length ≤ s.length := by
  unfold skipExp
  split
  · simp
  · rename_i c r
    split
    · simp only
      split
      · simp
      · have h2 := stripSign_length_le r
        have h3 := dropWhile_length_le isDigit (stripSign r)
        simp; omega
    · simp

theorem mantExtent_length_le {isD : UInt8 → Bool} {m : UInt8} {u r : Bytes}
    (h : mantExtent isD m u = some r) : r.length ≤ u.length := by
  unfold mantExtent at h
  simp only at h
  have h1 := dropWhile_length_le isD u
  have h2 := skipExp_length_le m (u.dropWhile isD)
  split at h
  · rename_i c r2 heq
    have h0 := h1
    rw [heq] at h1
    have h3 := dropWhile_length_le isD r2
    have h4 := skipExp_length_le m (r2.dropWhile isD)
    simp only [List.length_cons] at h1
    split at h <;> split at h <;> simp at h <;> subst h <;> omega
  · split at h <;> simp at h
    subst h; omega

theorem ciStrip_length_le {p s r : Bytes} (h : ciStrip p s = some r) : r.length ≤ s.length := by
  induction p generalizing s with
  | nil => simp [ciStrip] at h; subst h; omega
  | cons a ps ih =>
    cases s with
    | nil => simp [ciStrip] at h
    | cons c t =>
      simp only [ciStrip] at h
      split at h
      · have := ih h; simp; omega
      · simp at h

theorem specialExtent_length_le {u r : Bytes} (h : specialExtent u = some r) : r.length ≤ u.length := by
  unfold specialExtent at h
  split at h
  · rename_i r0 h0
    have l0 := ciStrip_length_le h0
    split at h
    · rename_i r1 h1
      have l1 := ciStrip_length_le h1
      simp at h; subst h; omega
    · simp at h; subst h; omega
  · split at h
    · rename_i r0 h0
      have l0 := ciStrip_length_le h0
      split at h
      · rename_i c r1
        split at h
        · split at h
          · rename_i d r2 hd
            have l2 := dropWhile_length_le isNanChar r1
            rw [hd] at l2
            split at h <;> simp at h <;> subst h <;> simp at l2 l0 ⊢ <;> omega
          · simp at h; subst h; omega
        · simp at h; subst h; omega
      · simp at h; subst h; omega
    · simp at h

theorem hexExtent_length_le {u r : Bytes} (h : hexExtent u = some r) : r.length ≤ u.length := by
  unfold hexExtent at h
  split at h
  · split at h
    · have := mantExtent_length_le h; simp; omega
    · simp at h
  · simp at h

theorem strtodRest_length_le (s : Bytes) : (strtodRest s).length ≤ s.length := by
  unfold strtodRest
  simp only
  have h1 := skipSpaces_length_le s
  have h2 := stripSign_length_le (skipSpaces s)
  split
  · rename_i r h; have := specialExtent_length_le h; omega
  · split
    · rename_i r h; have := hexExtent_length_le h; omega
    · split
      · rename_i r h; have := mantExtent_length_le h; omega
      · omega

theorem parseDbl_length_le (s : Bytes) : (parseDbl s).2.length ≤ s.length := strtodRest_length_le s

theorem parseStrVal_length_le (b : Bool) (s : Bytes) : (parseStrVal b s).2.length ≤ s.length := by
  unfold parseStrVal
  split
  · exact skipToEnd_length_le s
  · split
    · rename_i c r0
      split
      · have := skipToMatchingQuote_length_le c r0; simp; omega
      · exact skipNonSpaces_length_le _
    · simp

end MpVerif.C11
