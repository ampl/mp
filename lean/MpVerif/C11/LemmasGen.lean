import MpVerif.C11.Model
import MpVerif.C11.CLib
import MpVerif.Basic.CSemLemmas
/-! # C11 — when a generated byte condition is true

A generated condition is an `Int`-valued C expression over the `char` values read; a loop or branch is taken when it is
`≠ 0`.  The lemmas below say when the translator's `&&`, `||` are non-zero and what a comparison of `charVal c` means for the
byte `c`; the other operators are truth values (`Basic/CSemLemmas`).  With them `simp` turns `cond (charVal c) ≠ 0` into the
model's byte class. -/
namespace MpVerif.C11
open MpVerif.CSem MpVerif.C11.CLib

@[simp] theorem band_ne_zero {a b : Int} : band a b ≠ 0 ↔ a ≠ 0 ∧ b ≠ 0 := by
  unfold band; split <;> simp_all
@[simp] theorem bor_ne_zero {a b : Int} : bor a b ≠ 0 ↔ a ≠ 0 ∨ b ≠ 0 := by
  unfold bor; split <;> simp_all
@[simp] theorem charVal_inj {a b : UInt8} : charVal a = charVal b ↔ a = b := by
  refine ⟨fun h => UInt8.toNat_inj.mp ?_, fun h => by rw [h]⟩
  have ha := a.toNat_lt
  have hb := b.toNat_lt
  unfold charVal at h
  split at h <;> split at h <;> omega

@[simp] theorem charVal_zero {a : UInt8} : charVal a = 0 ↔ a = 0 := charVal_inj (b := 0)

/-- comparison with an ASCII character literal -/
@[simp] theorem charVal_eq_lit {c : UInt8} {v : Int} (h0 : 0 < v) (h1 : v < 128) : charVal c = v ↔ c.toNat = v.toNat := by
  have := c.toNat_lt
  unfold charVal; split <;> omega

@[simp] theorem cIsspace_charVal_eq_zero {c : UInt8} : cIsspace (charVal c) = 0 ↔ isSpace c = false := by
  have := c.toNat_lt
  unfold cIsspace charVal isSpace; split <;> split <;> simp <;> omega

end MpVerif.C11
