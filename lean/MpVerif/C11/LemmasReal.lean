import MpVerif.C11.LemmasVal
/-! # C11 — `strtod`'s extent on a well-formed decimal literal is exactly the literal -/
namespace MpVerif.C11

/-- without integer digits there is a dot (and fraction digits after it) -/
theorem RealLit.WF.dot_of_ip_nil {l : RealLit} (hl : l.WF) (h : l.ip = []) : l.dot = true := by
  obtain ⟨_, _, hdf, hne, _⟩ := hl
  cases hd : l.dot with
  | true => rfl
  | false => exact absurd (hdf hd) (hne.resolve_left (fun h' => h' h))

/-- the mantissa starts with a digit or the dot -/
theorem RealLit.mant_head {l : RealLit} (hl : l.WF) : ∃ c r, l.mant = c :: r ∧ (isDigit c = true ∨ c = 46) := by
  unfold RealLit.mant
  cases hipc : l.ip with
  | cons d t => exact ⟨d, _, rfl, Or.inl (hl.1 d (by simp [hipc]))⟩
  | nil => exact ⟨46, l.fp ++ expBytes l.exp, by simp [hl.dot_of_ip_nil hipc], Or.inr rfl⟩

/-- the exponent marker is a letter other than `x` -/
theorem expMarker_facts {e : UInt8} (he : e = 101 ∨ e = 69) :
    (lower e == 101) = true ∧ isDigit e = false ∧ (e.toNat == 46) = false ∧ ((lower e).toNat == 120) = false := by
  rcases he with rfl | rfl <;> decide

theorem lower_of_lt {c : UInt8} (h : c.toNat < 65) : lower c = c := by
  simp [lower, Nat.not_le.mpr h]

theorem lower_digit {c : UInt8} (h : isDigit c = true) : lower c = c :=
  lower_of_lt (by simp [isDigit] at h; omega)

theorem lower_space {c : UInt8} (h : isSpace c = true) : lower c = c :=
  lower_of_lt (by simp [isSpace] at h; omega)

theorem skipExp_endsToken {tail : Bytes} (ht : EndsToken tail) : skipExp 101 tail = tail := by
  cases tail with
  | nil => rfl
  | cons c r =>
    have hs := ht.head
    have hl := lower_space hs
    have : (c == 101) = false := by
      cases hc : c == 101 with
      | false => rfl
      | true => have := eq_of_beq hc; subst this; simp [isSpace] at hs
    simp [skipExp, hl, this]

theorem skipExp_exp {x : Option (UInt8 × Option Bool × Bytes)} (hx : ExpWF x) {tail : Bytes} (ht : EndsToken tail) :
    skipExp 101 (expBytes x ++ tail) = tail := by
  match x with
  | none => simpa [expBytes] using skipExp_endsToken ht
  | some (e, sg, ed) =>
    obtain ⟨he, hne, hd⟩ := hx
    obtain ⟨h1, _, _⟩ := stripSign_sign_digits sg (tail := tail) hne hd
    simp only [expBytes, List.cons_append, skipExp, (expMarker_facts he).1, if_true]
    rw [h1, takeWhile_append_stop hd ht.stopsDigit, dropWhile_append_stop hd ht.stopsDigit]
    simp [isEmpty_false_of_ne hne]

/-- the first byte after the integer part never turns `0` into a hexadecimal prefix -/
def HeadNotX (r : Bytes) : Prop :=
  match r with
  | [] => True
  | x :: _ => ((lower x).toNat == 120) = false

/-- the text does not begin with `0x` / `0X`, so it is not read as a hexadecimal float -/
def SecondOk (m : Bytes) : Prop :=
  match m with
  | z :: x :: _ => (z.toNat == 48 && (lower x).toNat == 120) = false
  | _ => True

theorem hexExtent_none {m : Bytes} (h : SecondOk m) : hexExtent m = none := by
  unfold hexExtent
  split
  · rename_i z x r
    simp only [SecondOk] at h
    simp [h]
  · rfl

/-- what follows the fraction — the exponent marker, or the blank that ends the token — is no digit, no dot and no `x` -/
theorem expTail_stops {x : Option (UInt8 × Option Bool × Bytes)} (hx : ExpWF x) {tail : Bytes} (ht : EndsToken tail) :
    StopsAt isDigit (expBytes x ++ tail) ∧ StopsAt (fun c => c.toNat == 46) (expBytes x ++ tail) ∧
      HeadNotX (expBytes x ++ tail) := by
  match x, tail with
  | some (e, sg, ed), _ => exact (expMarker_facts hx.1).2
  | none, [] => exact ⟨trivial, trivial, trivial⟩
  | none, c :: r =>
    have hs := ht.head
    refine ⟨isSpace_not_digit hs, ?_⟩
    simp only [expBytes, List.nil_append, StopsAt, HeadNotX, lower_space hs]
    simp [isSpace] at hs
    simp; omega

theorem headNotX_rest (l : RealLit) (hl : l.WF) {tail : Bytes} (ht : EndsToken tail) :
    HeadNotX (((if l.dot then 46 :: l.fp else []) ++ expBytes l.exp) ++ tail) := by
  cases hdot : l.dot with
  | true => simp [HeadNotX]; decide
  | false => simpa using (expTail_stops hl.2.2.2.2 ht).2.2

theorem secondOk_mant {ip r : Bytes} (hip : AllDigits ip) (hr : HeadNotX r) (h0 : ip = [] → ∃ t, r = 46 :: t) :
    SecondOk (ip ++ r) := by
  match ip with
  | [] =>
    obtain ⟨t, ht⟩ := h0 rfl
    subst ht
    cases t with
    | nil => trivial
    | cons x t' => simp [SecondOk]
  | [d] =>
    cases r with
    | nil => trivial
    | cons x t => simp only [HeadNotX] at hr; simp [SecondOk, hr]
  | d :: d2 :: t =>
    have h2 := hip d2 (by simp)
    have hl := lower_digit h2
    simp [isDigit] at h2
    simp only [List.cons_append, SecondOk, hl]
    simp; omega

theorem ciStrip_head_none {p c : UInt8} {ps r : Bytes} (h : (lower c == p) = false) : ciStrip (p :: ps) (c :: r) = none := by
  simp [ciStrip, h]

theorem specialExtent_none {c : UInt8} {r : Bytes} (h1 : (lower c == 105) = false) (h2 : (lower c == 110) = false) :
    specialExtent (c :: r) = none := by
  unfold specialExtent
  rw [ciStrip_head_none h1, ciStrip_head_none h2]

theorem digit_or_dot_facts {c : UInt8} (h : isDigit c = true ∨ c = 46) :
    isSpace c = false ∧ (c.toNat == 45 || c.toNat == 43) = false ∧ (lower c == 105) = false ∧ (lower c == 110) = false := by
  rcases h with h | rfl
  · rw [lower_digit h]
    refine ⟨isDigit_not_space h, isDigit_not_sign h, ?_, ?_⟩ <;>
      exact beq_false_of_ne (fun hc => by subst hc; simp [isDigit] at h)
  · decide

theorem mantExtent_digits {p : UInt8 → Bool} {m : UInt8} {ip r : Bytes} (hip : ∀ c ∈ ip, p c = true) (hne : ip ≠ [])
    (hr : StopsAt p r) (h46 : StopsAt (fun c => c.toNat == 46) r) : mantExtent p m (ip ++ r) = some (skipExp m r) := by
  have he := isEmpty_false_of_ne hne
  unfold mantExtent
  rw [takeWhile_append_stop hip hr, dropWhile_append_stop hip hr]
  cases r with
  | nil => simp [he, skipExp]
  | cons c t => simp only [StopsAt] at h46; simp [h46, he]

theorem mantExtent_dot {p : UInt8 → Bool} {m : UInt8} {ip fp r : Bytes} (hip : ∀ c ∈ ip, p c = true)
    (hfp : ∀ c ∈ fp, p c = true) (hne : ip ≠ [] ∨ fp ≠ []) (hp : p 46 = false) (hr : StopsAt p r) :
    mantExtent p m (ip ++ 46 :: (fp ++ r)) = some (skipExp m r) := by
  have hstop : StopsAt p (46 :: (fp ++ r)) := hp
  have he : (ip.isEmpty && fp.isEmpty) = false := by rcases hne with h | h <;> simp [h]
  have h46 : ((46 : UInt8).toNat == 46) = true := by decide
  unfold mantExtent
  rw [takeWhile_append_stop hip hstop, dropWhile_append_stop hip hstop]
  simp only [h46, if_true, takeWhile_append_stop hfp hr, dropWhile_append_stop hfp hr, he, Bool.false_eq_true, if_false]

theorem mantExtent_lit (l : RealLit) (hl : l.WF) {tail : Bytes} (ht : EndsToken tail) :
    mantExtent isDigit 101 (l.mant ++ tail) = some tail := by
  obtain ⟨hip, hfp, hdf, hne, hx⟩ := hl
  obtain ⟨hXstop, hX46, _⟩ := expTail_stops hx ht
  unfold RealLit.mant
  cases hdot : l.dot with
  | true =>
    simp only [if_true, List.cons_append, List.append_assoc]
    rw [mantExtent_dot hip hfp hne (by decide) hXstop, skipExp_exp hx ht]
  | false =>
    simp only [Bool.false_eq_true, if_false, List.nil_append, List.append_assoc]
    rw [mantExtent_digits hip (hne.resolve_right (fun h => h (hdf hdot))) hXstop hX46, skipExp_exp hx ht]

theorem strtodRest_lit (l : RealLit) (hl : l.WF) {tail : Bytes} (ht : EndsToken tail) :
    strtodRest (l.render ++ tail) = tail := by
  obtain ⟨c, r, hcr, hc⟩ : ∃ c r, l.mant ++ tail = c :: r ∧ (isDigit c = true ∨ c = 46) := by
    obtain ⟨c, r, hcr, hc⟩ := RealLit.mant_head hl
    exact ⟨c, r ++ tail, by rw [hcr]; rfl, hc⟩
  obtain ⟨hcs, hcsign, hi, hn⟩ := digit_or_dot_facts hc
  have hstrip : stripSign (skipSpaces (l.render ++ tail)) = l.mant ++ tail := by
    obtain ⟨h1, _, h3⟩ := stripSign_sign_head l.sign r hcs hcsign
    rw [RealLit.render, List.append_assoc, hcr, skipSpaces_stop h3, h1]
  unfold strtodRest
  simp only [hstrip]
  have hsp : specialExtent (l.mant ++ tail) = none := by rw [hcr]; exact specialExtent_none hi hn
  have hhx : hexExtent (l.mant ++ tail) = none := by
    apply hexExtent_none
    unfold RealLit.mant
    rw [List.append_assoc]
    exact secondOk_mant hl.1 (headNotX_rest l hl ht) (fun hip0 => ⟨_, by simp [hl.dot_of_ip_nil hip0]; rfl⟩)
  rw [hsp, hhx, mantExtent_lit l hl ht]

theorem parseDbl_lit (l : RealLit) (hl : l.WF) {tail : Bytes} (ht : EndsToken tail) :
    parseDbl (l.render ++ tail) = (l.render, tail) := by
  unfold parseDbl
  simp only [strtodRest_lit l hl ht]
  simp

end MpVerif.C11
