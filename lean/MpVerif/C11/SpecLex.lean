import MpVerif.C11.Model
/-! # C11 — what an option string is written with: blanks, where a scan stops, separators, key tokens, integer and
decimal real literals (definitions only; `Spec.lean` builds the items from them) -/
namespace MpVerif.C11

def Blank (w : Bytes) : Prop := ∀ c ∈ w, isSpace c = true

instance (w : Bytes) : Decidable (Blank w) := by unfold Blank; infer_instance

/-- `b` is empty (the NUL follows) or starts with a byte on which `p` is false:
a scan `while (*s && p(*s)) ++s` stops at `b`. -/
def StopsAt (p : UInt8 → Bool) (b : Bytes) : Prop :=
  match b with
  | [] => True
  | c :: _ => p c = false

/-- `b` is empty or starts with a blank: the text of a value ends here. -/
def EndsToken (b : Bytes) : Prop := StopsAt (fun c => !isSpace c) b

/-- the text that follows an item: empty, or the next item's key (a name character, not `?`) -/
def StartsItem (n : Bytes) : Prop :=
  match n with
  | [] => True
  | c :: _ => isNameChar c = true ∧ c.toNat ≠ 63

/-! ## the header of an item: blanks, key, blanks, optional `=`, blanks -/

/-- separator between key and value -/
structure Sep where
  pre : Bytes
  eq : Bool
  post : Bytes

def Sep.render (p : Sep) : Bytes := p.pre ++ (if p.eq then 61 :: p.post else [])

def Sep.WF (p : Sep) : Prop := Blank p.pre ∧ Blank p.post

/-- a key token: non-empty, no blank, no `=` -/
def KeyOk (key : Bytes) : Prop := key ≠ [] ∧ ∀ c ∈ key, isNameChar c = true

/-- what follows the separator does not start with a blank, and without `=` not with `=`;
if the separator is empty the string ends. -/
def RestOk (p : Sep) (rest : Bytes) : Prop :=
  StopsAt isSpace rest ∧ (p.eq = false → StopsAt (fun c => c.toNat == 61) rest ∧ (p.pre = [] → rest = []))

/-- optional sign: `none`, `some false` = `+`, `some true` = `-` -/
def signBytes : Option Bool → Bytes
  | none => []
  | some true => [45]
  | some false => [43]

def AllDigits (ds : Bytes) : Prop := ∀ c ∈ ds, isDigit c = true

structure IntLit where
  sign : Option Bool
  ds : Bytes

def IntLit.render (l : IntLit) : Bytes := signBytes l.sign ++ l.ds
def IntLit.WF (l : IntLit) : Prop := l.ds ≠ [] ∧ AllDigits l.ds
def IntLit.value (l : IntLit) : Int := if l.sign = some true then -(digitsVal l.ds : Nat) else (digitsVal l.ds : Nat)

def digitChar (k : Nat) : UInt8 := UInt8.ofNat (48 + k)

def natDigits (n : Nat) : Bytes :=
  if h : n < 10 then [digitChar n] else natDigits (n / 10) ++ [digitChar (n % 10)]
termination_by n
decreasing_by omega

/-- the usual decimal rendering of an `Int` -/
def intLitOf (v : Int) : IntLit := { sign := if v < 0 then some true else none, ds := natDigits v.natAbs }

structure RealLit where
  sign : Option Bool
  ip : Bytes                                 -- integer part digits
  dot : Bool
  fp : Bytes                                 -- fraction digits (only if `dot`)
  exp : Option (UInt8 × Option Bool × Bytes) -- `e`/`E`, sign, digits

def expBytes : Option (UInt8 × Option Bool × Bytes) → Bytes
  | none => []
  | some (e, sg, ed) => e :: (signBytes sg ++ ed)

def RealLit.mant (l : RealLit) : Bytes := l.ip ++ ((if l.dot then 46 :: l.fp else []) ++ expBytes l.exp)

def RealLit.render (l : RealLit) : Bytes := signBytes l.sign ++ l.mant

def ExpWF : Option (UInt8 × Option Bool × Bytes) → Prop
  | none => True
  | some (e, _, ed) => (e = 101 ∨ e = 69) ∧ ed ≠ [] ∧ AllDigits ed

def RealLit.WF (l : RealLit) : Prop :=
  AllDigits l.ip ∧ AllDigits l.fp ∧ (l.dot = false → l.fp = []) ∧ (l.ip ≠ [] ∨ l.fp ≠ []) ∧ ExpWF l.exp

end MpVerif.C11
