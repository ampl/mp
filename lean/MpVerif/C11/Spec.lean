import MpVerif.C11.ModelParse
import MpVerif.C11.SpecLex
/-! # C11 — specification side: well-formed items, their text, and what they mean -/
namespace MpVerif.C11

/-- the value part of an assignment, as written -/
inductive Lit
  | int (l : IntLit)
  | real (l : RealLit)
  | quoted (q : UInt8) (body : Bytes)   -- 'body' or "body"       (environment variables)
  | bare (body : Bytes)                 -- a blank-free token      (environment variables)
  | raw (body : Bytes)                  -- rest of the argv element (command line)
  | flagOn                              -- a flag takes no value

def Lit.render : Lit → Bytes
  | .int l => l.render
  | .real l => l.render
  | .quoted q b => q :: (b ++ [q])
  | .bare b => b
  | .raw b => b
  | .flagOn => []

def Lit.kind : Lit → Kind
  | .int _ => .int
  | .real _ => .dbl
  | .quoted _ _ => .str
  | .bare _ => .str
  | .raw _ => .str
  | .flagOn => .flag

/-- the value the assignment denotes (a real is denoted by its text: libc converts it) -/
def Lit.val : Lit → Val
  | .int l => .int l.value
  | .real l => .dbl l.render
  | .quoted _ b => .str b
  | .bare b => .str b
  | .raw b => .str b
  | .flagOn => .flag true

def HeadIs (p : UInt8 → Bool) (b : Bytes) : Prop :=
  match b with
  | [] => False
  | c :: _ => p c = true

/-- well-formedness of the written value; `cmdLine`: FROM_COMMAND_LINE, `eq`: written with `=` -/
def Lit.WF (cmdLine eq : Bool) : Lit → Prop
  | .int l => l.WF ∧ -2147483648 ≤ l.value ∧ l.value ≤ 2147483647
  | .real l => l.WF
  | .quoted q b => cmdLine = false ∧ isQuote q = true ∧ ∀ c ∈ b, c ≠ q
  | .bare b => cmdLine = false ∧ b ≠ [] ∧ (∀ c ∈ b, isSpace c = false) ∧
      (∀ c r, b = c :: r → isQuote c = false) ∧ b ≠ [63] ∧ (eq = false → ∀ c r, b = c :: r → c.toNat ≠ 61)
  | .raw b => cmdLine = true ∧ (∀ c ∈ b, c.toNat ≠ 10) ∧
      HeadIs (fun c => !isSpace c && c.toNat != 63 && (eq || c.toNat != 61)) b
  | .flagOn => True

inductive Item
  | assign (key : Bytes) (sep : Sep) (lit : Lit)       -- key [=] value     /  flag
  | query (key : Bytes) (sep : Sep)                    -- key [=] ?
  | unknown (key : Bytes) (pre : Bytes) (eq : Bool)    -- an unknown key, optionally followed by `=`
  | flagArg (key : Bytes) (pre post junk : Bytes)      -- flag = junk

def Item.render : Item → Bytes
  | .assign key sep lit => key ++ (sep.render ++ lit.render)
  | .query key sep => key ++ (sep.render ++ [63])
  | .unknown key pre eq => key ++ (pre ++ (if eq then [61] else []))
  | .flagArg key pre post junk => key ++ (pre ++ 61 :: (post ++ junk))

def Item.key : Item → Bytes
  | .assign key _ _ => key
  | .query key _ => key
  | .unknown key _ _ => key
  | .flagArg key _ _ _ => key

/-- the key token does not start with `?` (which would read as a query on a preceding flag) -/
def KeyOk' (key : Bytes) : Prop := KeyOk key ∧ ∀ c r, key = c :: r → c.toNat ≠ 63

def Item.WF (cfg : Cfg) : Item → Prop
  | .assign key sep lit =>
      KeyOk' key ∧ sep.WF ∧
      (∃ d ob, lookup cfg.table key = some (d, ob) ∧ d.kind = lit.kind ∧
        (∀ l, lit = .int l → intChkOk d.chk l.value = true)) ∧
      lit.WF cfg.cmdLine sep.eq ∧
      (lit = .flagOn → sep.pre = [] ∧ sep.eq = false) ∧
      (lit ≠ .flagOn → sep.eq = false → sep.pre ≠ [])
  | .query key sep =>
      KeyOk' key ∧ sep.WF ∧ (∃ r, lookup cfg.table key = some r) ∧ (sep.eq = false → sep.pre ≠ [])
  | .unknown key pre _ => KeyOk' key ∧ Blank pre ∧ lookup cfg.table key = none
  | .flagArg key pre post junk =>
      KeyOk' key ∧ Blank pre ∧ Blank post ∧
      (∃ d ob, lookup cfg.table key = some (d, ob) ∧ d.kind = .flag) ∧
      junk ≠ [] ∧ (∀ c ∈ junk, isSpace c = false) ∧ junk ≠ [63]

def addErr (e : Err) (st : St) : St := { st with errs := e :: st.errs }

/-- the meaning of one item: no lexing involved -/
def applyItem (cfg : Cfg) (it : Item) (st : St) : St :=
  match it with
  | .assign key _ lit =>
    match findOption cfg.table key st with
    | some (d, st1) => doEcho cfg.noEcho d (st1.modify d.id (setValue d lit.val))
    | none => st
  | .query key _ =>
    match findOption cfg.table key st with
    | some (d, st1) => doEcho cfg.noEcho d st1
    | none => st
  | .unknown key _ _ => addErr (.unknown key) st
  | .flagArg key _ _ _ =>
    match findOption cfg.table key st with
    | some (_, st1) => addErr (.flagArg key) st1
    | none => st

def applyAll (cfg : Cfg) (items : List (Item × Bytes)) (st : St) : St :=
  items.foldl (fun s it => applyItem cfg it.1 s) st

/-- the text: every item followed by its trailing blanks -/
def renderAll : List (Item × Bytes) → Bytes
  | [] => []
  | (it, trail) :: rest => it.render ++ (trail ++ renderAll rest)

/-- items that are reported as errors (unknown key, value given to a flag) -/
def isErrItem : Item → Bool
  | .unknown _ _ _ => true
  | .flagArg _ _ _ _ => true
  | _ => false

def isRawAssign : Item → Bool
  | .assign _ _ (.raw _) => true
  | _ => false

/-- items are separated by at least one blank; after a command-line string value the element
ends (or a newline follows). -/
def ItemsWF (cfg : Cfg) : List (Item × Bytes) → Prop
  | [] => True
  | (it, trail) :: rest =>
    it.WF cfg ∧ Blank trail ∧ (rest ≠ [] → trail ≠ []) ∧
    (isRawAssign it = true → StopsAt (fun c => c.toNat != 10) trail ∧ (trail = [] → rest = [])) ∧
    ItemsWF cfg rest

end MpVerif.C11
