import MpVerif.C11.Spec
import MpVerif.C11.LemmasReal
/-! # C11 — one loop iteration on each kind of well-formed item -/
namespace MpVerif.C11

theorem parseStr_eq (cfg : Cfg) (s : Bytes) (st : St) :
    parseStr cfg s st =
      match step cfg s st with
      | .done => (.ok, st)
      | .cont s' st' => parseStr cfg s' st'
      | .stop o st' => (o, st') := by
  rw [parseStr]; split <;> simp [*]

theorem parseStr_cont {cfg : Cfg} {s s' : Bytes} {st st' : St} (h : step cfg s st = .cont s' st') :
    parseStr cfg s st = parseStr cfg s' st' := by rw [parseStr_eq, h]

theorem parseStr_done {cfg : Cfg} {s : Bytes} {st : St} (h : step cfg s st = .done) :
    parseStr cfg s st = (.ok, st) := by rw [parseStr_eq, h]

theorem parseStr_stop {cfg : Cfg} {s : Bytes} {st st' : St} {o : Outcome} (h : step cfg s st = .stop o st') :
    parseStr cfg s st = (o, st') := by rw [parseStr_eq, h]

theorem step_blank_done (cfg : Cfg) (st : St) {w : Bytes} (hw : Blank w) : step cfg w st = .done := by
  have : skipSpaces w = [] := by simpa using skipSpaces_blank_append (r := []) hw trivial
  simp [step, this]

theorem StartsItem.stopsSpace {n : Bytes} (h : StartsItem n) : StopsAt isSpace n := by
  cases n with
  | nil => trivial
  | cons c r => simp [StartsItem, isNameChar] at h; simp [StopsAt, h.1.1]

theorem StartsItem.stopsEq {n : Bytes} (h : StartsItem n) : StopsAt (fun c => c.toNat == 61) n := by
  cases n with
  | nil => trivial
  | cons c r => simp [StartsItem, isNameChar] at h; simp [StopsAt, h.1.2]

theorem StartsItem.notQuery {n : Bytes} (h : StartsItem n) : isQuery n = false := by
  cases n with
  | nil => rfl
  | cons c r => simp [StartsItem] at h; simp [isQuery, h.2]

theorem isQuery_of_head {c : UInt8} {r : Bytes} (h : c.toNat ≠ 63) : isQuery (c :: r) = false := by
  simp [isQuery, h]

theorem reportError_eq (cfg : Cfg) (e : Err) (s : Bytes) (st : St) :
    reportError cfg e s st =
      if cfg.throwing then .stop .threwError (addErr e st) else .cont s (addErr e st) := rfl

/-- a blank-free token other than `?` does not read as a query, whatever follows it -/
theorem isQuery_token {b : Bytes} (hne : b ≠ []) (hb : ∀ c ∈ b, isSpace c = false) (h63 : b ≠ [63]) (K : Bytes) :
    isQuery (b ++ K) = false := by
  match b with
  | [] => exact absurd rfl hne
  | [c] =>
    have : c.toNat ≠ 63 := fun h => h63 (by rw [show c = 63 from UInt8.toNat_inj.mp h])
    simp [isQuery, this]
  | c :: d :: t => simp [isQuery, hb d (by simp)]

/-- the text after the separator starts a value -/
structure ValStart (eq : Bool) (rest : Bytes) : Prop where
  noSpace : StopsAt isSpace rest
  noEq : eq = false → StopsAt (fun c => c.toNat == 61) rest
  noQuery : isQuery rest = false

theorem ValStart.head {c : UInt8} {r : Bytes} {eq : Bool}
    (h1 : isSpace c = false) (h2 : isQuery (c :: r) = false) (h3 : eq = false → c.toNat ≠ 61) : ValStart eq (c :: r) :=
  ⟨h1, fun he => by simp [StopsAt, h3 he], h2⟩

theorem StartsItem.valStart {n : Bytes} (h : StartsItem n) (eq : Bool) : ValStart eq n :=
  ⟨h.stopsSpace, fun _ => h.stopsEq, h.notQuery⟩

theorem ValStart.numHead {c : UInt8} {r : Bytes} {eq : Bool} (hc : isDigit c = true ∨ c = 46) : ValStart eq (c :: r) := by
  have : isSpace c = false ∧ c.toNat ≠ 63 ∧ c.toNat ≠ 61 := by
    rcases hc with h | rfl
    · simp [isDigit] at h; simp [isSpace]; omega
    · decide
  exact .head this.1 (isQuery_of_head this.2.1) (fun _ => this.2.2)

theorem ValStart.quote {q : UInt8} {r : Bytes} {eq : Bool} (hq : isQuote q = true) : ValStart eq (q :: r) := by
  simp [isQuote] at hq
  exact .head (by simp [isSpace]; omega) (isQuery_of_head (by omega)) (fun _ => by omega)

theorem ValStart.sign {eq : Bool} {X : Bytes} (sg : Option Bool) (h : ValStart eq X) : ValStart eq (signBytes sg ++ X) := by
  match sg with
  | none => exact h
  | some true => exact .head (by decide) (isQuery_of_head (by decide)) (fun _ => by decide)
  | some false => exact .head (by decide) (isQuery_of_head (by decide)) (fun _ => by decide)

theorem lit_valStart {cl eq : Bool} {lit : Lit} (hnf : lit ≠ .flagOn) (hwf : lit.WF cl eq) (K : Bytes) :
    ValStart eq (lit.render ++ K) := by
  match lit with
  | .flagOn => exact absurd rfl hnf
  | .int l =>
    obtain ⟨⟨hne, hd⟩, _, _⟩ := hwf
    rw [Lit.render, IntLit.render, List.append_assoc]
    cases hds : l.ds with
    | nil => exact absurd hds hne
    | cons d t => exact .sign _ (.numHead (.inl (hd d (by simp [hds]))))
  | .real l =>
    obtain ⟨c, r, hcr, hc⟩ := RealLit.mant_head hwf
    rw [Lit.render, RealLit.render, List.append_assoc, hcr]
    exact .sign _ (.numHead hc)
  | .quoted q b => exact .quote hwf.2.1
  | .bare b =>
    obtain ⟨_, hne, hb, _, h63, heq⟩ := hwf
    cases b with
    | nil => exact absurd rfl hne
    | cons c r => exact .head (hb c (by simp)) (isQuery_token hne hb h63 K) (fun he => heq he c r rfl)
  | .raw b =>
    obtain ⟨_, _, hh⟩ := hwf
    cases b with
    | nil => simp [HeadIs] at hh
    | cons c r =>
      simp [HeadIs] at hh
      obtain ⟨⟨f1, f2⟩, f3⟩ := hh
      exact .head f1 (isQuery_of_head f2) (fun he => f3.resolve_left (by simp [he]))

theorem step_value {cfg : Cfg} {st : St} {lead key rest : Bytes} {p : Sep} {d : OptDecl} {ob : Option Bytes}
    (hlead : Blank lead) (hkey : KeyOk key) (hp : p.WF) (hv : ValStart p.eq rest)
    (hend : p.eq = false → p.pre = [] → rest = [])
    (hl : lookup cfg.table key = some (d, ob)) (hk : (p.eq && d.kind == .flag) = false) :
    step cfg (lead ++ (key ++ (p.render ++ rest))) st = parseValue cfg d rest (noteMatch d key ob st) := by
  rw [step_header cfg st hlead hkey hp ⟨hv.noSpace, fun he => ⟨hv.noEq he, hend he⟩⟩, findOption_of_lookup hl]
  simp [hv.noQuery, hk]

theorem step_assign {cfg : Cfg} {st : St} {lead key K : Bytes} {sep : Sep} {lit : Lit}
    (hlead : Blank lead) (hwf : (Item.assign key sep lit).WF cfg) (hnf : lit ≠ .flagOn)
    (hK : EndsToken K)
    (hraw : ∀ b, lit = .raw b → StopsAt (fun c => c.toNat != 10) K) :
    step cfg (lead ++ ((Item.assign key sep lit).render ++ K)) st =
      .cont K (applyItem cfg (.assign key sep lit) st) := by
  obtain ⟨⟨hkey, _⟩, hsep, ⟨d, ob, hlk, hkind, hchk⟩, hlit, _, hpre⟩ := hwf
  have htext : lead ++ ((Item.assign key sep lit).render ++ K) =
      lead ++ (key ++ (sep.render ++ (lit.render ++ K))) := by
    simp [Item.render, List.append_assoc]
  have hnotflag : (sep.eq && d.kind == .flag) = false := by
    rw [hkind]; cases lit <;> simp [Lit.kind] at hnf ⊢
  rw [htext, step_value hlead hkey hsep (lit_valStart hnf hlit K) (fun he hp => absurd hp (hpre hnf he)) hlk hnotflag]
  simp only [applyItem, findOption_of_lookup hlk]
  match lit with
  | .flagOn => exact absurd rfl hnf
  | .int l =>
    obtain ⟨hl, lo, hi⟩ := hlit
    simp only [Lit.kind] at hkind
    simp only [parseValue, hkind, Lit.render, parseInt_lit l hl hK.stopsDigit, wrap32_clamp_id lo hi,
      hchk l rfl, if_true, Lit.val]
  | .real l =>
    simp only [Lit.kind] at hkind
    simp only [parseValue, hkind, Lit.render, parseDbl_lit l hlit hK, Lit.val]
  | .quoted q b =>
    obtain ⟨hcl, hq, hb⟩ := hlit
    simp only [Lit.kind] at hkind
    have : (Lit.quoted q b).render ++ K = q :: (b ++ q :: K) := by simp [Lit.render]
    simp only [parseValue, hkind, this, hcl, parseStrVal_quote hq hb (rest := q :: K) (by simp [StopsAt]),
      List.drop_one, List.tail_cons, Lit.val]
  | .bare b =>
    obtain ⟨hcl, hne, hb, hq, _, _⟩ := hlit
    simp only [Lit.kind] at hkind
    simp only [parseValue, hkind, Lit.render, hcl, parseStrVal_bare hne hb hq hK, Lit.val]
  | .raw b =>
    obtain ⟨hcl, hb, _⟩ := hlit
    simp only [Lit.kind] at hkind
    simp only [parseValue, hkind, Lit.render, hcl, parseStrVal_raw hb (hraw b rfl), Lit.val]

/-- **a flag** (no value): the blanks after it are consumed by the same iteration -/
theorem step_flag {cfg : Cfg} {st : St} {lead key trail n : Bytes} {sep : Sep}
    (hlead : Blank lead) (hwf : (Item.assign key sep .flagOn).WF cfg)
    (htrail : Blank trail) (hn : StartsItem n) (hend : trail = [] → n = []) :
    step cfg (lead ++ ((Item.assign key sep .flagOn).render ++ (trail ++ n))) st =
      .cont n (applyItem cfg (.assign key sep .flagOn) st) := by
  obtain ⟨⟨hkey, _⟩, _, ⟨d, ob, hlk, hkind, _⟩, _, hsep0, _⟩ := hwf
  obtain ⟨hp0, he0⟩ := hsep0 rfl
  have htext : lead ++ ((Item.assign key sep .flagOn).render ++ (trail ++ n)) =
      lead ++ (key ++ (Sep.render ⟨trail, false, []⟩ ++ n)) := by
    simp [Item.render, Sep.render, Lit.render, hp0, he0]
  rw [htext, step_value hlead hkey ⟨htrail, Blank.nil⟩ (hn.valStart _) (fun _ => hend) hlk rfl]
  simp only [Lit.kind] at hkind
  simp [applyItem, findOption_of_lookup hlk, parseValue, hkind, Lit.val]

theorem step_query {cfg : Cfg} {st : St} {lead key K : Bytes} {sep : Sep}
    (hlead : Blank lead) (hwf : (Item.query key sep).WF cfg) (hK : EndsToken K) :
    step cfg (lead ++ ((Item.query key sep).render ++ K)) st =
      .cont K (applyItem cfg (.query key sep) st) := by
  obtain ⟨⟨hkey, _⟩, hsep, ⟨⟨d, ob⟩, hlk⟩, hpre⟩ := hwf
  have hrest : RestOk sep (63 :: K) := by
    refine ⟨by simp [StopsAt]; decide, fun he => ⟨by simp [StopsAt], fun hp => absurd hp (hpre he)⟩⟩
  have htext : lead ++ ((Item.query key sep).render ++ K) =
      lead ++ (key ++ (sep.render ++ (63 :: K))) := by
    simp [Item.render, List.append_assoc]
  have hq : isQuery (63 :: K) = true := by
    cases K with
    | nil => simp [isQuery]
    | cons c r => simp [isQuery, hK.head]
  rw [htext, step_header cfg st hlead hkey hsep hrest, findOption_of_lookup hlk]
  simp [hq, applyItem, findOption_of_lookup hlk]

/-- **an unknown key**: `HandleUnknownOption` is called and, if it returns, parsing goes on after
the optional `=` -/
theorem step_unknown {cfg : Cfg} {st : St} {lead key pre trail n : Bytes} {eq : Bool}
    (hlead : Blank lead) (hwf : (Item.unknown key pre eq).WF cfg)
    (htrail : Blank trail) (hn : StartsItem n) (hend : trail = [] → n = []) :
    step cfg (lead ++ ((Item.unknown key pre eq).render ++ (trail ++ n))) st =
      if cfg.throwing then .stop .threwError (applyItem cfg (.unknown key pre eq) st)
      else .cont n (applyItem cfg (.unknown key pre eq) st) := by
  obtain ⟨⟨hkey, _⟩, hpre, hlk⟩ := hwf
  let p : Sep := if eq then { pre := pre, eq := true, post := trail } else { pre := pre ++ trail, eq := false, post := [] }
  have hp : p.WF := by
    cases eq
    · exact ⟨hpre.append htrail, Blank.nil⟩
    · exact ⟨hpre, htrail⟩
  have hrest : RestOk p n := by
    refine ⟨hn.stopsSpace, fun he => ⟨hn.stopsEq, fun hp0 => ?_⟩⟩
    cases eq
    · simp [p] at hp0; exact hend hp0.2
    · simp [p] at he
  have htext : lead ++ ((Item.unknown key pre eq).render ++ (trail ++ n)) = lead ++ (key ++ (p.render ++ n)) := by
    cases eq <;> simp [Item.render, Sep.render, p]
  rw [htext, step_header cfg st hlead hkey hp hrest, findOption_none hlk]
  exact reportError_eq cfg _ n st

/-- **a value given to a flag**: the error is reported and, if the handler returns, the value token is skipped -/
theorem step_flagArg {cfg : Cfg} {st : St} {lead key pre post junk K : Bytes}
    (hlead : Blank lead) (hwf : (Item.flagArg key pre post junk).WF cfg) (hK : EndsToken K) :
    step cfg (lead ++ ((Item.flagArg key pre post junk).render ++ K)) st =
      if cfg.throwing then .stop .threwError (applyItem cfg (.flagArg key pre post junk) st)
      else .cont K (applyItem cfg (.flagArg key pre post junk) st) := by
  obtain ⟨⟨hkey, _⟩, hpre, hpost, ⟨d, ob, hlk, hkind⟩, hne, hj, h63⟩ := hwf
  let p : Sep := { pre := pre, eq := true, post := post }
  have hjs : ∀ c ∈ junk, (fun x => !isSpace x) c = true := by intro c hc; simp [hj c hc]
  have hrest : RestOk p (junk ++ K) := by
    refine ⟨?_, fun he => by simp [p] at he⟩
    cases junk with
    | nil => exact absurd rfl hne
    | cons c r => exact hj c (by simp)
  have htext : lead ++ ((Item.flagArg key pre post junk).render ++ K) =
      lead ++ (key ++ (p.render ++ (junk ++ K))) := by
    simp [Item.render, Sep.render, p, List.append_assoc]
  have hskip : skipNonSpaces (junk ++ K) = K := dropWhile_append_stop hjs hK
  rw [htext, step_header cfg st hlead hkey ⟨hpre, hpost⟩ hrest, findOption_of_lookup hlk]
  simp [isQuery_token hne hj h63, p, hkind, hskip, reportError_eq, applyItem, findOption_of_lookup hlk]

theorem renderAll_startsItem (cfg : Cfg) (items : List (Item × Bytes)) (h : ItemsWF cfg items) :
    StartsItem (renderAll items) := by
  cases items with
  | nil => trivial
  | cons x rest =>
    obtain ⟨it, trail⟩ := x
    obtain ⟨hwf, _⟩ := h
    have hk : KeyOk' it.key ∧ ∃ X, it.render = it.key ++ X := by
      cases it with
      | assign key sep lit => exact ⟨hwf.1, _, rfl⟩
      | query key sep => exact ⟨hwf.1, _, rfl⟩
      | unknown key pre eq => exact ⟨hwf.1, _, rfl⟩
      | flagArg key pre post junk => exact ⟨hwf.1, _, rfl⟩
    obtain ⟨⟨⟨hne, hkc⟩, hq⟩, X, hX⟩ := hk
    simp only [renderAll, hX]
    cases hkey : it.key with
    | nil => exact absurd hkey hne
    | cons c r =>
      simp only [List.cons_append, StartsItem]
      exact ⟨hkc c (by simp [hkey]), hq c r hkey⟩

/-- **One iteration consumes one item.**  On `blanks item trail next` (`next` empty or starting the next item) the loop
applies the item and goes on at `next`, or at the blanks before it: a flag and an unknown key skip them in the same
iteration.  After an error item it goes on only if the handler returns. -/
theorem step_item {cfg : Cfg} {st : St} {lead trail n : Bytes} {it : Item}
    (hlead : Blank lead) (hwf : it.WF cfg)
    (htrail : Blank trail) (hn : StartsItem n) (hend : trail = [] → n = [])
    (hraw : isRawAssign it = true → StopsAt (fun c => c.toNat != 10) (trail ++ n)) :
    ∃ w, Blank w ∧ step cfg (lead ++ (it.render ++ (trail ++ n))) st =
      if isErrItem it && cfg.throwing then .stop .threwError (applyItem cfg it st)
      else .cont (w ++ n) (applyItem cfg it st) := by
  have hK : EndsToken (trail ++ n) := by
    cases trail with
    | nil => simp [hend rfl, EndsToken, StopsAt]
    | cons c r => simp [EndsToken, StopsAt, htrail.head]
  cases it with
  | assign key sep lit =>
    by_cases hf : lit = .flagOn
    · subst hf; exact ⟨[], Blank.nil, step_flag hlead hwf htrail hn hend⟩
    · exact ⟨trail, htrail, step_assign hlead hwf hf hK (fun b hb => hraw (by rw [hb]; rfl))⟩
  | query key sep => exact ⟨trail, htrail, step_query hlead hwf hK⟩
  | unknown key pre eq => exact ⟨[], Blank.nil, step_unknown hlead hwf htrail hn hend⟩
  | flagArg key pre post junk => exact ⟨trail, htrail, step_flagArg hlead hwf hK⟩

end MpVerif.C11
