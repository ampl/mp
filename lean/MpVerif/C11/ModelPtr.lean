import MpVerif.C11.StdStr
/-!
# C11 — the scanners as pointer machines with explicit read indices

Memory is the option string `buf` followed by its terminating NUL at index `buf.length`; any
index beyond that is outside the object.  `rd` returns `none` for such a read, and every scanner
below returns `none` as soon as it performs one.  So "all reads are at indices ≤ the NUL
position" is exactly "the result is not `none`".
-/
namespace MpVerif.C11

def rd (buf : Bytes) (i : Nat) : Option UInt8 :=
  if h : i < buf.length then some buf[i] else if i = buf.length then some 0 else none

theorem rd_some_le {buf : Bytes} {i : Nat} {c : UInt8} (h : rd buf i = some c) : i ≤ buf.length := by
  unfold rd at h
  split at h
  · omega
  · split at h
    · omega
    · cases h

/-- `while (*s && p(*s)) ++s; return s;` — SkipSpaces, SkipNonSpaces, SkipToEnd, the name scan -/
def pScan (p : UInt8 → Bool) (buf : Bytes) (i : Nat) : Option Nat :=
  match h : rd buf i with
  | none => none
  | some c => if c != 0 && p c then pScan p buf (i + 1) else some i
termination_by buf.length + 1 - i
decreasing_by have := rd_some_le h; omega

/-- `SkipToMatchingQuote(s)` with `s = buf + i` (ampl/mp 7d345ba):
`quote = *s; ++s; while (*s && *s != quote) ++s; return s;` -/
def pSkipToMatchingQuote (buf : Bytes) (i : Nat) : Option Nat :=
  match rd buf i with
  | none => none
  | some q => pScan (fun c => c != q) buf (i + 1)

/-- the tail of `OptionHelper<std::string>::Parse` for a quoted value: `if (*s) ++s;` -/
def pAfterQuote (buf : Bytes) (j : Nat) : Option Nat :=
  match rd buf j with
  | none => none
  | some c => if c != 0 then some (j + 1) else some j

def NoNul (buf : Bytes) : Prop := ∀ c ∈ buf, c ≠ 0

theorem rd_lt {buf : Bytes} {i : Nat} (h : i < buf.length) : rd buf i = some buf[i] := by simp [rd, h]
theorem rd_end (buf : Bytes) : rd buf buf.length = some 0 := by simp [rd]
theorem rd_beyond {buf : Bytes} {i : Nat} (h : buf.length < i) : rd buf i = none := by
  unfold rd
  have h1 : ¬ i < buf.length := by omega
  have h2 : ¬ i = buf.length := by omega
  simp [h1, h2]

theorem rd_cases {buf : Bytes} (hn : NoNul buf) {i : Nat} (hi : i ≤ buf.length) :
    (rd buf i = some 0 ∧ buf.drop i = []) ∨
    ∃ c, rd buf i = some c ∧ c ≠ 0 ∧ buf.drop i = c :: buf.drop (i + 1) ∧ i < buf.length := by
  by_cases hlt : i < buf.length
  · exact .inr ⟨buf[i], rd_lt hlt, hn _ (List.getElem_mem hlt), List.drop_eq_getElem_cons hlt, hlt⟩
  · have : i = buf.length := by omega
    subst this
    exact .inl ⟨rd_end buf, by simp⟩

/-- a `while (*s && p(*s))` scan stops right after the longest run of `p` bytes: it never reads beyond the NUL -/
theorem pScan_eq (p : UInt8 → Bool) (buf : Bytes) (hn : NoNul buf) (i : Nat) (hi : i ≤ buf.length) :
    pScan p buf i = some (i + ((buf.drop i).takeWhile p).length) := by
  fun_induction pScan p buf i with
  | case1 i h => rcases rd_cases hn hi with ⟨h0, _⟩ | ⟨c, hc, _⟩ <;> simp_all
  | case2 i c h hc ih =>
    rcases rd_cases hn hi with ⟨h0, _⟩ | ⟨c', hc', _, hd, hlt⟩
    · simp_all
    · obtain rfl : c' = c := by simpa [h] using hc'.symm
      simp only [Bool.and_eq_true] at hc
      rw [ih hlt, hd, List.takeWhile_cons_of_pos hc.2, List.length_cons]; congr 1; omega
  | case3 i c h hc =>
    rcases rd_cases hn hi with ⟨_, hd⟩ | ⟨c', hc', h0, hd, _⟩
    · simp [hd]
    · obtain rfl : c' = c := by simpa [h] using hc'.symm
      have : p c' = false := by simpa [h0] using hc
      simp [hd, this]

theorem pScan_spec (p : UInt8 → Bool) (buf : Bytes) (hn : NoNul buf) (i : Nat) (hi : i ≤ buf.length) :
    ∃ j, pScan p buf i = some j ∧ i ≤ j ∧ j ≤ buf.length ∧ buf.drop j = (buf.drop i).dropWhile p := by
  have hle := (List.takeWhile_sublist p (l := buf.drop i)).length_le
  simp only [List.length_drop] at hle
  exact ⟨_, pScan_eq p buf hn i hi, by omega, by omega, by rw [← List.drop_drop, StdStr.drop_takeWhile_length]⟩

/-- `SkipToMatchingQuote` + the closing-quote skip, started at a quote inside the string: all
reads are at indices ≤ the NUL index, and the result is the list model's. -/
theorem pSkipToMatchingQuote_spec (buf : Bytes) (hn : NoNul buf) (i : Nat) (hi : i < buf.length) :
    ∃ j k, pSkipToMatchingQuote buf i = some j ∧ j ≤ buf.length ∧ pAfterQuote buf j = some k ∧ k ≤ buf.length ∧
      (buf.drop (i + 1)).take (j - (i + 1)) = (skipToMatchingQuote buf[i] (buf.drop (i + 1))).1 ∧
      buf.drop k = (skipToMatchingQuote buf[i] (buf.drop (i + 1))).2 := by
  obtain ⟨j, h1, _, h3, h4⟩ := pScan_spec (fun c => c != buf[i]) buf hn (i + 1) (by omega)
  have hj : j = i + 1 + ((buf.drop (i + 1)).takeWhile (fun c => c != buf[i])).length := by
    simpa [pScan_eq _ buf hn (i + 1) (by omega)] using h1.symm
  have hval : (buf.drop (i + 1)).take (j - (i + 1)) = (skipToMatchingQuote buf[i] (buf.drop (i + 1))).1 := by
    rw [hj]; simpa [skipToMatchingQuote] using StdStr.take_takeWhile_length _ _
  have hq : pSkipToMatchingQuote buf i = some j := by simp [pSkipToMatchingQuote, rd_lt hi, h1]
  -- at `j`: the NUL (nothing to skip), or the closing quote
  rcases rd_cases hn h3 with ⟨h0, hd⟩ | ⟨c, hc, h0, hd, hlt⟩
  · refine ⟨j, j, hq, h3, by simp [pAfterQuote, h0], h3, hval, ?_⟩
    simp [skipToMatchingQuote, ← h4, hd]
  · refine ⟨j, j + 1, hq, h3, by simp [pAfterQuote, hc, h0], hlt, hval, ?_⟩
    simp [skipToMatchingQuote, ← h4, hd]

end MpVerif.C11
