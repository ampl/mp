import MpVerif.C11.Lemmas
/-! # C11 — lookup: by name or synonym in any letter case, by wildcard pattern -/
namespace MpVerif.C11

theorem ciEq_iff {a b : Bytes} : ciEq a b = true ↔ lowerAll a = lowerAll b := by
  simp [ciEq]

theorem ciEq_symm {a b : Bytes} (h : ciEq a b = true) : ciEq b a = true := by
  rw [ciEq_iff] at *; exact h.symm

theorem ciEq_trans {a b c : Bytes} (h1 : ciEq a b = true) (h2 : ciEq b c = true) : ciEq a c = true := by
  rw [ciEq_iff] at *; exact h1.trans h2

def swapCase (c : UInt8) : UInt8 :=
  if 65 ≤ c.toNat && c.toNat ≤ 90 then UInt8.ofNat (c.toNat + 32)
  else if 97 ≤ c.toNat && c.toNat ≤ 122 then UInt8.ofNat (c.toNat - 32)
  else c

theorem lower_swapCase (c : UInt8) : lower (swapCase c) = lower c := by
  have hc := c.toNat_lt
  unfold swapCase
  split
  · -- an upper-case letter becomes the lower-case one, which `lower` leaves alone
    rename_i h
    rw [lower, lower, if_pos h, if_neg (by simp at h ⊢; omega)]
  · split
    · rename_i h1 h2
      simp at h1 h2
      rw [lower, lower, if_pos (by simp; omega), if_neg (by simp; omega)]
      apply UInt8.toNat_inj.mp
      simp
      omega
    · rfl

/-- rewrite the bytes in an arbitrary letter case: the list of Booleans says which letters are flipped -/
def recase : List Bool → Bytes → Bytes
  | m :: ms, c :: r => (if m then swapCase c else c) :: recase ms r
  | _, r => r

/-- the names of the table are pairwise different as `strcasecmp` sees them (what `AddOption` enforces) -/
def NamesDistinct (t : Table) : Prop := t.Pairwise (fun a b => ciEq a.name b.name = false)

theorem find_name {t : Table} (hd : NamesDistinct t) {d : OptDecl} (hmem : d ∈ t) {key : Bytes}
    (hk : ciEq key d.name = true) : t.find? (fun e => ciEq e.name key) = some d := by
  obtain ⟨as, bs, rfl⟩ := List.append_of_mem hmem
  refine List.find?_eq_some_iff_append.mpr ⟨ciEq_symm hk, as, bs, rfl, fun a ha => ?_⟩
  have := (List.pairwise_append.mp hd).2.2 a ha d (by simp)
  cases h : ciEq a.name key
  · rfl
  · rw [ciEq_trans h hk] at this; cases this

/-- **By name, any letter case**; the name of a wildcard option (a pattern) is not a key:
`if ((*i)->is_wildcard() && wildcardvalues) return 0`. -/
theorem lookup_name {t : Table} (hd : NamesDistinct t) {d : OptDecl} (hmem : d ∈ t) {key : Bytes}
    (hk : ciEq key d.name = true) : lookup t key = if d.isWildcard then none else some (d, none) := by
  simp [lookup, find_name hd hmem hk]

theorem find_name_none {t : Table} {key : Bytes} (h : ∀ e ∈ t, ciEq e.name key = false) :
    t.find? (fun e => ciEq e.name key) = none := by
  simpa [List.find?_eq_none] using h

theorem findLoop_skip {key : Bytes} {before : Table} {rest : Table}
    (h : ∀ e ∈ before, e.syns.any (fun syn => ciEq key syn) = false ∧ wcMatch e.headTails key = none) :
    findLoop key (before ++ rest) = findLoop key rest := by
  induction before with
  | nil => rfl
  | cons e es ih =>
    obtain ⟨h1, h2⟩ := h e (by simp)
    simp only [List.cons_append, findLoop, h1, h2, Bool.false_eq_true, if_false]
    exact ih (fun x hx => h x (by simp [hx]))

theorem lookup_at {before after : Table} {d : OptDecl} {key : Bytes}
    (hn : ∀ e ∈ before ++ d :: after, ciEq e.name key = false)
    (hb : ∀ e ∈ before, e.syns.any (fun s => ciEq key s) = false ∧ wcMatch e.headTails key = none) :
    lookup (before ++ d :: after) key = findLoop key (d :: after) := by
  simp [lookup, find_name_none hn, findLoop_skip hb]

theorem findLoop_none_body {key : Bytes} {t : Table} {d : OptDecl} (h : findLoop key t = some (d, none)) :
    d.isWildcard = false := by
  induction t with
  | nil => simp [findLoop] at h
  | cons e es ih =>
    simp only [findLoop] at h
    split at h
    · split at h
      · cases h
      · rename_i hw; simp at h; rw [← h]; simpa using hw
    · split at h
      · simp at h
      · exact ih h

theorem hasStar_mid (h t : Bytes) : hasStar (h ++ star :: t) = true := by
  simp [hasStar]

theorem wcSplit_pattern {h t : Bytes} (hh : ∀ c ∈ h, c ≠ star) : wcSplit (h ++ star :: t) = (h, t) := by
  have hp : ∀ c ∈ h, (fun c => c != star) c = true := by intro c hc; simp [hh c hc]
  have hst : StopsAt (fun c => c != star) (star :: t) := by simp [StopsAt]
  have e1 := takeWhile_append_stop hp hst
  have e2 := dropWhile_append_stop hp hst
  simp [wcSplit, hasStar_mid, e1, e2]

theorem wcMatch1_pattern (h body t : Bytes) (hb : body ≠ []) :
    wcMatch1 (h, t) (h ++ (body ++ t)) = some body := by
  have hlen : 0 < body.length := List.length_pos_iff.mpr hb
  have h1 : h.isPrefixOf (h ++ (body ++ t)) = true := by simp
  have h2 : t.isSuffixOf (h ++ (body ++ t)) = true := by
    rw [List.isSuffixOf_iff_suffix]
    exact ⟨h ++ body, by simp⟩
  simp only [wcMatch1, h1, h2, List.length_append, Bool.and_true, Bool.true_and]
  have h3 : decide (h.length + (body.length + t.length) > t.length) = true := by simp; omega
  have h4 : h.length + t.length ≤ h.length + (body.length + t.length) := by omega
  simp only [h3, if_true, h4]
  have : h.length + (body.length + t.length) - t.length - h.length = body.length := by omega
  rw [this]
  simp

/-- the body is cut with the pattern that matched: the first pattern (name, then synonyms in
order) that matches the key -/
theorem wcMatch_pattern {pre post : List (Bytes × Bytes)} {h body tl : Bytes} (hbody : body ≠ [])
    (hpre : ∀ ht ∈ pre, wcMatch1 ht (h ++ (body ++ tl)) = none) :
    wcMatch (pre ++ (h, tl) :: post) (h ++ (body ++ tl)) = some body := by
  simp [wcMatch, List.findSome?_append, List.findSome?_eq_none_iff.mpr hpre, wcMatch1_pattern h body tl hbody]

theorem headTails_name {d : OptDecl} {h tl : Bytes} (hname : d.name = h ++ star :: tl) (hh : ∀ c ∈ h, c ≠ star) :
    d.headTails = (h, tl) :: d.syns.map wcSplit := by
  simp [OptDecl.headTails, OptDecl.isWildcard, hname, hasStar_mid, wcSplit_pattern hh]

end MpVerif.C11
