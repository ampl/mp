import MpVerif.C11.Lemmas
/-! # C11 — the typed value parsers on well-formed literals (parse ∘ print) -/
namespace MpVerif.C11

theorem isDigit_not_space {c : UInt8} (h : isDigit c = true) : isSpace c = false := by
  simp [isDigit] at h; simp [isSpace]; omega

theorem isDigit_not_sign {c : UInt8} (h : isDigit c = true) : (c.toNat == 45 || c.toNat == 43) = false := by
  simp [isDigit] at h; simp; omega

theorem isSpace_not_digit {c : UInt8} (h : isSpace c = true) : isDigit c = false := by
  cases hd : isDigit c with
  | false => rfl
  | true => have := isDigit_not_space hd; simp [h] at this

theorem EndsToken.stopsDigit {t : Bytes} (h : EndsToken t) : StopsAt isDigit t := by
  cases t with
  | nil => trivial
  | cons c r => exact isSpace_not_digit h.head

theorem stripSign_sign_head (sg : Option Bool) {c : UInt8} (r : Bytes) (hs : isSpace c = false)
    (hg : (c.toNat == 45 || c.toNat == 43) = false) :
    stripSign (signBytes sg ++ c :: r) = c :: r ∧
    startsNeg (signBytes sg ++ c :: r) = (sg == some true) ∧
    StopsAt isSpace (signBytes sg ++ c :: r) := by
  match sg with
  | none =>
    simp at hg
    simp [signBytes, stripSign, startsNeg, StopsAt, hs, hg]
  | some true => simp [signBytes, stripSign, startsNeg, StopsAt, isSpace]
  | some false => simp [signBytes, stripSign, startsNeg, StopsAt, isSpace]

theorem stripSign_sign_digits (sg : Option Bool) {ds tail : Bytes} (hne : ds ≠ []) (hd : AllDigits ds) :
    stripSign (signBytes sg ++ ds ++ tail) = ds ++ tail ∧
    startsNeg (signBytes sg ++ ds ++ tail) = (sg == some true) ∧
    StopsAt isSpace (signBytes sg ++ ds ++ tail) := by
  cases ds with
  | nil => exact absurd rfl hne
  | cons d r =>
    have h0 := hd d (by simp)
    simpa using stripSign_sign_head sg (r ++ tail) (isDigit_not_space h0) (isDigit_not_sign h0)

theorem parseInt_lit (l : IntLit) (hl : l.WF) {tail : Bytes} (ht : StopsAt isDigit tail) :
    parseInt (l.render ++ tail) = (wrap32 (clampLong l.value), tail) := by
  obtain ⟨hne, hd⟩ := hl
  obtain ⟨h1, h2, h3⟩ := stripSign_sign_digits l.sign (tail := tail) hne hd
  unfold parseInt IntLit.render
  simp only
  rw [skipSpaces_stop h3, h1, h2]
  rw [List.append_assoc]
  rw [takeWhile_append_stop hd ht, dropWhile_append_stop hd ht]
  simp [isEmpty_false_of_ne hne, IntLit.value]

theorem wrap32_clamp_id {v : Int} (h1 : -2147483648 ≤ v) (h2 : v ≤ 2147483647) : wrap32 (clampLong v) = v := by
  unfold wrap32 clampLong LONG_MIN LONG_MAX
  split
  · omega
  · split <;> omega

theorem digitsVal_append (a : Bytes) (d : UInt8) : digitsVal (a ++ [d]) = 10 * digitsVal a + digitVal d := by
  simp [digitsVal, List.foldl_append]

theorem digitChar_toNat {k : Nat} (h : k < 10) : (digitChar k).toNat = 48 + k := by
  unfold digitChar; rw [UInt8.toNat_ofNat']; omega

theorem digitVal_ofNat {k : Nat} (h : k < 10) : digitVal (digitChar k) = k := by
  unfold digitVal; rw [digitChar_toNat h]; omega

theorem isDigit_ofNat {k : Nat} (h : k < 10) : isDigit (digitChar k) = true := by
  unfold isDigit; rw [digitChar_toNat h]; simp; omega

theorem digitsVal_natDigits (n : Nat) : digitsVal (natDigits n) = n := by
  induction n using Nat.strongRecOn with
  | _ n ih =>
    rw [natDigits]
    split
    · rename_i h; simp [digitsVal, digitVal_ofNat h]
    · rename_i h
      rw [digitsVal_append, ih (n / 10) (by omega), digitVal_ofNat (by omega)]
      omega

theorem natDigits_ne_nil (n : Nat) : natDigits n ≠ [] := by
  rw [natDigits]; split <;> simp

theorem natDigits_allDigits (n : Nat) : AllDigits (natDigits n) := by
  induction n using Nat.strongRecOn with
  | _ n ih =>
    rw [natDigits]
    split
    · rename_i h; intro c hc; simp at hc; subst hc; exact isDigit_ofNat h
    · rename_i h
      intro c hc
      simp at hc
      cases hc with
      | inl hc => exact ih (n / 10) (by omega) c hc
      | inr hc => subst hc; exact isDigit_ofNat (by omega)

/-- a quoted value is the text up to the closing quote, which is skipped; without one it is the rest of the string -/
theorem parseStrVal_quote {q : UInt8} {body rest : Bytes} (hq : isQuote q = true) (h : ∀ c ∈ body, c ≠ q)
    (hr : StopsAt (fun c => c != q) rest) :
    parseStrVal false (q :: (body ++ rest)) = (body, rest.drop 1) := by
  have hp : ∀ c ∈ body, (fun c => c != q) c = true := by intro c hc; simp [h c hc]
  simp [parseStrVal, hq, skipToMatchingQuote, takeWhile_append_stop hp hr, dropWhile_append_stop hp hr]

theorem parseStrVal_bare {body tail : Bytes} (hne : body ≠ []) (hb : ∀ c ∈ body, isSpace c = false)
    (hq : ∀ c r, body = c :: r → isQuote c = false) (ht : EndsToken tail) :
    parseStrVal false (body ++ tail) = (body, tail) := by
  cases body with
  | nil => exact absurd rfl hne
  | cons c r =>
    have hq' := hq c r rfl
    have hb' : ∀ d ∈ c :: r, (fun x => !isSpace x) d = true := by intro d hd; simp [hb d hd]
    have e1 := takeWhile_append_stop (p := fun x => !isSpace x) hb' ht
    have e2 := dropWhile_append_stop (p := fun x => !isSpace x) hb' ht
    simp only [parseStrVal, List.cons_append, hq', skipNonSpaces]
    simp only [List.cons_append] at e1 e2
    simp [e1, e2]

theorem parseStrVal_raw {body tail : Bytes} (hb : ∀ c ∈ body, c.toNat ≠ 10)
    (ht : StopsAt (fun c => c.toNat != 10) tail) :
    parseStrVal true (body ++ tail) = (body, tail) := by
  have hb' : ∀ d ∈ body, (fun c : UInt8 => c.toNat != 10) d = true := by intro d hd; simp [hb d hd]
  simp [parseStrVal, skipToEnd, takeWhile_append_stop hb' ht, dropWhile_append_stop hb' ht]

end MpVerif.C11
