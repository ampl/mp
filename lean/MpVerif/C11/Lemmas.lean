import MpVerif.C11.ModelParse
import MpVerif.C11.SpecLex
/-! # C11 — scans over blanks and up to a stopping byte; the header of an item (`step_header`) -/
namespace MpVerif.C11

theorem Blank.nil : Blank [] := by intro c h; simp at h
theorem Blank.append {a b : Bytes} (ha : Blank a) (hb : Blank b) : Blank (a ++ b) :=
  fun c h => (List.mem_append.mp h).elim (ha c) (hb c)
theorem Blank.tail {c : UInt8} {r : Bytes} (h : Blank (c :: r)) : Blank r := fun d hd => h d (by simp [hd])
theorem Blank.head {c : UInt8} {r : Bytes} (h : Blank (c :: r)) : isSpace c = true := h c (by simp)

theorem EndsToken.head {c : UInt8} {r : Bytes} (h : EndsToken (c :: r)) : isSpace c = true := by
  simpa [EndsToken, StopsAt] using h

theorem isEmpty_false_of_ne {b : Bytes} (h : b ≠ []) : b.isEmpty = false := by
  cases b with
  | nil => exact absurd rfl h
  | cons _ _ => rfl

theorem takeWhile_stop {p : UInt8 → Bool} {b : Bytes} (hb : StopsAt p b) : b.takeWhile p = [] := by
  cases b with
  | nil => rfl
  | cons c r => simp [show p c = false from hb]

theorem dropWhile_stop {p : UInt8 → Bool} {b : Bytes} (hb : StopsAt p b) : b.dropWhile p = b := by
  cases b with
  | nil => rfl
  | cons c r => simp [show p c = false from hb]

theorem takeWhile_append_stop {p : UInt8 → Bool} {a b : Bytes} (ha : ∀ c ∈ a, p c = true)
    (hb : StopsAt p b) : (a ++ b).takeWhile p = a := by
  rw [List.takeWhile_append_of_pos ha, takeWhile_stop hb, List.append_nil]

theorem dropWhile_append_stop {p : UInt8 → Bool} {a b : Bytes} (ha : ∀ c ∈ a, p c = true)
    (hb : StopsAt p b) : (a ++ b).dropWhile p = b := by
  rw [List.dropWhile_append_of_pos ha, dropWhile_stop hb]

theorem skipSpaces_blank_append {w r : Bytes} (hw : Blank w) (hr : StopsAt isSpace r) :
    skipSpaces (w ++ r) = r := dropWhile_append_stop hw hr

theorem skipSpaces_stop {r : Bytes} (hr : StopsAt isSpace r) : skipSpaces r = r := dropWhile_stop hr

theorem StopsAt.mono {p q : UInt8 → Bool} {b : Bytes} (h : StopsAt p b) (hpq : ∀ c, q c = true → p c = true) :
    StopsAt q b := by
  cases b with
  | nil => trivial
  | cons c r =>
    cases hq : q c with
    | false => exact hq
    | true => exact absurd (hpq c hq) (by rw [show p c = false from h]; decide)

theorem StopsAt.append_left {p : UInt8 → Bool} {a b : Bytes} (h : StopsAt p a) (hne : a ≠ []) : StopsAt p (a ++ b) := by
  cases a with
  | nil => exact absurd rfl hne
  | cons c r => exact h

theorem isNameChar_false_of_space {c : UInt8} (h : isSpace c = true) : isNameChar c = false := by
  simp [isNameChar, h]

theorem isSpace_ne_eq {c : UInt8} (h : isSpace c = true) : (c.toNat == 61) = false := by
  simp [isSpace] at h
  rcases h with h | h
  · simp [h]
  · simp; omega

theorem StopsAt.blank_append {w r : Bytes} (hw : Blank w) (hr : w = [] → StopsAt isNameChar r) :
    StopsAt isNameChar (w ++ r) := by
  cases w with
  | nil => exact hr rfl
  | cons c t => exact isNameChar_false_of_space hw.head

theorem sep_stopsName {p : Sep} {rest : Bytes} (hpre : Blank p.pre) (hr : RestOk p rest) :
    StopsAt isNameChar (p.render ++ rest) := by
  rw [Sep.render, List.append_assoc]
  refine StopsAt.blank_append hpre (fun h0 => ?_)
  cases heq : p.eq with
  | true => rfl
  | false => simp [(hr.2 heq).2 h0, StopsAt]

theorem afterName_sep {key rest : Bytes} {p : Sep} (hkc : ∀ c ∈ key, isNameChar c = true) (hp : p.WF)
    (hr : RestOk p rest) : afterName (key ++ (p.render ++ rest)) = (p.eq, rest) := by
  obtain ⟨hpre, hpost⟩ := hp
  rw [afterName, dropWhile_append_stop hkc (sep_stopsName hpre hr), Sep.render, List.append_assoc]
  cases heq : p.eq with
  | true =>
    rw [if_pos rfl, skipSpaces_blank_append hpre (r := 61 :: p.post ++ rest) (show isSpace 61 = false by decide)]
    simp [skipSpaces_blank_append hpost hr.1]
  | false =>
    rw [skipSpaces_blank_append hpre (by simpa using hr.1)]
    cases rest with
    | nil => rfl
    | cons c r => simp [show (c.toNat == 61) = false from (hr.2 heq).1]

theorem findOption_of_lookup {t : Table} {key : Bytes} {st : St} {d : OptDecl} {ob : Option Bytes}
    (h : lookup t key = some (d, ob)) : findOption t key st = some (d, noteMatch d key ob st) := by
  simp [findOption, h]

theorem findOption_none {t : Table} {key : Bytes} {st : St} (h : lookup t key = none) :
    findOption t key st = none := by
  simp [findOption, h]

/-- **Header lemma.**  On `blanks key sep rest` one loop iteration looks the key up and dispatches on
`rest`, exactly as written in `ParseOptionString`. -/
theorem step_header (cfg : Cfg) (st : St) {lead key rest : Bytes} {p : Sep}
    (hlead : Blank lead) (hkey : KeyOk key) (hp : p.WF) (hr : RestOk p rest) :
    step cfg (lead ++ (key ++ (p.render ++ rest))) st =
      match findOption cfg.table key st with
      | none => reportError cfg (.unknown key) rest st
      | some (d, st1) =>
        if isQuery rest then .cont (rest.drop 1) (doEcho cfg.noEcho d st1)
        else if p.eq && d.kind == .flag then reportError cfg (.flagArg key) (skipNonSpaces rest) st1
        else parseValue cfg d rest st1 := by
  obtain ⟨hne, hkc⟩ := hkey
  have hs1 : skipSpaces (lead ++ (key ++ (p.render ++ rest))) = key ++ (p.render ++ rest) := by
    apply skipSpaces_blank_append hlead
    cases key with
    | nil => exact absurd rfl hne
    | cons c r =>
      have := hkc c (by simp)
      simp [isNameChar] at this
      simp [StopsAt, this.1]
  have hname : nameOf (key ++ (p.render ++ rest)) = key :=
    takeWhile_append_stop hkc (sep_stopsName hp.1 hr)
  unfold step
  simp only [hs1, hname, afterName_sep hkc hp hr]
  simp [hne]
  rfl

end MpVerif.C11
