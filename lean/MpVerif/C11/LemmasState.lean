import MpVerif.C11.Spec
import MpVerif.C11.Lemmas
/-! # C11 — state lemmas: what an item does to the option values -/
namespace MpVerif.C11

/-- the observable option values: plain value and wildcard log of every slot -/
def St.values (st : St) : List (Val × List (Bytes × Val)) := st.slots.map (fun sl => (sl.val, sl.log))

theorem modify_length (st : St) (i : Nat) (f : Slot → Slot) : (st.modify i f).slots.length = st.slots.length := by
  simp [St.modify]

/-- `modify i f` changes slot `i` (if there is one) and no other -/
theorem slot_modify (st : St) (i j : Nat) (f : Slot → Slot) :
    (st.modify i f).slot j = if i = j ∧ i < st.slots.length then f (st.slot j) else st.slot j := by
  by_cases hij : i = j
  · subst hij
    by_cases hi : i < st.slots.length
    · simp [St.modify, St.slot, List.getD_eq_getElem?_getD, hi]
    · simp [St.modify, St.slot, hi, List.set_eq_of_length_le (Nat.le_of_not_lt hi)]
  · simp [St.modify, St.slot, List.getD_eq_getElem?_getD, List.getElem?_set_ne hij, hij]

theorem slot_modify_same (st : St) {i : Nat} (f : Slot → Slot) (hi : i < st.slots.length) :
    (st.modify i f).slot i = f (st.slot i) := by
  simp [slot_modify, hi]

theorem slot_modify_other (st : St) {i j : Nat} (f : Slot → Slot) (hij : i ≠ j) :
    (st.modify i f).slot j = st.slot j := by
  simp [slot_modify, hij]

theorem values_modify (st : St) (i : Nat) (f : Slot → Slot)
    (hf : ∀ sl, (f sl).val = sl.val ∧ (f sl).log = sl.log) : (st.modify i f).values = st.values := by
  unfold St.values St.modify
  simp only
  apply List.ext_getElem?
  intro j
  by_cases hij : i = j
  · subst hij
    by_cases hi : i < st.slots.length
    · simp [hi, St.slot, List.getD_eq_getElem?_getD, hf]
    · simp [List.getElem?_eq_none (Nat.le_of_not_lt hi)]; omega
  · simp [List.getElem?_set_ne hij]

theorem values_noteMatch {d : OptDecl} {key : Bytes} {ob : Option Bytes} {st : St} :
    (noteMatch d key ob st).values = st.values ∧ (noteMatch d key ob st).errs = st.errs ∧
    (noteMatch d key ob st).slots.length = st.slots.length := by
  cases ob with
  | none => simp [noteMatch]
  | some b => exact ⟨values_modify st d.id _ (fun sl => ⟨rfl, rfl⟩), rfl, modify_length _ _ _⟩

theorem flagArg_obs {cfg : Cfg} {key pre post junk : Bytes} (hwf : (Item.flagArg key pre post junk).WF cfg) (st : St) :
    (applyItem cfg (.flagArg key pre post junk) st).values = st.values ∧
    (applyItem cfg (.flagArg key pre post junk) st).errs = .flagArg key :: st.errs := by
  obtain ⟨_, _, _, ⟨d, ob, hlk, _⟩, _⟩ := hwf
  simp only [applyItem, findOption_of_lookup hlk, addErr]
  exact ⟨values_noteMatch.1, by rw [values_noteMatch.2.1]⟩

theorem values_doEcho {ne : Bool} {d : OptDecl} {st : St} :
    (doEcho ne d st).values = st.values ∧ (doEcho ne d st).errs = st.errs ∧ (doEcho ne d st).slots = st.slots := by
  unfold doEcho
  split <;> simp [St.values]

theorem slot_noteMatch {d : OptDecl} {key : Bytes} {ob : Option Bytes} {st : St} {j : Nat} :
    ((noteMatch d key ob st).slot j).val = (st.slot j).val ∧ ((noteMatch d key ob st).slot j).log = (st.slot j).log := by
  cases ob with
  | none => exact ⟨rfl, rfl⟩
  | some b => simp only [noteMatch, slot_modify]; split <;> exact ⟨rfl, rfl⟩

theorem slot_addErr (e : Err) (st : St) (j : Nat) : (addErr e st).slot j = st.slot j := rfl

theorem slot_doEcho (ne : Bool) (d : OptDecl) (st : St) (j : Nat) : (doEcho ne d st).slot j = st.slot j := by
  unfold doEcho St.slot
  split <;> simp

/-- plain option: its value is held in `val` -/
def OptDecl.plain (d : OptDecl) : Bool := !d.logged

/-- the option (and written value) an item assigns, if it is an assignment to a known key -/
def itemTarget (cfg : Cfg) : Item → Option (OptDecl × Val)
  | .assign key _ lit => (lookup cfg.table key).map (fun r => (r.1, lit.val))
  | _ => none

theorem applyItem_length (cfg : Cfg) (it : Item) (st : St) : (applyItem cfg it st).slots.length = st.slots.length := by
  match it with
  | .unknown _ _ _ => rfl
  | .assign key _ _ | .query key _ | .flagArg key _ _ _ =>
    simp only [applyItem, findOption]
    cases lookup cfg.table key <;>
      simp [values_doEcho.2.2, modify_length, values_noteMatch.2.2, addErr]

/-- the slot after an assignment to a known key.  `noteMatch` stays on the right: the setter files the value under the
`wcBody` that the lookup has just written into this same slot. -/
theorem slot_assign {cfg : Cfg} {key : Bytes} {d : OptDecl} {ob : Option Bytes}
    (hl : lookup cfg.table key = some (d, ob)) (sep : Sep) (lit : Lit) (st : St) (j : Nat) :
    (applyItem cfg (.assign key sep lit) st).slot j =
      if d.id = j ∧ d.id < st.slots.length then setValue d lit.val ((noteMatch d key ob st).slot j) else st.slot j := by
  simp only [applyItem, findOption_of_lookup hl, slot_doEcho, slot_modify, values_noteMatch.2.2]
  split
  · rfl
  · cases ob with
    | none => rfl
    | some b => rw [noteMatch, slot_modify, if_neg ‹_›]

/-- the value held by slot `i` after an item: the written value if the item assigns to the plain
option owning slot `i`, otherwise unchanged. -/
theorem slot_val_applyItem (cfg : Cfg) (it : Item) (st : St) (i : Nat) (hi : i < st.slots.length) :
    ((applyItem cfg it st).slot i).val =
      match itemTarget cfg it with
      | some (d, v) => if d.id = i ∧ d.plain = true then v else (st.slot i).val
      | none => (st.slot i).val := by
  cases it with
  | assign key sep lit =>
    cases hl : lookup cfg.table key with
    | none => simp [applyItem, findOption, itemTarget, hl]
    | some r =>
      obtain ⟨d, ob⟩ := r
      simp only [slot_assign hl, itemTarget, hl, Option.map_some]
      by_cases hid : d.id = i
      · subst hid
        cases hp : d.logged <;> simp [hi, setValue, hp, OptDecl.plain, slot_noteMatch.1]
      · simp [hid]
  | unknown key pre eq => rfl
  | query key _ | flagArg key _ _ _ =>
    simp only [applyItem, findOption, itemTarget]
    cases lookup cfg.table key <;> simp [slot_doEcho, slot_addErr, slot_noteMatch.1]

theorem applyAll_append (cfg : Cfg) (a b : List (Item × Bytes)) (st : St) :
    applyAll cfg (a ++ b) st = applyAll cfg b (applyAll cfg a st) := by
  simp [applyAll, List.foldl_append]

theorem applyAll_cons (cfg : Cfg) (x : Item × Bytes) (rest : List (Item × Bytes)) (st : St) :
    applyAll cfg (x :: rest) st = applyAll cfg rest (applyItem cfg x.1 st) := rfl

theorem applyAll_length (cfg : Cfg) (items : List (Item × Bytes)) (st : St) :
    (applyAll cfg items st).slots.length = st.slots.length := by
  induction items generalizing st with
  | nil => rfl
  | cons x rest ih => rw [applyAll_cons, ih, applyItem_length]

theorem applyItem_cfg (cfg cfg' : Cfg) (ht : cfg.table = cfg'.table) (he : cfg.noEcho = cfg'.noEcho) (it : Item) (st : St) :
    applyItem cfg it st = applyItem cfg' it st := by
  cases it <;> simp [applyItem, ht, he]

theorem applyAll_cfg (cfg cfg' : Cfg) (ht : cfg.table = cfg'.table) (he : cfg.noEcho = cfg'.noEcho)
    (items : List (Item × Bytes)) (st : St) : applyAll cfg items st = applyAll cfg' items st := by
  induction items generalizing st with
  | nil => rfl
  | cons x rest ih => rw [applyAll_cons, applyAll_cons, applyItem_cfg cfg cfg' ht he, ih]

theorem slot_val_untouched (cfg : Cfg) (items : List (Item × Bytes)) (i : Nat) (st : St) (hi : i < st.slots.length)
    (h : ∀ x ∈ items, ∀ d' v, itemTarget cfg x.1 = some (d', v) → d'.id ≠ i) :
    ((applyAll cfg items st).slot i).val = (st.slot i).val := by
  induction items generalizing st with
  | nil => rfl
  | cons x rest ih =>
    rw [applyAll_cons, ih (applyItem cfg x.1 st) (by rw [applyItem_length]; exact hi) (fun y hy => h y (by simp [hy])),
      slot_val_applyItem cfg x.1 st i hi]
    cases ht : itemTarget cfg x.1 with
    | none => rfl
    | some r =>
      obtain ⟨d', v⟩ := r
      have := h x (by simp) d' v ht
      simp [this]


/-- the entry (key body ↦ value) an item records in the wildcard option that owns slot `i`: an
assignment whose key is matched by one of that option's patterns (the body is what the pattern cuts out) -/
def wcAssign (cfg : Cfg) (i : Nat) : Item → Option (Bytes × Val)
  | .assign key _ lit =>
    match lookup cfg.table key with
    | some (d, some body) => if d.id = i ∧ d.logged = true then some (body, lit.val) else none
    | _ => none
  | _ => none

/-- no item reaches slot `i`'s record by another route (a recording option addressed by a plain name or
synonym instead of a wildcard pattern: then the body would be the stale `wc_body_last_`) -/
def OnlyPatternKeys (cfg : Cfg) (i : Nat) (items : List (Item × Bytes)) : Prop :=
  ∀ x ∈ items, ∀ key sep lit d, x.1 = .assign key sep lit → lookup cfg.table key = some (d, none) → d.id = i → d.logged = false

theorem slot_log_applyItem (cfg : Cfg) (it : Item) (st : St) (i : Nat) (hi : i < st.slots.length)
    (hk : ∀ key sep lit d, it = .assign key sep lit → lookup cfg.table key = some (d, none) → d.id = i → d.logged = false) :
    ((applyItem cfg it st).slot i).log =
      (match wcAssign cfg i it with | some e => [e] | none => []) ++ (st.slot i).log := by
  cases it with
  | assign key sep lit =>
    cases hl : lookup cfg.table key with
    | none => simp [applyItem, findOption, wcAssign, hl]
    | some r =>
      obtain ⟨d, ob⟩ := r
      simp only [slot_assign hl, wcAssign, hl]
      by_cases hid : d.id = i
      · subst hid
        cases ob with
        | none => simp [hi, setValue, hk key sep lit d rfl hl rfl, noteMatch]
        | some body =>
          cases hlg : d.logged <;> simp [hi, setValue, hlg, noteMatch, slot_modify_same st _ hi]
      · cases ob <;> simp [hid]
  | unknown key pre eq => rfl
  | query key _ | flagArg key _ _ _ =>
    simp only [applyItem, findOption, wcAssign]
    cases lookup cfg.table key <;> simp [slot_doEcho, slot_addErr, slot_noteMatch.2]

/-- a record is scanned from its newest entry (`l.reverse ++ init`): the first hit is the last element of `l`
that satisfies `p`, else the first of `init` -/
theorem find_reverse_append {α : Type} (p : α → Bool) (l init : List α) :
    (l.reverse ++ init).find? p = ((l.filter p).getLast?).or (init.find? p) := by
  rw [List.find?_append, ← List.head?_filter, List.filter_reverse, List.head?_reverse]

end MpVerif.C11
