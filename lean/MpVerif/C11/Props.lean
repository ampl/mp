import MpVerif.C11.LemmasStep
import MpVerif.C11.LemmasState
import MpVerif.C11.LemmasLookup
import MpVerif.C11.ModelPtr
import MpVerif.C11.Expected
import MpVerif.C11.LemmasGen
import MpVerif.Gen.C11Tok
/-!
# C11 — Solver option parsing is total, faithful and ordered: property theorems

The model (`Model.lean`, `ModelParse.lean`) mirrors `src/solver.cc` / `include/mp/solver-opt.h`
as they are; its agreement with the real code is checked on every run by `checks/c11.py`.
Here: the property theorems (named `C11_*`) and non-vacuity examples, with the small tables (`cx*`) they run on.
-/
namespace MpVerif.C11

/-- Every iteration of the `ParseOptionString` loop that goes on has consumed at least one byte.
(This is the fact that makes Lean accept `parseStr` as a total function: fuel-free well-founded
recursion on the remaining length.) -/
theorem C11_progress (cfg : Cfg) (s s' : Bytes) (st st' : St)
    (h : step cfg s st = .cont s' st') : s'.length < s.length := step_progress h

/-- The loop runs at most `length s + 1` iterations, for every byte string and every table. -/
theorem C11_terminates_within (cfg : Cfg) (s : Bytes) (st : St) : parseIters cfg s st ≤ s.length + 1 := by
  induction hn : s.length using Nat.strongRecOn generalizing s st with
  | _ n ih =>
    rw [parseIters]
    split
    · omega
    · rename_i s' st' h
      have hp := step_progress h
      have := ih s'.length (by omega) s' st' rfl
      omega
    · omega

/-- **Faithfulness.**  For every option table, every list of well-formed items — assignments
addressed by any key that `lookup` resolves (name or synonym in any letter case, wildcard pattern),
written with or without `=`, with integer (in `int` range), real, quoted or bare string value (or
the rest-of-element string on the command line), flags, `key=?` queries, unknown keys, values
given to flags — separated by blanks, with arbitrary leading blanks: parsing the rendered text
terminates normally in exactly the state obtained by applying the items one after the other.
With the default *throwing* error handler the same holds for every list without error items
(unknown key / value given to a flag; for those see `C11_unknown_throws`, `C11_flag_value_throws`).
`applyItem` involves no lexing: it stores the denoted value in the resolved option, records the
echo, or records the error. -/
theorem C11_faithful_general (cfg : Cfg) (items : List (Item × Bytes))
    (hthrow : cfg.throwing = true → ∀ x ∈ items, isErrItem x.1 = false)
    (h : ItemsWF cfg items) (lead : Bytes) (hlead : Blank lead) (st : St) :
    parseStr cfg (lead ++ renderAll items) st = (.ok, applyAll cfg items st) := by
  induction items generalizing lead st with
  | nil =>
    simp only [renderAll, List.append_nil, applyAll, List.foldl_nil]
    exact parseStr_done (step_blank_done cfg st hlead)
  | cons x rest ih =>
    obtain ⟨it, trail⟩ := x
    obtain ⟨hwf, htrail, hsepar, hrawc, hrest⟩ := h
    have hend : trail = [] → renderAll rest = [] := by
      intro ht
      cases rest with
      | nil => rfl
      | cons y ys => exact absurd ht (hsepar (by simp))
    have hraw : isRawAssign it = true → StopsAt (fun c => c.toNat != 10) (trail ++ renderAll rest) := by
      intro hb
      cases trail with
      | nil => rw [hend rfl]; trivial
      | cons c r => exact (hrawc hb).1
    have hgo : (isErrItem it && cfg.throwing) = false := by
      cases hc : cfg.throwing with
      | false => simp
      | true => simpa using hthrow hc (it, trail) (by simp)
    obtain ⟨w, hw, hstep⟩ :=
      step_item (st := st) hlead hwf htrail (renderAll_startsItem cfg rest hrest) hend hraw
    rw [hgo] at hstep
    simp only [renderAll]
    rw [parseStr_cont hstep]
    exact ih (fun ht x hx => hthrow ht x (by simp [hx])) hrest w hw _

/-- `C11_faithful_general` with an error handler that returns (any items) -/
theorem C11_faithful (cfg : Cfg) (hthrow : cfg.throwing = false) (items : List (Item × Bytes))
    (h : ItemsWF cfg items) (lead : Bytes) (hlead : Blank lead) (st : St) :
    parseStr cfg (lead ++ renderAll items) st = (.ok, applyAll cfg items st) :=
  C11_faithful_general cfg items (fun ht => by rw [hthrow] at ht; cases ht) h lead hlead st

theorem parseStr_single {cfg : Cfg} (hthrow : cfg.throwing = false) {it : Item} (hwf : it.WF cfg)
    (hraw : isRawAssign it = false) {lead trail : Bytes} (hlead : Blank lead) (htrail : Blank trail) (st : St) :
    parseStr cfg (lead ++ (it.render ++ trail)) st = (.ok, applyItem cfg it st) := by
  simpa [renderAll, applyAll] using
    C11_faithful cfg hthrow [(it, trail)] ⟨hwf, htrail, by simp, by simp [hraw], trivial⟩ lead hlead st

/-- An assignment stores the written value in the slot of the option the key resolves to (a plain
option) and changes the value of no other slot. -/
theorem C11_assign_sets_exactly (cfg : Cfg) (key : Bytes) (sep : Sep) (lit : Lit) (st : St)
    (d : OptDecl) (ob : Option Bytes) (hl : lookup cfg.table key = some (d, ob)) (hp : d.plain = true)
    (hi : d.id < st.slots.length) :
    ((applyItem cfg (.assign key sep lit) st).slot d.id).val = lit.val ∧
    ∀ j, j < st.slots.length → j ≠ d.id →
      ((applyItem cfg (.assign key sep lit) st).slot j).val = (st.slot j).val := by
  constructor
  · rw [slot_val_applyItem cfg _ st d.id hi]; simp [itemTarget, hl, hp]
  · intro j hj hne
    rw [slot_val_applyItem cfg _ st j hj]; simp [itemTarget, hl, Ne.symm hne]

/-- Stronger form: every *other* slot is left entirely unchanged (value, wildcard/list record, wildcard state),
and no error is recorded. -/
theorem C11_assign_touches_only_target (cfg : Cfg) (key : Bytes) (sep : Sep) (lit : Lit) (st : St)
    (d : OptDecl) (ob : Option Bytes) (hl : lookup cfg.table key = some (d, ob)) :
    (∀ j, j ≠ d.id → (applyItem cfg (.assign key sep lit) st).slot j = st.slot j) ∧
    (applyItem cfg (.assign key sep lit) st).errs = st.errs := by
  refine ⟨fun j hj => by rw [slot_assign hl, if_neg (fun h => hj h.1.symm)], ?_⟩
  simp only [applyItem, findOption_of_lookup hl]
  rw [values_doEcho.2.1]
  simp only [St.modify]
  exact values_noteMatch.2.1

/-- An assignment to a wildcard option written with any of its patterns records exactly the entry
(key body ↦ value): the record grows by `(body, value)` with the body the lookup cut out of the key, and the
getter (what the echo and a following `key=?` show for that body) returns the value. -/
theorem C11_assign_sets_entry (cfg : Cfg) (key : Bytes) (sep : Sep) (lit : Lit) (st : St)
    (d : OptDecl) (body : Bytes) (hl : lookup cfg.table key = some (d, some body)) (hlog : d.logged = true)
    (hi : d.id < st.slots.length) :
    ((applyItem cfg (.assign key sep lit) st).slot d.id).log = (body, lit.val) :: (st.slot d.id).log ∧
    getValue d ((applyItem cfg (.assign key sep lit) st).slot d.id) = lit.val := by
  rw [slot_assign hl, if_pos ⟨rfl, hi⟩, noteMatch, slot_modify_same _ _ hi]
  simp [setValue, getValue, hlog]

/-- The route `OnlyPatternKeys` excludes, characterised: a recording option addressed by a key that resolves
without a wildcard body records the value under the key body left by the LAST wildcard match (`wc_body_last_`;
empty if there was none).  By `C11_plain_key_never_wildcard` such an option is a list option, for which that is
the intended behaviour (the body is never set). -/
theorem C11_plain_key_records_under_last_body (cfg : Cfg) (key : Bytes) (sep : Sep) (lit : Lit) (st : St)
    (d : OptDecl) (hl : lookup cfg.table key = some (d, none)) (hlog : d.logged = true)
    (hi : d.id < st.slots.length) :
    ((applyItem cfg (.assign key sep lit) st).slot d.id).log =
      ((st.slot d.id).wcBody, lit.val) :: (st.slot d.id).log := by
  rw [slot_assign hl, if_pos ⟨rfl, hi⟩]
  simp [setValue, hlog, noteMatch]

/-- the usual decimal rendering `intLitOf v` of any integer `v` is a well-formed literal denoting `v` -/
theorem C11_int_literal_value (v : Int) : (intLitOf v).WF ∧ (intLitOf v).value = v := by
  refine ⟨⟨natDigits_ne_nil _, natDigits_allDigits _⟩, ?_⟩
  unfold intLitOf IntLit.value
  simp only [digitsVal_natDigits]
  split <;> split <;> simp_all <;> omega

/-- `key=?` leaves every option value (and the error list) unchanged; with echo enabled one line
is printed. -/
theorem C11_query_inert (cfg : Cfg) (key : Bytes) (sep : Sep) (st : St) :
    (applyItem cfg (.query key sep) st).values = st.values ∧
    (applyItem cfg (.query key sep) st).errs = st.errs := by
  simp only [applyItem, findOption]
  cases hl : lookup cfg.table key with
  | none => simp
  | some r =>
    simp only [Option.map_some]
    exact ⟨by rw [values_doEcho.1, values_noteMatch.1],
           by rw [values_doEcho.2.1, values_noteMatch.2.1]⟩

/-- the same on the text: parsing `blanks key [=] ? blanks` ends normally with all values and
the error list unchanged -/
theorem C11_query_inert_parse (cfg : Cfg) (hthrow : cfg.throwing = false) (key : Bytes) (sep : Sep)
    (hwf : (Item.query key sep).WF cfg) (lead trail : Bytes) (hlead : Blank lead) (htrail : Blank trail) (st : St) :
    (parseStr cfg (lead ++ (key ++ (sep.render ++ [63]) ++ trail)) st).1 = .ok ∧
    (parseStr cfg (lead ++ (key ++ (sep.render ++ [63]) ++ trail)) st).2.values = st.values ∧
    (parseStr cfg (lead ++ (key ++ (sep.render ++ [63]) ++ trail)) st).2.errs = st.errs := by
  have h := parseStr_single hthrow hwf rfl hlead htrail st
  simp only [Item.render] at h
  rw [h]
  exact ⟨rfl, C11_query_inert cfg key sep st⟩

/-- An unknown name is reported as an error (the list grows by exactly that error, so
`ParseOptions` returns false) and no option value changes. -/
theorem C11_unknown_inert (cfg : Cfg) (hthrow : cfg.throwing = false) (key pre : Bytes) (eq : Bool)
    (hwf : (Item.unknown key pre eq).WF cfg) (lead trail : Bytes) (hlead : Blank lead) (htrail : Blank trail) (st : St) :
    parseStr cfg (lead ++ ((Item.unknown key pre eq).render ++ trail)) st = (.ok, addErr (.unknown key) st) ∧
    (addErr (.unknown key) st).values = st.values ∧ (addErr (.unknown key) st).errs = .unknown key :: st.errs := by
  exact ⟨parseStr_single hthrow hwf rfl hlead htrail st, rfl, rfl⟩

/-- A value given to a flag is reported as an error, the value token is skipped, and no option
value changes (in particular the flag is not set). -/
theorem C11_flag_value_inert (cfg : Cfg) (hthrow : cfg.throwing = false) (key pre post junk : Bytes)
    (hwf : (Item.flagArg key pre post junk).WF cfg) (lead trail : Bytes) (hlead : Blank lead) (htrail : Blank trail) (st : St) :
    (parseStr cfg (lead ++ ((Item.flagArg key pre post junk).render ++ trail)) st).1 = .ok ∧
    (parseStr cfg (lead ++ ((Item.flagArg key pre post junk).render ++ trail)) st).2.values = st.values ∧
    (parseStr cfg (lead ++ ((Item.flagArg key pre post junk).render ++ trail)) st).2.errs = .flagArg key :: st.errs := by
  rw [parseStr_single hthrow hwf rfl hlead htrail st]
  exact ⟨rfl, flagArg_obs hwf st⟩

/-- With the default (throwing) error handler the first unknown name ends the parse by an
exception (`mp::Error`); the option values are those reached so far. -/
theorem C11_unknown_throws (cfg : Cfg) (hthrow : cfg.throwing = true) (key pre : Bytes) (eq : Bool)
    (hwf : (Item.unknown key pre eq).WF cfg) (lead trail n : Bytes) (hlead : Blank lead) (htrail : Blank trail)
    (hn : StartsItem n) (hend : trail = [] → n = []) (st : St) :
    parseStr cfg (lead ++ ((Item.unknown key pre eq).render ++ (trail ++ n))) st =
      (.threwError, addErr (.unknown key) st) :=
  parseStr_stop (by rw [step_unknown hlead hwf htrail hn hend, hthrow]; rfl)

/-- With the default (throwing) error handler a value given to a flag ends the parse by an
exception (`mp::Error`); no option value has changed. -/
theorem C11_flag_value_throws (cfg : Cfg) (hthrow : cfg.throwing = true) (key pre post junk : Bytes)
    (hwf : (Item.flagArg key pre post junk).WF cfg) (lead trail n : Bytes) (hlead : Blank lead)
    (hK : EndsToken (trail ++ n)) (st : St) :
    (parseStr cfg (lead ++ ((Item.flagArg key pre post junk).render ++ (trail ++ n))) st).1 = .threwError ∧
    (parseStr cfg (lead ++ ((Item.flagArg key pre post junk).render ++ (trail ++ n))) st).2.values = st.values ∧
    (parseStr cfg (lead ++ ((Item.flagArg key pre post junk).render ++ (trail ++ n))) st).2.errs = .flagArg key :: st.errs := by
  rw [parseStr_stop (by rw [step_flagArg hlead hwf hK, hthrow]; rfl)]
  exact ⟨rfl, flagArg_obs hwf st⟩

/-- **Later overrides earlier.**  Whatever precedes it, the last assignment to a plain option
determines the option's final value. -/
theorem C11_last_wins (cfg : Cfg) (before after : List (Item × Bytes)) (key : Bytes) (sep : Sep) (lit : Lit)
    (trail : Bytes) (d : OptDecl) (ob : Option Bytes) (st : St)
    (hl : lookup cfg.table key = some (d, ob)) (hp : d.plain = true) (hi : d.id < st.slots.length)
    (hafter : ∀ x ∈ after, ∀ d' v, itemTarget cfg x.1 = some (d', v) → d'.id ≠ d.id) :
    ((applyAll cfg (before ++ (.assign key sep lit, trail) :: after) st).slot d.id).val = lit.val := by
  rw [applyAll_append]
  have hlen0 : d.id < (applyAll cfg before st).slots.length := by rw [applyAll_length]; exact hi
  generalize applyAll cfg before st = st0 at hlen0
  rw [applyAll_cons, slot_val_untouched cfg after d.id _ (by rw [applyItem_length]; exact hlen0) hafter]
  exact (C11_assign_sets_exactly cfg key sep lit st0 d ob hl hp hlen0).1

/-- faithfulness over a sequence of option strings parsed one after the other -/
theorem C11_faithful_sources (cfg : Cfg) (hthrow : cfg.throwing = false) (srcs : List (Bytes × List (Item × Bytes)))
    (hwf : ∀ x ∈ srcs, Blank x.1 ∧ ItemsWF cfg x.2) (st : St) :
    parseMany cfg (srcs.map (fun x => x.1 ++ renderAll x.2)) st =
      (.ok, applyAll cfg (srcs.map (·.2)).flatten st) := by
  induction srcs generalizing st with
  | nil => rfl
  | cons x rest ih =>
    obtain ⟨hb, hi⟩ := hwf x (by simp)
    simp only [List.map_cons, parseMany, C11_faithful cfg hthrow x.2 hi x.1 hb st, List.flatten_cons]
    rw [ih (fun y hy => hwf y (by simp [hy])), applyAll_append]

/-- **Source order.**  `ParseOptions` reads `mp_options`, then `<exe>_options` if set and otherwise
`<solver>_options` (`envSources`, by definition in this order), then the command-line elements; if
every source is a well-formed item text, the result is that of applying all items in exactly this
order (so, with `C11_last_wins`, a later source overrides an earlier one). -/
theorem C11_order (c : Call) (hthrow : c.throwing = false) (st : St)
    (srcEnv srcArg : List (Bytes × List (Item × Bytes)))
    (hE : envSources c = srcEnv.map (fun x => x.1 ++ renderAll x.2))
    (hEwf : ∀ x ∈ srcEnv, Blank x.1 ∧ ItemsWF c.cfgEnv x.2)
    (hA : c.argv.getD [] = srcArg.map (fun x => x.1 ++ renderAll x.2))
    (hAwf : ∀ x ∈ srcArg, Blank x.1 ∧ ItemsWF c.cfgArg x.2) :
    parseOptions c st = (.ok, applyAll c.cfgArg
      ((srcEnv.map (·.2)).flatten ++ (srcArg.map (·.2)).flatten) { st with errs := [] }) := by
  unfold parseOptions
  simp only [hE, hA]
  rw [C11_faithful_sources _ hthrow srcEnv hEwf]
  simp only
  rw [C11_faithful_sources _ hthrow srcArg hAwf, applyAll_append, applyAll_cfg c.cfgEnv c.cfgArg rfl rfl]

/-- **History of a wildcard option.**  For every list of items and every state: the record kept for the
wildcard option that owns slot `i` is, after all items, exactly the list of the `(key body, value)` assignments
made to it through any of its patterns, in order (newest first, on top of the initial record) — whatever else the
list contains (assignments to other options and other slots, queries, unknown keys, errors), and however the
bodies interleave.  `OnlyPatternKeys`: the option is not also addressed by a plain name/synonym (that route
would record under the stale `wc_body_last_`). -/
theorem C11_wildcard_history (cfg : Cfg) (items : List (Item × Bytes)) (i : Nat) (st : St)
    (hi : i < st.slots.length) (hk : OnlyPatternKeys cfg i items) :
    ((applyAll cfg items st).slot i).log =
      (items.filterMap (fun x => wcAssign cfg i x.1)).reverse ++ (st.slot i).log := by
  induction items generalizing st with
  | nil => simp [applyAll]
  | cons x rest ih =>
    have hk' : OnlyPatternKeys cfg i rest := fun y hy => hk y (by simp [hy])
    have hx := slot_log_applyItem cfg x.1 st i hi (fun key sep lit d h1 h2 h3 => hk x (by simp) key sep lit d h1 h2 h3)
    rw [applyAll_cons, ih (applyItem cfg x.1 st) (by rw [applyItem_length]; exact hi) hk', hx]
    cases hw : wcAssign cfg i x.1 with
    | none => simp [hw]
    | some e => simp [hw]

/-- **Later overrides earlier, per entry and across spellings.**  What the getter finds for key body `b`
(`getValue` looks up the newest record with that body) after all items is the value of the LAST assignment made
to body `b` through any pattern of the option; assignments to other bodies in between do not matter; if there
was none, the entry is as before. -/
theorem C11_wildcard_entry_last_wins (cfg : Cfg) (items : List (Item × Bytes)) (i : Nat) (st : St) (b : Bytes)
    (hi : i < st.slots.length) (hk : OnlyPatternKeys cfg i items) :
    ((applyAll cfg items st).slot i).log.find? (fun e => e.1 == b) =
      (((items.filterMap (fun x => wcAssign cfg i x.1)).filter (fun e => e.1 == b)).getLast?).or
        ((st.slot i).log.find? (fun e => e.1 == b)) := by
  rw [C11_wildcard_history cfg items i st hi hk]
  exact find_reverse_append _ _ _

/-- **A later source overrides an earlier one.**  Under the hypotheses of `C11_order`: if the last
assignment to a plain option `d` among the command-line items is `key [=] lit`, the option's final
value is `lit`'s, whatever `mp_options` and `<solver>_options` assigned to it (likewise, by the same
theorems, `<solver>_options` over `mp_options`). -/
theorem C11_command_line_overrides_env (c : Call) (hthrow : c.throwing = false) (st : St)
    (srcEnv srcArg : List (Bytes × List (Item × Bytes)))
    (hE : envSources c = srcEnv.map (fun x => x.1 ++ renderAll x.2))
    (hEwf : ∀ x ∈ srcEnv, Blank x.1 ∧ ItemsWF c.cfgEnv x.2)
    (hA : c.argv.getD [] = srcArg.map (fun x => x.1 ++ renderAll x.2))
    (hAwf : ∀ x ∈ srcArg, Blank x.1 ∧ ItemsWF c.cfgArg x.2)
    (before after : List (Item × Bytes)) (key : Bytes) (sep : Sep) (lit : Lit) (trail : Bytes)
    (hsplit : (srcArg.map (·.2)).flatten = before ++ (.assign key sep lit, trail) :: after)
    (d : OptDecl) (ob : Option Bytes) (hl : lookup c.table key = some (d, ob)) (hp : d.plain = true)
    (hi : d.id < st.slots.length)
    (hafter : ∀ x ∈ after, ∀ d' v, itemTarget c.cfgArg x.1 = some (d', v) → d'.id ≠ d.id) :
    (((parseOptions c st).2).slot d.id).val = lit.val ∧ (parseOptions c st).1 = .ok := by
  rw [C11_order c hthrow st srcEnv srcArg hE hEwf hA hAwf, hsplit, ← List.append_assoc]
  exact ⟨C11_last_wins c.cfgArg _ after key sep lit trail d ob { st with errs := [] } hl hp hi hafter, rfl⟩

/-- **Option files.**  If the lines `ProcessLines_AvoidComments` hands over are well-formed item texts,
reading the file (`tech:optionfile=<name>`, at any nesting depth still allowed) has exactly the effect of
applying the file's items in order, after the name was saved. -/
theorem C11_optionfile_faithful (c : Call) (hthrow : c.throwing = false) (n : Nat) (name content : Bytes)
    (hfile : c.files.find? (fun f => f.1 == name) = some (name, content))
    (srcs : List (Bytes × List (Item × Bytes)))
    (hlines : fileLines content = srcs.map (fun x => x.1 ++ renderAll x.2))
    (hwf : ∀ x ∈ srcs, Blank x.1 ∧ ItemsWF (c.cfgFile n) x.2)
    (save : St → St) (st : St) :
    fileLevel c (n + 1) name save st =
      (.ok, applyAll (c.cfgFile n) (srcs.map (·.2)).flatten (save st)) := by
  simp only [fileLevel, hfile, hlines]
  exact C11_faithful_sources _ hthrow srcs hwf (save st)

/-- with no nesting level left (`fileLevel` at 0; `parseOptions` starts it at `maxFileDepth` = 32, the
`if (nesting > 32)` of ampl/mp 5ace2c7) `mp::Error` is raised and nothing is read or saved: in particular a file that
names itself ends with an error -/
theorem C11_optionfile_nesting_limit (c : Call) (name : Bytes) (save : St → St) (st : St) :
    fileLevel c 0 name save st = (.threwError, { st with errs := .fileNesting name :: st.errs }) := rfl

/-- the environment sources in the order they are read -/
theorem C11_env_source_order (c : Call) :
    envSources c =
      (getenv c.env mpOptions).toList ++
      (match (if c.exePath.isEmpty then none else getenv c.env (stripExt (fileName c.exePath) ++ suffixOptions)) with
       | some v => [v]
       | none => (getenv c.env (c.solverName ++ suffixOptions)).toList) := rfl

/-- any re-casing of a key is `strcasecmp`-equal to it -/
theorem C11_any_case (mask : List Bool) (b : Bytes) : ciEq (recase mask b) b = true := by
  rw [ciEq_iff]
  induction b generalizing mask with
  | nil => cases mask <;> rfl
  | cons c r ih =>
    cases mask with
    | nil => rfl
    | cons m ms =>
      simp only [recase, lowerAll, List.map_cons] at ih ⊢
      rw [ih ms]
      cases m <;> simp [lower_swapCase]

/-- an option is found by its name written in any letter case -/
theorem C11_lookup_name_anycase (t : Table) (hd : NamesDistinct t) (d : OptDecl) (hmem : d ∈ t)
    (hw : d.isWildcard = false) (mask : List Bool) :
    lookup t (recase mask d.name) = some (d, none) :=
  by simp [lookup_name hd hmem (C11_any_case mask d.name), hw]

/-- an option is found by any of its synonyms written in any letter case, provided no option's
name equals the key (the name has priority) and no option earlier in the set order matches it -/
theorem C11_lookup_synonym_anycase (before after : Table) (d : OptDecl) (syn : Bytes) (mask : List Bool)
    (hs : syn ∈ d.syns) (hw : d.isWildcard = false)
    (hn : ∀ e ∈ before ++ d :: after, ciEq e.name (recase mask syn) = false)
    (hb : ∀ e ∈ before, e.syns.any (fun s => ciEq (recase mask syn) s) = false ∧
                        wcMatch e.headTails (recase mask syn) = none) :
    lookup (before ++ d :: after) (recase mask syn) = some (d, none) := by
  simp [lookup_at hn hb, findLoop, hw, List.any_eq_true.mpr ⟨syn, hs, C11_any_case mask syn⟩]

/-- for **every** pattern of the option — primary name or any synonym, of any shape (head
and tail lengths differing from the primary's, empty tail, empty head): the key `head body tail`
written with the pattern `head*tail` resolves to the option and the recorded key body (the address
of the entry the setter/getter see through `wc_keybody_last()`) is exactly `body`; the condition is
that no pattern listed earlier for the same option matches the key (then that one would cut it). -/
theorem C11_lookup_wildcard_any_pattern (before after : Table) (d : OptDecl) (pre post : List (Bytes × Bytes))
    (h body tl : Bytes) (hht : d.headTails = pre ++ (h, tl) :: post) (hbody : body ≠ [])
    (hpre : ∀ ht ∈ pre, wcMatch1 ht (h ++ (body ++ tl)) = none)
    (hn : ∀ e ∈ before ++ d :: after, ciEq e.name (h ++ (body ++ tl)) = false)
    (hb : ∀ e ∈ before, e.syns.any (fun s => ciEq (h ++ (body ++ tl)) s) = false ∧
                        wcMatch e.headTails (h ++ (body ++ tl)) = none)
    (hs : d.syns.any (fun s => ciEq (h ++ (body ++ tl)) s) = false) :
    lookup (before ++ d :: after) (h ++ (body ++ tl)) = some (d, some body) := by
  simp [lookup_at hn hb, findLoop, hs, hht, wcMatch_pattern hbody hpre]

/-- in particular a key `head body tail` addresses the wildcard option `head*tail`; the recorded body is `body` -/
theorem C11_lookup_wildcard (before after : Table) (d : OptDecl) (h body tl : Bytes)
    (hname : d.name = h ++ star :: tl) (hh : ∀ c ∈ h, c ≠ star) (hbody : body ≠ [])
    (hn : ∀ e ∈ before ++ d :: after, ciEq e.name (h ++ (body ++ tl)) = false)
    (hb : ∀ e ∈ before, e.syns.any (fun s => ciEq (h ++ (body ++ tl)) s) = false ∧
                        wcMatch e.headTails (h ++ (body ++ tl)) = none)
    (hs : d.syns.any (fun s => ciEq (h ++ (body ++ tl)) s) = false) :
    lookup (before ++ d :: after) (h ++ (body ++ tl)) = some (d, some body) :=
  C11_lookup_wildcard_any_pattern before after d [] _ h body tl (headTails_name hname hh) hbody (by simp) hn hb hs

/-- every synonym pattern `head*tail` of a wildcard option is among the patterns tried, with
exactly this head and tail (so `C11_lookup_wildcard_any_pattern` applies to it), and a single pattern cuts the
key `head body tail` to `body` whatever the shapes of the other patterns -/
theorem C11_wildcard_synonym_pattern (d : OptDecl) (hw : d.isWildcard = true) (syn h tl body : Bytes)
    (hsyn : syn ∈ d.syns) (hpat : syn = h ++ star :: tl) (hh : ∀ c ∈ h, c ≠ star) (hbody : body ≠ []) :
    (h, tl) ∈ d.headTails ∧ wcMatch1 (h, tl) (h ++ (body ++ tl)) = some body := by
  refine ⟨?_, wcMatch1_pattern h body tl hbody⟩
  simp only [OptDecl.headTails, hw, if_true, List.mem_cons, List.mem_map]
  exact .inr ⟨syn, hsyn, by rw [hpat]; exact wcSplit_pattern hh⟩

/-- The primary name pattern of a wildcard option typed literally (in any letter case) is an unknown key
("a wildcard pattern itself is not a key": `if ((*i)->is_wildcard() && wildcardvalues) return 0`). -/
theorem C11_wildcard_name_literal_unknown (t : Table) (hd : NamesDistinct t) (d : OptDecl) (hmem : d ∈ t)
    (hw : d.isWildcard = true) (key : Bytes) (hk : ciEq key d.name = true) : lookup t key = none := by
  simp [lookup_name hd hmem hk, hw]

/-- … and so is the literal text of any of its SYNONYM patterns (or a star-less synonym), in any letter case
(ampl/mp 084cb26): the key is unknown, nothing is stored.

This rests on the wildcard test in the synonym branch of `FindOption`: without it the key `p*` of option `o:*` with
synonym `p*` resolves to the option with no body, and by `C11_plain_key_records_under_last_body` the value lands on the
entry addressed before (`obj:2:priority=5 obj_*_priority=3` sets entry 2 to 3; known finding
C11-wildcard-literal-synonym). -/
theorem C11_wildcard_synonym_literal_unknown (before after : Table) (d : OptDecl) (syn key : Bytes)
    (hw : d.isWildcard = true) (hs : syn ∈ d.syns) (hk : ciEq key syn = true)
    (hn : ∀ e ∈ before ++ d :: after, ciEq e.name key = false)
    (hb : ∀ e ∈ before, e.syns.any (fun s => ciEq key s) = false ∧ wcMatch e.headTails key = none) :
    lookup (before ++ d :: after) key = none := by
  simp [lookup_at hn hb, findLoop, hw, List.any_eq_true.mpr ⟨syn, hs, hk⟩]

/-- consequently a key that resolves WITHOUT a wildcard body never denotes a wildcard option: the stale-body
route of `C11_plain_key_records_under_last_body` is open to list options only -/
theorem C11_plain_key_never_wildcard (t : Table) (key : Bytes) (d : OptDecl)
    (h : lookup t key = some (d, none)) : d.isWildcard = false := by
  unfold lookup at h
  split at h
  · split at h
    · cases h
    · rename_i hw; simp at h; rw [← h]; simpa using hw
  · exact findLoop_none_body h

-- option `o:*` with synonym `p*`: the patterns typed literally, `p*` and `o:*`, are both unknown keys
example : lookup (buildTable [{ id := 0, name := [111, 58, 42], syns := [[112, 42]], kind := .int }]) [112, 42] = none ∧
    lookup (buildTable [{ id := 0, name := [111, 58, 42], syns := [[112, 42]], kind := .int }]) [111, 58, 42] = none :=
  ⟨by rfl, by rfl⟩

/-! Memory safety of the tokeniser: reads are bounded by the terminating NUL.  In `SkipToMatchingQuote` that is the
`*s &&` of `while (*s && *s != quote) ++s;` (ampl/mp 7d345ba): a loop `while (*s != quote) ++s; return ++s;` reads beyond
the NUL on an unterminated quote (option text `x='`: index 4 of a string whose NUL is at index 3; known finding
C11-unterminated-quote-overread). -/

/-- **In bounds.**  Every scanner of the tokeniser — the four `while (*s && …)` loops
(`SkipSpaces`, `SkipNonSpaces`, `SkipToEnd`, the name scan; any byte class `p`) from any position
inside the string, and `SkipToMatchingQuote` followed by the closing-quote skip from any quote
inside the string — reads only indices ≤ the index of the terminating NUL (the pointer machines
return `none` on any read beyond it), ends at a position ≤ that index, and computes exactly what
the list model computes; for every NUL-free buffer. -/
theorem C11_in_bounds (buf : Bytes) (hn : NoNul buf) :
    (∀ (p : UInt8 → Bool) (i : Nat), i ≤ buf.length →
      ∃ j, pScan p buf i = some j ∧ i ≤ j ∧ j ≤ buf.length ∧ buf.drop j = (buf.drop i).dropWhile p) ∧
    (∀ (i : Nat) (hi : i < buf.length),
      ∃ j k, pSkipToMatchingQuote buf i = some j ∧ j ≤ buf.length ∧ pAfterQuote buf j = some k ∧ k ≤ buf.length ∧
        (buf.drop (i + 1)).take (j - (i + 1)) = (skipToMatchingQuote buf[i] (buf.drop (i + 1))).1 ∧
        buf.drop k = (skipToMatchingQuote buf[i] (buf.drop (i + 1))).2) :=
  ⟨fun p i hi => pScan_spec p buf hn i hi, fun i hi => pSkipToMatchingQuote_spec buf hn i hi⟩

/-- `Outcome` has these four constructors and no other — normal termination and the three exception types of the
C++ code (logic_error / mp::Error / InvalidOptionValue) — so `parseStr`, a total function into it, returns one of
them for every byte string.  The statement uses nothing else about `parseStr`. -/
theorem C11_outcomes (cfg : Cfg) (s : Bytes) (st : St) :
    (parseStr cfg s st).1 = .ok ∨ (parseStr cfg s st).1 = .threwLogic ∨
    (parseStr cfg s st).1 = .threwError ∨ (parseStr cfg s st).1 = .threwInvalid := by
  cases (parseStr cfg s st).1 <;> simp

/-- An unterminated quoted value takes the rest of the string as the value and parsing ends normally. -/
theorem C11_unterminated_quote_total (cfg : Cfg) (st : St) (lead key body : Bytes) (sep : Sep) (q : UInt8)
    (d : OptDecl) (ob : Option Bytes)
    (hlead : Blank lead) (hkey : KeyOk key) (hsep : sep.WF) (hpre : sep.eq = false → sep.pre ≠ [])
    (hl : lookup cfg.table key = some (d, ob)) (hk : d.kind = .str) (hcl : cfg.cmdLine = false)
    (hq : isQuote q = true) (hb : ∀ c ∈ body, c ≠ q) :
    parseStr cfg (lead ++ (key ++ (sep.render ++ q :: body))) st =
      (.ok, doEcho cfg.noEcho d ((noteMatch d key ob st).modify d.id (setValue d (.str body)))) := by
  have hstep : step cfg (lead ++ (key ++ (sep.render ++ q :: body))) st =
      .cont [] (doEcho cfg.noEcho d ((noteMatch d key ob st).modify d.id (setValue d (.str body)))) := by
    rw [step_value hlead hkey hsep (.quote hq) (fun he hp => absurd hp (hpre he)) hl (by simp [hk])]
    have hv : parseStrVal false (q :: body) = (body, []) := by simpa using parseStrVal_quote hq hb (rest := []) trivial
    simp [hk, parseValue, hcl, hv]
  rw [parseStr_cont hstep]
  exact parseStr_done (step_blank_done cfg _ Blank.nil)

/-! ## integer values outside `int`

Full-strength statement (FALSE on the code as it exists): an integer literal of any size is
stored exactly or rejected.  `OptionHelper<int>::Parse` narrows `strtol`'s `long` to `int`. -/

/-- **Counterexample.**  `big=3000000000` stores -1294967296 (no error). -/
theorem C11_counterexample_int_wrap :
    (parseInt [51, 48, 48, 48, 48, 48, 48, 48, 48, 48]).1 = -1294967296 := by decide

/-- what is stored for an integer literal of any size: the value clamped to `long`, then wrapped to `int` -/
theorem C11_int_stored_partial (l : IntLit) (hl : l.WF) (tail : Bytes) (ht : StopsAt isDigit tail) :
    parseInt (l.render ++ tail) = (wrap32 (clampLong l.value), tail) ∧
    (-2147483648 ≤ l.value → l.value ≤ 2147483647 → wrap32 (clampLong l.value) = l.value) :=
  ⟨parseInt_lit l hl ht, wrap32_clamp_id⟩

/-! ## tie to the source: definitions regenerated from `src/solver.cc` / `solver-opt.h` on every run

`MpVerif.Gen.C11Tok` is emitted by `translators/gen_c11.py` from clang's typed AST of the current tree.  The theorems
below state that the hand model's character classes, loop conditions, dispatch tests and integer conversion ARE the
generated ones (for every byte), and that the statement structure of every function the model mirrors is the one the
model was written against.  A change of the C++ code that alters any of them makes these theorems fail. -/

section GenTie
open MpVerif.CSem MpVerif.C11.CLib MpVerif.Gen.C11Tok
attribute [local simp] tobool_eq_tv cnot_eq_tv ceq_eq_tv cne_eq_tv tv_ne_zero tv_eq_zero

/-- the loop of `SkipSpaces` is `pScan isSpace` (`while (*s && isspace(*s)) ++s; return s;`) -/
theorem C11_gen_SkipSpaces (c : UInt8) : (SkipSpaces_cond (charVal c) != 0) = (c != 0 && isSpace c) := by
  rw [Bool.eq_iff_iff]; simp [SkipSpaces_cond]

/-- `while (*s && !isspace(*s)) ++s;` -/
theorem C11_gen_SkipNonSpaces (c : UInt8) : (SkipNonSpaces_cond (charVal c) != 0) = (c != 0 && !isSpace c) := by
  rw [Bool.eq_iff_iff]; simp [SkipNonSpaces_cond]

/-- `while (*s && (*s != '\n')) ++s;` -/
theorem C11_gen_SkipToEnd (c : UInt8) : (SkipToEnd_cond (charVal c) != 0) = (c != 0 && c.toNat != 10) := by
  rw [Bool.eq_iff_iff]; simp [SkipToEnd_cond]

/-- the loop of `SkipToMatchingQuote` (ampl/mp 7d345ba): `while (*s && *s != quote) ++s;` -/
theorem C11_gen_SkipToMatchingQuote (c q : UInt8) :
    (SkipToMatchingQuote_cond (charVal c) (charVal q) != 0) = (c != 0 && c != q) := by
  rw [Bool.eq_iff_iff]; simp [SkipToMatchingQuote_cond]

/-- `quoted`: `return (*s == '\'' || *s == '"');` -/
theorem C11_gen_quoted (c : UInt8) : (quoted_ret (charVal c) != 0) = isQuote c := by
  rw [Bool.eq_iff_iff]; simp [quoted_ret, isQuote]

/-- the name scan of `ParseOptionString`: `while (*s && !isspace(*s) && *s != '=') ++s;` -/
theorem C11_gen_nameScan (c : UInt8) : (ParseOptionString_cond0 (charVal c) != 0) = (c != 0 && isNameChar c) := by
  rw [Bool.eq_iff_iff]; simp [ParseOptionString_cond0, isNameChar, and_assoc]

/-- the `=` test of `ParseOptionString` (`afterName`) -/
theorem C11_gen_equalSign (c : UInt8) : (ParseOptionString_cond1 (charVal c) != 0) = (c.toNat == 61) := by
  rw [Bool.eq_iff_iff]; simp [ParseOptionString_cond1]

/-- `if (*s == '?')` -/
theorem C11_gen_queryMark (c : UInt8) : (ParseOptionString_cond2 (charVal c) != 0) = (c.toNat == 63) := by
  rw [Bool.eq_iff_iff]; simp [ParseOptionString_cond2]

/-- `if (!next || std::isspace(next))`, `next = s[1]` -/
theorem C11_gen_queryNext (d : UInt8) : (ParseOptionString_cond3 (charVal d) != 0) = (d == 0 || isSpace d) := by
  rw [Bool.eq_iff_iff]; simp [ParseOptionString_cond3]

/-- the `?` dispatch of `ParseOptionString`: `if (*s == '?') { char next = s[1]; if (!next || isspace(next)) …`
is `isQuery`; the byte after the text is the NUL (0) when the list ends -/
theorem C11_gen_query (c : UInt8) (r : Bytes) (hr : ∀ d ∈ r, d ≠ 0) :
    isQuery (c :: r) = ((ParseOptionString_cond2 (charVal c) != 0) && (ParseOptionString_cond3 (charVal (r.headD 0)) != 0)) := by
  rw [C11_gen_queryMark, C11_gen_queryNext]
  cases r with
  | nil => simp [isQuery]
  | cons d t =>
    have h0 : (d == 0) = false := by simpa using hr d (by simp)
    simp [isQuery, h0]

/-- exactly these four byte conditions occur in `ParseOptionString` -/
theorem C11_gen_nconds : ParseOptionString_nconds = 4 := rfl

/-- `OptionHelper<int>::Parse`: decimal `strtol`, result converted `long → int` modularly = the model's `wrap32` -/
theorem C11_gen_intParse : intParse_base = 10 ∧ ∀ v : Int, LONG_MIN ≤ v → v ≤ LONG_MAX → intParse_conv v = wrap32 v := by
  refine ⟨by decide, ?_⟩
  intro v h1 h2
  unfold LONG_MIN at h1
  unfold LONG_MAX at h2
  simp only [intParse_conv, conv, CTy.wrap, tI, tL, wrap32]
  simp
  omega

/-- **`wc_match` tied by translation.**  The model's per-pattern test-and-cut `wcMatch1` IS the generated
`wc_match_cond` / `wc_match_body` (translated from the `std::string` expressions of `SolverOption::wc_match`:
`rfind`, `size`, `substr`, size_t subtraction) for every key, every pattern and whatever the primary pattern is —
for keys shorter than 2^63 bytes.  A change such as cutting the body with `wc_head()`/`wc_tail()` (the primary
pattern) instead of the matched pattern makes the generated definition depend on `head0`/`tail0` and this
theorem unprovable. -/
theorem C11_gen_wc_match (key head tail head0 tail0 : Bytes) (hlen : key.length < 9223372036854775808) :
    wcMatch1 (head, tail) key =
      if wc_match_cond key head tail head0 tail0 then some (wc_match_body key head tail head0 tail0) else none := by
  have hnpos : key.length < StdStr.npos := by unfold StdStr.npos; omega
  -- the test: `rfind` at 0 is the prefix test; for a shorter tail, `rfind` from the end is the suffix test
  have hc : wc_match_cond key head tail head0 tail0 =
      (head.isPrefixOf key && decide (key.length > tail.length) && tail.isSuffixOf key) := by
    unfold wc_match_cond
    rw [Bool.beq_comm, StdStr.rfind_zero_iff]
    by_cases hgt : key.length > tail.length
    · rw [StdStr.rfind_end_iff key tail (by omega) hnpos]
    · simp [hgt]
  simp only [wcMatch1, hc]
  refine ite_congr rfl (fun h => ?_) (fun _ => rfl)
  simp only [Bool.and_eq_true, decide_eq_true_eq] at h
  have hh : head.length ≤ key.length := (List.isPrefixOf_iff_prefix.mp h.1.1).length_le
  -- the cut: the `size_t` count wraps around when head and tail overlap in the key, and `substr` then takes all there is
  unfold wc_match_body StdStr.substr StdStr.usub
  split
  · congr 2; omega
  · rw [List.take_of_length_le (by simp; omega)]

/-- **`wc_split` tied by translation.**  The model's `wcSplit` (head and tail of a name/synonym pattern around the
first `*`; for a string without `*` both are the whole string, because `find_first_of` returns `npos`,
`substr(0, npos)` is everything and `npos + 1` wraps to 0) IS the generated pair
(`wc_split_head`, `wc_split_tail`), translated from `SolverOption::wc_split`'s `find_first_of` / `substr` / size_t `+`,
for every string shorter than 2^63 bytes. -/
theorem C11_gen_wc_split (b : Bytes) (hlen : b.length < 9223372036854775808) :
    wcSplit b = (wc_split_head b, wc_split_tail b) := by
  unfold wcSplit wc_split_head wc_split_tail wc_split_pos StdStr.findFirstOf hasStar star
  by_cases h : b.any (fun c => c == 42) = true
  · have hk := StdStr.takeWhile_length_lt_of_any 42 b h
    have hu : StdStr.uadd (b.takeWhile (fun x => x != 42)).length 1 = (b.takeWhile (fun x => x != 42)).length + 1 := by
      unfold StdStr.uadd; omega
    have hbig : (b.drop ((b.takeWhile (fun x => x != 42)).length + 1)).length ≤ StdStr.npos := by
      unfold StdStr.npos; simp; omega
    simp only [h, if_true, StdStr.substr, List.drop_zero, hu, StdStr.take_takeWhile_length,
      List.take_of_length_le hbig]
    rw [← List.drop_drop, StdStr.drop_takeWhile_length]
  · have h' : b.any (fun c => c == 42) = false := Bool.eq_false_iff.mpr h
    have hbig : b.length ≤ StdStr.npos := by unfold StdStr.npos; omega
    have hz : StdStr.uadd StdStr.npos 1 = 0 := by decide
    simp [h', StdStr.substr, hz, List.take_of_length_le hbig]

/-- the loop shapes the pointer machines `pScan` / `pSkipToMatchingQuote` model -/
theorem C11_gen_shapes :
    SkipSpaces_shape = Expected.scanShape ∧ SkipNonSpaces_shape = Expected.scanShape ∧ SkipToEnd_shape = Expected.scanShape ∧
    SkipToMatchingQuote_shape = Expected.quoteScanShape ∧ quoted_shape = "return cond(c0)" :=
  ⟨rfl, rfl, rfl, rfl, rfl⟩

/-- the value kinds of the typed parser: int, long long (both `Kind.int`), double (`Kind.dbl`), string (`Kind.str`) -/
theorem C11_gen_value_kinds : optionHelperTypes = Expected.optionHelperTypes := rfl

end GenTie

/-! The statement structure of each function the model mirrors, as generated from the current tree, is the one
committed in `Expected.lean` (which also says which model function mirrors which). -/
theorem C11_gen_skel_ParseOptionString : Gen.C11Tok.skel_ParseOptionString = Expected.skel_ParseOptionString := rfl
theorem C11_gen_skel_OptionHelper_int_Parse : Gen.C11Tok.skel_OptionHelper_int_Parse = Expected.skel_OptionHelper_int_Parse := rfl
theorem C11_gen_skel_OptionHelper_double_Parse : Gen.C11Tok.skel_OptionHelper_double_Parse = Expected.skel_OptionHelper_double_Parse := rfl
theorem C11_gen_skel_OptionHelper_string_Parse : Gen.C11Tok.skel_OptionHelper_string_Parse = Expected.skel_OptionHelper_string_Parse := rfl
theorem C11_gen_skel_ParseOptions : Gen.C11Tok.skel_ParseOptions = Expected.skel_ParseOptions := rfl
theorem C11_gen_skel_FindOption : Gen.C11Tok.skel_FindOption = Expected.skel_FindOption := rfl
theorem C11_gen_skel_wc_match : Gen.C11Tok.skel_wc_match = Expected.skel_wc_match := rfl
theorem C11_gen_skel_wc_split : Gen.C11Tok.skel_wc_split = Expected.skel_wc_split := rfl
theorem C11_gen_skel_UseOptionFile : Gen.C11Tok.skel_UseOptionFile = Expected.skel_UseOptionFile := rfl
theorem C11_gen_skel_ProcessLines_AvoidComments : Gen.C11Tok.skel_ProcessLines_AvoidComments = Expected.skel_ProcessLines_AvoidComments := rfl
theorem C11_gen_skel_SolverOption_ctor : Gen.C11Tok.skel_SolverOption_ctor = Expected.skel_SolverOption_ctor := rfl
theorem C11_gen_skel_AddOption : Gen.C11Tok.skel_AddOption = Expected.skel_AddOption := rfl
theorem C11_gen_skel_OptionNameLess : Gen.C11Tok.skel_OptionNameLess = Expected.skel_OptionNameLess := rfl
theorem C11_gen_skel_TypedSolverOption_Parse : Gen.C11Tok.skel_TypedSolverOption_Parse = Expected.skel_TypedSolverOption_Parse := rfl
theorem C11_gen_skel_OptionHelper_LongLong_Parse : Gen.C11Tok.skel_OptionHelper_LongLong_Parse = Expected.skel_OptionHelper_LongLong_Parse := rfl
theorem C11_gen_skel_StoredOption_bool_is_flag : Gen.C11Tok.skel_StoredOption_bool_is_flag = Expected.skel_StoredOption_bool_is_flag := rfl
theorem C11_gen_skel_StoredOption_bool_Parse : Gen.C11Tok.skel_StoredOption_bool_Parse = Expected.skel_StoredOption_bool_Parse := rfl
theorem C11_gen_skel_echo_with_value : Gen.C11Tok.skel_echo_with_value = Expected.skel_echo_with_value := rfl

/-! a two-option table (string option `x`, int option `big`) for the examples -/

def cxTable : Table := buildTable [{ id := 0, name := [120], syns := [], kind := .str },
                                   { id := 1, name := [98, 105, 103], syns := [], kind := .int }]
def cxCfg : Cfg := { table := cxTable, noEcho := true, cmdLine := false, throwing := false }
def cxSt0 : St := initState [{ id := 0, name := [120], syns := [], kind := .str }, { id := 1, name := [98, 105, 103], syns := [], kind := .int }]

-- BIG (upper case) resolves to the option named `big`
example : (lookup cxTable [66, 73, 71]).map (·.1.id) = some 1 := by decide
-- `z=1`: two unknown keys (`z`, then `1`), no value changes
example : parseStr cxCfg [122, 61, 49] cxSt0 = (.ok, { cxSt0 with errs := [.unknown [49], .unknown [122]] }) := by
  rw [parseStr_cont (s' := [49]) (st' := { cxSt0 with errs := [.unknown [122]] }) (by rfl)]
  rw [parseStr_cont (s' := []) (st' := { cxSt0 with errs := [.unknown [49], .unknown [122]] }) (by rfl)]
  exact parseStr_done (by rfl)
-- quoted string with a blank: x='a b'
example : parseStr cxCfg [120, 61, 39, 97, 32, 98, 39] cxSt0 =
    (.ok, { slots := [{ val := .str [97, 32, 98] }, { val := .int 0 }] }) := by
  rw [parseStr_cont (s' := []) (st' := { slots := [{ val := .str [97, 32, 98] }, { val := .int 0 }] }) (by rfl)]
  exact parseStr_done (by rfl)
-- the hypotheses of C11_faithful are satisfiable: the item list [big = 42] is well-formed for cxCfg
theorem C11_nonvacuous_items_wf : ItemsWF cxCfg [(.assign [98, 105, 103] { pre := [], eq := true, post := [] } (.int { sign := none, ds := [52, 50] }), [])] := by
  have hd : AllDigits [52, 50] := by intro c hc; simp at hc; rcases hc with rfl | rfl <;> decide
  have hk : KeyOk' [98, 105, 103] := ⟨⟨by simp, by decide⟩, by intro c r h; cases h; decide⟩
  refine ⟨⟨hk, ⟨Blank.nil, Blank.nil⟩,
      ⟨{ id := 1, name := [98, 105, 103], syns := [], kind := .int }, none, by rfl, rfl, fun l _ => rfl⟩,
      ⟨⟨by simp, hd⟩, by decide, by decide⟩, by simp, by simp⟩,
    Blank.nil, by simp, by simp [isRawAssign], trivial⟩
-- … so C11_faithful applies to the text `big=42`: it parses to "slot of `big` := 42"
example : parseStr cxCfg ([] ++ renderAll [(.assign [98, 105, 103] { pre := [], eq := true, post := [] } (.int { sign := none, ds := [52, 50] }), [])]) cxSt0
    = (.ok, applyAll cxCfg [(.assign [98, 105, 103] { pre := [], eq := true, post := [] } (.int { sign := none, ds := [52, 50] }), [])] cxSt0) :=
  C11_faithful cxCfg rfl _ C11_nonvacuous_items_wf [] Blank.nil cxSt0
example : (Lit.int { sign := none, ds := [52, 50] }).val = .int 42 := by decide

/-! non-trivial instances of the hypotheses used above (table: string option `x`, int option `big`, flag `f`) -/

def cx2Decls : List OptDecl := [{ id := 0, name := [120], syns := [], kind := .str }, { id := 1, name := [98, 105, 103], syns := [[66]], kind := .int },
                                { id := 2, name := [102], syns := [], kind := .flag }]
def cx2Cfg : Cfg := { table := buildTable cx2Decls, noEcho := false, cmdLine := false, throwing := false }

theorem C11_nonvacuous_keyok (k : Bytes) (h1 : k ≠ []) (h2 : ∀ c ∈ k, isNameChar c = true) (h3 : ∀ c r, k = c :: r → c.toNat ≠ 63) : KeyOk' k :=
  ⟨⟨h1, h2⟩, h3⟩

-- `x='a b'  big 7 f` : quoted string with a blank, an assignment without `=`, a flag; items separated by blanks
theorem C11_nonvacuous_items_wf2 : ItemsWF cx2Cfg
    [(.assign [120] { pre := [], eq := true, post := [] } (.quoted 39 [97, 32, 98]), [32, 9]),
     (.assign [98, 105, 103] { pre := [32], eq := false, post := [] } (.int { sign := none, ds := [55] }), [32]),
     (.assign [102] { pre := [], eq := false, post := [] } .flagOn, [])] := by
  have hd : AllDigits [55] := by intro c hc; simp at hc; subst hc; decide
  have k1 : KeyOk' [120] := C11_nonvacuous_keyok _ (by simp) (by decide) (by intro c r h; cases h; decide)
  have k2 : KeyOk' [98, 105, 103] := C11_nonvacuous_keyok _ (by simp) (by decide) (by intro c r h; cases h; decide)
  have k3 : KeyOk' [102] := C11_nonvacuous_keyok _ (by simp) (by decide) (by intro c r h; cases h; decide)
  refine ⟨⟨k1, ⟨Blank.nil, Blank.nil⟩, ⟨{ id := 0, name := [120], syns := [], kind := .str }, none, by rfl, rfl, fun l h => by cases h⟩,
            ⟨rfl, by decide, by decide⟩, by simp, by simp⟩, by decide, by simp, by simp [isRawAssign], ?_⟩
  refine ⟨⟨k2, ⟨by decide, Blank.nil⟩, ⟨{ id := 1, name := [98, 105, 103], syns := [[66]], kind := .int }, none, by rfl, rfl, fun l _ => rfl⟩,
            ⟨⟨by simp, hd⟩, by decide, by decide⟩, by simp, by simp⟩, by decide, by simp, by simp [isRawAssign], ?_⟩
  exact ⟨⟨k3, ⟨Blank.nil, Blank.nil⟩, ⟨{ id := 2, name := [102], syns := [], kind := .flag }, none, by rfl, rfl, fun l h => by cases h⟩,
            trivial, by simp, by simp⟩, Blank.nil, by simp, by simp [isRawAssign], trivial⟩

-- so `C11_faithful` determines the parse of  `x='a b' \t big 7 f`
example := C11_faithful cx2Cfg rfl _ C11_nonvacuous_items_wf2 [] Blank.nil (initState cx2Decls)

-- well-formed query, unknown-key and flag-with-value items
example : (Item.query [66] { pre := [], eq := true, post := [32] }).WF cx2Cfg :=
  ⟨C11_nonvacuous_keyok _ (by simp) (by decide) (by intro c r h; cases h; decide), ⟨Blank.nil, by decide⟩, ⟨_, by rfl⟩, by simp⟩
example : (Item.unknown [122, 122] [32] true).WF cx2Cfg :=
  ⟨C11_nonvacuous_keyok _ (by simp) (by decide) (by intro c r h; cases h; decide), by decide, by rfl⟩
example : (Item.flagArg [102] [] [32] [49]).WF cx2Cfg :=
  ⟨C11_nonvacuous_keyok _ (by simp) (by decide) (by intro c r h; cases h; decide), Blank.nil, by decide,
   ⟨{ id := 2, name := [102], syns := [], kind := .flag }, none, by rfl, rfl⟩, by simp, by decide, by decide⟩

-- `B` is a synonym of `big`; `b` (other case) resolves to it: hypotheses of the lookup theorems are satisfiable
example : lookup cx2Cfg.table [98] = some ({ id := 1, name := [98, 105, 103], syns := [[66]], kind := .int }, none) := by rfl
example : NamesDistinct cx2Cfg.table := by
  show List.Pairwise _ _
  decide

-- `C11_last_wins` / `C11_assign_sets_exactly`: `big=1 … big=42` leaves 42
example : ((applyAll cx2Cfg [(.assign [98, 105, 103] { pre := [], eq := true, post := [] } (.int { sign := none, ds := [49] }), [32]),
      (.assign [66] { pre := [], eq := true, post := [] } (.int { sign := none, ds := [52, 50] }), [])] (initState cx2Decls)).slot 1).val
    = (Lit.int { sign := none, ds := [52, 50] }).val :=
  C11_last_wins cx2Cfg [(.assign [98, 105, 103] { pre := [], eq := true, post := [] } (.int { sign := none, ds := [49] }), [32])] []
    [66] { pre := [], eq := true, post := [] } (.int { sign := none, ds := [52, 50] }) []
    { id := 1, name := [98, 105, 103], syns := [[66]], kind := .int } none (initState cx2Decls) (by rfl) (by rfl) (by decide) (by simp)

-- option-file lines: comment, blank and indented lines are dropped/trimmed exactly as `ProcessLines_AvoidComments` does
example : fileLines [35, 32, 99, 10, 10, 32, 32, 98, 105, 103, 61, 52, 50, 10, 32, 9, 10, 102] = [[98, 105, 103, 61, 52, 50], [102]] := by decide

-- wildcard option `o:*` with synonym pattern `p*`: `o:1=5 p2=6 p1=7` records (1,5),(2,6),(1,7); entry 1 ends as 7
def cx3Decls : List OptDecl := [{ id := 0, name := [111, 58, 42], syns := [[112, 42]], kind := .int }]
def cx3Cfg : Cfg := { table := buildTable cx3Decls, noEcho := true, cmdLine := false, throwing := false }
def cx3Items : List (Item × Bytes) :=
  [(.assign [111, 58, 49] { pre := [], eq := true, post := [] } (.int { sign := none, ds := [53] }), [32]),
   (.assign [112, 50] { pre := [], eq := true, post := [] } (.int { sign := none, ds := [54] }), [32]),
   (.assign [112, 49] { pre := [], eq := true, post := [] } (.int { sign := none, ds := [55] }), [])]
example : cx3Items.filterMap (fun x => wcAssign cx3Cfg 0 x.1) = [([49], .int 5), ([50], .int 6), ([49], .int 7)] := by decide
example : OnlyPatternKeys cx3Cfg 0 cx3Items := by
  intro x hx key sep lit d h1 h2 _
  simp only [cx3Items, List.mem_cons, List.mem_nil_iff, or_false] at hx
  have e1 : (lookup cx3Cfg.table [111, 58, 49]).map (·.2) = some (some [49]) := by decide
  have e2 : (lookup cx3Cfg.table [112, 50]).map (·.2) = some (some [50]) := by decide
  have e3 : (lookup cx3Cfg.table [112, 49]).map (·.2) = some (some [49]) := by decide
  rcases hx with rfl | rfl | rfl <;> cases h1
  · rw [h2] at e1; simp at e1
  · rw [h2] at e2; simp at e2
  · rw [h2] at e3; simp at e3

-- unterminated quote, `x='` and `x='ab`: parsed normally, value = rest of the string
example : parseStr cxCfg [120, 61, 39] cxSt0 = (.ok, cxSt0) := by
  rw [parseStr_cont (s' := []) (st' := cxSt0) (by rfl)]
  exact parseStr_done (by rfl)
example : parseStr cxCfg [120, 61, 39, 97, 98] cxSt0 =
    (.ok, { slots := [{ val := .str [97, 98] }, { val := .int 0 }] }) := by
  rw [parseStr_cont (s' := []) (st' := { slots := [{ val := .str [97, 98] }, { val := .int 0 }] }) (by rfl)]
  exact parseStr_done (by rfl)
-- option `obj:*:p obj_*_p objpri*` (the shape of mp's `obj:*:priority obj_*_priority objpri*`), key `objpri3`:
-- the body is `3` (not `ri3`)
example : (lookup (buildTable [{ id := 0, name := [111,98,106,58,42,58,112], syns := [[111,98,106,95,42,95,112], [111,98,106,112,114,105,42]], kind := .int }])
    [111,98,106,112,114,105,51]).map (·.2) = some (some [51]) := by decide
-- `wc_split` on `o:*:p` and on a star-less synonym `pl` (the quirk: head = tail = the whole string)
example : (Gen.C11Tok.wc_split_head [111, 58, 42, 58, 112], Gen.C11Tok.wc_split_tail [111, 58, 42, 58, 112]) = ([111, 58], [58, 112]) := by decide
example : (Gen.C11Tok.wc_split_head [112, 108], Gen.C11Tok.wc_split_tail [112, 108]) = ([112, 108], [112, 108]) := by decide
-- strtod extent: "1.5e3x" consumes 5 bytes, "0x" consumes 1, "nan(1)" consumes 6
example : (parseDbl [49, 46, 53, 101, 51, 120]).2 = [120] := by decide
example : (parseDbl [48, 120]).2 = [120] := by decide
example : (parseDbl [110, 97, 110, 40, 49, 41]).2 = [] := by decide

end MpVerif.C11
