import MpVerif.Gen.SafeInt
import MpVerif.C17.Lemmas
/-! Scripts for a single instantiation.  `c17_linear` and `c17_mul_tac` prove one instantiation directly from the generated
    text, without the width-generic forms: unfold it (`unfold_safeint`, `unfold_safeint_noabs` of `Gen/SafeInt.lean`) and the
    C semantics, split every `if`, `omega`; `operator*` by one `c17_mul_case` per sign pattern of the operands.  No theorem uses
    them, and no module imports this one. -/
namespace MpVerif.C17
open MpVerif.CSem

macro "c17_close" : tactic => `(tactic| (repeat' (first | omega | split | simp_all)))

macro "c17_unfold" : tactic => `(tactic| (
  unfold_safeint
  simp only [InR, spec, unsignedOf, cnot, clt, cgt, cle, cge, ceq, cne, tobool, cand, cor, conv, csub, cadd, cmul, cneg, cdiv, arith,
    CTy.wrap, CTy.lo, CTy.hi, tBool, tSC, tUC, tS, tUS, tI, tU, tL, tUL, tLL, tULL] at *))

/-- linear cases: add, sub, abs, ctor -/
macro "c17_linear" : tactic => `(tactic| (c17_unfold; (try simp at *); c17_close))

macro "c17_defs" : tactic => `(tactic| simp only [InR, spec, cnot, clt, cgt, cle, cge, ceq, cne, tobool, cand, cor, conv, csub, cadd, cmul, cneg, cdiv, arith,
    CTy.wrap, CTy.lo, CTy.hi, tBool, tSC, tUC, tS, tUS, tI, tU, tL, tUL, tLL, tULL] at *)

/- one sign case of the multiplication: `x = |a|`, `y = |b| > 0`, `l` the limit used by the code; `tdiv_lt_iff` at
    these, the rest is `omega` with `a * b` as an atom -/
set_option hygiene false in
macro "c17_mul_case" x:term "," y:term "," l:term : tactic => `(tactic| (
  have hq := tdiv_lt_iff $l $x $y (by c17_defs; omega) (by omega)
  have hqb := tdiv_bounds $l $y (by c17_defs; omega) (by omega)
  have hsg : 0 ≤ $x * $y := Int.mul_nonneg (by omega) (by omega)
  c17_defs
  simp [Int.neg_mul, Int.mul_neg] at *
  try simp (disch := omega) only [emod_shift_id, Int.emod_eq_of_lt] at *
  try simp [Int.neg_mul, Int.mul_neg] at *
  repeat' (first | omega | split | simp_all)))

/- `operator*`: rewrite the `SafeAbs` calls with their own theorems, split on the operand signs -/
set_option hygiene false in
macro "c17_mul_tac" t:term "," absthm:ident : tactic => `(tactic| (
  unfold_safeint_noabs
  have hmin := $absthm:ident (CTy.lo $t) (by simp [InR, CTy.lo, CTy.hi, tSC, tUC, tS, tUS, tI, tU, tL, tUL, tLL, tULL])
  simp [CTy.lo, tSC, tUC, tS, tUS, tI, tU, tL, tUL, tLL, tULL] at hmin
  simp only [hmin, Outcome.bind_ret]
  simp (disch := first | assumption | (simp [InR, CTy.lo, CTy.hi, tSC, tUC, tS, tUS, tI, tU, tL, tUL, tLL, tULL]; done)) only [$absthm:ident, Outcome.bind_ret]
  rcases Int.lt_or_le a 0 with ha0 | ha0 <;> rcases Int.lt_or_le b 0 with hb0 | hb0
  · first | (exfalso; c17_defs; omega) | c17_mul_case (-a), (-b), (CTy.hi $t)
  · first | (exfalso; c17_defs; omega) | skip
    rcases Int.lt_or_le 0 b with hb1 | hb1
    · c17_mul_case (-a), b, (-(CTy.lo $t))
    · have : b = 0 := by omega
      subst this; c17_defs; simp at *; repeat' (first | omega | split | simp_all)
  · first | (exfalso; c17_defs; omega) | c17_mul_case a, (-b), (-(CTy.lo $t))
  · rcases Int.lt_or_le 0 b with hb1 | hb1
    · c17_mul_case a, b, (CTy.hi $t)
    · have : b = 0 := by omega
      subst this; c17_defs; simp at *; repeat' (first | omega | split | simp_all)))

open MpVerif.Gen.SafeInt

/-! Commands that state one instantiation as the theorems of `Props.lean` do and prove it by the scripts above. -/
macro "c17_bin" name:ident fn:ident t:ident op:term : command =>
  `(theorem $name (a b : Int) (ha : InR $t a) (hb : InR $t b) : $fn a b = spec $t ($op a b) := by c17_linear)
set_option hygiene false in
macro "c17_mul" name:ident fn:ident t:ident absthm:ident : command =>
  `(theorem $name (a b : Int) (ha : InR $t a) (hb : InR $t b) : $fn a b = spec $t (a * b) := by c17_mul_tac $t, $absthm)
macro "c17_abs" name:ident fn:ident t:ident : command =>
  `(theorem $name (a : Int) (ha : InR $t a) : $fn a = Outcome.ret (if a < 0 then -a else a) := by c17_linear)
macro "c17_ctor" name:ident fn:ident u:ident t:ident : command =>
  `(theorem $name (v : Int) (hv : InR $u v) : $fn v = spec $t v := by c17_linear)

end MpVerif.C17
