import MpVerif.Gen.SafeInt
import MpVerif.C17.Lemmas
/-!
# C17 — checked integer arithmetic is exact or raises overflow, never wraps

One theorem per instantiation.  The definitions `add_*`, `sub_*`, `mul_*`, `abs_*`,
`ctor_<from>_<to>` are *generated on every run* from `include/mp/safeint.h` by
`translators/gen_safeint.py` (clang's typed AST of each template instantiation),
so each theorem is re-checked against what the code says now.

For every instantiation and **all** operands representable in the operand type:
the function returns the mathematically exact result if it is representable in
the target type and throws otherwise; in particular it never yields `ub`
(signed overflow, division by zero) and never a wrapped value.
-/
namespace MpVerif.C17
open MpVerif.CSem MpVerif.Gen.SafeInt

/-! `operator+`, `operator-`, `SafeAbs`, `operator*`: each instantiation is definitionally the width-generic form
    at its type (the proof term is checked against the generated definition by unfolding both). -/
-- `(· + ·) a b`, not `a + b`: the form in which `c17_bin` (`Scripts.lean`) states an instantiation.
theorem C17_add_sc (a b : Int) (ha : InR tSC a) (hb : InR tSC b) : add_sc a b = spec tSC ((· + ·) a b) :=
  addG_spec tSC ha hb
theorem C17_add_uc (a b : Int) (ha : InR tUC a) (hb : InR tUC b) : add_uc a b = spec tUC ((· + ·) a b) :=
  addG_spec tUC ha hb
theorem C17_add_s (a b : Int) (ha : InR tS a) (hb : InR tS b) : add_s a b = spec tS ((· + ·) a b) :=
  addG_spec tS ha hb
theorem C17_add_us (a b : Int) (ha : InR tUS a) (hb : InR tUS b) : add_us a b = spec tUS ((· + ·) a b) :=
  addG_spec tUS ha hb
theorem C17_add_i (a b : Int) (ha : InR tI a) (hb : InR tI b) : add_i a b = spec tI ((· + ·) a b) :=
  addG_spec tI ha hb
theorem C17_add_u (a b : Int) (ha : InR tU a) (hb : InR tU b) : add_u a b = spec tU ((· + ·) a b) :=
  addG_spec tU ha hb
theorem C17_add_l (a b : Int) (ha : InR tL a) (hb : InR tL b) : add_l a b = spec tL ((· + ·) a b) :=
  addG_spec tL ha hb
theorem C17_add_ul (a b : Int) (ha : InR tUL a) (hb : InR tUL b) : add_ul a b = spec tUL ((· + ·) a b) :=
  addG_spec tUL ha hb
theorem C17_add_ll (a b : Int) (ha : InR tLL a) (hb : InR tLL b) : add_ll a b = spec tLL ((· + ·) a b) :=
  addG_spec tLL ha hb
theorem C17_add_ull (a b : Int) (ha : InR tULL a) (hb : InR tULL b) : add_ull a b = spec tULL ((· + ·) a b) :=
  addG_spec tULL ha hb
theorem C17_sub_sc (a b : Int) (ha : InR tSC a) (hb : InR tSC b) : sub_sc a b = spec tSC ((· - ·) a b) :=
  subG_spec tSC ha hb
theorem C17_sub_uc (a b : Int) (ha : InR tUC a) (hb : InR tUC b) : sub_uc a b = spec tUC ((· - ·) a b) :=
  subG_spec tUC ha hb
theorem C17_sub_s (a b : Int) (ha : InR tS a) (hb : InR tS b) : sub_s a b = spec tS ((· - ·) a b) :=
  subG_spec tS ha hb
theorem C17_sub_us (a b : Int) (ha : InR tUS a) (hb : InR tUS b) : sub_us a b = spec tUS ((· - ·) a b) :=
  subG_spec tUS ha hb
theorem C17_sub_i (a b : Int) (ha : InR tI a) (hb : InR tI b) : sub_i a b = spec tI ((· - ·) a b) :=
  subG_spec tI ha hb
theorem C17_sub_u (a b : Int) (ha : InR tU a) (hb : InR tU b) : sub_u a b = spec tU ((· - ·) a b) :=
  subG_spec tU ha hb
theorem C17_sub_l (a b : Int) (ha : InR tL a) (hb : InR tL b) : sub_l a b = spec tL ((· - ·) a b) :=
  subG_spec tL ha hb
theorem C17_sub_ul (a b : Int) (ha : InR tUL a) (hb : InR tUL b) : sub_ul a b = spec tUL ((· - ·) a b) :=
  subG_spec tUL ha hb
theorem C17_sub_ll (a b : Int) (ha : InR tLL a) (hb : InR tLL b) : sub_ll a b = spec tLL ((· - ·) a b) :=
  subG_spec tLL ha hb
theorem C17_sub_ull (a b : Int) (ha : InR tULL a) (hb : InR tULL b) : sub_ull a b = spec tULL ((· - ·) a b) :=
  subG_spec tULL ha hb
theorem C17_abs_sc (a : Int) (ha : InR tSC a) : abs_sc a = Outcome.ret (if a < 0 then -a else a) :=
  absG_spec tSC ha
theorem C17_abs_uc (a : Int) (ha : InR tUC a) : abs_uc a = Outcome.ret (if a < 0 then -a else a) :=
  absG_spec tUC ha
theorem C17_abs_s (a : Int) (ha : InR tS a) : abs_s a = Outcome.ret (if a < 0 then -a else a) :=
  absG_spec tS ha
theorem C17_abs_us (a : Int) (ha : InR tUS a) : abs_us a = Outcome.ret (if a < 0 then -a else a) :=
  absG_spec tUS ha
theorem C17_abs_i (a : Int) (ha : InR tI a) : abs_i a = Outcome.ret (if a < 0 then -a else a) :=
  absG_spec tI ha
theorem C17_abs_u (a : Int) (ha : InR tU a) : abs_u a = Outcome.ret (if a < 0 then -a else a) :=
  absG_spec tU ha
theorem C17_abs_l (a : Int) (ha : InR tL a) : abs_l a = Outcome.ret (if a < 0 then -a else a) :=
  absG_spec tL ha
theorem C17_abs_ul (a : Int) (ha : InR tUL a) : abs_ul a = Outcome.ret (if a < 0 then -a else a) :=
  absG_spec tUL ha
theorem C17_abs_ll (a : Int) (ha : InR tLL a) : abs_ll a = Outcome.ret (if a < 0 then -a else a) :=
  absG_spec tLL ha
theorem C17_abs_ull (a : Int) (ha : InR tULL a) : abs_ull a = Outcome.ret (if a < 0 then -a else a) :=
  absG_spec tULL ha
theorem C17_mul_sc (a b : Int) (ha : InR tSC a) (hb : InR tSC b) : mul_sc a b = spec tSC (a * b) :=
  mulG_spec tSC ha hb
theorem C17_mul_uc (a b : Int) (ha : InR tUC a) (hb : InR tUC b) : mul_uc a b = spec tUC (a * b) :=
  mulG_spec tUC ha hb
theorem C17_mul_s (a b : Int) (ha : InR tS a) (hb : InR tS b) : mul_s a b = spec tS (a * b) :=
  mulG_spec tS ha hb
theorem C17_mul_us (a b : Int) (ha : InR tUS a) (hb : InR tUS b) : mul_us a b = spec tUS (a * b) :=
  mulG_spec tUS ha hb
theorem C17_mul_i (a b : Int) (ha : InR tI a) (hb : InR tI b) : mul_i a b = spec tI (a * b) :=
  mulG_spec tI ha hb
theorem C17_mul_u (a b : Int) (ha : InR tU a) (hb : InR tU b) : mul_u a b = spec tU (a * b) :=
  mulG_spec tU ha hb
theorem C17_mul_l (a b : Int) (ha : InR tL a) (hb : InR tL b) : mul_l a b = spec tL (a * b) :=
  mulG_spec tL ha hb
theorem C17_mul_ul (a b : Int) (ha : InR tUL a) (hb : InR tUL b) : mul_ul a b = spec tUL (a * b) :=
  mulG_spec tUL ha hb
theorem C17_mul_ll (a b : Int) (ha : InR tLL a) (hb : InR tLL b) : mul_ll a b = spec tLL (a * b) :=
  mulG_spec tLL ha hb
theorem C17_mul_ull (a b : Int) (ha : InR tULL a) (hb : InR tULL b) : mul_ull a b = spec tULL (a * b) :=
  mulG_spec tULL ha hb

/-! Converting constructors `SafeInt<T>(U value)`.  The two lists are the conversions clang inserts on the
    value before the signed comparison (against `min`, in `long long`) and before the unsigned one (against `max`);
    the side condition checked by `decide` is that each of these types holds every value it is applied to. -/
theorem C17_ctor_sc_uc (v : Int) (hv : InR tSC v) : ctor_sc_uc v = spec tUC v :=
  ctorG_spec tSC tUC [tLL] [tI, tUC] hv
theorem C17_ctor_sc_s (v : Int) (hv : InR tSC v) : ctor_sc_s v = spec tS v :=
  ctorG_spec tSC tS [tLL] [tI, tUC] hv
theorem C17_ctor_sc_us (v : Int) (hv : InR tSC v) : ctor_sc_us v = spec tUS v :=
  ctorG_spec tSC tUS [tLL] [tI, tUC] hv
theorem C17_ctor_sc_i (v : Int) (hv : InR tSC v) : ctor_sc_i v = spec tI v :=
  ctorG_spec tSC tI [tLL] [tU, tUC] hv
theorem C17_ctor_sc_u (v : Int) (hv : InR tSC v) : ctor_sc_u v = spec tU v :=
  ctorG_spec tSC tU [tLL] [tU, tUC] hv
theorem C17_ctor_sc_l (v : Int) (hv : InR tSC v) : ctor_sc_l v = spec tL v :=
  ctorG_spec tSC tL [tLL] [tUL, tUC] hv
theorem C17_ctor_sc_ul (v : Int) (hv : InR tSC v) : ctor_sc_ul v = spec tUL v :=
  ctorG_spec tSC tUL [tLL] [tUL, tUC] hv
theorem C17_ctor_sc_ll (v : Int) (hv : InR tSC v) : ctor_sc_ll v = spec tLL v :=
  ctorG_spec tSC tLL [tLL] [tULL, tUC] hv
theorem C17_ctor_sc_ull (v : Int) (hv : InR tSC v) : ctor_sc_ull v = spec tULL v :=
  ctorG_spec tSC tULL [tLL] [tULL, tUC] hv
theorem C17_ctor_uc_sc (v : Int) (hv : InR tUC v) : ctor_uc_sc v = spec tSC v :=
  ctorG_spec tUC tSC [tLL] [tI] hv
theorem C17_ctor_uc_s (v : Int) (hv : InR tUC v) : ctor_uc_s v = spec tS v :=
  ctorG_spec tUC tS [tLL] [tI] hv
theorem C17_ctor_uc_us (v : Int) (hv : InR tUC v) : ctor_uc_us v = spec tUS v :=
  ctorG_spec tUC tUS [tLL] [tI] hv
theorem C17_ctor_uc_i (v : Int) (hv : InR tUC v) : ctor_uc_i v = spec tI v :=
  ctorG_spec tUC tI [tLL] [tU] hv
theorem C17_ctor_uc_u (v : Int) (hv : InR tUC v) : ctor_uc_u v = spec tU v :=
  ctorG_spec tUC tU [tLL] [tU] hv
theorem C17_ctor_uc_l (v : Int) (hv : InR tUC v) : ctor_uc_l v = spec tL v :=
  ctorG_spec tUC tL [tLL] [tUL] hv
theorem C17_ctor_uc_ul (v : Int) (hv : InR tUC v) : ctor_uc_ul v = spec tUL v :=
  ctorG_spec tUC tUL [tLL] [tUL] hv
theorem C17_ctor_uc_ll (v : Int) (hv : InR tUC v) : ctor_uc_ll v = spec tLL v :=
  ctorG_spec tUC tLL [tLL] [tULL] hv
theorem C17_ctor_uc_ull (v : Int) (hv : InR tUC v) : ctor_uc_ull v = spec tULL v :=
  ctorG_spec tUC tULL [tLL] [tULL] hv
theorem C17_ctor_s_sc (v : Int) (hv : InR tS v) : ctor_s_sc v = spec tSC v :=
  ctorG_spec tS tSC [tLL] [tI, tUS] hv
theorem C17_ctor_s_uc (v : Int) (hv : InR tS v) : ctor_s_uc v = spec tUC v :=
  ctorG_spec tS tUC [tLL] [tI, tUS] hv
theorem C17_ctor_s_us (v : Int) (hv : InR tS v) : ctor_s_us v = spec tUS v :=
  ctorG_spec tS tUS [tLL] [tI, tUS] hv
theorem C17_ctor_s_i (v : Int) (hv : InR tS v) : ctor_s_i v = spec tI v :=
  ctorG_spec tS tI [tLL] [tU, tUS] hv
theorem C17_ctor_s_u (v : Int) (hv : InR tS v) : ctor_s_u v = spec tU v :=
  ctorG_spec tS tU [tLL] [tU, tUS] hv
theorem C17_ctor_s_l (v : Int) (hv : InR tS v) : ctor_s_l v = spec tL v :=
  ctorG_spec tS tL [tLL] [tUL, tUS] hv
theorem C17_ctor_s_ul (v : Int) (hv : InR tS v) : ctor_s_ul v = spec tUL v :=
  ctorG_spec tS tUL [tLL] [tUL, tUS] hv
theorem C17_ctor_s_ll (v : Int) (hv : InR tS v) : ctor_s_ll v = spec tLL v :=
  ctorG_spec tS tLL [tLL] [tULL, tUS] hv
theorem C17_ctor_s_ull (v : Int) (hv : InR tS v) : ctor_s_ull v = spec tULL v :=
  ctorG_spec tS tULL [tLL] [tULL, tUS] hv
theorem C17_ctor_us_sc (v : Int) (hv : InR tUS v) : ctor_us_sc v = spec tSC v :=
  ctorG_spec tUS tSC [tLL] [tI] hv
theorem C17_ctor_us_uc (v : Int) (hv : InR tUS v) : ctor_us_uc v = spec tUC v :=
  ctorG_spec tUS tUC [tLL] [tI] hv
theorem C17_ctor_us_s (v : Int) (hv : InR tUS v) : ctor_us_s v = spec tS v :=
  ctorG_spec tUS tS [tLL] [tI] hv
theorem C17_ctor_us_i (v : Int) (hv : InR tUS v) : ctor_us_i v = spec tI v :=
  ctorG_spec tUS tI [tLL] [tU] hv
theorem C17_ctor_us_u (v : Int) (hv : InR tUS v) : ctor_us_u v = spec tU v :=
  ctorG_spec tUS tU [tLL] [tU] hv
theorem C17_ctor_us_l (v : Int) (hv : InR tUS v) : ctor_us_l v = spec tL v :=
  ctorG_spec tUS tL [tLL] [tUL] hv
theorem C17_ctor_us_ul (v : Int) (hv : InR tUS v) : ctor_us_ul v = spec tUL v :=
  ctorG_spec tUS tUL [tLL] [tUL] hv
theorem C17_ctor_us_ll (v : Int) (hv : InR tUS v) : ctor_us_ll v = spec tLL v :=
  ctorG_spec tUS tLL [tLL] [tULL] hv
theorem C17_ctor_us_ull (v : Int) (hv : InR tUS v) : ctor_us_ull v = spec tULL v :=
  ctorG_spec tUS tULL [tLL] [tULL] hv
theorem C17_ctor_i_sc (v : Int) (hv : InR tI v) : ctor_i_sc v = spec tSC v :=
  ctorG_spec tI tSC [tLL] [tU] hv
theorem C17_ctor_i_uc (v : Int) (hv : InR tI v) : ctor_i_uc v = spec tUC v :=
  ctorG_spec tI tUC [tLL] [tU] hv
theorem C17_ctor_i_s (v : Int) (hv : InR tI v) : ctor_i_s v = spec tS v :=
  ctorG_spec tI tS [tLL] [tU] hv
theorem C17_ctor_i_us (v : Int) (hv : InR tI v) : ctor_i_us v = spec tUS v :=
  ctorG_spec tI tUS [tLL] [tU] hv
theorem C17_ctor_i_u (v : Int) (hv : InR tI v) : ctor_i_u v = spec tU v :=
  ctorG_spec tI tU [tLL] [tU] hv
theorem C17_ctor_i_l (v : Int) (hv : InR tI v) : ctor_i_l v = spec tL v :=
  ctorG_spec tI tL [tLL] [tUL, tU] hv
theorem C17_ctor_i_ul (v : Int) (hv : InR tI v) : ctor_i_ul v = spec tUL v :=
  ctorG_spec tI tUL [tLL] [tUL, tU] hv
theorem C17_ctor_i_ll (v : Int) (hv : InR tI v) : ctor_i_ll v = spec tLL v :=
  ctorG_spec tI tLL [tLL] [tULL, tU] hv
theorem C17_ctor_i_ull (v : Int) (hv : InR tI v) : ctor_i_ull v = spec tULL v :=
  ctorG_spec tI tULL [tLL] [tULL, tU] hv
theorem C17_ctor_u_sc (v : Int) (hv : InR tU v) : ctor_u_sc v = spec tSC v :=
  ctorG_spec tU tSC [tLL] [] hv
theorem C17_ctor_u_uc (v : Int) (hv : InR tU v) : ctor_u_uc v = spec tUC v :=
  ctorG_spec tU tUC [tLL] [] hv
theorem C17_ctor_u_s (v : Int) (hv : InR tU v) : ctor_u_s v = spec tS v :=
  ctorG_spec tU tS [tLL] [] hv
theorem C17_ctor_u_us (v : Int) (hv : InR tU v) : ctor_u_us v = spec tUS v :=
  ctorG_spec tU tUS [tLL] [] hv
theorem C17_ctor_u_i (v : Int) (hv : InR tU v) : ctor_u_i v = spec tI v :=
  ctorG_spec tU tI [tLL] [] hv
theorem C17_ctor_u_l (v : Int) (hv : InR tU v) : ctor_u_l v = spec tL v :=
  ctorG_spec tU tL [tLL] [tUL] hv
theorem C17_ctor_u_ul (v : Int) (hv : InR tU v) : ctor_u_ul v = spec tUL v :=
  ctorG_spec tU tUL [tLL] [tUL] hv
theorem C17_ctor_u_ll (v : Int) (hv : InR tU v) : ctor_u_ll v = spec tLL v :=
  ctorG_spec tU tLL [tLL] [tULL] hv
theorem C17_ctor_u_ull (v : Int) (hv : InR tU v) : ctor_u_ull v = spec tULL v :=
  ctorG_spec tU tULL [tLL] [tULL] hv
theorem C17_ctor_l_sc (v : Int) (hv : InR tL v) : ctor_l_sc v = spec tSC v :=
  ctorG_spec tL tSC [tLL] [tUL] hv
theorem C17_ctor_l_uc (v : Int) (hv : InR tL v) : ctor_l_uc v = spec tUC v :=
  ctorG_spec tL tUC [tLL] [tUL] hv
theorem C17_ctor_l_s (v : Int) (hv : InR tL v) : ctor_l_s v = spec tS v :=
  ctorG_spec tL tS [tLL] [tUL] hv
theorem C17_ctor_l_us (v : Int) (hv : InR tL v) : ctor_l_us v = spec tUS v :=
  ctorG_spec tL tUS [tLL] [tUL] hv
theorem C17_ctor_l_i (v : Int) (hv : InR tL v) : ctor_l_i v = spec tI v :=
  ctorG_spec tL tI [tLL] [tUL] hv
theorem C17_ctor_l_u (v : Int) (hv : InR tL v) : ctor_l_u v = spec tU v :=
  ctorG_spec tL tU [tLL] [tUL] hv
theorem C17_ctor_l_ul (v : Int) (hv : InR tL v) : ctor_l_ul v = spec tUL v :=
  ctorG_spec tL tUL [tLL] [tUL] hv
theorem C17_ctor_l_ll (v : Int) (hv : InR tL v) : ctor_l_ll v = spec tLL v :=
  ctorG_spec tL tLL [tLL] [tULL, tUL] hv
theorem C17_ctor_l_ull (v : Int) (hv : InR tL v) : ctor_l_ull v = spec tULL v :=
  ctorG_spec tL tULL [tLL] [tULL, tUL] hv
theorem C17_ctor_ul_sc (v : Int) (hv : InR tUL v) : ctor_ul_sc v = spec tSC v :=
  ctorG_spec tUL tSC [tLL] [] hv
theorem C17_ctor_ul_uc (v : Int) (hv : InR tUL v) : ctor_ul_uc v = spec tUC v :=
  ctorG_spec tUL tUC [tLL] [] hv
theorem C17_ctor_ul_s (v : Int) (hv : InR tUL v) : ctor_ul_s v = spec tS v :=
  ctorG_spec tUL tS [tLL] [] hv
theorem C17_ctor_ul_us (v : Int) (hv : InR tUL v) : ctor_ul_us v = spec tUS v :=
  ctorG_spec tUL tUS [tLL] [] hv
theorem C17_ctor_ul_i (v : Int) (hv : InR tUL v) : ctor_ul_i v = spec tI v :=
  ctorG_spec tUL tI [tLL] [] hv
theorem C17_ctor_ul_u (v : Int) (hv : InR tUL v) : ctor_ul_u v = spec tU v :=
  ctorG_spec tUL tU [tLL] [] hv
theorem C17_ctor_ul_l (v : Int) (hv : InR tUL v) : ctor_ul_l v = spec tL v :=
  ctorG_spec tUL tL [tLL] [] hv
theorem C17_ctor_ul_ll (v : Int) (hv : InR tUL v) : ctor_ul_ll v = spec tLL v :=
  ctorG_spec tUL tLL [tLL] [tULL] hv
theorem C17_ctor_ul_ull (v : Int) (hv : InR tUL v) : ctor_ul_ull v = spec tULL v :=
  ctorG_spec tUL tULL [tLL] [tULL] hv
theorem C17_ctor_ll_sc (v : Int) (hv : InR tLL v) : ctor_ll_sc v = spec tSC v :=
  ctorG_spec tLL tSC [] [tULL] hv
theorem C17_ctor_ll_uc (v : Int) (hv : InR tLL v) : ctor_ll_uc v = spec tUC v :=
  ctorG_spec tLL tUC [] [tULL] hv
theorem C17_ctor_ll_s (v : Int) (hv : InR tLL v) : ctor_ll_s v = spec tS v :=
  ctorG_spec tLL tS [] [tULL] hv
theorem C17_ctor_ll_us (v : Int) (hv : InR tLL v) : ctor_ll_us v = spec tUS v :=
  ctorG_spec tLL tUS [] [tULL] hv
theorem C17_ctor_ll_i (v : Int) (hv : InR tLL v) : ctor_ll_i v = spec tI v :=
  ctorG_spec tLL tI [] [tULL] hv
theorem C17_ctor_ll_u (v : Int) (hv : InR tLL v) : ctor_ll_u v = spec tU v :=
  ctorG_spec tLL tU [] [tULL] hv
theorem C17_ctor_ll_l (v : Int) (hv : InR tLL v) : ctor_ll_l v = spec tL v :=
  ctorG_spec tLL tL [] [tULL] hv
theorem C17_ctor_ll_ul (v : Int) (hv : InR tLL v) : ctor_ll_ul v = spec tUL v :=
  ctorG_spec tLL tUL [] [tULL] hv
theorem C17_ctor_ll_ull (v : Int) (hv : InR tLL v) : ctor_ll_ull v = spec tULL v :=
  ctorG_spec tLL tULL [] [tULL] hv
theorem C17_ctor_ull_sc (v : Int) (hv : InR tULL v) : ctor_ull_sc v = spec tSC v :=
  ctorG_spec tULL tSC [tLL] [] hv
theorem C17_ctor_ull_uc (v : Int) (hv : InR tULL v) : ctor_ull_uc v = spec tUC v :=
  ctorG_spec tULL tUC [tLL] [] hv
theorem C17_ctor_ull_s (v : Int) (hv : InR tULL v) : ctor_ull_s v = spec tS v :=
  ctorG_spec tULL tS [tLL] [] hv
theorem C17_ctor_ull_us (v : Int) (hv : InR tULL v) : ctor_ull_us v = spec tUS v :=
  ctorG_spec tULL tUS [tLL] [] hv
theorem C17_ctor_ull_i (v : Int) (hv : InR tULL v) : ctor_ull_i v = spec tI v :=
  ctorG_spec tULL tI [tLL] [] hv
theorem C17_ctor_ull_u (v : Int) (hv : InR tULL v) : ctor_ull_u v = spec tU v :=
  ctorG_spec tULL tU [tLL] [] hv
theorem C17_ctor_ull_l (v : Int) (hv : InR tULL v) : ctor_ull_l v = spec tL v :=
  ctorG_spec tULL tL [tLL] [] hv
theorem C17_ctor_ull_ul (v : Int) (hv : InR tULL v) : ctor_ull_ul v = spec tUL v :=
  ctorG_spec tULL tUL [tLL] [] hv
theorem C17_ctor_ull_ll (v : Int) (hv : InR tULL v) : ctor_ull_ll v = spec tLL v :=
  ctorG_spec tULL tLL [tLL] [] hv

/-! Mixed-operand operators `SafeInt<T1> op T2` (used by the allocation-size computations in
    expr.h / problem.h): the plain operand is first converted with the checked constructor; between equal
    types that is the plain constructor, and the mixed form unfolds to the operator itself. -/
theorem C17_mixadd_i_i (a b : Int) (ha : InR tI a) (hb : InR tI b) : mixadd_i_i a b = spec tI (a + b) :=
  C17_add_i a b ha hb
theorem C17_mixmul_i_i (a b : Int) (ha : InR tI a) (hb : InR tI b) : mixmul_i_i a b = spec tI (a * b) :=
  C17_mul_i a b ha hb
theorem C17_mixadd_ul_ul (a b : Int) (ha : InR tUL a) (hb : InR tUL b) : mixadd_ul_ul a b = spec tUL (a + b) :=
  C17_add_ul a b ha hb
theorem C17_mixadd_i_ul (a b : Int) (ha : InR tI a) (hb : InR tUL b) :
    mixadd_i_ul a b = if InR tI b then spec tI (a + b) else .throw :=
  bind_spec (C17_ctor_ul_i b hb) (C17_add_i a b ha)
theorem C17_mixmul_i_ul (a b : Int) (ha : InR tI a) (hb : InR tUL b) :
    mixmul_i_ul a b = if InR tI b then spec tI (a * b) else .throw :=
  bind_spec (C17_ctor_ul_i b hb) (C17_mul_i a b ha)

/-- reversed form `T1 op SafeInt<T2>` (src/asl/aslbuilder.cc: `sizeof(..) + SafeInt<int>(..)`): the plain
    left operand is first converted with the checked constructor. -/
theorem C17_revadd_ul_i (a b : Int) (ha : InR tUL a) (hb : InR tI b) :
    revadd_ul_i a b = if InR tI a then spec tI (a + b) else .throw :=
  bind_spec (C17_ctor_ul_i a ha) (C17_add_i a b · hb)

/-- never undefined behaviour, as a corollary, shown for two instantiations.  `spec_ne_ub` applies wherever the
    right-hand side is `spec`: the operators, the constructors and the mixed forms between equal types; `C17_abs_*` have
    `.ret` there, the other mixed forms `spec` or `.throw`. -/
theorem C17_no_ub_add_i (a b : Int) (ha : InR tI a) (hb : InR tI b) : add_i a b ≠ .ub := by
  rw [C17_add_i a b ha hb]; exact spec_ne_ub _ _
theorem C17_no_ub_mul_l (a b : Int) (ha : InR tL a) (hb : InR tL b) : mul_l a b ≠ .ub := by
  rw [C17_mul_l a b ha hb]; exact spec_ne_ub _ _

-- non-vacuity: the hypotheses are satisfiable and both branches of `spec` occur
example : InR tI 2147483647 ∧ InR tI 1 ∧ add_i 2147483647 1 = .throw := by decide
example : InR tI 2 ∧ InR tI 3 ∧ add_i 2 3 = .ret 5 := by decide
example : mul_i (-1073741824) 2 = .ret (-2147483648) := by decide
example : sub_ul 5 3 = .ret 2 ∧ sub_ul 3 5 = .throw := by decide
end MpVerif.C17
