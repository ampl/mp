import MpVerif.Basic.CSemLemmas
/-! The `SafeInt` templates written once as functions of the C type, each with its specification theorem for every type
    of at least one bit; a generated instantiation is such a function at its type, by unfolding. -/
namespace MpVerif.C17
open MpVerif.CSem

/-- value `v` is representable in C type `t`.  `InR` is `CTy.inRange` of `Basic/CSem.lean`: `conv_inRange` and `arith_inRange`
    take a proof of `InR` as it is -/
def InR (t : CTy) (v : Int) : Prop := t.lo ≤ v ∧ v ≤ t.hi

instance (t : CTy) (v : Int) : Decidable (InR t v) := by unfold InR; infer_instance

/-- the specification: exact result when representable, the overflow error otherwise -/
def spec (t : CTy) (exact : Int) : Outcome Int :=
  if t.lo ≤ exact ∧ exact ≤ t.hi then .ret exact else .throw

theorem spec_ne_ub (t : CTy) (v : Int) : spec t v ≠ .ub := by
  unfold spec; split <;> simp

theorem spec_of_inR {t : CTy} {v : Int} (h : InR t v) : spec t v = .ret v := if_pos h
theorem spec_of_not_inR {t : CTy} {v : Int} (h : ¬InR t v) : spec t v = .throw := if_neg h

theorem bind_spec {t : CTy} {v : Int} {c r : Outcome Int} {f : Int → Outcome Int} (hc : c = spec t v)
    (hf : InR t v → f v = r) : Outcome.bind c f = if InR t v then r else .throw := by
  rw [hc]; by_cases h : InR t v
  · rw [spec_of_inR h, if_pos h, Outcome.bind_ret, hf h]
  · rw [spec_of_not_inR h, if_neg h, Outcome.bind_throw]

/-- unsigned counterpart of a type -/
def unsignedOf (t : CTy) : CTy := ⟨t.bits, false⟩

/-- the division pre-check used by `operator*` -/
theorem gt_div_iff (x M y : Int) (hy : 0 < y) : (M / y < x) ↔ (M < x * y) := by
  rw [Int.ediv_lt_iff_lt_mul hy]

theorem tdiv_eq_ediv_of_nonneg (a b : Int) (ha : 0 ≤ a) : Int.tdiv a b = a / b := by
  exact Int.tdiv_eq_ediv_of_nonneg ha

theorem tdiv_lt_iff (L x y : Int) (hL : 0 ≤ L) (hy : 0 < y) : (Int.tdiv L y < x) ↔ (L < x * y) := by
  rw [tdiv_eq_ediv_of_nonneg L y hL, gt_div_iff x L y hy]

theorem tdiv_bounds (L y : Int) (hL : 0 ≤ L) (hy : 0 < y) : 0 ≤ Int.tdiv L y ∧ Int.tdiv L y ≤ L :=
  ⟨Int.tdiv_nonneg hL (Int.le_of_lt hy), Int.tdiv_le_self y hL⟩

theorem emod_shift_id (v h m : Int) (h1 : 0 ≤ v + h) (h2 : v + h < m) : (v + h) % m - h = v := by
  rw [Int.emod_eq_of_lt h1 h2]; omega

section
variable {t : CTy}

theorem lo_unsigned (hs : t.signed = false) : t.lo = 0 := by
  simp only [CTy.lo, hs, Bool.false_eq_true, ↓reduceIte]

theorem lo_le_zero_le_hi (ht : 0 < t.bits) : t.lo ≤ 0 ∧ 0 ≤ t.hi := by
  have := half_pos t; have := two_pow_bits ht
  unfold CTy.lo CTy.hi; split <;> omega

end

/-! ### Width-generic forms of the `SafeInt` templates

`prom`, `pconv`, `narrow`, `promote` are the integer promotions the compiler inserts for operands narrower
than `int`; for the other types they vanish by evaluation, so each generated instantiation is
definitionally the generic form at its type.

They branch with `bif` on a `Bool`, not with `if`: the C semantics is itself an `if` (on signedness), and the
kernel, meeting `ite` against `ite`, compares the branches before it evaluates the conditions; on the 64-bit
types it then tries to tell `2^64` from `2^32` by peeling successors. -/

/-- `t` is narrower than `int` -/
def small (t : CTy) : Bool := Nat.blt t.bits 32
def prom (t : CTy) : CTy := bif small t then tI else t
def pconv (t : CTy) (x : Int) : Int := bif small t then conv tI x else x
def promote (t : CTy) (x : Outcome Int) : Outcome Int :=
  bif small t then Outcome.bind x fun r => .ret (conv tI r) else x
def narrow (t : CTy) (x : Outcome Int) : Outcome Int :=
  bif small t then Outcome.bind x fun r => .ret (conv t r) else x

/-- `fmt::internal::is_negative` -/
def isNeg (t : CTy) (v : Int) : Outcome Int :=
  if t.signed then .ret (clt (pconv t v) (conv (prom t) 0)) else .ret 0

section
variable {t : CTy}

theorem two_pow_le {n : Nat} (h : n ≤ 31) : (2 : Int) ^ n ≤ 2147483648 := by
  have h2 : ((2 ^ n : Nat) : Int) ≤ ((2 ^ 31 : Nat) : Int) :=
    Int.ofNat_le.mpr (Nat.pow_le_pow_right (by decide) h)
  rwa [Int.natCast_pow] at h2

theorem tI_lo : tI.lo = -2147483648 := by decide
theorem tI_hi : tI.hi = 2147483647 := by decide

theorem inR_tI (ht : 0 < t.bits) (hsm : small t = true) {v : Int} (h : InR t v) : InR tI v := by
  have h32 : t.bits < 32 := Nat.blt_eq.mp hsm
  have := two_pow_le (n := t.bits) (by omega); have := two_pow_bits ht; have := half_pos t
  unfold InR at *; rw [tI_lo, tI_hi]
  unfold CTy.lo CTy.hi at h
  cases hs : t.signed <;> simp only [hs, Bool.false_eq_true, ↓reduceIte] at h <;> omega

theorem prom_pos (ht : 0 < t.bits) : 0 < (prom t).bits := by
  unfold prom; cases small t
  · exact ht
  · exact (by decide : 0 < tI.bits)

theorem inR_prom (ht : 0 < t.bits) {v : Int} (h : InR t v) : InR (prom t) v := by
  unfold prom; cases hsm : small t
  · exact h
  · exact inR_tI ht hsm h

theorem inR_zero (ht : 0 < t.bits) : InR t 0 := lo_le_zero_le_hi ht
theorem inR_lo (ht : 0 < t.bits) : InR t t.lo := ⟨Int.le_refl _, Int.le_trans (inR_zero ht).1 (inR_zero ht).2⟩
theorem inR_hi (ht : 0 < t.bits) : InR t t.hi := ⟨Int.le_trans (inR_zero ht).1 (inR_zero ht).2, Int.le_refl _⟩

theorem pconv_eq {x : Int} (h : InR (prom t) x) : pconv t x = x := by
  unfold pconv; unfold prom at h; cases hsm : small t
  · rfl
  · rw [hsm] at h; exact conv_inRange (t := tI) (by decide) h

theorem promote_ret {x : Int} (h : InR (prom t) x) : promote t (.ret x) = .ret x := by
  unfold promote; unfold prom at h; cases hsm : small t
  · rfl
  · rw [hsm] at h; exact congrArg _ (conv_inRange (t := tI) (by decide) h)

theorem pconv_eq_of_inR (ht : 0 < t.bits) {x : Int} (h : InR t x) : pconv t x = x := pconv_eq (inR_prom ht h)

theorem promote_ret_of_inR (ht : 0 < t.bits) {x : Int} (h : InR t x) : promote t (.ret x) = .ret x :=
  promote_ret (inR_prom ht h)

theorem narrow_ret (ht : 0 < t.bits) {r : Int} (h : InR t r) : narrow t (.ret r) = .ret r := by
  unfold narrow; cases small t
  · rfl
  · exact congrArg _ (conv_inRange ht h)

theorem arith_prom (ht : 0 < t.bits) {r : Int} (h : InR t r) : arith (prom t) r = .ret r :=
  arith_inRange (prom_pos ht) (inR_prom ht h)

theorem conv_prom_zero (ht : 0 < t.bits) : conv (prom t) 0 = 0 :=
  conv_inRange (prom_pos ht) (inR_prom ht (inR_zero ht))

theorem isNeg_eq (ht : 0 < t.bits) {v : Int} (h : InR t v) : isNeg t v = .ret (clt v 0) := by
  unfold isNeg
  cases hs : t.signed
  · have := lo_unsigned hs
    simp only [Bool.false_eq_true, ↓reduceIte, clt]; rw [if_neg (by have := h.1; omega)]
  · simp only [↓reduceIte]
    rw [pconv_eq_of_inR ht h, conv_prom_zero ht]

theorem exact_of_inR (ht : 0 < t.bits) {r : Int} (h : InR t r) :
    Outcome.bind (narrow t (arith (prom t) r)) .ret = .ret r := by
  rw [arith_prom ht h, narrow_ret ht h, Outcome.bind_ret]

/-- the tail every checked operation shares; `c`: the overflow test -/
theorem checked {r c : Int} {x : Outcome Int} (hc : c ≠ 0 ↔ ¬InR t r) (hx : InR t r → x = .ret r) :
    (if c ≠ 0 then .throw else x) = spec t r := by
  by_cases h : InR t r
  · rw [if_neg (fun h' => hc.mp h' h), hx h, spec_of_inR h]
  · rw [if_pos (hc.mpr h), spec_of_not_inR h]

end

/-! ### `operator+`, `operator-` -/

def addG (t : CTy) (a b : Int) : Outcome Int :=
  Outcome.bind (Outcome.bind (isNeg t a) fun n => .ret (cnot n)) fun nn =>
  if nn ≠ 0 then
    Outcome.bind (Outcome.bind (csub (prom t) (pconv t t.hi) (pconv t a)) fun d => .ret (cgt (pconv t b) d)) fun c =>
    if c ≠ 0 then .throw else Outcome.bind (narrow t (cadd (prom t) (pconv t a) (pconv t b))) .ret
  else
    Outcome.bind (Outcome.bind (csub (prom t) (pconv t t.lo) (pconv t a)) fun d => .ret (clt (pconv t b) d)) fun c =>
    if c ≠ 0 then .throw else Outcome.bind (narrow t (cadd (prom t) (pconv t a) (pconv t b))) .ret

def subG (t : CTy) (a b : Int) : Outcome Int :=
  Outcome.bind (Outcome.bind (isNeg t b) fun n => .ret (cnot n)) fun nn =>
  if nn ≠ 0 then
    Outcome.bind (Outcome.bind (cadd (prom t) (pconv t t.lo) (pconv t b)) fun d => .ret (clt (pconv t a) d)) fun c =>
    if c ≠ 0 then .throw else Outcome.bind (narrow t (csub (prom t) (pconv t a) (pconv t b))) .ret
  else
    Outcome.bind (Outcome.bind (cadd (prom t) (pconv t t.hi) (pconv t b)) fun d => .ret (cgt (pconv t a) d)) fun c =>
    if c ≠ 0 then .throw else Outcome.bind (narrow t (csub (prom t) (pconv t a) (pconv t b))) .ret

theorem cnot_clt_zero (a : Int) : cnot (clt a 0) ≠ 0 ↔ 0 ≤ a := by
  rw [cnot_eq_tv, clt_eq_tv, tv_ne_zero, tv_eq_zero, Int.not_lt]

theorem addG_spec (t : CTy) {a b : Int} (ha : InR t a) (hb : InR t b) (ht : 0 < t.bits := by decide) :
    addG t a b = spec t (a + b) := by
  have ⟨ha1, ha2⟩ := ha; have ⟨hb1, hb2⟩ := hb; have ⟨h1, h2⟩ := lo_le_zero_le_hi ht
  unfold addG
  rw [isNeg_eq ht ha, pconv_eq_of_inR ht ha, pconv_eq_of_inR ht hb, pconv_eq_of_inR ht (inR_hi ht),
    pconv_eq_of_inR ht (inR_lo ht)]
  simp only [Outcome.bind_ret, csub, cadd]
  by_cases h0 : 0 ≤ a
  · rw [if_pos ((cnot_clt_zero a).mpr h0),
      arith_prom ht (⟨by omega, by omega⟩ : InR t (t.hi - a)), Outcome.bind_ret]
    exact checked (by rw [cgt_ne_zero]; unfold InR; omega) (exact_of_inR ht)
  · rw [if_neg (mt (cnot_clt_zero a).mp h0),
      arith_prom ht (⟨by omega, by omega⟩ : InR t (t.lo - a)), Outcome.bind_ret]
    exact checked (by rw [clt_ne_zero]; unfold InR; omega) (exact_of_inR ht)

theorem subG_spec (t : CTy) {a b : Int} (ha : InR t a) (hb : InR t b) (ht : 0 < t.bits := by decide) :
    subG t a b = spec t (a - b) := by
  have ⟨ha1, ha2⟩ := ha; have ⟨hb1, hb2⟩ := hb; have ⟨h1, h2⟩ := lo_le_zero_le_hi ht
  unfold subG
  rw [isNeg_eq ht hb, pconv_eq_of_inR ht ha, pconv_eq_of_inR ht hb, pconv_eq_of_inR ht (inR_hi ht),
    pconv_eq_of_inR ht (inR_lo ht)]
  simp only [Outcome.bind_ret, csub, cadd]
  by_cases h0 : 0 ≤ b
  · rw [if_pos ((cnot_clt_zero b).mpr h0),
      arith_prom ht (⟨by omega, by omega⟩ : InR t (t.lo + b)), Outcome.bind_ret]
    exact checked (by rw [clt_ne_zero]; unfold InR; omega) (exact_of_inR ht)
  · rw [if_neg (mt (cnot_clt_zero b).mp h0),
      arith_prom ht (⟨by omega, by omega⟩ : InR t (t.hi + b)), Outcome.bind_ret]
    exact checked (by rw [cgt_ne_zero]; unfold InR; omega) (exact_of_inR ht)


/-! ### `SafeAbs` -/

/-- the result has the unsigned counterpart of `t` as its type; a negative argument is first converted to it
    (so wraps) and then negated in unsigned arithmetic (wrapping back) -/
def absG (t : CTy) (v : Int) : Outcome Int :=
  if clt (pconv t v) (conv (prom t) 0) ≠ 0 then
    Outcome.bind (narrow (unsignedOf t) (csub (prom (unsignedOf t)) (conv (prom (unsignedOf t)) 0)
      (pconv (unsignedOf t) (if t.signed then conv (unsignedOf t) v else v)))) fun x => .ret x
  else .ret (if t.signed then conv (unsignedOf t) v else v)

section
variable {t : CTy}

theorem lo_unsignedOf (t : CTy) : (unsignedOf t).lo = 0 := rfl

theorem hi_unsignedOf (ht : 0 < t.bits) : (unsignedOf t).hi = t.hi - t.lo := by
  have := two_pow_bits ht
  simp only [unsignedOf, CTy.hi, CTy.lo, Bool.false_eq_true, ↓reduceIte]
  split <;> omega

theorem conv_unsignedOf (t : CTy) (x : Int) : conv (unsignedOf t) x = x % ((unsignedOf t).hi + 1) := by
  simp only [conv, CTy.wrap, unsignedOf, CTy.hi, Bool.false_eq_true, ↓reduceIte, Int.sub_add_cancel]

theorem inR_conv_unsignedOf (ht : 0 < t.bits) (x : Int) : InR (unsignedOf t) (conv (unsignedOf t) x) := by
  have := lo_le_zero_le_hi ht; have := hi_unsignedOf ht
  rw [conv_unsignedOf]
  exact ⟨Int.emod_nonneg _ (by omega), Int.le_of_lt_add_one (Int.emod_lt_of_pos _ (by omega))⟩

theorem inR_abs (ht : 0 < t.bits) {a : Int} (ha : InR t a) : InR (unsignedOf t) (if a < 0 then -a else a) := by
  have := lo_le_zero_le_hi ht
  unfold InR at *; rw [lo_unsignedOf, hi_unsignedOf ht]; omega

/-- negation in the unsigned type, whether carried out there or (promoted) in `int` and converted back -/
theorem narrow_neg_unsigned (ht : 0 < t.bits) {r : Int} (hr : InR (unsignedOf t) r) :
    narrow (unsignedOf t) (arith (prom (unsignedOf t)) (0 - r)) = .ret (conv (unsignedOf t) (0 - r)) := by
  unfold narrow prom; cases hsm : small (unsignedOf t)
  · rfl
  · have h := inR_tI (t := unsignedOf t) ht hsm hr
    have h0 : 0 ≤ r := hr.1
    unfold InR at h; rw [tI_lo, tI_hi] at h
    show Outcome.bind (arith tI (0 - r)) _ = _
    rw [arith_tI (by omega) (by omega), Outcome.bind_ret]

end

theorem absG_spec (t : CTy) {a : Int} (ha : InR t a) (ht : 0 < t.bits := by decide) :
    absG t a = .ret (if a < 0 then -a else a) := by
  have ⟨ha1, ha2⟩ := ha; have ⟨h1, h2⟩ := lo_le_zero_le_hi ht
  have hu : 0 < (unsignedOf t).bits := ht
  have hhi := hi_unsignedOf ht
  unfold absG
  rw [pconv_eq_of_inR ht ha, conv_prom_zero ht, conv_prom_zero hu]
  by_cases h0 : a < 0
  · -- both wraps are modulo `M = 2^bits`, so `(0 - a % M) % M = (0 - a) % M`, and `0 < -a < M`
    have hs : t.signed = true := by
      cases hs : t.signed
      · have := lo_unsigned hs; omega
      · rfl
    have hr := inR_conv_unsignedOf ht a
    rw [if_pos (clt_ne_zero.mpr h0), if_pos h0, if_pos hs, pconv_eq_of_inR hu hr, csub,
      narrow_neg_unsigned ht hr, Outcome.bind_ret, conv_unsignedOf, conv_unsignedOf, Int.sub_emod_emod,
      Int.emod_eq_of_lt (by omega) (by omega), Int.zero_sub]
  · rw [if_neg (mt clt_ne_zero.mp h0), if_neg h0, conv_inRange hu ⟨by rw [lo_unsignedOf]; omega, by omega⟩, ite_self]


/-! ### `operator*` -/

/-- the division pre-check against the limit `lim`, then the product -/
def mulGuard (t : CTy) (lim a b : Int) : Outcome Int :=
  Outcome.bind (Outcome.bind (promote (unsignedOf t) (absG t a)) fun x =>
    Outcome.bind (Outcome.bind (promote (unsignedOf t) (absG t b)) fun y =>
      cdiv (prom (unsignedOf t)) (pconv (unsignedOf t) lim) y) fun q => .ret (cgt x q)) fun c =>
  if c ≠ 0 then .throw else Outcome.bind (narrow t (cmul (prom t) (pconv t a) (pconv t b))) .ret

def mulG (t : CTy) (a b : Int) : Outcome Int :=
  if cne (pconv t b) (conv (prom t) 0) ≠ 0 then
    -- `conv tI`: the `bool` results of `is_negative` are promoted to `int` as operands of `!=`
    Outcome.bind (Outcome.bind (Outcome.bind (isNeg t a) fun n => .ret (conv tI n)) fun na =>
      Outcome.bind (Outcome.bind (isNeg t b) fun n => .ret (conv tI n)) fun nb => .ret (cne na nb)) fun d =>
    if d ≠ 0 then Outcome.bind (absG t t.lo) fun lim => mulGuard t lim a b
    else mulGuard t (conv (unsignedOf t) t.hi) a b
  else Outcome.bind (narrow t (cmul (prom t) (pconv t a) (pconv t b))) .ret

/-- The non-linear facts are `lim / |b| < |a| ↔ lim < |a| * |b|` and `|a| * |b| = |a * b|`. -/
theorem mulGuard_spec {t : CTy} (ht : 0 < t.bits) {a b lim : Int} (ha : InR t a) (hb : InR t b) (hb0 : b ≠ 0)
    (hl : InR (unsignedOf t) lim)
    (hiff : lim < (a * b).natAbs ↔ ¬InR t (a * b)) :
    mulGuard t lim a b = spec t (a * b) := by
  have hu : 0 < (unsignedOf t).bits := ht
  have hl0 : 0 ≤ lim := hl.1
  have hy : 0 < (if b < 0 then -b else b) := by split <;> omega
  have hq := tdiv_bounds lim _ hl0 hy
  unfold mulGuard
  rw [absG_spec t ha ht, absG_spec t hb ht, promote_ret_of_inR hu (inR_abs ht ha), promote_ret_of_inR hu (inR_abs ht hb),
    pconv_eq_of_inR hu hl, pconv_eq_of_inR ht ha, pconv_eq_of_inR ht hb]
  simp only [Outcome.bind_ret, cdiv, cmul]
  rw [if_neg (by omega), arith_prom hu ⟨hq.1, Int.le_trans hq.2 hl.2⟩, Outcome.bind_ret]
  have hm : (if a < 0 then -a else a) * (if b < 0 then -b else b) = ((a * b).natAbs : Int) := by
    rw [Int.natAbs_mul, Int.natCast_mul]; congr 1 <;> omega
  exact checked (by rw [cgt_ne_zero, tdiv_lt_iff _ _ _ hl0 hy, hm]; exact hiff) (exact_of_inR ht)

theorem signs_differ (a b : Int) : cne (conv tI (clt a 0)) (conv tI (clt b 0)) ≠ 0 ↔ ¬(a < 0 ↔ b < 0) := by
  have c0 : conv tI 0 = 0 := by decide
  have c1 : conv tI 1 = 1 := by decide
  unfold clt cne
  by_cases ha : a < 0 <;> by_cases hb : b < 0 <;> simp [ha, hb, c0, c1]

theorem mulG_spec (t : CTy) {a b : Int} (ha : InR t a) (hb : InR t b) (ht : 0 < t.bits := by decide) :
    mulG t a b = spec t (a * b) := by
  have ⟨ha1, ha2⟩ := ha; have ⟨hb1, hb2⟩ := hb; have ⟨h1, h2⟩ := lo_le_zero_le_hi ht
  have hu : 0 < (unsignedOf t).bits := ht
  unfold mulG
  rw [pconv_eq_of_inR ht hb, conv_prom_zero ht]
  by_cases hb0 : b = 0
  · rw [if_neg (by simp [cne, hb0]), pconv_eq_of_inR ht ha, cmul, hb0, Int.mul_zero,
      exact_of_inR ht (inR_zero ht), spec_of_inR (inR_zero ht)]
  · rw [if_pos (by simp [cne, hb0]), isNeg_eq ht ha, isNeg_eq ht hb]
    simp only [Outcome.bind_ret]
    -- the signs of `a`, `b` say on which side of `0` the product lies, hence which bound it can pass
    by_cases hd : (a < 0 ↔ b < 0)
    · have hlim : InR (unsignedOf t) t.hi := by
        unfold InR; rw [lo_unsignedOf, hi_unsignedOf ht]; omega
      rw [if_neg (mt (signs_differ a b).mp (not_not_intro hd)), conv_inRange hu hlim]
      refine mulGuard_spec ht ha hb hb0 hlim ?_
      have : 0 ≤ a * b := by
        by_cases h0 : a < 0
        · exact Int.mul_nonneg_of_nonpos_of_nonpos (by omega) (by omega)
        · exact Int.mul_nonneg (by omega) (by omega)
      unfold InR; omega
    · rw [if_pos ((signs_differ a b).mpr hd), absG_spec t (inR_lo ht) ht, Outcome.bind_ret]
      refine mulGuard_spec ht ha hb hb0 (inR_abs ht (inR_lo ht)) ?_
      have : a * b ≤ 0 := by
        by_cases h0 : a < 0
        · exact Int.mul_nonpos_of_nonpos_of_nonneg (by omega) (by omega)
        · exact Int.mul_nonpos_of_nonneg_of_nonpos (by omega) (by omega)
      unfold InR; omega

/-! ### The converting constructor

The comparisons are made on `long long` (negative values) or on an unsigned type (the others); which
conversions the value passes through on the way depends on the C types, not only on their widths
(`long` and `long long`), so they are parameters: `sv` for the signed comparison, `uv` for the unsigned. -/

def casts (cs : List CTy) (v : Int) : Int := cs.foldr conv v

def Covers (cs : List CTy) (lo hi : Int) : Prop := ∀ c ∈ cs, 0 < c.bits ∧ c.lo ≤ lo ∧ hi ≤ c.hi

instance (cs : List CTy) (lo hi : Int) : Decidable (Covers cs lo hi) := by unfold Covers; infer_instance

theorem casts_eq {cs : List CTy} {lo hi v : Int} (h : Covers cs lo hi) (h1 : lo ≤ v) (h2 : v ≤ hi) :
    casts cs v = v := by
  induction cs with
  | nil => rfl
  | cons c cs ih =>
    have ⟨hc, hlo, hhi⟩ := h c (List.mem_cons_self ..)
    show conv c (casts cs v) = v
    rw [ih fun c' hc' => h c' (List.mem_cons_of_mem _ hc')]
    exact conv_inRange hc ⟨Int.le_trans hlo h1, Int.le_trans h2 hhi⟩

def ctorG (s t : CTy) (sv uv : List CTy) (mn mx v : Int) : Outcome Int :=
  Outcome.bind (isNeg s v) fun n =>
  if n ≠ 0 then (if clt (casts sv v) mn ≠ 0 then .throw else .ret (conv t v))
  else (if cgt (casts uv v) mx ≠ 0 then .throw else .ret (conv t v))

theorem ctorG_spec (s t : CTy) (sv uv : List CTy) {mn mx v : Int} (hv : InR s v)
    (hs : 0 < s.bits := by decide) (ht : 0 < t.bits := by decide)
    (hsv : Covers sv s.lo (-1) := by decide) (huv : Covers uv 0 s.hi := by decide)
    (hmn : mn = t.lo := by decide) (hmx : mx = t.hi := by decide) : ctorG s t sv uv mn mx v = spec t v := by
  have ⟨hv1, hv2⟩ := hv; have ⟨h1, h2⟩ := lo_le_zero_le_hi ht
  unfold ctorG
  rw [isNeg_eq hs hv, Outcome.bind_ret, hmn, hmx]
  by_cases h0 : v < 0
  · rw [if_pos (clt_ne_zero.mpr h0), casts_eq hsv hv1 (by omega)]
    exact checked (by rw [clt_ne_zero]; unfold InR; omega) fun h => congrArg _ (conv_inRange ht h)
  · rw [if_neg (mt clt_ne_zero.mp h0), casts_eq huv (by omega) hv2]
    exact checked (by rw [cgt_ne_zero]; unfold InR; omega) fun h => congrArg _ (conv_inRange ht h)

end MpVerif.C17
