import MpVerif.C19.Model
/-! String facts: suffix tokens parse uniquely, because a token's body and a label are read back from the text
(`split_us`, `Lab.ofBody`); rendered label chains are accepted by the chain scanner; two equal names `root ++ chain`
differ by a chain between their roots (`name_eq_cases`). -/
namespace MpVerif.C19

theorem dec_inj {a b : Nat} (h : dec a = dec b) : a = b := by
  have h1 := @Nat.ofDigitChars_ten_toDigits a
  have h2 := @Nat.ofDigitChars_ten_toDigits b
  unfold dec at h
  rw [h] at h1
  omega

theorem dec_no_us (k : Nat) : '_' ∉ dec k := by
  unfold dec; exact Nat.underscore_not_in_toDigits

theorem dec_ne_nil (k : Nat) : dec k ≠ [] := by
  unfold dec; exact Nat.toDigits_ne_nil

theorem dec_isDigit {k : Nat} {c : Char} (h : c ∈ dec k) : c.isDigit = true := by
  unfold dec at h
  exact Nat.isDigit_of_mem_toDigits (by decide) (by decide) h

def Lab.body : Lab → Name
  | .plain => []
  | .num k => dec k
  | .slk => ['s', 'l', 'k']
  | .equ => ['e', 'q', 'u']

theorem tok_eq {l : Lab} (h : l ≠ Lab.plain) : l.tok = '_' :: (l.body ++ ['_']) := by
  cases l <;> simp_all [Lab.tok, Lab.body, slkSuffix, equSuffix]

theorem body_no_us (l : Lab) : '_' ∉ l.body := by
  cases l with
  | plain => simp [Lab.body]
  | num k => exact dec_no_us k
  | slk => decide
  | equ => decide

theorem body_ne_nil {l : Lab} (h : l ≠ Lab.plain) : l.body ≠ [] := by
  cases l with
  | plain => exact absurd rfl h
  | num k => exact dec_ne_nil k
  | slk => simp [Lab.body]
  | equ => simp [Lab.body]

theorem dec_ne_cons {k : Nat} {c : Char} {cs : Name} (hd : c.isDigit = false) : dec k ≠ c :: cs :=
  fun h => by rw [dec_isDigit (k := k) (h ▸ List.mem_cons_self)] at hd; cases hd

def Lab.ofBody (w : Name) : Lab :=
  if w = ['s', 'l', 'k'] then .slk else if w = ['e', 'q', 'u'] then .equ else .num (Nat.ofDigitChars 10 w 0)

theorem ofBody_body : ∀ {l : Lab}, l ≠ Lab.plain → Lab.ofBody l.body = l
  | .plain, h => absurd rfl h
  | .num k, _ => by
    rw [Lab.ofBody, Lab.body, if_neg (dec_ne_cons rfl), if_neg (dec_ne_cons rfl), dec, Nat.ofDigitChars_ten_toDigits]
  | .slk, _ => rfl
  | .equ, _ => rfl

theorem split_us {r r' w w' : Name} (hw : '_' ∉ w) (hw' : '_' ∉ w')
    (h : r ++ '_' :: w = r' ++ '_' :: w') : r = r' ∧ w = w' := by
  -- the text after the last underscore is read back from the whole string
  have key : ∀ {r w : Name}, '_' ∉ w → ((r ++ '_' :: w).reverse.takeWhile (· != '_')).reverse = w := by
    intro r w hw
    have h : ∀ a ∈ w.reverse, (a != '_') = true := fun a ha => bne_iff_ne.mpr fun e => hw (e ▸ List.mem_reverse.mp ha)
    simp [List.takeWhile_append_of_pos h]
  have hww := key (r := r) hw
  rw [h, key hw'] at hww
  subst hww
  exact ⟨List.append_cancel_right h, rfl⟩

theorem split_last_tok {s s' : Name} {l l' : Lab} (hl : l ≠ Lab.plain) (hl' : l' ≠ Lab.plain)
    (h : s ++ l.tok = s' ++ l'.tok) : s = s' ∧ l = l' := by
  simp only [tok_eq hl, tok_eq hl', ← List.cons_append, ← List.append_assoc] at h
  obtain ⟨hs, hb⟩ := split_us (body_no_us l) (body_no_us l') (List.append_cancel_right h)
  exact ⟨hs, by rw [← ofBody_body hl, hb, ofBody_body hl']⟩

/-- text appended to the root name along a label path (most recent label first) -/
def renderRev : List Lab → Name
  | [] => []
  | l :: ls => renderRev ls ++ l.tok

def NoPlain (ls : List Lab) : Prop := ∀ l ∈ ls, l ≠ Lab.plain

theorem tok_ne_nil {l : Lab} (h : l ≠ Lab.plain) : l.tok ≠ [] := by
  rw [tok_eq h]; simp

theorem NoPlain.tail {l : Lab} {ls : List Lab} (h : NoPlain (l :: ls)) : NoPlain ls :=
  fun x hx => h x (List.mem_cons_of_mem _ hx)

theorem renderRev_eq_nil : ∀ {C : List Lab}, NoPlain C → renderRev C = [] → C = []
  | [], _, _ => rfl
  | l :: _, hC, h => absurd (List.append_eq_nil_iff.mp h).2 (tok_ne_nil (hC l List.mem_cons_self))

theorem runCS_append (q : CS) (a b : Name) :
    runCS q (a ++ b) = (runCS q a).bind fun q' => runCS q' b := by
  induction a generalizing q with
  | nil => simp [runCS]
  | cons c cs ih =>
    simp only [List.cons_append, runCS]
    cases h : q.step c with
    | none => simp
    | some q' => simp [ih]

theorem runCS_body {w : Name} (h : '_' ∉ w) : runCS .body w = some .body := by
  induction w with
  | nil => rfl
  | cons c cs ih =>
    have hc : c ≠ '_' := fun e => h (by simp [e])
    have hcs : '_' ∉ cs := fun hm => h (List.mem_cons_of_mem _ hm)
    simp [runCS, CS.step, hc, ih hcs]

theorem runCS_tok (l : Lab) : runCS .start l.tok = some .start := by
  by_cases hl : l = Lab.plain
  · subst hl; rfl
  · rw [tok_eq hl]
    have hne := body_ne_nil hl
    have hno := body_no_us l
    cases hb : l.body with
    | nil => exact absurd hb hne
    | cons c cs =>
      rw [hb] at hno
      have hc : c ≠ '_' := fun e => hno (by simp [e])
      have hcs : '_' ∉ cs := fun hm => hno (List.mem_cons_of_mem _ hm)
      simp only [runCS, CS.step, List.cons_append, if_true]
      simp only [hc, if_false]
      rw [runCS_append, runCS_body hcs]
      simp [runCS, CS.step]

theorem runCS_renderRev (ls : List Lab) : runCS .start (renderRev ls) = some .start := by
  induction ls with
  | nil => rfl
  | cons l ls ih => simp [renderRev, runCS_append, ih, runCS_tok]

theorem isChainB_renderRev (ls : List Lab) : isChainB (renderRev ls) = true := by
  simp [isChainB, runCS_renderRev]

theorem isPrefixB_append (b p : Name) : isPrefixB b (b ++ p) = true := by
  induction b with
  | nil => simp [isPrefixB]
  | cons c cs ih => simp [isPrefixB, ih]

theorem extendsB_of_append {a b p : Name} (h : a = b ++ p) (hp : isChainB p = true) : extendsB a b = true := by
  subst h
  simp [extendsB, isPrefixB_append, hp]

/-- Two equal names `root ++ chain`: tokens are split off from the right (`split_last_tok`) until one label list is used
up; what is left of the other is a chain by which one root extends the other, and is empty if the roots are the same. -/
theorem name_eq_cases : ∀ {A B : List Lab}, NoPlain A → NoPlain B → ∀ {rn rn' : Name},
    rn ++ renderRev A = rn' ++ renderRev B →
    (extendsB rn' rn = true ∨ extendsB rn rn' = true) ∧ (rn = rn' → A = B)
  | [], B, _, hB, _, _, h => by
    rw [renderRev, List.append_nil] at h
    exact ⟨Or.inr (extendsB_of_append h (isChainB_renderRev B)),
      fun e => (renderRev_eq_nil hB (List.self_eq_append_right.mp (e ▸ h))).symm⟩
  | l :: A, [], hA, _, _, _, h => by
    rw [renderRev, List.append_nil] at h
    exact ⟨Or.inl (extendsB_of_append h.symm (isChainB_renderRev _)),
      fun e => renderRev_eq_nil hA (List.self_eq_append_right.mp (e ▸ h.symm))⟩
  | l :: A, l' :: B, hA, hB, rn, rn', h => by
    simp only [renderRev, ← List.append_assoc] at h
    obtain ⟨h1, rfl⟩ := split_last_tok (hA l List.mem_cons_self) (hB l' List.mem_cons_self) h
    have ih := name_eq_cases hA.tail hB.tail h1
    exact ⟨ih.1, fun e => by rw [ih.2 e]⟩

end MpVerif.C19
