import MpVerif.C19.LemmasForest
import MpVerif.C19.LemmasStr
/-! The name-presolve machine.  The forest invariant `Inv` (every named cell has a label path from an initially named
root and carries the root's name followed by the labels on the way) holds along `wellFed` runs, so that over suffix-free
source names, with distinct sibling labels and `NoClash`, two cells with the same name are equal or related by first
copies (`same_name_comparable`); the counter
invariant `InvN` makes counted sibling labels distinct. -/
namespace MpVerif.C19

theorem get_set (st : St) (c d : Nat) (v : VCStr) : (st.set c v).get d = if d = c then v else st.get d := by
  simp only [St.get, St.set, Std.HashMap.getD_insert, beq_iff_eq, eq_comm (a := d)]

theorem empty_get (c : Nat) : (({} : St).get c) = {} := by
  simp [St.get]

theorem giveIfEmpty_s (st : St) (d : Nat) (nm : Name) (c : Nat) :
    ((st.giveIfEmpty d nm).get c).s = if c = d ∧ (st.get d).s = [] then nm else (st.get c).s := by
  unfold St.giveIfEmpty
  split <;> rename_i he <;> simp only [get_set, he, and_true, and_false, if_false]
  split <;> rfl

theorem giveIfEmpty_n (st : St) (d : Nat) (nm : Name) (c : Nat) :
    ((st.giveIfEmpty d nm).get c).n = (st.get c).n := by
  unfold St.giveIfEmpty
  split <;> simp only [get_set]
  split <;> simp [*]

theorem bump_s (st : St) (s c : Nat) : ((st.bump s).get c).s = (st.get c).s := by
  simp only [St.bump, get_set]; split <;> simp [*, VCStr.counted]

theorem bump_n (st : St) (s c : Nat) :
    ((st.bump s).get c).n = if c = s then (st.get s).n + 1 else (st.get c).n := by
  simp only [St.bump, get_set]; split <;> simp [*, VCStr.counted]

theorem cntSuffix_eq_tok (j : Nat) : cntSuffix j = (cntLab j).tok := by
  unfold cntSuffix cntLab; split <;> rfl

theorem counted_name (v : VCStr) : v.counted.1 = v.s ++ (cntLab v.n).tok := by
  simp [VCStr.counted, cntSuffix_eq_tok]

theorem step_s (st : St) (o : Op) (c : Nat) :
    ((stepSt st o).get c).s =
      if c = o.dst ∧ (st.get o.dst).s = [] then (st.get o.src).s ++ (o.lab st).tok else (st.get c).s := by
  cases o with
  | copy s d =>
    simp only [stepSt, Op.dst, Op.src, Op.lab]
    split <;> simp [bump_s, giveIfEmpty_s, counted_name, *]
  | distr s d => simp only [stepSt, Op.dst, Op.src, Op.lab, bump_s, giveIfEmpty_s, counted_name]; congr
  | sgive s e d => simp only [stepSt, Op.dst, Op.src, Op.lab, giveIfEmpty_s]; congr

theorem step_n (st : St) (o : Op) (c : Nat) :
    ((stepSt st o).get c).n =
      match o with
      | .copy s d => if (st.get d).s = [] ∧ c = s then (st.get c).n + 1 else (st.get c).n
      | .distr s _ => if c = s then (st.get c).n + 1 else (st.get c).n
      | .sgive _ _ _ => (st.get c).n := by
  cases o with
  | copy s d =>
    simp only [stepSt]; split
    · simp only [bump_n, giveIfEmpty_n, true_and, *]; split <;> simp [*]
    · simp [*]
  | distr s d => simp only [stepSt, bump_n, giveIfEmpty_n]; split <;> simp [*]
  | sgive s e d => simp only [stepSt, giveIfEmpty_n]

theorem step_keeps (st : St) (o : Op) (c : Nat) (h : (st.get c).s ≠ []) :
    ((stepSt st o).get c).s = (st.get c).s := by
  rw [step_s, if_neg]
  rintro ⟨rfl, hd⟩; exact h hd

theorem step_n_ge (st : St) (o : Op) (c : Nat) : (st.get c).n ≤ ((stepSt st o).get c).n := by
  rw [step_n]; cases o <;> simp only <;> try split
  all_goals omega

theorem step_dst_ne (st : St) (o : Op) (wf : (st.get o.dst).s ≠ [] ∨ (st.get o.src).s ≠ []) :
    ((stepSt st o).get o.dst).s ≠ [] := by
  rw [step_s]
  split
  · rename_i h; exact List.append_ne_nil_of_left_ne_nil (wf.resolve_left (· h.2)) _
  · rename_i h; exact fun hd => h ⟨rfl, hd⟩

theorem run_keeps (ops : List Op) : ∀ (st : St) (c : Nat), (st.get c).s ≠ [] → ((run st ops).get c).s = (st.get c).s := by
  induction ops with
  | nil => intro st c _; rfl
  | cons o os ih =>
    intro st c h
    have h1 := step_keeps st o c h
    rw [run, ih _ c (h1 ▸ h), h1]

theorem wellFed_cons (st : St) (o : Op) (os : List Op) : wellFed st (o :: os) = true ↔
    ((st.get o.dst).s ≠ [] ∨ (st.get o.src).s ≠ []) ∧ wellFed (stepSt st o) os = true := by
  simp [wellFed]

theorem topoB_cons (named : List Nat) (o : Op) (os : List Op) : topoB named (o :: os) = true ↔
    (o.dst ∈ named ∨ o.src ∈ named) ∧ topoB (o.dst :: named) os = true := by
  simp [topoB]

theorem mem_stepE {st : St} {o : Op} {e : Edge} :
    e ∈ stepE st o ↔ (st.get o.dst).s = [] ∧ e = ⟨o.src, o.lab st, o.dst⟩ := by
  unfold stepE; split <;> simp [*]

theorem run_stored (st : St) (o : Op) (rest : List Op) (hd : (st.get o.dst).s = []) (hs : (st.get o.src).s ≠ []) :
    ((run st (o :: rest)).get o.dst).s = (st.get o.src).s ++ (o.lab st).tok := by
  have h1 : ((stepSt st o).get o.dst).s = (st.get o.src).s ++ (o.lab st).tok := by rw [step_s, if_pos ⟨rfl, hd⟩]
  rw [run, run_keeps rest _ _ (h1 ▸ List.append_ne_nil_of_left_ne_nil hs _), h1]

theorem Path.noPlain {E : List Edge} {r : Nat} {ls : List Lab} {c : Nat} (h : Path E r ls c) : NoPlain ls := by
  induction h with
  | root => exact fun _ h => nomatch h
  | plain _ _ ih => exact ih
  | step _ _ hl ih => exact fun l h => (List.mem_cons.mp h).elim (· ▸ hl) (ih l)

theorem Path.snoc {E : List Edge} {r : Nat} {ls : List Lab} {p c : Nat} {l : Lab} (h : Path E r ls p)
    (he : (⟨p, l, c⟩ : Edge) ∈ E) : ∃ ls', Path E r ls' c ∧ renderRev ls' = renderRev ls ++ l.tok := by
  by_cases hl : l = Lab.plain
  · subst hl; exact ⟨ls, h.plain he, (List.append_nil _).symm⟩
  · exact ⟨l :: ls, h.step he hl, rfl⟩

def Inv (init st : St) (E : List Edge) : Prop :=
  ∀ c, (st.get c).s ≠ [] →
    ∃ r ls, (init.get r).s ≠ [] ∧ Path E r ls c ∧ (st.get c).s = (init.get r).s ++ renderRev ls

theorem inv_step {init st : St} {E : List Edge} (hI : Inv init st E) (o : Op)
    (wf : (st.get o.dst).s ≠ [] ∨ (st.get o.src).s ≠ []) :
    Inv init (stepSt st o) (E ++ stepE st o) := by
  intro c hc
  rw [step_s] at hc
  split at hc
  · rename_i h
    obtain ⟨rfl, hd⟩ := h
    obtain ⟨r, ls, hr, hp, hn⟩ := hI _ (wf.resolve_left (· hd))
    obtain ⟨ls', hp', hr'⟩ := (hp.mono fun _ => List.mem_append_left _).snoc
      (List.mem_append_right _ (mem_stepE.mpr ⟨hd, rfl⟩))
    exact ⟨r, ls', hr, hp', by rw [step_s, if_pos ⟨rfl, hd⟩, hn, hr', List.append_assoc]⟩
  · obtain ⟨r, ls, hr, hp, hn⟩ := hI _ hc
    exact ⟨r, ls, hr, hp.mono fun _ => List.mem_append_left _, step_keeps st o c hc ▸ hn⟩

theorem inv_run {init : St} : ∀ (ops : List Op) (st : St) (E : List Edge), Inv init st E →
    wellFed st ops = true → Inv init (run st ops) (E ++ edges st ops) := by
  intro ops
  induction ops with
  | nil => intro st E hI _; simpa [run, edges] using hI
  | cons o os ih =>
    intro st E hI hwf
    rw [wellFed_cons] at hwf
    simpa [run, edges] using ih _ _ (inv_step hI o hwf.1) hwf.2

theorem inv_of_wellFed {init : St} {ops : List Op} (hwf : wellFed init ops = true) :
    Inv init (run init ops) (edges init ops) := by
  simpa using inv_run ops init [] (fun c h => ⟨c, [], h, Path.root, by simp [renderRev]⟩) hwf

def SuffixFree (init : St) : Prop :=
  ∀ r r', (init.get r).s ≠ [] → (init.get r').s ≠ [] → r ≠ r' → extendsB (init.get r).s (init.get r').s = false

/-- By `name_eq_cases` equal names have the same root (`SuffixFree`) and then the same non-plain labels on the way;
`path_rel` does the rest. -/
theorem same_name_comparable (init : St) (ops : List Op)
    (hsf : SuffixFree init) (hwf : wellFed init ops = true)
    (hsib : SibDistinct (edges init ops)) (hnc : NoClash (edges init ops)) {u v : Nat}
    (hne : ((run init ops).get u).s ≠ []) (heq : ((run init ops).get u).s = ((run init ops).get v).s) :
    u = v ∨ Below (edges init ops) u v ∨ Below (edges init ops) v u := by
  have hI := inv_of_wellFed hwf
  obtain ⟨r, ls, hr, hp, hnu⟩ := hI u hne
  obtain ⟨r', ls', hr', hp', hnv⟩ := hI v (heq ▸ hne)
  rw [hnu, hnv] at heq
  obtain ⟨hroots, hls⟩ := name_eq_cases hp.noPlain hp'.noPlain heq
  have hrr : r = r' := by
    apply Classical.byContradiction
    intro hne'
    rcases hroots with h | h
    · rw [hsf r' r hr' hr (Ne.symm hne')] at h; exact Bool.noConfusion h
    · rw [hsf r r' hr hr' hne'] at h; exact Bool.noConfusion h
  subst hrr
  exact path_rel hsib hnc hp hp' (hls rfl)

/-- copy number of a counted label (`cntLab j ↦ j`), none for the slack labels -/
def Lab.idx : Lab → Option Nat
  | .plain => some 0
  | .num k => some (k - 1)
  | .slk => none
  | .equ => none

theorem idx_cntLab (j : Nat) : (cntLab j).idx = some j := by
  unfold cntLab; split <;> simp [Lab.idx, *]

theorem idx_slackLab (e : Bool) : (slackLab e).idx = none := by
  cases e <;> rfl

theorem lab_idx {st : St} {o : Op} {j : Nat} (h : (o.lab st).idx = some j) : j = (st.get o.src).n := by
  cases o <;> simp_all [Op.lab, Op.src, idx_cntLab, idx_slackLab]

theorem lab_idx_none {st : St} {o : Op} (h : (o.lab st).idx = none) : ∃ s eq d, o = Op.sgive s eq d := by
  cases o <;> simp_all [Op.lab, idx_cntLab]

theorem step_n_src (st : St) (o : Op) (hd : (st.get o.dst).s = []) (j : Nat) (hj : (o.lab st).idx = some j) :
    j < ((stepSt st o).get o.src).n := by
  have := lab_idx hj
  rw [step_n]
  cases o <;> simp_all [Op.lab, Op.src, Op.dst, idx_slackLab]

structure InvN (st : St) (E : List Edge) : Prop where
  idx : ∀ e ∈ E, ∀ j, e.l.idx = some j → j < (st.get e.p).n
  sib : ∀ e ∈ E, ∀ e' ∈ E, e.p = e'.p → e.l = e'.l → e.l.idx.isSome = true → e = e'

theorem invN_step {st : St} {E : List Edge} (hI : InvN st E) (o : Op) :
    InvN (stepSt st o) (E ++ stepE st o) := by
  -- an earlier counted edge has an index below the counter, the new one carries the counter itself
  have clash : ∀ e ∈ E, ∀ e' ∈ stepE st o, e.p = e'.p → e.l = e'.l → e.l.idx.isSome = true → False := by
    intro e he e' he' hp hl hs
    obtain ⟨_, rfl⟩ := mem_stepE.mp he'
    obtain ⟨j, hj⟩ := Option.isSome_iff_exists.mp hs
    have h1 := hI.idx e he j hj
    rw [hl] at hj
    rw [hp, ← lab_idx hj] at h1
    exact Nat.lt_irrefl _ h1
  refine ⟨fun e he j hj => ?_, fun e he e' he' hp hl hs => ?_⟩
  · rcases List.mem_append.mp he with he | he
    · exact Nat.lt_of_lt_of_le (hI.idx e he j hj) (step_n_ge st o e.p)
    · obtain ⟨hd, rfl⟩ := mem_stepE.mp he
      exact step_n_src st o hd j hj
  · rcases List.mem_append.mp he with he | he <;> rcases List.mem_append.mp he' with he' | he'
    · exact hI.sib e he e' he' hp hl hs
    · exact (clash e he e' he' hp hl hs).elim
    · exact (clash e' he' e he hp.symm hl.symm (hl ▸ hs)).elim
    · rw [(mem_stepE.mp he).2, (mem_stepE.mp he').2]

theorem invN_run : ∀ (ops : List Op) (st : St) (E : List Edge), InvN st E →
    InvN (run st ops) (E ++ edges st ops) := by
  intro ops
  induction ops with
  | nil => intro st E hI; simpa [run, edges] using hI
  | cons o os ih => intro st E hI; simpa [run, edges] using ih _ _ (invN_step hI o)

/-- every naming edge is the edge of a registered operation in the state in which it ran -/
theorem edge_from_op : ∀ (ops : List Op) (st : St), ∀ e ∈ edges st ops, ∃ o ∈ ops, ∃ st', e = ⟨o.src, o.lab st', o.dst⟩ := by
  intro ops
  induction ops with
  | nil => intro st e he; simp [edges] at he
  | cons o os ih =>
    intro st e he
    rcases List.mem_append.mp he with h | h
    · exact ⟨o, List.mem_cons_self, st, (mem_stepE.mp h).2⟩
    · obtain ⟨o', ho', h'⟩ := ih _ e h
      exact ⟨o', List.mem_cons_of_mem _ ho', h'⟩

theorem slackLab_inj {a b : Bool} (h : slackLab a = slackLab b) : a = b := by
  cases a <;> cases b <;> simp [slackLab] at h <;> rfl

theorem run_n_nonsrc : ∀ (ops : List Op) (st : St) (c : Nat), (∀ o ∈ ops, o.src ≠ c) →
    ((run st ops).get c).n = (st.get c).n := by
  intro ops
  induction ops with
  | nil => intro st c _; rfl
  | cons o os ih =>
    intro st c h
    have hc : ¬ c = o.src := fun e => h o List.mem_cons_self e.symm
    rw [run, ih _ c fun o' ho' => h o' (List.mem_cons_of_mem _ ho'), step_n]
    cases o <;> simp only [Op.src] at hc <;> simp [hc]

end MpVerif.C19
