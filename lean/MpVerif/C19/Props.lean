import MpVerif.C19.LemmasBuild
import MpVerif.C19.LemmasNames
import MpVerif.C19.LemmasGen
/-!
# C19 — property theorems

Model: `MpVerif/C19/Model.lean` (counted names `VCString`; the three name-presolve link operations over an arbitrary list
of operations on arbitrary cells, i.e. every link graph and every execution order; the registration API of the converter;
reading the delivered names; `NameProvider` and the `cvt:names` modes).

## The full-strength statement is false of the code

    ∀ init ops D,  (all source names non-empty and pairwise different) →
      (∀ c ∈ D, delivered name of c ≠ "") ∧ (∀ u v ∈ D, name u = name v → u = v)

is refuted by two counterexamples that are replayed on the real driver by `checks/c19.py` (the first two below), and in
the model by a third for operation lists that are not fed:

* `C19_counterexample_adversarial`: source names `c` and `c_2_` (DESIGN.md Appendix A, A13); a derived name collides
  with a source name;
* `C19_counterexample_innocent_clash`: one source name `c` and a two-level conversion (the shape produced by
  `if-then-else`, equality indicators, min/max … under the default acceptance); the second child of the first child and
  the first child of the second child are both `c_2_`;
* `C19_counterexample_empty`: a copy that runs before its source cell has been named leaves the target unnamed.  This
  shows that the feeding hypothesis is needed for arbitrary operation lists; the lists the converter registers are fed
  (`C19_addEntry_*_preserves_order`, `C19_built_topological`).

What is proved instead are the properties under explicit, decidable hypotheses, which the check evaluates on every real
run; a violation observed on the real driver is attributed to the hypothesis that fails.

For graphs registered through the constructor API (`Call`, `build`; any call sequence) `topoB`, coverage and `SibDistinct`
hold by construction, so `C19_nonempty_built` asks only that the last scope is closed and the roots are named, and
`C19_unique_*_built_partial`, which speak of the leaves, add only `SuffixFree` (the user's names) and `NoClash` (the shape
of the second counterexample; for variables also that all counters start at 0).  That the converter makes no
registration outside this API is not proved; the check evaluates `topoB` on every run and reports a run that violates it
with its input.
-/
namespace MpVerif.C19

/-! ### counted names (`VCString::MakeCountedName`) -/

theorem C19_counted_first_plain (v : VCStr) (h : v.n = 0) : v.counted.1 = v.s := by
  simp [VCStr.counted, cntSuffix, h]

theorem C19_counted_shape (v : VCStr) : v.counted.1 = v.s ++ cntSuffix v.n ∧ v.counted.2.n = v.n + 1 ∧ v.counted.2.s = v.s := by
  simp [VCStr.counted]

theorem C19_counted_injective (j k : Nat) (h : cntSuffix j = cntSuffix k) : j = k := by
  simp only [cntSuffix] at h
  split at h <;> split at h
  · omega
  · simp at h
  · simp at h
  · have := dec_inj (List.append_cancel_right (List.cons.inj h).2)
    omega

theorem C19_counted_copies_distinct (s : Name) (j k : Nat) (h : s ++ cntSuffix j = s ++ cntSuffix k) : j = k :=
  C19_counted_injective j k (List.append_cancel_left h)

theorem C19_counted_nonempty (v : VCStr) (h : v.s ≠ []) : v.counted.1 ≠ [] :=
  List.append_ne_nil_of_left_ne_nil h _

/-! ### names are never overwritten; originals are kept -/

theorem C19_names_immutable (st : St) (ops : List Op) (c : Nat) (h : (st.get c).s ≠ []) :
    ((run st ops).get c).s = (st.get c).s :=
  run_keeps ops st c h

/-- An original item keeps its name: the first copy of a source name into an empty cell
(NL variable -> flat variable, NL objective -> flat objective, NL constraint -> its single flat constraint)
carries exactly the source text, whatever operations follow -/
theorem C19_original_kept (st : St) (s d : Nat) (rest : List Op)
    (hd : (st.get d).s = []) (hs : (st.get s).s ≠ []) (hn : (st.get s).n = 0) :
    ((run st (Op.copy s d :: rest)).get d).s = (st.get s).s ∧
    ((run st (Op.copy s d :: rest)).get s).s = (st.get s).s :=
  ⟨by simpa [Op.lab, Op.dst, Op.src, hn, cntLab, Lab.tok] using run_stored st (.copy s d) rest hd hs, run_keeps _ st s hs⟩

theorem C19_original_kept_distr (st : St) (s d : Nat) (rest : List Op)
    (hd : (st.get d).s = []) (hs : (st.get s).s ≠ []) (hn : (st.get s).n = 0) :
    ((run st (Op.distr s d :: rest)).get d).s = (st.get s).s := by
  simpa [Op.lab, Op.dst, Op.src, hn, cntLab, Lab.tok] using run_stored st (.distr s d) rest hd hs

/-- if every storing operation finds its source named when it runs (`wellFed`, decidable, evaluated on
every real run), every target of every operation ends up with a non-empty name -/
theorem C19_nonempty_partial : ∀ (ops : List Op) (st : St), wellFed st ops = true →
    ∀ o ∈ ops, ((run st ops).get o.dst).s ≠ [] := by
  intro ops
  induction ops with
  | nil => intro st _ o ho; simp at ho
  | cons a as ih =>
    intro st hwf o ho
    rw [wellFed_cons] at hwf
    simp only [run]
    rcases List.mem_cons.mp ho with rfl | h
    · have h1 := step_dst_ne st o hwf.1
      rw [run_keeps as _ _ h1]; exact h1
    · exact ih (stepSt st a) hwf.2 o h

theorem C19_wellFed_of_topological (ops : List Op) (named : List Nat) (st : St)
    (hn : ∀ c ∈ named, (st.get c).s ≠ []) (ht : topoB named ops = true) : wellFed st ops = true := by
  induction ops generalizing named st with
  | nil => rfl
  | cons o os ih =>
    rw [topoB_cons] at ht
    rw [wellFed_cons]
    have hhead := ht.1.imp (hn _) (hn _)
    refine ⟨hhead, ih (o.dst :: named) _ (fun c hc => ?_) ht.2⟩
    rcases List.mem_cons.mp hc with rfl | h
    · exact step_dst_ne st o hhead
    · exact step_keeps st o c (hn c h) ▸ hn c h

theorem C19_nonempty_topological (ops : List Op) (named : List Nat) (st : St)
    (hn : ∀ c ∈ named, (st.get c).s ≠ []) (ht : topoB named ops = true) :
    ∀ o ∈ ops, ((run st ops).get o.dst).s ≠ [] :=
  C19_nonempty_partial ops st (C19_wellFed_of_topological ops named st hn ht)

/-- **completeness**: every delivered cell that is an original item or the target of some link entry
(`coveredB`) has a non-empty name, under the structural feeding condition.  An item created outside of any
link scope violates `coveredB`; the check reports such a run with its input. -/
theorem C19_nonempty_delivered (ops : List Op) (named : List Nat) (st : St) (D : List Nat)
    (hn : ∀ c ∈ named, (st.get c).s ≠ []) (ht : topoB named ops = true)
    (hc : coveredB named ops D = true) : ∀ c ∈ D, ((run st ops).get c).s ≠ [] := by
  intro c hcD
  rcases coveredB_iff.mp hc c hcD with h | ⟨o, ho, hd⟩
  · rw [run_keeps ops st c (hn c h)]; exact hn c h
  · rw [← hd]; exact C19_nonempty_topological ops named st hn ht o ho

/-- `CopyLink::AddEntry` (with the last-registered guard) never reorders: the schedule after adding an
entry executes the old schedule and then exactly the new entry's copies -/
theorem C19_addEntry_copy_preserves_order (base : Nat → Nat) (S : List Entry) (link sn sb dn db len : Nat) :
    schedOps base (addCopy S link sn sb dn db len) =
      schedOps base S ++ expandCopy (base sn + sb) (base dn + db) len := by
  unfold addCopy
  split
  · rename_i l sn' sb' dn' db' len' rest
    by_cases h : l = link ∧ sn' = sn ∧ sb' + len' = sb ∧ dn' = dn ∧ db' + len' = db
    · obtain ⟨h1, h2, h3, h4, h5⟩ := h
      subst h1 h2 h3 h4 h5
      simp [schedOps, Entry.ops, expandCopy_add, Nat.add_assoc]
    · simp [h, schedOps, Entry.ops]
  · simp [schedOps, Entry.ops]

/-- the same for `One2ManyLink::AddEntry` (single source index, as asserted by `One2ManyLink`) -/
theorem C19_addEntry_one2many_preserves_order (base : Nat → Nat) (S : List Entry) (link sn sb dn db dlen : Nat) :
    schedOps base (addM2M S link sn sb 1 dn db dlen) =
      schedOps base S ++ expandDistr (base sn + sb) 1 (base dn + db) dlen := by
  unfold addM2M
  split
  · rename_i l sn' sb' slen' dn' db' dlen' rest
    by_cases h1 : l = link ∧ sn' = sn ∧ sb' = sb ∧ slen' = 1 ∧ dn' = dn ∧ db' + dlen' = db
    · obtain ⟨h0, h2, h3, h4, h5, h6⟩ := h1
      subst h0 h2 h3 h4 h5 h6
      simp [schedOps, Entry.ops, expandDistr_one_add_dst, Nat.add_assoc]
    · by_cases h2 : l = link ∧ dn' = dn ∧ db' = db ∧ dlen' = dlen ∧ sn' = sn ∧ sb' + slen' = sb
      · obtain ⟨g1, g2, g3, g4, g5, g6⟩ := h2
        have h1' := h1
        subst g1 g2 g3 g4 g5 g6
        rw [if_neg h1', if_pos (by simp)]
        simp [schedOps, Entry.ops, expandDistr_add_src, Nat.add_assoc]
      · simp [h1, h2, schedOps, Entry.ops]
  · simp [schedOps, Entry.ops]

/-- every named cell carries `<a source name> ++ <chain of suffix tokens>` -/
theorem C19_derived (init : St) (ops : List Op) (hwf : wellFed init ops = true) (c : Nat)
    (hc : ((run init ops).get c).s ≠ []) :
    ∃ r ls, (init.get r).s ≠ [] ∧ ((run init ops).get c).s = (init.get r).s ++ renderRev ls ∧
      isChainB (renderRev ls) = true :=
  let ⟨r, ls, hr, _, hn⟩ := inv_of_wellFed hwf c hc
  ⟨r, ls, hr, hn, isChainB_renderRev ls⟩

theorem C19_derived_from_parent (init : St) (ops : List Op) (hwf : wellFed init ops = true) :
    ∀ e ∈ edges init ops, ((run init ops).get e.c).s = ((run init ops).get e.p).s ++ e.l.tok ∧
      ((run init ops).get e.p).s ≠ [] := by
  induction ops generalizing init with
  | nil => intro e he; simp [edges] at he
  | cons o os ih =>
    intro e he
    rw [wellFed_cons] at hwf
    rcases List.mem_append.mp he with h | h
    · -- the edge is made by this step, and a named cell keeps its name to the end of the run
      obtain ⟨hd, rfl⟩ := mem_stepE.mp h
      have hs := hwf.1.resolve_left (· hd)
      have hk := run_keeps (o :: os) init o.src hs
      exact ⟨by rw [hk]; exact run_stored init o os hd hs, hk ▸ hs⟩
    · exact ih _ hwf.2 e h

/-- the copy counter makes the labels of all counted children of one parent pairwise different -/
theorem C19_counted_siblings_distinct (init : St) (ops : List Op) :
    ∀ e ∈ edges init ops, ∀ e' ∈ edges init ops, e.p = e'.p → e.l = e'.l → e.l.idx.isSome = true → e = e' := by
  have h0 : InvN init [] := ⟨fun e he => by simp at he, fun e he => by simp at he⟩
  have := invN_run ops init [] h0
  simp only [List.nil_append] at this
  exact this.sib

/-- what the driver's check `suffixFreeB` gives for a list of names: the condition of `SuffixFree`, pair by pair -/
theorem C19_suffixFree_check_sound (names : List Name) (h : suffixFreeB names = true) (i j : Nat)
    (hi : i < names.length) (hj : j < names.length) (hij : i ≠ j) :
    extendsB (names.getD i []) (names.getD j []) = false := by
  simp only [suffixFreeB, List.all_eq_true, List.mem_range] at h
  have := h i hi j hj
  simpa [hij] using this

/-- **Uniqueness of constraint names** (read with `MakeCurrentName`), for every link graph, every order of
execution and every set `D` of delivered cells, under decidable hypotheses:
suffix-free source names; every storing operation finds its source named; sibling labels distinct
(for counted labels this is `C19_counted_siblings_distinct`; for `_slk_`/`_equ_` a range constraint is
converted once); equal non-plain labels never leave plain-related cells; no delivered cell is a
plain-chain descendant of another delivered cell.  `R` is any relation that `closedB` accepts (it then contains
`Below`), so nothing needs to be proved about `plainClosure`, which computes the `R` used on real runs. -/
theorem C19_unique_cons_partial (init : St) (ops : List Op) (D : List Nat) (R : List (Nat × Nat))
    (hsf : SuffixFree init) (hwf : wellFed init ops = true)
    (hsib : sibDistinctB (edges init ops) = true)
    (hcl : closedB (edges init ops) R = true) (hnc : noClashB (edges init ops) R = true)
    (hbf : belowFreeB R D = true) :
    ∀ u ∈ D, ∀ v ∈ D, deliveredConName (run init ops) u ≠ [] →
      deliveredConName (run init ops) u = deliveredConName (run init ops) v → u = v := by
  intro u hu v hv hne heq
  rcases same_name_comparable init ops hsf hwf (sibDistinctB_sound hsib) (noClashB_sound hcl hnc) hne heq with h | h | h
  · exact h
  · exact absurd h (belowFreeB_sound hcl hbf hu hv)
  · exact absurd h (belowFreeB_sound hcl hbf hv hu)

theorem deliveredVarName_of_uncounted {st : St} {c : Nat} (h : (st.get c).n = 0) :
    deliveredVarName st c = deliveredConName st c :=
  C19_counted_first_plain _ h

/-- **Uniqueness of variable (and objective) names**: these are read through one more
`MakeCountedName`, so additionally the delivered cells must never have been counted -/
theorem C19_unique_vars_partial (init : St) (ops : List Op) (D : List Nat) (R : List (Nat × Nat))
    (hsf : SuffixFree init) (hwf : wellFed init ops = true)
    (hsib : sibDistinctB (edges init ops) = true)
    (hcl : closedB (edges init ops) R = true) (hnc : noClashB (edges init ops) R = true)
    (hbf : belowFreeB R D = true) (hun : uncountedB (run init ops) D = true) :
    ∀ u ∈ D, ∀ v ∈ D, deliveredVarName (run init ops) u ≠ [] →
      deliveredVarName (run init ops) u = deliveredVarName (run init ops) v → u = v := by
  intro u hu v hv hne heq
  simp only [uncountedB, List.all_eq_true, beq_iff_eq] at hun
  rw [deliveredVarName_of_uncounted (hun u hu)] at hne heq
  rw [deliveredVarName_of_uncounted (hun v hv)] at heq
  exact C19_unique_cons_partial init ops D R hsf hwf hsib hcl hnc hbf u hu v hv hne heq

/-- the Windows line-end test of `NameProvider::name` only inspects a byte at or after the start of the
name it returns, hence inside the file buffer (the guard `pos1past > name` of repo commit f144d4f; without it an
empty first line makes the test read the byte at offset -1) -/
theorem C19_nameprovider_no_underread (offs : List Nat) (index k : Nat)
    (h : winTestIdx offs index = some k) : offs.getD index 0 ≤ k := by
  have := winTestIdx_eq_some h
  omega

/-- **the CR test of `NameProvider::name` reads inside the file**: for the offsets produced by reading `data`, every byte
index inspected by the Windows line-end test is a valid index of `data` (together with `C19_nameprovider_no_underread`:
between the start of the name and the end of the buffer) -/
theorem C19_nameprovider_reads_in_buffer (data : List Char) (offs : List Nat) (h : readNamesFile data = .ok offs)
    (index k : Nat) (hi : index + 1 < offs.length) (hk : winTestIdx offs index = some k) : k < data.length := by
  unfold readNamesFile at h
  split at h
  · simp at h
  · rename_i starts ld lsz hscan
    simp only [ReadRes.ok.injEq] at h
    have hb := scanNames_bounds data 0 0 false [] (0, 0) starts (ld, lsz) hscan (Nat.le_refl _) (fun o ho => by simp at ho) (fun hne => absurd rfl hne)
    simp only [Nat.zero_add] at hb
    have hne : starts ≠ [] := by
      intro h0; subst h0; subst h; simp at hi
    have hall : ∀ o ∈ offs, o ≤ data.length := by
      intro o ho
      rw [← h] at ho
      rcases List.mem_append.mp ho with h1 | h1
      · exact hb.1 o h1
      · simp only [List.mem_singleton] at h1
        have := hb.2 hne
        omega
    have hmem : offs.getD (index + 1) 0 ∈ offs := by
      rw [List.getD_eq_getElem?_getD, List.getElem?_eq_getElem hi]
      simp
    have hle := hall _ hmem
    have := winTestIdx_eq_some hk
    omega

/-- non-vacuity: a CRLF file; the CR test of the first name inspects byte 1 (the `\\r`), inside the 5 bytes -/
example : readNamesFile "x\r\ny\n".toList = .ok [0, 3, 5] ∧ winTestIdx [0, 3, 5] 0 = some 1 := by decide

theorem C19_generic_names_nonempty (stub : Name) (k : Nat) : genericName stub k ≠ [] := by
  simp [genericName]

theorem C19_generic_names_distinct (stub : Name) (i j : Nat) (h : genericName stub i = genericName stub j) : i = j := by
  simp only [genericName] at h
  have h1 := List.append_cancel_left h
  simp only [List.cons.injEq, true_and] at h1
  have h2 := List.append_cancel_right h1
  exact dec_inj h2

/-! ### graphs built through the constructor API: the structural hypotheses hold by construction -/

/-- every graph the converter can register through the constructor API (any call sequence; calls whose guard fails are
ignored) is fed topologically -/
theorem C19_built_topological (calls : List Call) : topoB (build calls).roots (build calls).ops = true :=
  (binv_build calls).topo

/-- ... and, once the last scope is closed, covers every existing item -/
theorem C19_built_covered (calls : List Call) (hs : (build calls).scope = none) :
    coveredB (build calls).roots (build calls).ops (build calls).items = true :=
  coveredB_iff.mpr fun _ hc => (binv_build calls).fed_of_closed hs hc

/-- **Non-emptiness for built graphs**: for every registration sequence of the constructor API that leaves no
scope open, if the original items have non-empty names then every item that exists (hence every delivered one) has a
non-empty name -/
theorem C19_nonempty_built (calls : List Call) (init : St) (hs : (build calls).scope = none)
    (hroots : ∀ c ∈ (build calls).roots, (init.get c).s ≠ []) :
    ∀ c ∈ (build calls).items, ((run init (build calls).ops).get c).s ≠ [] :=
  C19_nonempty_delivered _ _ init _ hroots (C19_built_topological calls) (C19_built_covered calls hs)

/-- sibling labels are distinct in every built graph (counted labels by the counters, `_slk_`/`_equ_` because the API
converts a range constraint once) -/
theorem C19_built_sibDistinct (calls : List Call) (init : St) : SibDistinct (edges init (build calls).ops) := by
  intro e he e' he' hp hl
  cases hidx : e.l.idx with
  | some j => exact C19_counted_siblings_distinct init _ e he e' he' hp hl (by rw [hidx]; rfl)
  | none =>
    obtain ⟨o, ho, st, rfl⟩ := edge_from_op _ init e he
    obtain ⟨o', ho', st', rfl⟩ := edge_from_op _ init e' he'
    obtain ⟨s, eq, d, rfl⟩ := lab_idx_none hidx
    obtain ⟨s', eq', d', rfl⟩ := lab_idx_none (hl ▸ hidx)
    cases (hp : s = s')
    cases slackLab_inj (hl : slackLab eq = slackLab eq')
    rw [(binv_build calls).sg_fun s eq d d' ho ho']; rfl

/-- **Uniqueness of constraint names for built graphs**, among the leaves: besides a closed last scope and named roots, the
hypotheses are the ones that depend on the user's names (`SuffixFree`) and on the shape of
`C19_counterexample_innocent_clash` (`NoClash`: equal non-plain labels never leave plain-related cells); feeding, coverage
and sibling labels hold by construction.  That the delivered items are leaves is not proved; the check compares them on
every run. -/
theorem C19_unique_cons_built_partial (calls : List Call) (init : St) (hs : (build calls).scope = none)
    (hroots : ∀ c ∈ (build calls).roots, (init.get c).s ≠ [])
    (hsf : SuffixFree init) (hnc : NoClash (edges init (build calls).ops)) :
    ∀ u ∈ (build calls).leaves, ∀ v ∈ (build calls).leaves,
      deliveredConName (run init (build calls).ops) u = deliveredConName (run init (build calls).ops) v → u = v := by
  intro u hu v hv heq
  -- a leaf is no operation's source, so no chain of first copies starts there
  have leaf : ∀ {a b}, a ∈ (build calls).leaves → ¬ Below (edges init (build calls).ops) a b := by
    intro a b ha hb
    obtain ⟨c, hc, _⟩ := hb.head
    obtain ⟨o, ho, _, he⟩ := edge_from_op _ init _ hc
    exact ((mem_leaves _ a).mp ha).2 o ho (Edge.mk.inj he).1.symm
  rcases same_name_comparable init _ hsf (C19_wellFed_of_topological _ _ init hroots (C19_built_topological calls))
    (C19_built_sibDistinct calls init) hnc (C19_nonempty_built calls init hs hroots u ((mem_leaves _ u).mp hu).1) heq
    with h | h | h
  · exact h
  · exact absurd h (leaf hu)
  · exact absurd h (leaf hv)

/-- the same for variables and objectives (read through one more `MakeCountedName`): leaves are never counted -/
theorem C19_unique_vars_built_partial (calls : List Call) (init : St) (hs : (build calls).scope = none)
    (hroots : ∀ c ∈ (build calls).roots, (init.get c).s ≠ []) (hn0 : ∀ c, (init.get c).n = 0)
    (hsf : SuffixFree init) (hnc : NoClash (edges init (build calls).ops)) :
    ∀ u ∈ (build calls).leaves, ∀ v ∈ (build calls).leaves,
      deliveredVarName (run init (build calls).ops) u = deliveredVarName (run init (build calls).ops) v → u = v := by
  intro u hu v hv heq
  have e : ∀ c ∈ (build calls).leaves, deliveredVarName (run init (build calls).ops) c = deliveredConName (run init (build calls).ops) c :=
    fun c hc => deliveredVarName_of_uncounted ((run_n_nonsrc _ init c ((mem_leaves _ c).mp hc).2).trans (hn0 c))
  rw [e u hu, e v hv] at heq
  exact C19_unique_cons_built_partial calls init hs hroots hsf hnc u hu v hv heq

/-! ### concrete runs: the counterexamples, and instances meeting all hypotheses of the conditional theorems -/

section concrete

-- evaluation of the machine on explicit cells
attribute [local simp] run wellFed edges stepE step_s step_n Op.dst Op.src Op.lab get_set empty_get cntLab Lab.tok
  deliveredConName deliveredVarName VCStr.counted cntSuffix uncountedB

@[local simp] theorem dec_two : dec 2 = ['2'] := by decide
@[local simp] theorem dec_three : dec 3 = ['3'] := by decide

/-- non-emptiness fails without `wellFed`: a copy executed before its source is named
(cells: 0 = named source `c`, 1 = intermediate item, 2 = delivered item) -/
theorem C19_counterexample_empty :
    let init : St := (({} : St).set 0 { s := ['c'], n := 0 })
    let ops := [Op.copy 1 2, Op.distr 0 1]
    ((run init ops).get 2).s = [] ∧ ((run init ops).get 1).s = ['c'] ∧ wellFed init ops = false := by
  simp

/-- uniqueness fails for adversarial source names (DESIGN.md Appendix A, A13): rows `c` (converted into two constraints)
and `c_2_`.  cells: 0 = `c`, 1 = `c_2_`, 2,3 = constraints derived from `c`, 4 = the flat copy of `c_2_` -/
theorem C19_counterexample_adversarial :
    let init : St := ((({} : St).set 0 { s := ['c'], n := 0 }).set 1 { s := ['c', '_', '2', '_'], n := 0 })
    let ops := [Op.distr 0 2, Op.distr 0 3, Op.copy 1 4]
    deliveredConName (run init ops) 3 = deliveredConName (run init ops) 4 ∧
    deliveredConName (run init ops) 3 = ['c', '_', '2', '_'] ∧
    suffixFreeB [['c'], ['c', '_', '2', '_']] = false := by
  refine ⟨?_, ?_, by decide⟩ <;> simp

/-- uniqueness fails for a single innocent source name when a first (plain) child is converted further:
cell 0 = `c`; 1,2 = its children (`c`, `c_2_`); 3,4 = children of 1 (`c`, `c_2_`); 5 = child of 2 (`c_2_`).
Delivered 3,4,5: cells 4 and 5 collide.  `noClashB` is false on this run. -/
theorem C19_counterexample_innocent_clash :
    let init : St := (({} : St).set 0 { s := ['c'], n := 0 })
    let ops := [Op.distr 0 1, Op.distr 0 2, Op.distr 1 3, Op.distr 1 4, Op.distr 2 5]
    let E := edges init ops
    let R := plainClosure E.length E (plainPairs E)
    deliveredConName (run init ops) 4 = deliveredConName (run init ops) 5 ∧
    deliveredConName (run init ops) 4 = ['c', '_', '2', '_'] ∧
    wellFed init ops = true ∧ sibDistinctB E = true ∧ closedB E R = true ∧ belowFreeB R [3, 4, 5] = true ∧
    noClashB E R = false := by
  intro init ops E R
  have hE : E = [⟨0, .plain, 1⟩, ⟨0, .num 2, 2⟩, ⟨1, .plain, 3⟩, ⟨1, .num 2, 4⟩, ⟨2, .plain, 5⟩] := by
    simp [E, ops, init]
  refine ⟨?_, ?_, ?_, ?_⟩
  · simp [ops, init]
  · simp [ops, init]
  · simp [ops, init]
  · simp only [R, hE]
    decide

/-- shape of a real run: row `c` (cell 0) and column `x` (cell 1); `x` is copied to the flat variable 10; `c` is
distributed to an auxiliary variable 11 (`c`), a functional constraint 12 (`c_2_`) and a linear constraint 13 (`c_3_`);
12 is converted into 14 (`c_2_`) and 15 (`c_2__2_`).  Delivered: constraints 13, 14, 15, variables 10, 11. -/
def exInit : St := (({} : St).set 0 { s := ['c'], n := 0 }).set 1 { s := ['x'], n := 0 }
def exOps : List Op := [Op.copy 1 10, Op.distr 0 11, Op.distr 0 12, Op.distr 0 13, Op.distr 12 14, Op.distr 12 15]

theorem exInit_roots (r : Nat) (h : (exInit.get r).s ≠ []) : r = 0 ∨ r = 1 := by
  by_cases h1 : r = 1
  · exact Or.inr h1
  · by_cases h0 : r = 0
    · exact Or.inl h0
    · exact absurd (by simp [exInit, h1, h0]) h

theorem exEdges : edges exInit exOps =
    [⟨1, .plain, 10⟩, ⟨0, .plain, 11⟩, ⟨0, .num 2, 12⟩, ⟨0, .num 3, 13⟩, ⟨12, .plain, 14⟩, ⟨12, .num 2, 15⟩] := by
  simp [exInit, exOps]

/-- all hypotheses of `C19_unique_cons_partial`, `C19_unique_vars_partial`, `C19_nonempty_partial`,
`C19_nonempty_topological`, `C19_nonempty_delivered`, `C19_derived` hold together on a non-trivial run
(two roots, six operations, two conversion levels, three delivered constraints and two delivered variables with
five different non-empty names) -/
theorem C19_hypotheses_satisfiable :
    let E := edges exInit exOps
    let R := plainClosure E.length E (plainPairs E)
    SuffixFree exInit ∧ wellFed exInit exOps = true ∧ topoB [0, 1] exOps = true ∧
    (∀ c ∈ [0, 1], (exInit.get c).s ≠ []) ∧
    sibDistinctB E = true ∧ closedB E R = true ∧ noClashB E R = true ∧
    belowFreeB R [13, 14, 15] = true ∧ belowFreeB R [10, 11] = true ∧ uncountedB (run exInit exOps) [10, 11] = true ∧
    coveredB [0, 1] exOps [13, 14, 15, 10, 11] = true ∧
    deliveredConName (run exInit exOps) 13 = "c_3_".toList ∧ deliveredConName (run exInit exOps) 14 = "c_2_".toList ∧
    deliveredConName (run exInit exOps) 15 = "c_2__2_".toList ∧
    deliveredVarName (run exInit exOps) 10 = "x".toList ∧ deliveredVarName (run exInit exOps) 11 = "c".toList := by
  intro E R
  have hE : E = _ := exEdges
  refine ⟨?_, ?_, by decide, ?_, ?_, ?_, ?_, ?_, ?_, ?_, by decide, ?_, ?_, ?_, ?_, ?_⟩
  · intro r r' hr hr' hne
    rcases exInit_roots r hr with h | h <;> rcases exInit_roots r' hr' with h' | h' <;> subst h <;> subst h'
    · exact absurd rfl hne
    · simp [exInit, extendsB, isPrefixB]
    · simp [exInit, extendsB, isPrefixB]
    · exact absurd rfl hne
  · simp [exInit, exOps]
  · intro c hc
    simp at hc
    rcases hc with h | h <;> subst h <;> simp [exInit]
  · simp only [hE]; decide
  · simp only [R, hE]; decide
  · simp only [R, hE]; decide
  · simp only [R, hE]; decide
  · simp only [R, hE]; decide
  · simp [exInit, exOps]
  all_goals simp [exInit, exOps]

def exCalls : List Call :=
  [.root 0, .root 1, .openScope 1, .create 10, .closeScope,
   .openScope 0, .create 11, .create 12, .create 13, .closeScope,
   .openScope 12, .create 14, .create 15, .closeScope]

/-- the example run is a built graph: registering column `x`, row `c` and the two conversion levels through the
constructor API yields exactly `exOps`, with all guards passed, no scope left open, and the five delivered cells as
leaves (so `C19_nonempty_built`, `C19_unique_*_built_partial` apply to a non-trivial instance) -/
theorem C19_built_example :
    (build exCalls).ops = exOps ∧ (build exCalls).ok = true ∧ (build exCalls).scope = none ∧
    (build exCalls).roots = [1, 0] ∧ (build exCalls).leaves = [15, 14, 13, 11, 10] := by
  decide

/-- `C19_original_kept`: its hypotheses (empty target, named fresh source) hold for the copy of column `x` -/
example : (exInit.get 10).s = [] ∧ (exInit.get 1).s ≠ [] ∧ (exInit.get 1).n = 0 := by
  simp [exInit]

end concrete

/-! ### the error branch of reading names: a names file whose last line is not terminated -/

/-- error branch: if names are to be read (`cvt:names` 1 or 2) and the `.col` file does not end with a newline, no names
are produced at all — the model reports the `missing newline` error (the real driver then fails with a diagnosis and
delivers no model; the check's `nonewline` file variant exercises the same error through an unterminated `.row` file) -/
theorem C19_unterminated_names_file_is_error (i : NamesIn) (d : List Char) (hm : i.mode = 1 ∨ i.mode = 2)
    (hcol : i.col = some d) (hne : d ≠ []) (hlast : d.getLast? ≠ some '\n') :
    (match readNamesModel i with | .error => true | _ => false) = true := by
  obtain ⟨l, c, rfl⟩ := (List.eq_nil_or_concat d).resolve_left hne
  have hc : c ≠ '\n' := by simpa using hlast
  have hf : fileOffsets (some (l ++ [c])) = .missingNewline := by
    simp [fileOffsets, readNamesFile, scanNames_snoc l c 0 0 false [] (0, 0) hc (Nat.le_refl _)]
  rcases hm with h | h <;> simp [readNamesModel, wantsNames, readsFiles, h, hcol, hf]

/-! ### translator ties: the hand model equals the definitions regenerated from the C++ source on every run
(`translators/gen_names.py` -> `MpVerif/Gen/C19Names.lean`) -/

open MpVerif.Gen in
theorem gen_dec (k : Nat) : C19Names.dec k = dec k := rfl

/-- `VCStr.counted` is `pre::VCString::MakeCountedName` as translated from `include/mp/valcvt-base.h` -/
theorem C19_gen_MakeCountedName (v : VCStr) :
    (v.counted.1, v.counted.2.n) = Gen.C19Names.makeCountedName v.s v.n ∧ v.counted.2.s = v.s := by
  refine ⟨?_, rfl⟩
  simp only [VCStr.counted, Gen.C19Names.makeCountedName, cntSuffix, gen_dec]
  by_cases h : v.n = 0 <;> simp [h, List.append_assoc]

theorem gen_mk_fst (v : VCStr) : (Gen.C19Names.makeCountedName v.s v.n).1 = v.s ++ (cntLab v.n).tok := by
  rw [← (C19_gen_MakeCountedName v).1]; exact counted_name v

theorem gen_mk_snd (s : Name) (n : Nat) : (Gen.C19Names.makeCountedName s n).2 = n + 1 := rfl

/-- the effect of one `CopyLink` element (`Op.copy`) on target and source is the translated `VCString::operator=`.
`s ≠ d`: `assign` returns `*this` and `vcs` as two values, which describes the call only when they are two objects -/
theorem C19_gen_assign (st : St) (s d : Nat) (hsd : s ≠ d) :
    let r := Gen.C19Names.assign (st.get d).s (st.get d).n (st.get s).s (st.get s).n
    (((stepSt st (.copy s d)).get d).s, ((stepSt st (.copy s d)).get d).n) = r.1 ∧
    (((stepSt st (.copy s d)).get s).s, ((stepSt st (.copy s d)).get s).n) = r.2 := by
  have hds : ¬ d = s := fun h => hsd h.symm
  simp only [Gen.C19Names.assign, step_s, step_n, Op.dst, Op.src, Op.lab, gen_mk_fst, gen_mk_snd]
  by_cases he : (st.get d).s = []
  · simp [he, hsd, hds]
  · simp [he, hsd]

/-- one `Distr` iteration (`Op.distr`): `SetVal(i, val)` takes its argument by value (translated copy constructor),
`SetStr(i, std::move(v))` copy-constructs once more and then assigns (translated `operator=`) -/
theorem C19_gen_distr (st : St) (s d : Nat) (hsd : s ≠ d) :
    let c1 := Gen.C19Names.copyCtor (st.get s).s (st.get s).n          -- parameter of SetVal
    let c2 := Gen.C19Names.copyCtor c1.1.1 c1.1.2                      -- parameter of SetStr
    let a := Gen.C19Names.assign (st.get d).s (st.get d).n c2.1.1 c2.1.2
    (((stepSt st (.distr s d)).get d).s, ((stepSt st (.distr s d)).get d).n) = a.1 ∧
    (((stepSt st (.distr s d)).get s).s, ((stepSt st (.distr s d)).get s).n) = c1.2 := by
  have hds : ¬ d = s := fun h => hsd h.symm
  have h0 : ∀ t : Name, (Gen.C19Names.makeCountedName t 0).1 = t := fun t => by simp [Gen.C19Names.makeCountedName]
  simp only [Gen.C19Names.assign, Gen.C19Names.copyCtor, step_s, step_n, Op.dst, Op.src, Op.lab, gen_mk_fst, gen_mk_snd, h0]
  by_cases he : (st.get d).s = []
  · simp [he, hds, hsd]
  · simp [he, hds, hsd]

/-- variables/objectives are delivered through one more copy construction (translated) -/
theorem C19_gen_deliveredVarName (st : St) (c : Nat) :
    deliveredVarName st c = (Gen.C19Names.copyCtor (st.get c).s (st.get c).n).1.1 := by
  have hmk := (C19_gen_MakeCountedName (st.get c)).1
  simp [deliveredVarName, Gen.C19Names.copyCtor, ← hmk]

/-- `provName` (file branch with the CR test, generated names) is `NameProvider::name` as translated from `src/nl-reader.cc` -/
theorem C19_gen_npName (data : List Char) (offs : List Nat) (gen gen2 : Name) (index i2 : Nat) :
    (provName data offs gen gen2 index i2).text = Gen.C19Names.npName data offs gen gen2 index i2 := by
  have c13 : Char.ofNat 13 = '\r' := rfl
  have c32 : Char.ofNat 32 = ' ' := rfl
  by_cases h1 : index + 1 < offs.length
  · by_cases h2 : offs.getD (index + 1) 0 - 1 > offs.getD index 0
    · by_cases h3 : data.getD (offs.getD (index + 1) 0 - 1 - 1) ' ' = '\r'
      · simp only [provName, fileName, winTestIdx, Gen.C19Names.npName, slice, h1, h2, h3, if_true, FileName.text, c13, c32,
          decide_true, beq_self_eq_true, Bool.and_self]
      · have h3' : ('\r' == data.getD (offs.getD (index + 1) 0 - 1 - 1) ' ') = false := by
          rw [beq_eq_false_iff_ne]; exact fun h => h3 h.symm
        simp only [provName, fileName, winTestIdx, Gen.C19Names.npName, slice, h1, h2, h3, h3', if_true, if_false, FileName.text, c13, c32,
          decide_true, Bool.and_false, Bool.false_eq_true]
    · simp only [provName, fileName, winTestIdx, Gen.C19Names.npName, slice, h1, h2, if_true, if_false, FileName.text,
        decide_true, decide_false, Bool.false_and, Bool.false_eq_true]
  · by_cases h4 : index ≥ i2
    · simp [provName, fileName, Gen.C19Names.npName, genericName, gen_dec, h1, h4, FileName.text]
    · simp [provName, fileName, Gen.C19Names.npName, genericName, gen_dec, h1, h4, FileName.text]

/-- `itemName` is the loop body of the name generator in `BasicProblem::item_name` (`src/problem.cc`) -/
theorem C19_gen_itemGen (stub : Name) (k ksub : Nat) : itemName stub k ksub = Gen.C19Names.itemGen stub k ksub := by
  simp [itemName, Gen.C19Names.itemGen, gen_dec]

/-- `expandSlack` follows the table extracted from `RangeCon2Slack::PresolveNamesEntry`: statement order, which entry
index is read and written, and the appended texts are exactly the tokens of the labels `slk` / `equ` -/
theorem C19_gen_slackRules (cells : Nat → Nat) :
    expandSlack (cells Gen.C19Names.idxConSrc) (cells Gen.C19Names.idxConTarget) (cells Gen.C19Names.idxVarSlk) =
      Gen.C19Names.slackRules.map (fun r => Op.sgive (cells r.2.1) (r.2.2 == equSuffix) (cells r.1)) ∧
    ∀ r ∈ Gen.C19Names.slackRules, (slackLab (r.2.2 == equSuffix)).tok = r.2.2 := by
  constructor
  · rfl
  · decide

/-- structure tie: the classes derived from `BasicLink`, which of them define `PresolveNames` and through which routine;
the loop nesting of `Many2ManyLink::Distr` (outer: source range, inner: target range = `expandDistr`) and the direction of
`CopyLink::CopySrcDest`.  The model has exactly the three rules `Op.copy`, `Op.distr`, `Op.sgive`. -/
theorem C19_gen_linkRules :
    Gen.C19Names.linkRules =
      [("BasicIndivEntryLink", "PresolveNamesEntry"), ("BasicStaticIndivEntryLink", "inherits BasicIndivEntryLink"),
       ("CopyLink", "CopySrcDest"), ("Many2ManyLink", "DistributeFromSrc2Dest"), ("Many2OneLink", "inherits Many2ManyLink"),
       ("One2ManyLink", "inherits Many2ManyLink"), ("RangeCon2Slack", "inherits BasicStaticIndivEntryLink")] ∧
    Gen.C19Names.distrLoops = [(0, "ir1"), (1, "ir2")] ∧ Gen.C19Names.copyDirection = "first->second" := by
  decide

/-! ### translator tie for the line scanner `internal::ReadNames` + `NameHandler::OnName` + the end pointer -/

/-- `readNamesFile` (hand model of the names-file scan) is the translated loop of `internal::ReadNames`
(include/mp/nl-reader.h) started in its translated initial state, followed by the translated missing-newline test and the
translated end pointer of `NameProvider::ReadNames` (src/nl-reader.cc) -/
theorem C19_gen_readNames (data : List Char) :
    readNamesFile data =
      match genScan data data.length 0 0 Gen.C19Names.readNamesInit.1 Gen.C19Names.readNamesInit.2 [] (0, 0) with
      | none => ReadRes.missingNewline
      | some (offs, (ld, lsz)) => ReadRes.ok (offs ++ [Gen.C19Names.lastPtr ld lsz]) := by
  have h := scan_eq_gen data data.length 0 0 Gen.C19Names.readNamesInit.1 Gen.C19Names.readNamesInit.2 [] (0, 0) (by simp)
  simp only [List.drop_zero] at h
  unfold readNamesFile
  have hi : Gen.C19Names.readNamesInit.1 = false := rfl
  rw [hi] at h
  rw [h, hi]
  cases genScan data data.length 0 0 false Gen.C19Names.readNamesInit.2 [] (0, 0) with
  | none => rfl
  | some r =>
    obtain ⟨offs, ld, lsz⟩ := r
    simp [Gen.C19Names.lastPtr, Nat.add_assoc]

/-! ### translator tie for the `cvt:names` mode logic: `ModelManagerWithProblemBuilder::ReadNames` / `SetObjNames` -/

theorem gen_stubs : Gen.C19Names.stubVar = svar ∧ Gen.C19Names.stubDefVar = sdvar ∧ Gen.C19Names.stubCon = scon ∧
    Gen.C19Names.stubLogCon = slogcon := by decide

/-- `readNamesModel` (hand model of `cvt:names` 0..3: which files are read, when names are set at all, the `get_names`
arguments, which objective names come from the `.row` file and which are generated) equals the function assembled from
the pieces translated from `include/mp/model-mgr-with-pb.h`, for every input -/
theorem C19_gen_readNamesModel (i : NamesIn) : readNamesModel i = genReadNamesModel i := by
  obtain ⟨hs1, hs2, hs3, hs4⟩ := gen_stubs
  have h1 : ∀ m, wantsNames m = Gen.C19Names.namesWanted m := fun _ => rfl
  have h2 : ∀ m, readsFiles m = Gen.C19Names.readFiles m := fun _ => rfl
  have h3 : ∀ m a b, setsNames m a b = Gen.C19Names.setNames m a b := fun _ _ _ => rfl
  have h4 : ∀ a b c d, objIdxRange a b c d = Gen.C19Names.objRange a b c d := fun _ _ _ _ => rfl
  have h5 : ∀ io n, objGenericName io n = Gen.C19Names.objGeneric io n := fun _ _ => rfl
  unfold readNamesModel genReadNamesModel
  simp only [h1, h2, h3, h4, h5, ← hs1, ← hs2, ← hs3, ← hs4, Gen.C19Names.varNamesArgs, Gen.C19Names.conNamesArgs,
    Gen.C19Names.objGuard, Gen.C19Names.objFromFile]
  rfl

/-! ### translator ties for the registration API: `~AutoLinkScope` and `FlatConverter::AutoLink` -/

/-- what `closeOps` (constructor API, `closeScope`) registers is what the translated `~AutoLinkScope` registers:
a `CopyLink` entry for a single single-index target, otherwise one `One2ManyLink` entry per collected target range -/
theorem C19_gen_scopeClose (base : Nat → Nat) (src : Nat × Nat × Nat) (targets : List (Nat × Nat × Nat))
    (hv : ∀ t ∈ targets, t.2.1 < t.2.2) :
    (Gen.C19Names.scopeClose src targets).flatMap (entryOps base) =
      closeOps (base src.1 + src.2.1) (cellsOf base targets) := by
  cases targets with
  | nil => simp [Gen.C19Names.scopeClose, cellsOf, closeOps]
  | cons t rest =>
    cases rest with
    | nil =>
      have hlt := hv t (by simp)
      by_cases h1 : t.2.1 = t.2.2 - 1
      · have hlen : t.2.2 - t.2.1 = 1 := by omega
        have hb : (t.2.1 == t.2.2 - 1) = true := by simp [← h1]
        simp [Gen.C19Names.scopeClose, Gen.C19Names.isSingleIndex, hb, entryOps, cellsOf, cellsOfR, hlen, closeOps, expandCopy]
      · have hlen : t.2.2 - t.2.1 ≠ 1 := by omega
        have hne : ¬ (t.2.1 == t.2.2 - 1) = true := by simpa using h1
        rw [closeOps_many _ _ (by simp [cellsOf, cellsOfR_len]; exact hlen)]
        simp [Gen.C19Names.scopeClose, Gen.C19Names.isSingleIndex, hne, entryOps, expandDistr_one, cellsOf, cellsOfR, Nat.add_assoc]
    | cons t2 rest2 =>
      have h1 := hv t (by simp)
      have h2 := hv t2 (by simp)
      have hlen : (cellsOf base (t :: t2 :: rest2)).length ≠ 1 := by
        simp only [cellsOf, List.flatMap_cons, List.length_append, cellsOfR_len]
        omega
      rw [closeOps_many _ _ hlen]
      simp [Gen.C19Names.scopeClose, entryOps, expandDistr_one, cellsOf, cellsOfR, List.flatMap_map, Nat.add_assoc, List.map_flatMap]

/-- the pending-target list of the constructor API (`create`/`reuse`: `ts ++ [c]`) is the cell view of the translated
`FlatConverter::AutoLink`: merging a range into the last collected one does not change the collected cells -/
theorem C19_gen_autoLink (base : Nat → Nat) (ts : List (Nat × Nat × Nat)) (nr : Nat × Nat × Nat)
    (hv : ∀ t ∈ ts, t.2.1 ≤ t.2.2) (hnr : nr.2.1 ≤ nr.2.2) :
    cellsOf base (Gen.C19Names.autoLink true ts nr) = cellsOf base ts ++ cellsOfR base nr ∧
    Gen.C19Names.autoLink false ts nr = ts := by
  refine ⟨?_, by simp [Gen.C19Names.autoLink]⟩
  rcases List.eq_nil_or_concat ts with h | ⟨L, last, h⟩
  · subst h; simp [Gen.C19Names.autoLink, cellsOf]
  · rw [List.concat_eq_append] at h
    subst h
    have hl := hv last (by simp)
    by_cases hx : Gen.C19Names.extendableBy last nr = true
    · obtain ⟨n, b, m⟩ := last
      obtain ⟨n', m', e⟩ := nr
      obtain ⟨rfl, rfl⟩ : n = n' ∧ m = m' := by simpa [Gen.C19Names.extendableBy] using hx
      simp [Gen.C19Names.autoLink, hx, cellsOf, cellsOfR_merge base n hl hnr]
    · have hx' : Gen.C19Names.extendableBy last nr = false := by simpa using hx
      simp [Gen.C19Names.autoLink, hx', cellsOf]

end MpVerif.C19
