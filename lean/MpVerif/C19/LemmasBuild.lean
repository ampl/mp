import MpVerif.C19.LemmasRun
/-! Splitting `expandCopy`/`expandDistr` at a sum of lengths (what `AddEntry` needs when it extends the last entry);
`expandDistr_one` and `closeOps_many` for the tie of `~AutoLinkScope` (`C19_gen_scopeClose`).
Graphs built through the constructor API (`bstep`/`build`) are fed topologically, cover all items, convert a range
constraint at most once (`BInv`). -/
namespace MpVerif.C19

theorem expandCopy_add (s d a b : Nat) :
    expandCopy s d (a + b) = expandCopy s d a ++ expandCopy (s + a) (d + a) b := by
  simp [expandCopy, List.range_add, Nat.add_assoc]

theorem expandDistr_add_src (s a b d dl : Nat) :
    expandDistr s (a + b) d dl = expandDistr s a d dl ++ expandDistr (s + a) b d dl := by
  simp [expandDistr, List.range_add, List.flatMap_map, Nat.add_assoc]

theorem expandDistr_one_add_dst (s d a b : Nat) :
    expandDistr s 1 d (a + b) = expandDistr s 1 d a ++ expandDistr s 1 (d + a) b := by
  simp [expandDistr, List.range_add, Nat.add_assoc]

theorem expandDistr_one (s d n : Nat) : expandDistr s 1 d n = ((List.range n).map fun k => d + k).map (Op.distr s) := by
  simp [expandDistr, List.range_one]

theorem topoB_mono : ∀ (ops : List Op) {n1 n2 : List Nat}, n1 ⊆ n2 → topoB n1 ops = true → topoB n2 ops = true
  | [], _, _, _, _ => rfl
  | o :: os, _, _, hsub, h => by
    rw [topoB_cons] at h ⊢
    exact ⟨h.1.imp (@hsub _) (@hsub _), topoB_mono os (List.cons_subset_cons _ hsub) h.2⟩

theorem topoB_of_fed : ∀ (ops : List Op) {N : List Nat}, (∀ o ∈ ops, o.src ∈ N) → topoB N ops = true
  | [], _, _ => rfl
  | o :: os, N, h => (topoB_cons N o os).mpr ⟨Or.inr (h o List.mem_cons_self),
      topoB_of_fed os fun o' ho' => List.mem_cons_of_mem _ (h o' (List.mem_cons_of_mem _ ho'))⟩

theorem topoB_snoc : ∀ (ops : List Op) {named : List Nat} {new : List Op}, topoB named ops = true →
    (∀ o ∈ new, o.src ∈ named ∨ ∃ o' ∈ ops, o'.dst = o.src) → topoB named (ops ++ new) = true
  | [], _, new, _, h => topoB_of_fed new fun o ho => (h o ho).resolve_right (by simp)
  | o :: os, _, _, ht, h => by
    rw [List.cons_append, topoB_cons]
    rw [topoB_cons] at ht
    refine ⟨ht.1, topoB_snoc os ht.2 fun o' ho' => ?_⟩
    rcases h o' ho' with h1 | ⟨o'', h2, h3⟩
    · exact Or.inl (List.mem_cons_of_mem _ h1)
    · rcases List.mem_cons.mp h2 with rfl | h2
      · exact Or.inl (h3 ▸ List.mem_cons_self)
      · exact Or.inr ⟨o'', h2, h3⟩

def Fed (b : BSt) (c : Nat) : Prop := c ∈ b.roots ∨ ∃ o ∈ b.ops, o.dst = c

def pending (b : BSt) : List Nat := (b.scope.map Prod.snd).getD []

theorem pending_none {b : BSt} (h : b.scope = none) : pending b = [] := by simp [pending, h]

theorem pending_some {b : BSt} {s : Nat} {ts : List Nat} (h : b.scope = some (s, ts)) : pending b = ts := by
  simp [pending, h]

theorem Fed.mono {b b' : BSt} {c : Nat} (h : Fed b c) (hr : b.roots ⊆ b'.roots) (ho : b.ops ⊆ b'.ops) : Fed b' c :=
  h.imp (@hr c) fun ⟨o, ho', hd⟩ => ⟨o, ho ho', hd⟩

structure BInv (b : BSt) : Prop where
  items_fed : ∀ c ∈ b.items, Fed b c ∨ c ∈ pending b
  scope_fed : ∀ p ∈ b.scope, Fed b p.1
  topo : topoB b.roots b.ops = true
  sg_done : ∀ s e d, Op.sgive s e d ∈ b.ops → s ∈ b.slackDone
  sg_fun : ∀ s e d d', Op.sgive s e d ∈ b.ops → Op.sgive s e d' ∈ b.ops → d = d'

theorem binv_init : BInv {} where
  items_fed := fun c h => by simp at h
  scope_fed := fun p h => by simp at h
  topo := rfl
  sg_done := fun _ _ _ h => by simp at h
  sg_fun := fun _ _ _ _ h => by simp at h

theorem BInv.fail {b : BSt} (hI : BInv b) : BInv { b with ok := false } :=
  ⟨hI.1, hI.2, hI.3, hI.4, hI.5⟩

theorem BInv.fed_of_closed {b : BSt} (hI : BInv b) (hs : b.scope = none) {c : Nat} (hc : c ∈ b.items) : Fed b c :=
  (hI.items_fed c hc).resolve_right (by simp [pending_none hs])

theorem BInv.addOps {b : BSt} (hI : BInv b) {new : List Op} (hsrc : ∀ o ∈ new, Fed b o.src)
    (hns : ∀ s e d, Op.sgive s e d ∉ new) :
    topoB b.roots (b.ops ++ new) = true ∧ (∀ s e d, Op.sgive s e d ∈ b.ops ++ new → s ∈ b.slackDone) ∧
      ∀ s e d d', Op.sgive s e d ∈ b.ops ++ new → Op.sgive s e d' ∈ b.ops ++ new → d = d' := by
  have old : ∀ {s e d}, Op.sgive s e d ∈ b.ops ++ new → Op.sgive s e d ∈ b.ops :=
    fun h => (List.mem_append.mp h).resolve_right (hns _ _ _)
  exact ⟨topoB_snoc _ hI.topo hsrc, fun s e d h => hI.sg_done s e d (old h),
    fun s e d d' h h' => hI.sg_fun s e d d' (old h) (old h')⟩

theorem closeOps_src (s : Nat) (ts : List Nat) : ∀ o ∈ closeOps s ts, o.src = s := by
  intro o ho
  unfold closeOps at ho
  split at ho
  · simp at ho; subst ho; rfl
  · simp at ho; obtain ⟨t, _, rfl⟩ := ho; rfl

theorem closeOps_dst (s : Nat) (ts : List Nat) (c : Nat) : (∃ o ∈ closeOps s ts, o.dst = c) ↔ c ∈ ts := by
  unfold closeOps
  split
  · simp [Op.dst, eq_comm]
  · exact ⟨fun ⟨o, ho, hd⟩ => by obtain ⟨t, ht, rfl⟩ := List.mem_map.mp ho; exact hd ▸ ht,
      fun h => ⟨_, List.mem_map.mpr ⟨c, h, rfl⟩, rfl⟩⟩

theorem closeOps_many (s : Nat) (cs : List Nat) (h : cs.length ≠ 1) : closeOps s cs = cs.map (Op.distr s) := by
  unfold closeOps
  split
  · simp at h
  · rfl

theorem closeOps_not_sgive (s : Nat) (ts : List Nat) (a : Nat) (e : Bool) (d : Nat) : Op.sgive a e d ∉ closeOps s ts := by
  unfold closeOps
  split <;> simp

theorem BInv.push {b : BSt} (hI : BInv b) {s c : Nat} {ts its : List Nat} (hsc : b.scope = some (s, ts))
    (hits : ∀ x ∈ its, x = c ∨ x ∈ b.items) : BInv { b with items := its, scope := some (s, ts ++ [c]) } := by
  refine ⟨fun x hx => ?_, fun p hp => ?_, hI.topo, hI.sg_done, hI.sg_fun⟩
  · rw [pending_some rfl]
    rcases hits x hx with rfl | h1
    · exact Or.inr (by simp)
    · exact (hI.items_fed x h1).imp id fun h => List.mem_append_left _ (pending_some hsc ▸ h)
  · cases hp; exact hI.scope_fed (s, ts) hsc

theorem binv_step (b : BSt) (hI : BInv b) (c : Call) : BInv (bstep b c) := by
  have hl : b.ops ⊆ b.ops := fun _ h => h
  -- a call whose guard fails only clears `ok`; each call is left with one goal, its guard as hypothesis
  cases c with
    simp only [bstep] <;> split <;> (try split) <;> try exact hI.fail
  | root c =>
    have hr : b.roots ⊆ c :: b.roots := List.subset_cons_self _ _
    refine ⟨fun x hx => ?_, fun p hp => (hI.scope_fed p hp).mono hr hl, topoB_mono _ hr hI.topo, hI.sg_done, hI.sg_fun⟩
    rcases List.mem_cons.mp hx with rfl | h1
    · exact Or.inl (Or.inl List.mem_cons_self)
    · exact (hI.items_fed x h1).imp (Fed.mono · hr hl) id
  | openScope s =>
    rename_i h
    have hs : b.scope = none := by simpa using h.1
    refine ⟨fun x hx => Or.inl (hI.fed_of_closed hs hx), fun p hp => ?_, hI.topo, hI.sg_done, hI.sg_fun⟩
    cases hp
    exact hI.fed_of_closed hs h.2
  | create c => rename_i s ts hsc _; exact hI.push hsc fun x hx => List.mem_cons.mp hx
  | reuse c => rename_i s ts hsc _; exact hI.push hsc fun x hx => Or.inr hx
  | closeScope =>
    rename_i s ts hsc
    obtain ⟨h1, h2, h3⟩ := hI.addOps (fun o ho => closeOps_src s ts o ho ▸ hI.scope_fed _ hsc)
      (closeOps_not_sgive s ts)
    refine ⟨fun x hx => Or.inl ?_, fun p hp => (nomatch hp), h1, h2, h3⟩
    rcases hI.items_fed x hx with h | h
    · exact h.mono (fun _ h => h) (List.subset_append_left _ _)
    · obtain ⟨o, ho, hd⟩ := (closeOps_dst s ts x).mpr (pending_some hsc ▸ h)
      exact Or.inr ⟨o, List.mem_append_right _ ho, hd⟩
  | slack con slk =>
    rename_i s hsc hg
    have hfs := hI.scope_fed _ hsc
    have hnew : ∀ {a e d}, Op.sgive a e d ∈ b.ops ++ expandSlack s con slk →
        Op.sgive a e d ∈ b.ops ∨ a = s ∧ d = if e then con else slk := by
      intro a e d h
      rcases List.mem_append.mp h with h | h
      · exact Or.inl h
      · right; simp only [expandSlack, List.mem_cons, Op.sgive.injEq, List.not_mem_nil, or_false] at h
        rcases h with ⟨h1, h2, h3⟩ | ⟨h1, h2, h3⟩ <;> simp [h1, h2, h3]
    refine ⟨fun x hx => Or.inl ?_, fun p hp => (nomatch hp), topoB_snoc _ hI.topo ?_, fun a e d h => ?_,
      fun a e d d' h h' => ?_⟩
    · simp only [List.mem_cons] at hx
      rcases hx with rfl | rfl | hx
      · exact Or.inr ⟨Op.sgive s true x, by simp [expandSlack], rfl⟩
      · exact Or.inr ⟨Op.sgive s false x, by simp [expandSlack], rfl⟩
      · exact ((hI.items_fed x hx).resolve_right (by simp [pending_some hsc])).mono (fun _ h => h)
          (List.subset_append_left _ _)
    · intro o ho
      simp only [expandSlack, List.mem_cons, List.not_mem_nil, or_false] at ho
      rcases ho with rfl | rfl <;> exact hfs
    · rcases hnew h with h | h
      · exact List.mem_cons_of_mem _ (hI.sg_done a e d h)
      · exact h.1 ▸ List.mem_cons_self
    · rcases hnew h with h | h <;> rcases hnew h' with h' | h'
      · exact hI.sg_fun a e d d' h h'
      · exact absurd (h'.1 ▸ hI.sg_done a e d h) hg.2.2.2
      · exact absurd (h.1 ▸ hI.sg_done a e d' h') hg.2.2.2
      · rw [h.2, h'.2]
  | many2one srcs t =>
    rename_i hg
    have hs : b.scope = none := by simpa using hg.1
    obtain ⟨h1, h2, h3⟩ := hI.addOps (new := srcs.map fun s => Op.distr s t)
      (fun o ho => by
        obtain ⟨x, hx, rfl⟩ := List.mem_map.mp ho
        exact hI.fed_of_closed hs (by simpa using List.all_eq_true.mp hg.2.2.2 x hx : x ∈ b.items))
      (by simp)
    have hm : b.ops ⊆ b.ops ++ srcs.map fun s => Op.distr s t := List.subset_append_left _ _
    refine ⟨fun x hx => ?_, fun p hp => (hI.scope_fed p hp).mono (fun _ h => h) hm, h1, h2, h3⟩
    rcases List.mem_cons.mp hx with rfl | hx
    · obtain ⟨y, hy⟩ := List.exists_mem_of_ne_nil srcs hg.2.2.1
      exact Or.inl (Or.inr ⟨Op.distr y x, List.mem_append_right _ (List.mem_map.mpr ⟨y, hy, rfl⟩), rfl⟩)
    · exact (hI.items_fed x hx).imp (fun (h : Fed b x) => h.mono (fun _ h => h) hm) id

theorem binv_build (calls : List Call) : BInv (build calls) := by
  have : ∀ (cs : List Call) (b : BSt), BInv b → BInv (cs.foldl bstep b) := by
    intro cs
    induction cs with
    | nil => exact fun _ h => h
    | cons c cs ih => exact fun b h => ih _ (binv_step b h c)
  exact this calls {} binv_init

theorem mem_leaves (b : BSt) (c : Nat) : c ∈ b.leaves ↔ c ∈ b.items ∧ ∀ o ∈ b.ops, o.src ≠ c := by
  simp [BSt.leaves, List.mem_filter, List.all_eq_true]

theorem coveredB_iff {named : List Nat} {ops : List Op} {D : List Nat} :
    coveredB named ops D = true ↔ ∀ c ∈ D, c ∈ named ∨ ∃ o ∈ ops, o.dst = c := by
  simp [coveredB]

end MpVerif.C19
