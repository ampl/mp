import MpVerif.C19.Model
/-! The names-file scanner (`scanNames`, `winTestIdx`): the offsets it produces stay inside the data, and a last line
without newline makes it fail. -/
namespace MpVerif.C19

theorem winTestIdx_eq_some {offs : List Nat} {index k : Nat} (h : winTestIdx offs index = some k) :
    offs.getD index 0 < offs.getD (index + 1) 0 - 1 ∧ k = offs.getD (index + 1) 0 - 1 - 1 := by
  simp only [winTestIdx] at h
  split at h
  · rename_i hlt; exact ⟨hlt, (Option.some.inj h).symm⟩
  · simp at h

/-- offsets produced by the scan never point past the end of the data: line starts, and the end of the last reported name + 1 -/
theorem scanNames_bounds : ∀ (data : List Char) (pos start : Nat) (cr : Bool) (acc : List Nat) (last : Nat × Nat)
    (offs : List Nat) (fin : Nat × Nat),
    scanNames data pos start cr acc last = some (offs, fin) →
    start ≤ pos → (∀ o ∈ acc, o ≤ pos) → (acc ≠ [] → last.1 + last.2 + 1 ≤ pos) →
    (∀ o ∈ offs, o ≤ pos + data.length) ∧ (offs ≠ [] → fin.1 + fin.2 + 1 ≤ pos + data.length) := by
  intro data
  induction data with
  | nil =>
    intro pos start cr acc last offs fin h hs hacc hlast
    simp only [scanNames] at h
    split at h
    · simp only [Option.some.injEq, Prod.mk.injEq] at h
      obtain ⟨h1, h2⟩ := h
      subst h1 h2
      refine ⟨fun o ho => by simpa using hacc o (by simpa using ho), fun hne => ?_⟩
      simpa using hlast (by intro h0; apply hne; simp [h0])
    · simp at h
  | cons c cs ih =>
    intro pos start cr acc last offs fin h hs hacc hlast
    simp only [scanNames] at h
    rw [List.length_cons, Nat.add_left_comm, Nat.add_comm cs.length]
    split at h
    · exact ih (pos + 1) (pos + 1) false (start :: acc) _ offs fin h (Nat.le_refl _)
        (fun o ho => by
          rcases List.mem_cons.mp ho with h1 | h1
          · omega
          · have := hacc o h1; omega)
        (fun _ => by simp only; omega)
    · exact ih (pos + 1) start _ acc last offs fin h (by omega)
        (fun o ho => by have := hacc o ho; omega) (fun hne => by have := hlast hne; omega)

/-- a last byte other than `\n` leaves its line open: `start` stays before the end of the data -/
theorem scanNames_snoc : ∀ (data : List Char) (c : Char) (pos start : Nat) (cr : Bool) (acc : List Nat) (last : Nat × Nat),
    c ≠ '\n' → start ≤ pos → scanNames (data ++ [c]) pos start cr acc last = none
  | [], c, pos, start, _, _, _, hc, hle => by
    have : ¬ start = pos + 1 := by omega
    simp [scanNames, hc, this]
  | d :: ds, c, pos, start, _, _, _, hc, hle => by
    simp only [List.cons_append, scanNames]
    split
    · exact scanNames_snoc ds c _ _ _ _ _ hc (Nat.le_refl _)
    · exact scanNames_snoc ds c _ _ _ _ _ hc (by omega)

end MpVerif.C19
