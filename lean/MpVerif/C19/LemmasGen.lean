import MpVerif.C19.Model
import MpVerif.Gen.C19Names
/-! What the translator ties of `Props` are stated with: the scan loop and the names-mode logic assembled from the
definitions regenerated from the C++ source (`MpVerif/Gen/C19Names.lean`), and the cell view of the node ranges that
the translated `~AutoLinkScope` and `FlatConverter::AutoLink` work on.  `scan_eq_gen`: the hand-written scanner is
that loop. -/
namespace MpVerif.C19

/-- the scan loop run with the generated step function (the first `Nat` argument counts the remaining bytes,
`end - ptr`): `OnName` appends the name's start offset to `names_` and remembers the name as the last one -/
def genScan (data : List Char) : Nat → Nat → Nat → Bool → Nat → List Nat → Nat × Nat → Option (List Nat × (Nat × Nat))
  | 0, ptr, start, _, _, acc, last =>
    if Gen.C19Names.readNamesMissingNewline start ptr then none else some (acc.reverse, last)
  | n + 1, ptr, start, cr, line, acc, last =>
    match Gen.C19Names.readNamesStep data ptr start cr line with
    | (some nm, start', cr', line') => genScan data n (ptr + 1) start' cr' line' (nm.1 :: acc) nm
    | (none, start', cr', line') => genScan data n (ptr + 1) start' cr' line' acc last

theorem scan_eq_gen (data : List Char) : ∀ (n ptr start : Nat) (cr : Bool) (line : Nat) (acc : List Nat) (last : Nat × Nat),
    ptr + n = data.length →
    scanNames (data.drop ptr) ptr start cr acc last = genScan data n ptr start cr line acc last := by
  intro n
  induction n with
  | zero =>
    intro ptr start cr line acc last h
    have hd : data.drop ptr = [] := List.drop_eq_nil_of_le (by omega)
    rw [hd]
    simp only [scanNames, genScan, Gen.C19Names.readNamesMissingNewline]
    by_cases hs : start = ptr <;> simp [hs]
  | succ n ih =>
    intro ptr start cr line acc last h
    have hlt : ptr < data.length := by omega
    have hg : data.getD ptr (Char.ofNat 32) = data[ptr] := by simp [List.getD_eq_getElem?_getD, hlt]
    have c13 : Char.ofNat 13 = '\r' := rfl
    have c10 : Char.ofNat 10 = '\n' := rfl
    rw [List.drop_eq_getElem_cons hlt]
    simp only [scanNames, genScan, Gen.C19Names.readNamesStep, hg, c13, c10]
    by_cases hr : data[ptr] = '\r'
    · simpa [hr] using ih (ptr + 1) start true line acc last (by omega)
    · by_cases hn : data[ptr] = '\n'
      · simpa [hn] using ih (ptr + 1) (ptr + 1) false (line + 1) (start :: acc) _ (by omega)
      · simpa [hr, hn] using ih (ptr + 1) start cr line acc last (by omega)

/-- the names-mode logic assembled from the generated pieces (conditions, `get_names` arguments, generic stubs, objective
index range, file-vs-generic choice, generic objective name); the order of the calls is the one the translator matched -/
def genReadNamesModel (i : NamesIn) : NamesRes :=
  if !(Gen.C19Names.namesWanted i.mode) then .none else
  let colr := if Gen.C19Names.readFiles i.mode then fileOffsets i.col else .ok []
  match colr with
  | .missingNewline => .error
  | .ok co =>
  let rowr := if Gen.C19Names.readFiles i.mode then fileOffsets i.row else .ok []
  match rowr with
  | .missingNewline => .error
  | .ok ro =>
    let cd := i.col.getD []
    let rd := i.row.getD []
    if Gen.C19Names.setNames i.mode (numberRead co) (numberRead ro) then
      let va := Gen.C19Names.varNamesArgs i.nv i.ndv
      let ca := Gen.C19Names.conNamesArgs i.ncon i.nalg
      let vars := (List.range va.1).map fun k => provName cd co Gen.C19Names.stubVar Gen.C19Names.stubDefVar k va.2
      let cons := (List.range ca.1).map fun k => provName rd ro Gen.C19Names.stubCon Gen.C19Names.stubLogCon k ca.2
      let r := Gen.C19Names.objRange i.ncon i.nobj i.objno i.multiobj
      let objs := if !(Gen.C19Names.objGuard i.nobj) then [] else
        ((List.range (r.2 - r.1)).map fun t =>
          let io := r.1 + t
          if Gen.C19Names.objFromFile (numberRead ro) io then (fileName rd ro io).getD (.name [])
          else FileName.name (Gen.C19Names.objGeneric io i.ncon))
      .names ⟨vars, cons, objs⟩
    else .none

/-- cells of a node range `(node, begin, end)` under a placement `base` of the nodes -/
def cellsOfR (base : Nat → Nat) (r : Nat × Nat × Nat) : List Nat :=
  (List.range (r.2.2 - r.2.1)).map fun k => base r.1 + r.2.1 + k

def cellsOf (base : Nat → Nat) (rs : List (Nat × Nat × Nat)) : List Nat := rs.flatMap (cellsOfR base)

/-- operations of a registered entry `(link, source range, target range)` -/
def entryOps (base : Nat → Nat) (e : String × (Nat × Nat × Nat) × (Nat × Nat × Nat)) : List Op :=
  if e.1 = "CopyLink" then expandCopy (base e.2.1.1 + e.2.1.2.1) (base e.2.2.1 + e.2.2.2.1) (e.2.2.2.2 - e.2.2.2.1)
  else expandDistr (base e.2.1.1 + e.2.1.2.1) 1 (base e.2.2.1 + e.2.2.2.1) (e.2.2.2.2 - e.2.2.2.1)

theorem cellsOfR_len (base : Nat → Nat) (r : Nat × Nat × Nat) : (cellsOfR base r).length = r.2.2 - r.2.1 := by
  simp [cellsOfR]

theorem cellsOfR_merge (base : Nat → Nat) (n : Nat) {b m e : Nat} (h1 : b ≤ m) (h2 : m ≤ e) :
    cellsOfR base (n, b, e) = cellsOfR base (n, b, m) ++ cellsOfR base (n, m, e) := by
  have : e - b = (m - b) + (e - m) := by omega
  simp only [cellsOfR, this, List.range_add, List.map_append, List.map_map]
  congr 1
  exact List.map_congr_left fun k _ => by simp only [Function.comp]; omega

end MpVerif.C19
