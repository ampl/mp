import MpVerif.C19.Model
/-! Combinatorics of the naming forest: cells, naming edges `(parent, label, child)`.
Two cells reached from the same root along the same non-plain labels are equal or related by a chain of plain
edges, provided sibling labels are distinct and equal non-plain labels never leave plain-related cells. -/
namespace MpVerif.C19

/-- `b` is reached from `a` by a non-empty chain of plain edges -/
inductive Below (E : List Edge) : Nat → Nat → Prop
  | one {a b} : (⟨a, Lab.plain, b⟩ : Edge) ∈ E → Below E a b
  | snoc {a b c} : Below E a b → (⟨b, Lab.plain, c⟩ : Edge) ∈ E → Below E a c

/-- path from root `r` to a cell; only the non-plain labels are recorded (most recent first), since a plain edge
leaves the name as it is -/
inductive Path (E : List Edge) (r : Nat) : List Lab → Nat → Prop
  | root : Path E r [] r
  | plain {ls p c} : Path E r ls p → (⟨p, Lab.plain, c⟩ : Edge) ∈ E → Path E r ls c
  | step {ls p l c} : Path E r ls p → (⟨p, l, c⟩ : Edge) ∈ E → l ≠ Lab.plain → Path E r (l :: ls) c

def SibDistinct (E : List Edge) : Prop :=
  ∀ e ∈ E, ∀ e' ∈ E, e.p = e'.p → e.l = e'.l → e = e'

def NoClash (E : List Edge) : Prop :=
  ∀ e ∈ E, ∀ e' ∈ E, e.l = e'.l → e.l ≠ Lab.plain → ¬ Below E e.p e'.p

theorem Below.head {E : List Edge} {a b : Nat} (h : Below E a b) :
    ∃ c, (⟨a, Lab.plain, c⟩ : Edge) ∈ E ∧ (c = b ∨ Below E c b) := by
  induction h with
  | one h => exact ⟨_, h, Or.inl rfl⟩
  | snoc _ h2 ih =>
    obtain ⟨c, hc, hcb⟩ := ih
    refine ⟨c, hc, Or.inr ?_⟩
    cases hcb with
    | inl h => subst h; exact Below.one h2
    | inr h => exact Below.snoc h h2

theorem plain_step {E : List Edge} (hs : SibDistinct E) {u p v : Nat}
    (h : u = p ∨ Below E u p ∨ Below E p u) (he : (⟨p, Lab.plain, v⟩ : Edge) ∈ E) :
    u = v ∨ Below E u v ∨ Below E v u := by
  rcases h with h | h | h
  · subst h; exact Or.inr (Or.inl (Below.one he))
  · exact Or.inr (Or.inl (Below.snoc h he))
  · obtain ⟨c, hc, hcu⟩ := h.head
    have := hs _ hc _ he rfl rfl
    have hcv : c = v := by injection this
    subst hcv
    cases hcu with
    | inl h => exact Or.inl h.symm
    | inr h => exact Or.inr (Or.inr h)

theorem rel_symm {E : List Edge} {u v : Nat} (h : u = v ∨ Below E u v ∨ Below E v u) :
    v = u ∨ Below E v u ∨ Below E u v := by
  rcases h with h | h | h
  · exact Or.inl h.symm
  · exact Or.inr (Or.inr h)
  · exact Or.inr (Or.inl h)

theorem path_rel {E : List Edge} (hs : SibDistinct E) (hc : NoClash E) {r : Nat} :
    ∀ {ls : List Lab} {u : Nat}, Path E r ls u → ∀ {ls' : List Lab} {v : Nat}, Path E r ls' v →
      ls = ls' → u = v ∨ Below E u v ∨ Below E v u := by
  -- a plain last edge is peeled off by `plain_step`; two non-plain last edges carry the same label, their parents are
  -- related by induction, and `SibDistinct`/`NoClash` leave only equal children
  intro ls u h1
  induction h1 with
  | root =>
    intro ls' v h2
    induction h2 with
    | root => exact fun _ => Or.inl rfl
    | plain _ e' ih => exact fun h => plain_step hs (ih h) e'
    | step _ _ _ _ => exact fun h => nomatch h
  | plain _ e ih1 => exact fun h2 h => rel_symm (plain_step hs (rel_symm (ih1 h2 h)) e)
  | step _ e hl ih1 =>
    intro ls' v h2
    induction h2 with
    | root => exact fun h => nomatch h
    | plain _ e' ih2 => exact fun h => plain_step hs (ih2 h) e'
    | step h2s e' _ _ =>
      intro h
      obtain ⟨rfl, hrest⟩ := List.cons.inj h
      rcases ih1 h2s hrest with h | h | h
      · subst h; exact Or.inl (by injection hs _ e _ e' rfl rfl)
      · exact absurd h (hc _ e _ e' rfl hl)
      · exact absurd h (hc _ e' _ e rfl hl)

theorem Path.mono {E E' : List Edge} (hsub : ∀ e, e ∈ E → e ∈ E') {r : Nat} {ls : List Lab} {c : Nat}
    (h : Path E r ls c) : Path E' r ls c := by
  induction h with
  | root => exact .root
  | plain _ he ih => exact ih.plain (hsub _ he)
  | step _ he hl ih => exact ih.step (hsub _ he) hl

theorem sibDistinctB_sound {E : List Edge} (h : sibDistinctB E = true) : SibDistinct E := by
  intro e he e' he' hp hl
  simp only [sibDistinctB, List.all_eq_true] at h
  have := h e he e' he'
  simp [hp, hl] at this
  exact this

theorem below_in_closed {E : List Edge} {R : List (Nat × Nat)} (h : closedB E R = true) {a b : Nat}
    (hb : Below E a b) : (a, b) ∈ R := by
  simp only [closedB, List.all_eq_true] at h
  induction hb with
  | one he =>
    have := h _ he
    simp at this
    exact this.1
  | snoc _ he ih =>
    have := h _ he
    simp at this
    have h2 := this.2 _ _ ih
    simpa using h2

theorem noClashB_sound {E : List Edge} {R : List (Nat × Nat)} (hcl : closedB E R = true)
    (h : noClashB E R = true) : NoClash E := by
  intro e he e' he' hl hne hb
  have hin := below_in_closed hcl hb
  simp only [noClashB, List.all_eq_true] at h
  have := h e he e' he'
  simp [hl] at this
  rcases this with h1 | h1
  · exact hne (hl ▸ h1)
  · exact h1 hin

theorem belowFreeB_sound {E : List Edge} {R : List (Nat × Nat)} (hcl : closedB E R = true) {D : List Nat}
    (h : belowFreeB R D = true) {u v : Nat} (hu : u ∈ D) (hv : v ∈ D) : ¬ Below E u v := by
  intro hb
  have hin := below_in_closed hcl hb
  simp only [belowFreeB, List.all_eq_true] at h
  have := h u hu v hv
  simp at this
  exact this hin

end MpVerif.C19
