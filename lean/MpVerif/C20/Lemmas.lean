import MpVerif.C20.Model
/-!
# C20 lemmas: the writer machine produces `render v`; `parse (render v) = some v`
-/
namespace MpVerif.C20

mutual
/-- every number token is a JSON number (strings and keys are arbitrary) -/
def Valid : Json → Prop
  | .null => True
  | .bool _ => True
  | .num t => isNumTok t = true
  | .str _ => True
  | .arr xs => ValidL xs
  | .obj ms => ValidM ms
def ValidL : JList → Prop
  | .nil => True
  | .cons x xs => Valid x ∧ ValidL xs
def ValidM : JMems → Prop
  | .nil => True
  | .cons _ v ms => Valid v ∧ ValidM ms
end

mutual
/-- no empty dictionary anywhere (an unset node is closed as `[]`, so `{}` cannot be written) -/
def NoEmptyObj : Json → Prop
  | .arr xs => NoEmptyObjL xs
  | .obj .nil => False
  | .obj (.cons _ v ms) => NoEmptyObj v ∧ NoEmptyObjM ms
  | _ => True
def NoEmptyObjL : JList → Prop
  | .nil => True
  | .cons x xs => NoEmptyObj x ∧ NoEmptyObjL xs
def NoEmptyObjM : JMems → Prop
  | .nil => True
  | .cons _ v ms => NoEmptyObj v ∧ NoEmptyObjM ms
end

mutual
/-- fuel that `pValue` needs on `render v` -/
def need : Json → Nat
  | .arr xs => 1 + needL xs
  | .obj ms => 1 + needM ms
  | _ => 1
def needL : JList → Nat
  | .nil => 0
  | .cons x xs => 1 + need x + needL xs
def needM : JMems → Nat
  | .nil => 0
  | .cons _ v ms => 1 + need v + needM ms
end

def JList.length : JList → Nat
  | .nil => 0
  | .cons _ xs => 1 + xs.length

def JMems.length : JMems → Nat
  | .nil => 0
  | .cons _ _ ms => 1 + ms.length

theorem run_append (s : WState) (a b : List Op) : run s (a ++ b) = run (run s a) b := by
  simp [run, List.foldl_append]

theorem run_cons (s : WState) (a : Op) (b : List Op) : run s (a :: b) = run (step s a) b := rfl

theorem run_nil (s : WState) : run s [] = s := rfl

theorem numTok_finite (t : Str) (h : isNumTok t = true) : scalarText t = t := by
  have : isNonFinite t = false := by
    cases hf : isNonFinite t with
    | false => rfl
    | true =>
      simp only [isNonFinite, Bool.or_eq_true, decide_eq_true_eq] at hf
      rcases hf with (hf | hf) | hf <;> (subst hf; revert h; decide)
  simp [scalarText, this]

theorem run_scalar_close (tok out : Str) (stk : List Node) :
    run ⟨out, ⟨.unset, 0⟩ :: stk⟩ [.scalar tok, .close] = ⟨out ++ scalarText tok, stk⟩ := by
  simp [run, step, makeScalar, closeText]

mutual
theorem run_value : ∀ (v : Json), NoEmptyObj v → Valid v → ∀ (out : Str) (stk : List Node),
    run ⟨out, ⟨.unset, 0⟩ :: stk⟩ (opsOf v) = ⟨out ++ render v, stk⟩
  | .null, _, _, out, stk | .bool true, _, _, out, stk | .bool false, _, _, out, stk => by
    rw [opsOf, run_scalar_close]; rfl
  | .num t, _, hv, out, stk => by
    rw [opsOf, run_scalar_close, numTok_finite t hv, render]
  | .str s, _, _, out, stk => by simp [opsOf, run, step, makeScalar, closeText, render]
  | .arr .nil, _, _, out, stk => by simp [opsOf, opsOfList, run, step, closeText, render]
  | .arr (.cons x xs), h, hv, out, stk => by
    have hx : NoEmptyObj x := by simp [NoEmptyObj, NoEmptyObjL] at h; exact h.1
    have hxs : NoEmptyObjL xs := by simp [NoEmptyObj, NoEmptyObjL] at h; exact h.2
    have hvl : ValidL (.cons x xs) := hv
    simp only [opsOf, opsOfList, run_append, run_cons, run_nil]
    have e1 : step ⟨out, ⟨.unset, 0⟩ :: stk⟩ .elem = ⟨out ++ ['['], ⟨.unset, 0⟩ :: ⟨.array, 1⟩ :: stk⟩ := by
      simp [step, ensureArr, sep]
    rw [e1, run_value x hx hvl.1, run_list xs hxs hvl.2]
    simp [step, closeText, render]
  | .obj .nil, h, _, _, _ => by simp [NoEmptyObj] at h
  | .obj (.cons k v ms), h, hv, out, stk => by
    have hv1 : NoEmptyObj v := by simp [NoEmptyObj] at h; exact h.1
    have hms : NoEmptyObjM ms := by simp [NoEmptyObj] at h; exact h.2
    have hvm : ValidM (.cons k v ms) := hv
    simp only [opsOf, opsOfMems, run_append, run_cons, run_nil]
    have e1 : step ⟨out, ⟨.unset, 0⟩ :: stk⟩ (.key k)
        = ⟨out ++ ('{' :: (quote k ++ [':', ' '])), ⟨.unset, 0⟩ :: ⟨.dict, 1⟩ :: stk⟩ := by
      simp [step, ensureDict, sep]
    rw [e1, run_value v hv1 hvm.1, run_mems ms hms hvm.2]
    simp [step, closeText, render]
theorem run_list : ∀ (xs : JList), NoEmptyObjL xs → ValidL xs → ∀ (out : Str) (n : Nat) (stk : List Node),
    run ⟨out, ⟨.array, n + 1⟩ :: stk⟩ (opsOfList xs) = ⟨out ++ renderTail xs, ⟨.array, n + 1 + xs.length⟩ :: stk⟩
  | .nil, _, _, out, n, stk => by simp [opsOfList, run, renderTail, JList.length]
  | .cons x xs, h, hv, out, n, stk => by
    have hx : NoEmptyObj x := h.1
    have hxs : NoEmptyObjL xs := h.2
    simp only [opsOfList, run_append, run_cons]
    have e1 : step ⟨out, ⟨.array, n + 1⟩ :: stk⟩ .elem
        = ⟨out ++ [',', ' '], ⟨.unset, 0⟩ :: ⟨.array, n + 1 + 1⟩ :: stk⟩ := by
      simp [step, ensureArr, sep]
    rw [e1, run_value x hx hv.1, run_list xs hxs hv.2]
    simp [renderTail, JList.length]
    omega
theorem run_mems : ∀ (ms : JMems), NoEmptyObjM ms → ValidM ms → ∀ (out : Str) (n : Nat) (stk : List Node),
    run ⟨out, ⟨.dict, n + 1⟩ :: stk⟩ (opsOfMems ms) = ⟨out ++ renderMTail ms, ⟨.dict, n + 1 + ms.length⟩ :: stk⟩
  | .nil, _, _, out, n, stk => by simp [opsOfMems, run, renderMTail, JMems.length]
  | .cons k v ms, h, hv, out, n, stk => by
    have hv1 : NoEmptyObj v := h.1
    have hms : NoEmptyObjM ms := h.2
    simp only [opsOfMems, run_append, run_cons]
    have e1 : step ⟨out, ⟨.dict, n + 1⟩ :: stk⟩ (.key k)
        = ⟨out ++ (',' :: ' ' :: (quote k ++ [':', ' '])), ⟨.unset, 0⟩ :: ⟨.dict, n + 1 + 1⟩ :: stk⟩ := by
      simp [step, ensureDict, sep]
    rw [e1, run_value v hv1 hv.1, run_mems ms hms hv.2]
    simp [renderMTail, JMems.length]
    omega
end

/-- what may follow a value inside rendered text -/
def Delim (rest : Str) : Prop := rest = [] ∨ ∃ c r, rest = c :: r ∧ (c = ',' ∨ c = ']' ∨ c = '}')

theorem numChar_props (c : Char) (h : numChar c = true) :
    isWs c = false ∧ c ≠ '{' ∧ c ≠ '[' ∧ c ≠ '"' ∧ c ≠ 't' ∧ c ≠ 'f' ∧ c ≠ 'n' ∧ c ≠ ']' ∧ c ≠ '}' := by
  refine ⟨?_, ?_, ?_, ?_, ?_, ?_, ?_, ?_, ?_⟩
  · cases hw : isWs c with
    | false => rfl
    | true =>
      simp only [isWs, Bool.or_eq_true, decide_eq_true_eq] at hw
      rcases hw with ((hw | hw) | hw) | hw <;> (subst hw; revert h; decide)
  all_goals (intro hc; subst hc; revert h; decide)

theorem delim_not_numChar (rest : Str) (h : Delim rest) :
    rest = [] ∨ ∃ c r, rest = c :: r ∧ numChar c = false := by
  rcases h with h | ⟨c, r, h, hc⟩
  · exact Or.inl h
  · refine Or.inr ⟨c, r, h, ?_⟩
    rcases hc with hc | hc | hc <;> (subst hc; decide)

theorem takeNum_append (t rest : Str) (ht : t.all numChar = true)
    (hr : rest = [] ∨ ∃ c r, rest = c :: r ∧ numChar c = false) : takeNum (t ++ rest) = (t, rest) := by
  induction t with
  | nil =>
    rcases hr with hr | ⟨c, r, hr, hc⟩
    · subst hr; rfl
    · subst hr; simp [takeNum, hc]
  | cons a t ih =>
    simp only [List.all_cons, Bool.and_eq_true] at ht
    simp [takeNum, ht.1, ih ht.2]

theorem lexNumber_append (t rest : Str) (ht : isNumTok t = true) (hd : Delim rest) :
    lexNumber (t ++ rest) = some (t, rest) := by
  simp only [isNumTok, Bool.and_eq_true] at ht
  simp [lexNumber, takeNum_append t rest ht.1 (delim_not_numChar rest hd), ht.2]

theorem lexString_plain {c : Char} {r : Str} (h1 : c ≠ '"') (h2 : c ≠ '\\') (h3 : ¬ c.toNat < 32) :
    lexString (c :: r) = (lexString r).map (fun p => (c :: p.1, p.2)) := by
  rw [lexString.eq_def]
  simp only [h1, h2, h3, if_false]
  cases lexString r with
  | none => rfl
  | some p => cases p; rfl

theorem lexString_simple {e ch : Char} {r : Str} (hu : e ≠ 'u') (hs : simpleEsc e = some ch) :
    lexString ('\\' :: e :: r) = (lexString r).map (fun p => (ch :: p.1, p.2)) := by
  rw [lexString.eq_def]
  have h0 : ('\\' : Char) ≠ '"' := by decide
  simp only [h0, if_false, if_true, hu, hs]
  cases lexString r with
  | none => rfl
  | some p => cases p; rfl

theorem lexString_u {a b c d : Char} {r : Str} {x y z w : Nat}
    (ha : hexVal a = some x) (hb : hexVal b = some y) (hc : hexVal c = some z) (hd : hexVal d = some w) :
    lexString ('\\' :: 'u' :: a :: b :: c :: d :: r)
      = (lexString r).map (fun p => (Char.ofNat (((x * 16 + y) * 16 + z) * 16 + w) :: p.1, p.2)) := by
  rw [lexString.eq_def]
  have h0 : ('\\' : Char) ≠ '"' := by decide
  simp only [h0, if_false, if_true, ha, hb, hc, hd]
  cases lexString r with
  | none => rfl
  | some p => cases p; rfl

theorem hexVal_hexDigit : ∀ n, n < 16 → hexVal (hexDigit n) = some n := by decide

theorem lexString_escChar (c : Char) (r : Str) :
    lexString (escChar c ++ r) = (lexString r).map (fun p => (c :: p.1, p.2)) := by
  by_cases h : c = '"' ∨ c = '\\' ∨ c = '\n' ∨ c = '\r' ∨ c = '\t'
  · rcases h with rfl | rfl | rfl | rfl | rfl <;> exact lexString_simple (by decide) (by decide)
  · simp only [not_or] at h
    obtain ⟨h1, h2, h3, h4, h5⟩ := h
    unfold escChar
    rw [if_neg h1, if_neg h2, if_neg h3, if_neg h4, if_neg h5]
    by_cases h6 : c.toNat < 32
    · have h0 : hexVal '0' = some 0 := hexVal_hexDigit 0 (by decide)
      rw [if_pos h6]
      simp only [List.cons_append, List.nil_append]
      rw [lexString_u h0 h0 (hexVal_hexDigit _ (by omega)) (hexVal_hexDigit _ (by omega)),
        show ((0 * 16 + 0) * 16 + c.toNat / 16) * 16 + c.toNat % 16 = c.toNat by omega, Char.ofNat_toNat]
    · rw [if_neg h6]; exact lexString_plain h1 h2 h6

theorem lexString_append (s rest : Str) : lexString (escape s ++ '"' :: rest) = some (s, rest) := by
  induction s with
  | nil => rw [escape, List.nil_append, lexString.eq_def]; simp
  | cons c s ih => rw [escape, List.append_assoc, lexString_escChar, ih]; rfl

theorem skipWs_of_not_ws (c : Char) (r : Str) (h : isWs c = false) : skipWs (c :: r) = c :: r := by
  simp [skipWs, h]

theorem pValue_space (f : Nat) (cs : Str) : pValue f (' ' :: cs) = pValue f cs := by
  cases f with
  | zero => simp [pValue]
  | succ f => simp [pValue, skipWs, isWs]

theorem pElems_space (f : Nat) (cs : Str) : pElems f (' ' :: cs) = pElems f cs := by
  cases f with
  | zero => simp [pElems]
  | succ f => simp [pElems, pValue_space]

theorem pMems_space (f : Nat) (cs : Str) : pMems f (' ' :: cs) = pMems f cs := by
  cases f with
  | zero => simp [pMems]
  | succ f => simp [pMems, skipWs, isWs]

/-- first character of rendered text: never whitespace, never a closing bracket -/
def isStart (c : Char) : Prop := isWs c = false ∧ c ≠ ']' ∧ c ≠ '}'

theorem render_head : ∀ (v : Json), Valid v → ∃ c r, render v = c :: r ∧ isStart c
  | .null, _ => ⟨'n', _, rfl, by unfold isStart; decide⟩
  | .bool true, _ => ⟨'t', _, rfl, by unfold isStart; decide⟩
  | .bool false, _ => ⟨'f', _, rfl, by unfold isStart; decide⟩
  | .num t, h => by
    simp only [Valid, isNumTok, Bool.and_eq_true] at h
    cases t with
    | nil => simp [validNumTok] at h
    | cons c r =>
      simp only [List.all_cons, Bool.and_eq_true] at h
      have := numChar_props c h.1.1
      exact ⟨c, r, rfl, this.1, this.2.2.2.2.2.2.2.1, this.2.2.2.2.2.2.2.2⟩
  | .str s, _ => ⟨'"', _, rfl, by unfold isStart; decide⟩
  | .arr .nil, _ => ⟨'[', _, rfl, by unfold isStart; decide⟩
  | .arr (.cons _ _), _ => ⟨'[', _, by rw [render], by unfold isStart; decide⟩
  | .obj .nil, _ => ⟨'{', _, rfl, by unfold isStart; decide⟩
  | .obj (.cons _ _ _), _ => ⟨'{', _, by rw [render], by unfold isStart; decide⟩

theorem pValue_arr_nonempty (f : Nat) (c : Char) (r : Str) (hc : isStart c) :
    pValue (f + 1) ('[' :: c :: r) = (pElems f (c :: r)).map (fun p => (Json.arr p.1, p.2)) := by
  have h0 : skipWs ('[' :: c :: r) = '[' :: c :: r := skipWs_of_not_ws _ _ (by decide)
  have h1 : skipWs (c :: r) = c :: r := skipWs_of_not_ws _ _ hc.1
  simp only [pValue, h0, h1]
  simp [hc.2.1]
  cases pElems f (c :: r) with
  | none => rfl
  | some p => cases p; rfl

theorem pValue_obj_nonempty (f : Nat) (r : Str) :
    pValue (f + 1) ('{' :: '"' :: r) = (pMems f ('"' :: r)).map (fun p => (Json.obj p.1, p.2)) := by
  have h0 : skipWs ('{' :: '"' :: r) = '{' :: '"' :: r := skipWs_of_not_ws _ _ (by decide)
  have h1 : skipWs ('"' :: r) = '"' :: r := skipWs_of_not_ws _ _ (by decide)
  simp only [pValue, h0, h1]
  simp
  cases pMems f ('"' :: r) with
  | none => rfl
  | some p => cases p; rfl

theorem pValue_num (f : Nat) (c : Char) (r : Str) (hc : numChar c = true) :
    pValue (f + 1) (c :: r) = (lexNumber (c :: r)).map (fun p => (Json.num p.1, p.2)) := by
  have h := numChar_props c hc
  have h0 : skipWs (c :: r) = c :: r := skipWs_of_not_ws _ _ h.1
  simp only [pValue, h0]
  simp [h.2.1, h.2.2.1, h.2.2.2.1, h.2.2.2.2.1, h.2.2.2.2.2.1, h.2.2.2.2.2.2.1]
  cases lexNumber (c :: r) with
  | none => rfl
  | some p => cases p; rfl

theorem delim_skipWs (rest : Str) (h : Delim rest) : skipWs rest = rest := by
  rcases h with h | ⟨c, r, h, hc⟩
  · subst h; rfl
  · subst h
    rcases hc with hc | hc | hc <;> (subst hc; simp [skipWs, isWs])

theorem need_pos (v : Json) : 0 < need v := by cases v <;> simp only [need] <;> omega

/- `Delim rest` is what stops `takeNum` at the end of a number token. -/
mutual
theorem rt_value : ∀ (v : Json) (f : Nat) (rest : Str), Valid v → need v ≤ f → Delim rest →
    pValue f (render v ++ rest) = some (v, rest)
  | v, 0, _, _, hf, _ => absurd hf (Nat.not_le.mpr (need_pos v))
  | .null, f + 1, rest, _, _, _ | .bool true, f + 1, rest, _, _, _ | .bool false, f + 1, rest, _, _, _ => by
    simp [render, pValue, skipWs, isWs, dropPrefix]
  | .num t, f + 1, rest, hv, _, hd => by
    have hv' : isNumTok t = true := hv
    have hl := lexNumber_append t rest hv' hd
    simp only [isNumTok, Bool.and_eq_true] at hv'
    cases t with
    | nil => simp [validNumTok] at hv'
    | cons c r =>
      simp only [List.all_cons, Bool.and_eq_true] at hv'
      simp only [render, List.cons_append] at hl ⊢
      rw [pValue_num f c _ hv'.1.1, hl]; rfl
  | .str s, f + 1, rest, _, _, _ => by
    have := lexString_append s rest
    simp [render, quote, pValue, skipWs, isWs, this]
  | .arr .nil, f + 1, rest, _, _, _ => by
    simp [render, pValue, skipWs, isWs]
  | .arr (.cons x xs), f + 1, rest, hv, hf, _ => by
    have hvl : ValidL (.cons x xs) := hv
    have hfl : needL (.cons x xs) ≤ f := by simp [need] at hf; omega
    have ih := rt_elems (.cons x xs) f rest hvl hfl (by simp)
    obtain ⟨c, r, hr, hc⟩ := render_head x hvl.1
    simp only [renderElems, hr, List.cons_append] at ih
    simp only [render, hr, List.cons_append, List.append_assoc]
    rw [pValue_arr_nonempty f c _ hc]
    simp only [List.append_assoc, List.nil_append] at ih ⊢
    rw [ih]; rfl
  | .obj .nil, f + 1, rest, _, _, _ => by
    simp [render, pValue, skipWs, isWs]
  | .obj (.cons k v ms), f + 1, rest, hv, hf, _ => by
    have hvm : ValidM (.cons k v ms) := hv
    have hfm : needM (.cons k v ms) ≤ f := by simp [need] at hf; omega
    have ih := rt_mems (.cons k v ms) f rest hvm hfm (by simp)
    simp only [renderMems, quote, List.cons_append] at ih
    simp only [render, quote, List.cons_append, List.append_assoc]
    rw [pValue_obj_nonempty f]
    simp only [List.append_assoc, List.cons_append, List.nil_append] at ih ⊢
    rw [ih]; rfl
theorem rt_elems : ∀ (l : JList) (f : Nat) (rest : Str), ValidL l → needL l ≤ f → l ≠ .nil →
    pElems f (renderElems l ++ ']' :: rest) = some (l, rest)
  | .nil, _, _, _, _, hne => absurd rfl hne
  | .cons x xs, f, rest, hv, hf, _ => by
    obtain ⟨f, rfl⟩ : ∃ g, f = g + 1 := ⟨f - 1, by simp [needL] at hf; omega⟩
    have hx : Valid x := hv.1
    have hxs : ValidL xs := hv.2
    have ihx := fun rest hd => rt_value x f rest hx (by simp [needL] at hf; omega) hd
    have ihxs := fun rest hne => rt_elems xs f rest hxs (by simp [needL] at hf; omega) hne
    cases xs with
    | nil =>
      have := ihx (']' :: rest) (Or.inr ⟨']', rest, rfl, Or.inr (Or.inl rfl)⟩)
      simp only [renderElems, renderTail, List.append_nil]
      simp [pElems, this, skipWs, isWs]
    | cons y ys =>
      have h1 := ihx (',' :: ' ' :: (renderElems (.cons y ys) ++ ']' :: rest))
        (Or.inr ⟨',', _, rfl, Or.inl rfl⟩)
      have h2 := ihxs rest (by simp)
      simp only [renderElems, renderTail, List.append_assoc, List.cons_append] at h1 h2 ⊢
      simp [pElems, h1, skipWs, isWs, pElems_space, h2]
theorem rt_mems : ∀ (m : JMems) (f : Nat) (rest : Str), ValidM m → needM m ≤ f → m ≠ .nil →
    pMems f (renderMems m ++ '}' :: rest) = some (m, rest)
  | .nil, _, _, _, _, hne => absurd rfl hne
  | .cons k v ms, f, rest, hv, hf, _ => by
    obtain ⟨f, rfl⟩ : ∃ g, f = g + 1 := ⟨f - 1, by simp [needM] at hf; omega⟩
    have hvv : Valid v := hv.1
    have hms : ValidM ms := hv.2
    have ihv := fun rest hd => rt_value v f rest hvv (by simp [needM] at hf; omega) hd
    have ihms := fun rest hne => rt_mems ms f rest hms (by simp [needM] at hf; omega) hne
    cases ms with
    | nil =>
      have h1 := ihv ('}' :: rest) (Or.inr ⟨'}', rest, rfl, Or.inr (Or.inr rfl)⟩)
      have hk' := lexString_append k (':' :: ' ' :: (render v ++ '}' :: rest))
      simp only [renderMems, renderMTail, quote, List.append_nil, List.append_assoc, List.cons_append,
        List.nil_append] at hk' ⊢
      simp [pMems, skipWs, isWs, hk', pValue_space, h1]
    | cons k2 v2 ms2 =>
      have h1 := ihv (',' :: ' ' :: (renderMems (.cons k2 v2 ms2) ++ '}' :: rest))
        (Or.inr ⟨',', _, rfl, Or.inl rfl⟩)
      have h2 := ihms rest (by simp)
      have hk' := lexString_append k
        (':' :: ' ' :: (render v ++ ',' :: ' ' :: (renderMems (.cons k2 v2 ms2) ++ '}' :: rest)))
      simp only [renderMems, renderMTail, quote, List.append_assoc, List.cons_append, List.nil_append]
        at h1 h2 hk' ⊢
      simp [pMems, skipWs, isWs, hk', pValue_space, h1, pMems_space, h2]
end

theorem numTok_length (t : Str) (h : isNumTok t = true) : 1 ≤ t.length := by
  cases t with
  | nil => simp [isNumTok, validNumTok] at h
  | cons c r => simp

mutual
theorem need_le : ∀ (v : Json), Valid v → need v ≤ 2 * (render v).length
  | .null, _ => by simp [need, render]
  | .bool true, _ => by simp [need, render]
  | .bool false, _ => by simp [need, render]
  | .num t, h => by
    have := numTok_length t h
    simp only [need, render]; omega
  | .str s, _ => by simp [need, render, quote]; omega
  | .arr .nil, _ => by simp [need, needL, render]
  | .arr (.cons x xs), h => by
    have h1 := need_le x h.1
    have h2 := needL_le xs h.2
    simp only [need, needL, render, List.length_cons, List.length_append, List.length_nil]
    omega
  | .obj .nil, _ => by simp [need, needM, render]
  | .obj (.cons k v ms), h => by
    have h1 := need_le v h.1
    have h2 := needM_le ms h.2
    simp only [need, needM, render, quote, List.length_cons, List.length_append, List.length_nil]
    omega
theorem needL_le : ∀ (xs : JList), ValidL xs → needL xs ≤ 2 * (renderTail xs).length
  | .nil, _ => by simp [needL]
  | .cons x xs, h => by
    have h1 := need_le x h.1
    have h2 := needL_le xs h.2
    simp only [needL, renderTail, List.length_cons, List.length_append]
    omega
theorem needM_le : ∀ (ms : JMems), ValidM ms → needM ms ≤ 2 * (renderMTail ms).length
  | .nil, _ => by simp [needM]
  | .cons k v ms, h => by
    have h1 := need_le v h.1
    have h2 := needM_le ms h.2
    simp only [needM, renderMTail, quote, List.length_cons, List.length_append, List.length_nil]
    omega
end

end MpVerif.C20
