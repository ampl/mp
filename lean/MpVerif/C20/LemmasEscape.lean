import MpVerif.C20.ModelEscape
/-! # C20: `escapeB` always yields well-formed UTF-8 that is a valid JSON string body -/
namespace MpVerif.C20
open GenBase

/-- RFC 3629 §4 (`UTF8-octets = *( UTF8-char )`), one constructor per production -/
inductive WfUtf8 : List Nat → Prop
  | nil : WfUtf8 []
  | one {b : Nat} {s : List Nat} : b < 128 → WfUtf8 s → WfUtf8 (b :: s)
  | two {b b1 : Nat} {s : List Nat} : inR 194 223 b = true → inR 128 191 b1 = true → WfUtf8 s → WfUtf8 (b :: b1 :: s)
  | three {b b1 b2 : Nat} {s : List Nat} :
      ((b == 224 && inR 160 191 b1) || (inR 225 236 b && inR 128 191 b1) ||
       (b == 237 && inR 128 159 b1) || (inR 238 239 b && inR 128 191 b1)) = true →
      inR 128 191 b2 = true → WfUtf8 s → WfUtf8 (b :: b1 :: b2 :: s)
  | four {b b1 b2 b3 : Nat} {s : List Nat} :
      ((b == 240 && inR 144 191 b1) || (inR 241 243 b && inR 128 191 b1) || (b == 244 && inR 128 143 b1)) = true →
      inR 128 191 b2 = true → inR 128 191 b3 = true → WfUtf8 s → WfUtf8 (b :: b1 :: b2 :: b3 :: s)

/-- RFC 8259 §7 (`*char` between the quotation marks), on the UTF-8 bytes: `unescaped` bytes (everything except
    `"`, `\` and controls; bytes ≥ 0x80 belong to multi-byte characters), two-character escapes, `\uXXXX` -/
inductive BodyOk : List Nat → Prop
  | nil : BodyOk []
  | plain {b : Nat} {s : List Nat} : b ≠ 34 → b ≠ 92 → 32 ≤ b → BodyOk s → BodyOk (b :: s)
  | esc {e : Nat} {s : List Nat} : e ∈ [34, 92, 47, 98, 102, 110, 114, 116] → BodyOk s → BodyOk (92 :: e :: s)
  | uni {h1 h2 h3 h4 : Nat} {s : List Nat} : isHexB h1 = true → isHexB h2 = true → isHexB h3 = true → isHexB h4 = true →
      BodyOk s → BodyOk (92 :: 117 :: h1 :: h2 :: h3 :: h4 :: s)

def ValidBody (s : List Nat) : Prop := WfUtf8 s ∧ BodyOk s

theorem inR_iff {lo hi b : Nat} : inR lo hi b = true ↔ lo ≤ b ∧ b ≤ hi := by simp [inR]

theorem badSecond_iff {l b : Nat} : badSecond l b = false ↔
    (l = 224 → 160 ≤ b) ∧ (l = 237 → b ≤ 159) ∧ (l = 240 → 144 ≤ b) ∧ (l = 244 → b ≤ 143) := by
  simp only [badSecond, Bool.or_eq_false_iff, Bool.and_eq_false_iff, decide_eq_false_iff_not]
  omega

theorem hexLo_ok : ∀ x, x < 16 → isHexB (hexLo x) = true ∧ hexLo x < 128 := by decide

/-- `isCont` reads the two top bits only -/
theorem isCont_split : ∀ q, q < 4 → ∀ r, r < 64 → isCont (64 * q + r) = decide (q = 2) := by decide

theorem isCont_iff (b : Nat) (hb : b < 256) : isCont b = true ↔ 128 ≤ b ∧ b < 192 := by
  have := isCont_split (b / 64) (by omega) (b % 64) (Nat.mod_lt _ (by decide))
  rw [Nat.div_add_mod] at this
  rw [this, decide_eq_true_eq]; omega

theorem cont_range (b : Nat) (hb : b < 256) (h : isCont b = true) : inR 128 191 b = true :=
  inR_iff.mpr (by have := (isCont_iff b hb).mp h; omega)

theorem len2 (t : List Nat) (h : 2 ≤ t.length) : ∃ b1 b2 t', t = b1 :: b2 :: t' := by
  obtain ⟨a, t1, rfl⟩ := List.exists_cons_of_length_pos (l := t) (by omega)
  obtain ⟨b, t2, rfl⟩ := List.exists_cons_of_length_pos (l := t1) (by simp at h; omega)
  exact ⟨a, b, t2, rfl⟩

theorem len3 (t : List Nat) (h : 3 ≤ t.length) : ∃ b1 b2 b3 t', t = b1 :: b2 :: b3 :: t' := by
  obtain ⟨a, b, t2, rfl⟩ := len2 t (by omega)
  obtain ⟨c, t3, rfl⟩ := List.exists_cons_of_length_pos (l := t2) (by simp at h; omega)
  exact ⟨a, b, c, t3, rfl⟩

theorem valid_fmtU4 (c : Nat) (R : List Nat) (h : ValidBody R) : ValidBody (fmtU4 c ++ R) := by
  have a1 := hexLo_ok (c / 4096 % 16) (Nat.mod_lt _ (by decide))
  have a2 := hexLo_ok (c / 256 % 16) (Nat.mod_lt _ (by decide))
  have a3 := hexLo_ok (c / 16 % 16) (Nat.mod_lt _ (by decide))
  have a4 := hexLo_ok (c % 16) (Nat.mod_lt _ (by decide))
  simp only [fmtU4, List.cons_append, List.nil_append]
  exact ⟨.one (by decide) (.one (by decide) (.one a1.2 (.one a2.2 (.one a3.2 (.one a4.2 h.1))))),
         .uni a1.1 a2.1 a3.1 a4.1 h.2⟩

theorem valid_esc2 (e : Nat) (he : e ∈ [34, 92, 47, 98, 102, 110, 114, 116]) (R : List Nat) (h : ValidBody R) :
    ValidBody ([92, e] ++ R) := by
  have : e < 128 := by
    simp only [List.mem_cons, List.mem_nil_iff, or_false] at he
    omega
  exact ⟨.one (by decide) (.one this h.1), .esc he h.2⟩

/-- the lead-byte classes of RFC 3629 -/
theorem seqLen_cases (c : Nat) : (seqLen c = 0 ∧ (c < 194 ∨ 244 < c)) ∨ (seqLen c = 1 ∧ 194 ≤ c ∧ c ≤ 223) ∨ (seqLen c = 2 ∧ 224 ≤ c ∧ c ≤ 239) ∨
    (seqLen c = 3 ∧ 240 ≤ c ∧ c ≤ 244) := by
  unfold seqLen; repeat' split
  all_goals omega

/-- what one step writes for an ASCII byte (independent of the rest of the input) -/
def asciiOut (v : Nat) : List Nat :=
  if v = 34 then [92, 34] else if v = 92 then [92, 92] else if v = 10 then [92, 110] else if v = 13 then [92, 114]
  else if v = 9 then [92, 116] else if v < 32 then fmtU4 v else [v]

/-! `escStep` by byte class: ASCII bytes never look at the rest; the others copy a sequence or fall back to `\u00XY`. -/

theorem escStep_ascii (v : Nat) (t : List Nat) (h : v < 128) : escStep v t = (asciiOut v, 0) := by
  unfold escStep asciiOut
  repeat' split
  all_goals first | rfl | omega

theorem escStep_high (l : Nat) (t : List Nat) (h : 128 ≤ l) :
    escStep l t = if seqOk l t then (l :: t.take (seqLen l), seqLen l) else (fmtU4 l, 0) := by
  unfold escStep
  rw [if_neg (by omega), if_neg (by omega), if_neg (by omega), if_neg (by omega), if_neg (by omega), if_neg (by omega),
    if_neg (by omega)]

theorem seqOk_iff (c : Nat) (t : List Nat) : seqOk c t = true ↔
    0 < seqLen c ∧ seqLen c ≤ t.length ∧ (∀ b ∈ t.take (seqLen c), isCont b = true) ∧ badSecond c (t.headD 0) = false := by
  simp only [seqOk, Bool.and_eq_true, decide_eq_true_eq, Bool.not_eq_true', List.all_eq_true, and_assoc, gt_iff_lt]

theorem escStep_le (c : Nat) (t : List Nat) : (escStep c t).2 ≤ t.length := by
  by_cases h : c < 128
  · rw [escStep_ascii c t h]; exact Nat.zero_le _
  · rw [escStep_high c t (by omega)]
    split
    · next hok => exact ((seqOk_iff c t).mp hok).2.1
    · exact Nat.zero_le _

theorem escStep_copy (l b : Nat) (cs rest : List Nat) (hl : 128 ≤ l) (hn : seqLen l = cs.length + 1)
    (hc : ∀ x ∈ b :: cs, isCont x = true) (hb : badSecond l b = false) :
    escStep l (b :: cs ++ rest) = (l :: b :: cs, cs.length + 1) := by
  have ht : (b :: cs ++ rest).take (seqLen l) = b :: cs := by rw [hn]; exact List.take_left' rfl
  rw [escStep_high l _ hl, if_pos, ht, hn]
  exact (seqOk_iff l _).mpr ⟨by omega, by simp; omega, by rw [ht]; exact hc, hb⟩

theorem valid_copy (c : Nat) (t : List Nat) (hc : c < 256) (ht : Bytes t) (h128 : ¬ c < 128) (hok : seqOk c t = true)
    (R : List Nat) (h : ValidBody R) : ValidBody ((c :: t.take (seqLen c)) ++ R) := by
  obtain ⟨hpos, hlen, hall, hbad⟩ := (seqOk_iff c t).mp hok
  have hcont : ∀ b, b ∈ t.take (seqLen c) → inR 128 191 b = true :=
    fun b hb => cont_range b (ht b (List.mem_of_mem_take hb)) (hall b hb)
  have hpl : ∀ b s, 128 ≤ b → BodyOk s → BodyOk (b :: s) := fun b s hb hs => .plain (by omega) (by omega) (by omega) hs
  have hge : ∀ b, inR 128 191 b = true → 128 ≤ b := fun b hb => (inR_iff.mp hb).1
  -- the second-byte restrictions are what `badSecond` excludes
  have hsec : ∀ b1, inR 128 191 b1 = true → badSecond c b1 = false →
      (224 ≤ c → c ≤ 239 → ((c == 224 && inR 160 191 b1) || (inR 225 236 c && inR 128 191 b1) ||
        (c == 237 && inR 128 159 b1) || (inR 238 239 c && inR 128 191 b1)) = true) ∧
      (240 ≤ c → c ≤ 244 → ((c == 240 && inR 144 191 b1) || (inR 241 243 c && inR 128 191 b1) ||
        (c == 244 && inR 128 143 b1)) = true) := by
    intro b1 h1 hb
    rw [badSecond_iff] at hb
    rw [inR_iff] at h1
    simp only [inR_iff, Bool.or_eq_true, Bool.and_eq_true, beq_iff_eq]
    omega
  rcases seqLen_cases c with ⟨hn, _⟩ | ⟨hn, hr⟩ | ⟨hn, hr⟩ | ⟨hn, hr⟩ <;> rw [hn] at hlen hcont ⊢
  · omega
  · obtain ⟨b1, t', rfl⟩ := List.exists_cons_of_length_pos hlen
    have h1 := hcont b1 (by simp)
    exact ⟨.two (inR_iff.mpr hr) h1 h.1,
      hpl c _ (by omega) (hpl b1 _ (hge b1 h1) h.2)⟩
  · obtain ⟨b1, b2, t', rfl⟩ := len2 t hlen
    have h1 := hcont b1 (by simp)
    have h2 := hcont b2 (by simp)
    exact ⟨.three ((hsec b1 h1 hbad).1 hr.1 hr.2) h2 h.1,
      hpl c _ (by omega) (hpl b1 _ (hge b1 h1) (hpl b2 _ (hge b2 h2) h.2))⟩
  · obtain ⟨b1, b2, b3, t', rfl⟩ := len3 t hlen
    have h1 := hcont b1 (by simp)
    have h2 := hcont b2 (by simp)
    have h3 := hcont b3 (by simp)
    exact ⟨.four ((hsec b1 h1 hbad).2 hr.1 hr.2) h2 h3 h.1,
      hpl c _ (by omega) (hpl b1 _ (hge b1 h1) (hpl b2 _ (hge b2 h2) (hpl b3 _ (hge b3 h3) h.2)))⟩

theorem valid_step (c : Nat) (t : List Nat) (hc : c < 256) (ht : Bytes t) (R : List Nat) (h : ValidBody R) :
    ValidBody ((escStep c t).1 ++ R) := by
  by_cases h7 : c < 128
  · rw [escStep_ascii c t h7]
    show ValidBody (asciiOut c ++ R)
    unfold asciiOut
    repeat' split
    · exact valid_esc2 34 (by simp) R h
    · exact valid_esc2 92 (by simp) R h
    · exact valid_esc2 110 (by simp) R h
    · exact valid_esc2 114 (by simp) R h
    · exact valid_esc2 116 (by simp) R h
    · exact valid_fmtU4 c R h
    · next h1 h2 _ _ _ h6 => exact ⟨.one h7 h.1, .plain h1 h2 (by omega) h.2⟩
  · rw [escStep_high c t (by omega)]
    split
    · next hok => exact valid_copy c t hc ht h7 hok R h
    · exact valid_fmtU4 c R h

theorem valid_escapeBF : ∀ (f : Nat) (s : List Nat), Bytes s → ValidBody (escapeBF f s)
  | 0, _, _ => by simp [escapeBF]; exact ⟨.nil, .nil⟩
  | _ + 1, [], _ => by simp [escapeBF]; exact ⟨.nil, .nil⟩
  | f + 1, c :: t, hs => by
    have hc : c < 256 := hs c (by simp)
    have ht : Bytes t := fun b hb => hs b (by simp [hb])
    have hd : Bytes (t.drop (escStep c t).2) := fun b hb => ht b (List.mem_of_mem_drop hb)
    simp only [escapeBF]
    exact valid_step c t hc ht _ (valid_escapeBF f _ hd)

end MpVerif.C20
