import MpVerif.C20.Lemmas
import MpVerif.C20.LemmasExport
import MpVerif.C20.LemmasGen
import MpVerif.C20.LemmasUtf8
import MpVerif.C20.LemmasExporterNL
/-!
# C20 — The exported reformulation graph is well-formed and complete

The property theorems, with the predicates their statements need and the concrete exports and event sequences of the
examples.  The writer of (a) is `MiniJSONWriter` as the production build has it: asserts off, `EscapeJSON`, non-finite
scalars as strings.
-/
namespace MpVerif.C20

/-! ## (a) the JSON writer -/

/-- Well-nested writes produce exactly the intended text (`", "`/`": "` separators, `[]` for an empty
    sequence, strings and keys escaped) — for every value whose scalars are JSON numbers and that has no
    empty dictionary (which the writer cannot express: an untouched node closes as `[]`, see
    `C20_counterexample_empty_dict`). -/
theorem C20_writer_text (v : Json) (hw : NoEmptyObj v) (hv : Valid v) : writeText v = render v := by
  simp [writeText, WState.init, run_value v hw hv]

/-- The intended text parses back to the value: **all** strings and keys (any characters), scalars that are
    JSON number tokens. -/
theorem C20_render_parses (v : Json) (hv : Valid v) : parse (render v) = some v := by
  have hn := need_le v hv
  have h := rt_value v (2 * (render v).length + 2) [] hv (by omega) (Or.inl rfl)
  rw [List.append_nil] at h
  simp [parse, h, skipWs]

/-- **The writer emits valid JSON that denotes the intended value**:
    no hypothesis on strings or keys (`Valid` only asks that scalar tokens are JSON numbers, i.e. the
    finite numbers `fmt` prints). -/
theorem C20_json_roundtrip (v : Json) (hv : Valid v) (hw : NoEmptyObj v) : parse (writeText v) = some v := by
  rw [C20_writer_text v hw hv]; exact C20_render_parses v hv

/-- in particular every name, however hostile, survives -/
theorem C20_any_name_roundtrip (key name : Str) :
    parse (writeText (.obj (.cons key (.str name) .nil))) = some (.obj (.cons key (.str name) .nil)) :=
  C20_json_roundtrip _ (by simp [Valid, ValidM]) (by simp [NoEmptyObj, NoEmptyObjM])

/-- the string lexer inverts `EscapeJSON` on every string -/
theorem C20_escape_inverted (s rest : Str) : lexString (escape s ++ '"' :: rest) = some (s, rest) :=
  lexString_append s rest

/- hostile strings: quotes, a trailing backslash, a TAB, a control character -/
example : (parse (writeText (.obj (.cons cl!"name" (.str cl!"c\"lin") .nil)))).map canon
    = some (canon (.obj (.cons cl!"name" (.str cl!"c\"lin") .nil))) := by decide
example : writeText (.obj (.cons cl!"a\"b" (.str cl!"end\\") .nil)) = cl!"{\"a\\\"b\": \"end\\\\\"}" := by decide
example : writeText (.str ['t', '\t', Char.ofNat 1]) = cl!"\"t\\t\\u0001\"" := by decide

/-- non-finite scalars (`fmt` prints `inf`, `-inf`, `nan`) are written as strings: the line stays valid JSON -/
theorem C20_nonfinite_scalar_is_string :
    (parse (writeText (.obj (.cons cl!"coefs" (.arr (.cons (.num cl!"inf") (.cons (.num cl!"-inf")
        (.cons (.num cl!"nan") .nil)))) .nil)))).map canon
      = some (canon (.obj (.cons cl!"coefs" (.arr (.cons (.str cl!"inf") (.cons (.str cl!"-inf")
        (.cons (.str cl!"nan") .nil)))) .nil))) := by decide

/-- an empty dictionary cannot be written: the node closes as `[]` -/
theorem C20_counterexample_empty_dict : writeText (.obj .nil) = cl!"[]" := by decide

/-- non-vacuity: a record of the shape the exporter writes -/
example : parse (writeText (.obj (.cons cl!"VAR_index" (.num cl!"3")
      (.cons cl!"bounds" (.arr (.cons (.num cl!"-1.79769e+308") (.cons (.num cl!"1e+30") .nil))) .nil))))
    = some (.obj (.cons cl!"VAR_index" (.num cl!"3")
      (.cons cl!"bounds" (.arr (.cons (.num cl!"-1.79769e+308") (.cons (.num cl!"1e+30") .nil))) .nil))) :=
  C20_json_roundtrip _ (by simp [Valid, ValidM, ValidL]; decide) (by simp [NoEmptyObj, NoEmptyObjM, NoEmptyObjL])

/-! ## (c) the graph validator -/

/-- What the property statement says about a decoded export `g` (one record per line) and the independent
    record `d` (NL model sizes; what the ModelAPI received). -/
structure WellFormed (g : List Rec) (d : Delivered) : Prop where
  /-- every variable of the NL model appears (flagged as coming from NL) -/
  nl_vars : ∀ i, i < d.nlVars → ∃ info, Rec.var i true info ∈ g
  /-- every (selected) objective of the NL model appears -/
  nl_objs : ∀ i, i < d.nlObjs → Rec.nlObj i ∈ g
  /-- every common expression (defined variable) of the NL model appears, and no other -/
  nl_defvars : ∀ i, i < d.nlDefVars → Rec.nlDefVar i ∈ g
  nldefvars_exist : ∀ i, Rec.nlDefVar i ∈ g → i < d.nlDefVars
  /-- every algebraic constraint of the NL model appears -/
  nl_alg : ∀ i, i < d.nlAlgCons → Rec.nlCon i false ∈ g
  /-- every logical constraint of the NL model appears (indexed after the algebraic ones) -/
  nl_log : ∀ i, d.nlAlgCons ≤ i → i < d.nlAlgCons + d.nlLogCons → Rec.nlCon i true ∈ g
  /-- every delivered variable appears -/
  dl_vars : ∀ i, i < d.nVars → ∃ b info, Rec.var i b info ∈ g
  /-- every delivered objective appears -/
  dl_objs : ∀ i, i < d.nObjs → ∃ info, Rec.obj i info ∈ g
  /-- the **last** record of each delivered variable describes the variable the ModelAPI received
      (type; which bounds are infinite) -/
  dl_var_last : ∀ i v, d.vars[i]? = some v →
      ∃ pre post b, g = pre ++ Rec.var i b v :: post ∧ ∀ b' v', Rec.var i b' v' ∉ post
  /-- the **last** record of each delivered objective describes the objective the ModelAPI received
      (sense, variables of the linear terms, variable pairs of the quadratic terms, numbers of terms) -/
  dl_obj_last : ∀ i o, d.objs[i]? = some o →
      ∃ pre post, g = pre ++ Rec.obj i o :: post ∧ ∀ o', Rec.obj i o' ∉ post
  /-- variable/objective/NL records mention only items that exist -/
  vars_exist : ∀ i b info, Rec.var i b info ∈ g → i < d.nVars ∧ (b = true ↔ i < d.nlVars)
  objs_exist : ∀ i info, Rec.obj i info ∈ g → i < d.nObjs
  nlobjs_exist : ∀ i, Rec.nlObj i ∈ g → i < d.nlObjs
  nlcons_exist : ∀ i l, Rec.nlCon i l ∈ g → i < d.nlAlgCons + d.nlLogCons ∧ (l = true ↔ d.nlAlgCons ≤ i)
  /-- stored constraints of a type are numbered 0..n-1 without repetition -/
  con_index : ∀ ty i, Rec.conNew ty i ∈ g → i < classSize g ty ∧ countNew g ty i = 1
  /-- each stored constraint has exactly one final status record -/
  one_status : ∀ ty i, Rec.conNew ty i ∈ g → countStatus g ty i = 1
  /-- a status record belongs to a stored constraint and is exactly one of
      delivered (`final`), or not delivered: reformulated / unused (`bridged`) -/
  status_kind : ∀ ty i nm u b f, Rec.conStatus ty i nm u b f ∈ g →
      Rec.conNew ty i ∈ g ∧ ((f = true ∧ b = false ∧ u = false) ∨ (f = false ∧ b = true))
  /-- every link endpoint names an existing item class and its index range lies inside the class size -/
  links : ∀ ty e src dst, Rec.link ty e src dst ∈ g → ∀ r, r ∈ src ∨ r ∈ dst →
      ∃ sz, nodeSize g d r.node = some sz ∧ r.beg ≤ r.last ∧ r.last < sz
  /-- every link record has the shape of its link type (one-to-one ranges of equal length, one item to one range, …) -/
  link_shape : ∀ ty e src dst, Rec.link ty e src dst ∈ g → linkShapeOk ty src dst = true
  /-- the constraints marked delivered are exactly those handed to the ModelAPI (type and name, in order) -/
  delivered : markedDelivered g = d.cons.map (fun c => (c.ty, c.name))
  /-- and the export states the constraint group the ModelAPI uses for each delivered type -/
  groups : ∀ c, c ∈ d.cons → Rec.conGroup c.ty c.grp ∈ g

theorem C20_validator_sound (g : List Rec) (d : Delivered) (h : checkGraph g d = true) : WellFormed g d := by
  unfold checkGraph at h
  simp only [Bool.and_eq_true, List.all_eq_true, List.mem_range, List.contains_iff_mem, beq_iff_eq] at h
  obtain ⟨⟨⟨⟨⟨⟨⟨⟨⟨⟨h1, h2⟩, hdv⟩, h3⟩, h4⟩, h5⟩, h6⟩, hv⟩, ho⟩, h7⟩, h8⟩ := h
  have hvar := fun i b info (hm : Rec.var i b info ∈ g) => h6 _ hm
  have hcon := fun i l (hm : Rec.nlCon i l ∈ g) => h6 _ hm
  have hnew := fun ty i (hm : Rec.conNew ty i ∈ g) => h6 _ hm
  have hstat := fun ty i nm u b f (hm : Rec.conStatus ty i nm u b f ∈ g) => h6 _ hm
  have hlink := fun ty e src dst (hm : Rec.link ty e src dst ∈ g) => h6 _ hm
  simp only [recOk, statusOk, Bool.and_eq_true, Bool.or_eq_true, Bool.not_eq_true', decide_eq_true_eq, beq_iff_eq,
    List.contains_iff_mem, List.all_eq_true] at hvar hcon hnew hstat hlink
  exact {
    nl_vars := fun i hi => hasVar_spec g i true (h1 i hi)
    nl_objs := h2
    nl_defvars := hdv
    nldefvars_exist := fun i hm => by simpa [recOk] using h6 _ hm
    nl_alg := fun i hi => by simpa [show ¬ d.nlAlgCons ≤ i by omega] using h3 i (by omega)
    nl_log := fun i hi1 hi2 => by simpa [hi1] using h3 i hi2
    dl_vars := fun i hi => ⟨_, hasVar_spec g i _ (h4 i hi)⟩
    dl_objs := fun i hi => hasObj_spec g i (h5 i hi)
    dl_var_last := fun i v hi => lastVar_spec g i v (by simpa using allIdx_spec _ d.vars 0 hv i v hi)
    dl_obj_last := fun i o hi => lastObj_spec g i o (by simpa using allIdx_spec _ d.objs 0 ho i o hi)
    vars_exist := fun i b info hm => ⟨(hvar i b info hm).1, by rw [(hvar i b info hm).2]; simp⟩
    objs_exist := fun i info hm => by simpa [recOk] using h6 _ hm
    nlobjs_exist := fun i hm => by simpa [recOk] using h6 _ hm
    nlcons_exist := fun i l hm => ⟨(hcon i l hm).1, by rw [(hcon i l hm).2]; simp⟩
    con_index := fun ty i hm => (hnew ty i hm).1
    one_status := fun ty i hm => (hnew ty i hm).2
    status_kind := fun ty i nm u b f hm => ⟨(hstat ty i nm u b f hm).2, (hstat ty i nm u b f hm).1.imp (fun h => ⟨h.1.1, h.1.2, h.2⟩) id⟩
    links := fun ty e src dst hm r hr =>
      refOk_iff.mp (hr.elim ((hlink ty e src dst hm).1.1 r) ((hlink ty e src dst hm).1.2 r))
    link_shape := fun ty e src dst hm => (hlink ty e src dst hm).2
    delivered := h7
    groups := h8 }

/-- Decoding a file: every line is a JSON object of a known record shape. -/
def Decodes : List Str → List Rec → Prop
  | [], [] => True
  | l :: ls, r :: rs => (∃ ms, parseLine l = some ms ∧ classify ms = some r) ∧ Decodes ls rs
  | _, _ => False

theorem decodeLines_spec : ∀ (lines : List Str) (g : List Rec), decodeLines lines = some g → Decodes lines g
  | [], g, h => by
    simp [decodeLines] at h; subst h; exact True.intro
  | l :: ls, g, h => by
    unfold decodeLines at h
    split at h
    · cases h
    · rename_i ms hp
      split at h
      · rename_i r rs hc hd
        cases h
        exact ⟨⟨ms, hp, hc⟩, decodeLines_spec ls rs hd⟩
      · cases h

/-- The property for a file: each line is a valid JSON object (decoding to a record), and the
    records are well-formed and complete w.r.t. the independent record `d`. -/
def WellFormedFile (lines : List Str) (d : Delivered) : Prop :=
  ∃ g, Decodes lines g ∧ WellFormed g d

/-- **Validator soundness on files**: `checkFile` decodes the lines and runs `checkGraph` on the records.  (The compiled
    driver decodes real exports itself and calls `checkGraph`, so for those the theorem that applies is
    `C20_validator_sound`.) -/
theorem C20_file_sound (lines : List Str) (d : Delivered) (h : checkFile lines d = true) :
    WellFormedFile lines d := by
  unfold checkFile at h
  split at h
  · rename_i g hd
    exact ⟨g, decodeLines_spec lines g hd, C20_validator_sound g d h⟩
  · cases h

/-- a line that decodes is in particular valid JSON (`parse` succeeds with an object) -/
theorem C20_decoded_line_is_json_object (l : Str) (ms : JMems) (h : parseLine l = some ms) :
    parse l = some (.obj ms) := by
  unfold parseLine at h
  split at h
  · rename_i ms' hp
    cases h; exact hp
  · cases h

/-- consequence spelled out: the stored constraints split into exactly three final classes -/
theorem C20_status_trichotomy (g : List Rec) (d : Delivered) (h : WellFormed g d)
    (ty : Str) (i : Nat) (nm : Str) (u b f : Bool) (hm : Rec.conStatus ty i nm u b f ∈ g) :
    (f = true ∧ b = false ∧ u = false) ∨ (f = false ∧ b = true ∧ u = true) ∨ (f = false ∧ b = true ∧ u = false) := by
  rcases (h.status_kind ty i nm u b f hm).2 with ⟨hf, hb, hu⟩ | ⟨hf, hb⟩
  · exact Or.inl ⟨hf, hb, hu⟩
  · cases u
    · exact Or.inr (Or.inr ⟨hf, hb, rfl⟩)
    · exact Or.inr (Or.inl ⟨hf, hb, rfl⟩)

/-- non-vacuity: a tiny export that passes, and the same export with a dangling link index that fails -/
def exG (last : Nat) : List Rec :=
  [.comment, .var 0 true ⟨0, true, true⟩, .nlObj 0, .obj 0 ⟨0, [], [0], [0]⟩, .nlCon 0 false, .conNew cl!"_linrange" 0,
   .link cl!"CopyLink" 0 [⟨cl!"src_vars()", 0, 0⟩] [⟨cl!"dest_vars()", 0, 0⟩],
   .link cl!"CopyLink" 1 [⟨cl!"src_cons()", 0, 0⟩] [⟨cl!"_linrange", 0, last⟩],
   .var 0 true ⟨0, false, true⟩, .obj 0 ⟨0, [0], [], []⟩, .conStatus cl!"_linrange" 0 cl!"c" false false true,
   .conGroup cl!"_linrange" 3,
   .link cl!"CopyLink" 2 [⟨cl!"_linrange", 0, 0⟩] [⟨cl!"dest_cons(3)", 0, 0⟩]]
def exD : Delivered := ⟨1, 1, 1, 0, 0, [⟨0, false, true⟩], [⟨0, [0], [], []⟩], [⟨cl!"_linrange", 3, cl!"c"⟩]⟩
/-- the delivered objective is linear in variable 0, but the *last* objective record still shows the quadratic one -/
def exGstaleObj : List Rec := (exG 0).erase (.obj 0 ⟨0, [0], [], []⟩)
example : checkGraph (exG 0) exD = true := by decide
example : checkGraph (exG 1) exD = false := by decide
example : checkGraph exGstaleObj exD = false := by decide
example : checkGraph ((exG 0).erase (.conStatus cl!"_linrange" 0 cl!"c" false false true)) exD = false := by decide

/-! ## (b) the lazy link-export protocol -/

/-- **The completeness assertion in `FinishModelInput` cannot fail**: after `FinishExportingLinkEntries`,
    whatever `AddEntry` calls on the three link kinds and earlier `FinishExportingLinkEntries` calls came before it,
    `AllEntriesExported()` holds: the export counter `iExp` has reached the number of registered ranges `brl.length`. -/
theorem C20_export_all_ranges_exported (ops : List XOp) :
    allEntriesExported (xrun {} (ops ++ [.finish])) = true := by
  rw [xrun_snoc_finish]; exact allEntriesExported_exportRemaining _ (xrun_xinv ops {} xinv_init).exp

/-- **Export completeness**: for every sequence
    of `AddEntry` calls on the three link kinds followed by `FinishExportingLinkEntries`, every exported link
    record shows the extent its entry has at the end, refers to an existing entry, and no entry was ever
    extended after its export. -/
theorem C20_export_complete (l : List (LKind × Entry)) :
    let s := xrun {} (addsOf l ++ [.finish])
    (∀ x, x ∈ s.out → (x.src, x.dst) = extentOf s x.link x.entry ∧ x.entry < (s.ents x.link).length)
      ∧ s.late = false ∧ allEntriesExported s = true := by
  intro s
  have h := xrun_adds_finish l
  refine ⟨fun x hx => ⟨h.1.cons h.2 x hx, h.1.ent x hx⟩, h.2, ?_⟩
  have := C20_export_all_ranges_exported (addsOf l)
  exact this

/-- The same for arbitrary op sequences (including a `Finish` in the middle), under the decidable side
    condition that no entry was extended in place after its export. -/
theorem C20_export_complete_partial (ops : List XOp) (h : (xrun {} ops).late = false) :
    ∀ x, x ∈ (xrun {} ops).out →
      (x.src, x.dst) = extentOf (xrun {} ops) x.link x.entry ∧ x.entry < ((xrun {} ops).ents x.link).length :=
  fun x hx => ⟨(xrun_xinv ops {} xinv_init).cons h x hx, (xrun_xinv ops {} xinv_init).ent x hx⟩

/-- every registered range refers to existing entries of its link (so no export record is made up) -/
theorem C20_export_ranges_exist (ops : List XOp) :
    ∀ r, r ∈ (xrun {} ops).brl → r.end_ ≤ ((xrun {} ops).ents r.link).length :=
  (xrun_xinv ops {} xinv_init).rng

/-- two objectives, the first one non-linear (the shape of finding `C20-stale-link-entry` in `known_findings.json`): the second objective's
    CopyLink entry is a new entry (#2), not an in-place extension of the exported entry #1. -/
def staleOps : List XOp :=
  [.add .copy (⟨cl!"src_vars()", 0, 3⟩, ⟨cl!"dest_vars()", 0, 3⟩),
   .add .copy (⟨cl!"src_objs()", 0, 1⟩, ⟨cl!"dest_objs()", 0, 1⟩),
   .add .one2many (⟨cl!"src_objs()", 0, 1⟩, ⟨cl!"dest_vars()", 3, 4⟩),
   .add .copy (⟨cl!"src_objs()", 1, 2⟩, ⟨cl!"dest_objs()", 1, 2⟩),
   .finish]

theorem C20_regression_multiobj_links :
    let s := xrun {} staleOps
    s.out.map (fun x => (x.link, x.entry, x.src.beg, x.src.end_)) =
      [(.copy, 0, 0, 3), (.copy, 1, 0, 1), (.one2many, 0, 0, 1), (.copy, 2, 1, 2)] ∧
    (extentOf s .copy 1).1.end_ = 1 ∧ s.late = false ∧ allEntriesExported s = true := by decide

/-- why `Finish` has to come last (it does: `CloseGraphExporter` is the last step of `FinishModelInput`):
    an `AddEntry` after `Finish` may still extend the – now exported – last entry. -/
theorem C20_counterexample_extend_after_finish :
    let s := xrun {} [.add .copy (⟨cl!"A", 0, 1⟩, ⟨cl!"B", 0, 1⟩), .finish,
                      .add .copy (⟨cl!"A", 1, 2⟩, ⟨cl!"B", 1, 2⟩)]
    s.late = true ∧ s.out.map (fun x => x.src.end_) = [1] ∧ (extentOf s .copy 0).1.end_ = 2 := by decide

/-! ## (d) `EscapeJSON` on byte strings, and the definitions generated from the source

`MpVerif/Gen/C20Json.lean` is regenerated on every run by `translators/gen_c20json.py` from clang's typed AST of
`MiniJSONWriter<fmt::MemoryWriter>`: the state/comma/nesting methods and one iteration of the `EscapeJSON` loop.
The `C20_gen_*` theorems state that the hand model equals the generated definitions, so the theorems of (a) and the
validity theorem below speak about the code of the checked tree; a change of the C++ breaks these proofs. -/

/-- **Validity**: for EVERY byte string `s` the escaped text is well-formed UTF-8 (RFC 3629,
    `WfUtf8`) and a valid JSON string body (RFC 8259 §7 on the UTF-8 bytes, `BodyOk`): no unescaped quote,
    backslash or control character, only legal escapes. -/
theorem C20_escape_valid (s : List Nat) (h : Bytes s) : WfUtf8 (escapeB s) ∧ BodyOk (escapeB s) :=
  valid_escapeBF s.length s h

theorem C20_gen_escape (s : List Nat) : genEscape s = escapeB s := by
  have := genLoop_eq s.length [] s
  simpa [genEscape, escapeB] using this

/-- the same for `EscapeJSON` as assembled from the generated loop body -/
theorem C20_gen_escape_valid (s : List Nat) (h : Bytes s) : WfUtf8 (genEscape s) ∧ BodyOk (genEscape s) := by
  rw [C20_gen_escape]; exact C20_escape_valid s h

theorem C20_gen_escBody (pre : List Nat) (c : Nat) (t : List Nat) :
    (MpVerif.Gen.C20Json.escBody (pre ++ c :: t) pre.length).1 = (escStep c t).1 ∧
    (MpVerif.Gen.C20Json.escBody (pre ++ c :: t) pre.length).2.1 = pre.length + (escStep c t).2 :=
  gen_escBody pre c t

theorem C20_gen_EnsureArray (nd : Node) : MpVerif.Gen.C20Json.EnsureArray nd = ensureArr nd := by
  cases nd with | mk kind n => cases kind <;> rfl
theorem C20_gen_EnsureDictionary (nd : Node) : MpVerif.Gen.C20Json.EnsureDictionary nd = ensureDict nd := by
  cases nd with | mk kind n => cases kind <;> rfl
theorem C20_gen_MakeScalarIfUnset (nd : Node) : MpVerif.Gen.C20Json.MakeScalarIfUnset nd = ([], makeScalar nd) := by
  cases nd with | mk kind n => cases kind <;> rfl
theorem C20_gen_InsertElementSeparator (nd : Node) : MpVerif.Gen.C20Json.InsertElementSeparator nd = (sep nd.n, nd) := by
  cases nd with | mk kind n =>
    cases n with
    | zero => rfl
    | succ m => simp [MpVerif.Gen.C20Json.InsertElementSeparator, GenBase.ifNNonzero, GenBase.emit, sep]
theorem C20_gen_Close (nd : Node) : MpVerif.Gen.C20Json.Close nd = (closeText nd.kind, { nd with kind := .closed }) := by
  cases nd with | mk kind n => cases kind <;> rfl
/-- under NDEBUG the two assertion-only methods do nothing -/
theorem C20_gen_EnsureUnset_EnsureCanWrite (nd : Node) :
    MpVerif.Gen.C20Json.EnsureUnset nd = ([], nd) ∧ MpVerif.Gen.C20Json.EnsureCanWrite nd = ([], nd) :=
  ⟨rfl, by cases nd with | mk kind n => cases kind <;> rfl⟩
/-- `operator[]`, `operator++` and `Close` as generated are exactly the `key`, `elem`, `close` arms of the op machine -/
theorem C20_gen_step_key (out : Str) (nd : Node) (rest : List Node) (k : Str) :
    step ⟨out, nd :: rest⟩ (.key k)
      = ⟨out ++ (MpVerif.Gen.C20Json.opIndex k nd).1, ⟨.unset, 0⟩ :: (MpVerif.Gen.C20Json.opIndex k nd).2 :: rest⟩ := by
  simp only [step, MpVerif.Gen.C20Json.opIndex, GenBase.seq, C20_gen_EnsureDictionary, C20_gen_InsertElementSeparator,
    GenBase.emit, GenBase.incN, quote]
  simp
theorem C20_gen_step_elem (out : Str) (nd : Node) (rest : List Node) :
    step ⟨out, nd :: rest⟩ .elem
      = ⟨out ++ (MpVerif.Gen.C20Json.opIncr nd).1, ⟨.unset, 0⟩ :: (MpVerif.Gen.C20Json.opIncr nd).2 :: rest⟩ := by
  simp only [step, MpVerif.Gen.C20Json.opIncr, GenBase.seq, C20_gen_EnsureArray, C20_gen_InsertElementSeparator, GenBase.incN]
  simp
theorem C20_gen_step_close (out : Str) (nd : Node) (rest : List Node) :
    step ⟨out, nd :: rest⟩ .close = ⟨out ++ (MpVerif.Gen.C20Json.Close nd).1, rest⟩ := by
  rw [C20_gen_Close]; rfl

/-! instances: a Latin-1 byte, a well-formed two-byte character, an overlong form, a surrogate, a truncated
    sequence at the end of the string, a value beyond U+10FFFF, a NUL byte and a quote -/
example : escapeB [99, 233] = [99, 92, 117, 48, 48, 101, 57] := by decide                 -- "c\u00e9"
example : escapeB [195, 169, 34] = [195, 169, 92, 34] := by decide                        -- é copied, quote escaped
example : escapeB [192, 128] = [92, 117, 48, 48, 99, 48, 92, 117, 48, 48, 56, 48] := by decide
example : escapeB [237, 160, 128] = [92, 117, 48, 48, 101, 100, 92, 117, 48, 48, 97, 48, 92, 117, 48, 48, 56, 48] := by decide
example : escapeB [226, 130] = [92, 117, 48, 48, 101, 50, 92, 117, 48, 48, 56, 50] := by decide
example : escapeB [244, 144, 128, 128] = [92, 117, 48, 48, 102, 52, 92, 117, 48, 48, 57, 48, 92, 117, 48, 48, 56, 48, 92, 117, 48, 48, 56, 48] := by decide
example : escapeB [240, 159, 152, 128, 0] = [240, 159, 152, 128, 92, 117, 48, 48, 48, 48] := by decide
/-- the two predicates are not vacuous: a lone Latin-1 byte is not UTF-8, a bare quote or control byte is not a string body -/
example : ¬ WfUtf8 [233] := by
  intro h; cases h with
  | one hb _ => exact absurd hb (by decide)
example : ¬ WfUtf8 [237, 160, 128] := by
  intro h; cases h with
  | one hb _ => exact absurd hb (by decide)
  | two h1 _ _ => exact absurd h1 (by decide)
  | three h1 _ _ => exact absurd h1 (by decide)
example : ¬ BodyOk [34] := by
  intro h; cases h with
  | plain h1 _ _ _ => exact h1 rfl
example : ¬ BodyOk [9] := by
  intro h; cases h with
  | plain _ _ h3 _ => exact absurd h3 (by decide)
example : Bytes [240, 159, 152, 128, 0] := by intro b hb; simp at hb; omega

/-! ## non-trivial instances of the hypotheses used above -/

/-- `Valid` and `NoEmptyObj` hold for a nested value with hostile strings, an empty array and extreme numbers -/
example : Valid (.obj (.cons cl!"a\"b" (.arr (.cons (.num cl!"-1.79769e+308") (.cons (.str cl!"x\\y\n") (.cons (.arr .nil) .nil))))
            (.cons cl!"k" (.obj (.cons cl!"z" (.num cl!"0") .nil)) .nil)))
        ∧ NoEmptyObj (.obj (.cons cl!"a\"b" (.arr (.cons (.num cl!"-1.79769e+308") (.cons (.str cl!"x\\y\n") (.cons (.arr .nil) .nil))))
            (.cons cl!"k" (.obj (.cons cl!"z" (.num cl!"0") .nil)) .nil))) := by
  simp [Valid, ValidM, ValidL, NoEmptyObj, NoEmptyObjM, NoEmptyObjL]; decide

/-- `checkFile` accepts a real (tiny) export text, so `C20_file_sound` is not vacuous at the level of lines -/
example : checkFile
    [cl!"{\"COMMENT\": \"Initial model information.\"}",
     cl!"{\"VAR_index\": 0, \"bounds\": [-1.79769e+308, 5], \"type\": 0, \"is_from_nl\": 1}",
     cl!"{\"VAR_index\": 0, \"name\": \"x\\\"q\", \"bounds\": [0, 5], \"type\": 1, \"is_from_nl\": 1}"]
    ⟨1, 0, 0, 0, 0, [⟨1, false, false⟩], [], []⟩ = true := by decide
/-- … and rejects it when the last record of the variable does not describe what the API received -/
example : checkFile
    [cl!"{\"VAR_index\": 0, \"bounds\": [0, 5], \"type\": 1, \"is_from_nl\": 1}",
     cl!"{\"VAR_index\": 0, \"bounds\": [-1.79769e+308, 5], \"type\": 0, \"is_from_nl\": 1}"]
    ⟨1, 0, 0, 0, 0, [⟨1, false, false⟩], [], []⟩ = false := by decide

/-! ## (f) the Char-level `escape` is the byte-level `escapeB` on valid Unicode strings -/

/-- `escape` (used by `C20_writer_text` / `C20_json_roundtrip`) is exactly the restriction of the byte-level model of
    `EscapeJSON` (tied to the source by `C20_gen_escape`) to UTF-8 encodings of Unicode strings -/
theorem C20_escape_is_restriction (s : Str) : escapeB (utf8 s) = utf8 (escape s) :=
  escapeBF_utf8 s _ (Nat.le_refl _)

/-- … hence also of `EscapeJSON` as generated from the source -/
theorem C20_gen_escape_on_unicode (s : Str) : genEscape (utf8 s) = utf8 (escape s) := by
  rw [C20_gen_escape]; exact C20_escape_is_restriction s

example : utf8 cl!"aé€😀" = [97, 195, 169, 226, 130, 172, 240, 159, 152, 128] := by decide
example : (String.utf8EncodeChar 'é').map (·.toNat) = utf8Char 'é' ∧ (String.utf8EncodeChar '😀').map (·.toNat) = utf8Char '😀'
    ∧ (String.utf8EncodeChar '\uFFFF').map (·.toNat) = utf8Char '\uFFFF' := by decide

/-! ## (e) the EXPORTER as a transition system

`ModelExporter.lean`: events = variable added / updated, NL objective / NL constraint / NL common expression exported, flat
objective added / rewritten in place, constraint stored in a keeper (`ExportConstraint`), constraint marked reformulated or
unused (guard `check_index`, an `assert` in the C++), items `Add()`ed to an append-only value node, link record exported, and
the push (`ExportVars` of all variables, `ExportObjective` of every flat objective, `AddAllUnbridged` + `ExportConStatus` per keeper,
group records).  The C++ `ExportLinkEntry` has NO range check and the model has none: a link event is accepted iff each endpoint is
non-empty and ends where a handed-out `NodeRange` ends (`covered`; on `dest_cons(g)`: below the number of delivered
constraints of the group); that these lie inside the item counts is the proved invariant
`EInv.createdIn` ("node size ≤ item count": ranges are handed out only for the item just created).  `CfgOk`: keeper types are
distinct and differ from the names of the other value nodes.  The clauses are proved of the records this system writes,
for EVERY event sequence. -/

theorem C20_exporter_invariant (cfg : Cfg) (hn : CfgOk cfg) (evs : List Ev) : EInv cfg (xevs cfg {} evs) :=
  (xevs_inv (P := fun s => EInv cfg s ∧ VTab s)
    (fun h st => ⟨einv_step hn h.1 h.2 st, vtab_step h.2 st⟩) evs {} ⟨einv_init cfg, Tab.init⟩).1

/-- **every stored constraint appears**, numbered 0..n-1 in order: the creation records of a type are exactly these -/
theorem C20_exporter_stored_appear (cfg : Cfg) (hn : CfgOk cfg) (evs : List Ev) (ty : Str) :
    (xevs cfg {} evs).out.filter (isNew ty)
      = (List.range ((xevs cfg {} evs).cons ty).length).map (Rec.conNew ty) :=
  (C20_exporter_invariant cfg hn evs).news ty

/-- **exactly one final status per stored constraint**: after the push the status records of a type are exactly one per
    stored constraint, in index order, saying delivered (`final`) iff it was neither reformulated nor unused -/
theorem C20_exporter_status_records (cfg : Cfg) (hn : CfgOk cfg) (evs : List Ev) (ty : Str)
    (hfin : (xevs cfg {} evs).finished = true) (hty : ty ∈ cfg.types) :
    (xevs cfg {} evs).out.filter (isStatusTy ty)
      = (List.range ((xevs cfg {} evs).cons ty).length).map (fun k =>
          Rec.conStatus ty k (cfg.name ty k) (((xevs cfg {} evs).cons ty).getD k .fresh == .unused)
            (((xevs cfg {} evs).cons ty).getD k .fresh != .fresh) (((xevs cfg {} evs).cons ty).getD k .fresh == .fresh)) := by
  rw [((C20_exporter_invariant cfg hn evs).fin hfin).1 ty hty, kf_records, mapIdx_eq_range_map _ .fresh]
  simp

/-- the same in the vocabulary of `WellFormed`: `countStatus = 1`, `countNew = 1`, index below `classSize` -/
theorem C20_exporter_exactly_one_status (cfg : Cfg) (hn : CfgOk cfg) (evs : List Ev) (ty : Str) (i : Nat)
    (hfin : (xevs cfg {} evs).finished = true) (hty : ty ∈ cfg.types) (hi : i < ((xevs cfg {} evs).cons ty).length) :
    countStatus (xevs cfg {} evs).out ty i = 1 ∧ countNew (xevs cfg {} evs).out ty i = 1
      ∧ i < classSize (xevs cfg {} evs).out ty := by
  have h1 := C20_exporter_status_records cfg hn evs ty hfin hty
  have h2 := C20_exporter_stored_appear cfg hn evs ty
  refine ⟨count_one h1 (fun r hr => ?_) (fun k => by simp [isStatusOf]) hi,
    count_one h2 (fun r hr => by rw [eq_of_beq hr]; simp [isNew]) (fun k => by
      show (Rec.conNew ty k == Rec.conNew ty i) = decide (k = i)
      by_cases e : k = i <;> simp [e]) hi, by unfold classSize; rw [h2]; simpa using hi⟩
  cases r with
  | conStatus t j nm u b f => simp only [isStatusOf, Bool.and_eq_true, decide_eq_true_eq] at hr; simp [isStatusTy, hr.1]
  | _ => simp [isStatusOf] at hr

/-- **the set marked delivered = the set handed to the ModelAPI**: the records marked `final` are, in order, exactly the
    constraints `AddAllUnbridged` passed on, and these are exactly the stored constraints that are neither reformulated
    nor unused -/
theorem C20_exporter_delivered (cfg : Cfg) (hn : CfgOk cfg) (evs : List Ev) (hfin : (xevs cfg {} evs).finished = true) :
    markedDelivered (xevs cfg {} evs).out = (xevs cfg {} evs).delivered.map (fun c => (c.ty, c.name)) ∧
    (xevs cfg {} evs).delivered = (allFinish cfg (xevs cfg {} evs).cons cfg.types).2 :=
  ((C20_exporter_invariant cfg hn evs).fin hfin).2

/-- **link ranges lie inside the sizes of the item classes**: not by a guard (the C++ has none) but because every endpoint
    is made of handed-out `NodeRange`s, each handed out for an item that exists (`EInv.createdIn`), and item counts only grow:
    every exported link endpoint lies inside the item count of its class at export time and at any later time -/
theorem C20_exporter_links_inside (cfg : Cfg) (hn : CfgOk cfg) (evs : List Ev) (lty : Str) (e : Nat) (src dst : List NodeRef)
    (hm : Rec.link lty e src dst ∈ (xevs cfg {} evs).out) (r : NodeRef) (hr : r ∈ src ∨ r ∈ dst) :
    ∃ sz, sizeNow cfg (xevs cfg {} evs) r.node = some sz ∧ r.beg ≤ r.last ∧ r.last < sz :=
  refIn_iff.mp ((C20_exporter_invariant cfg hn evs).links lty e src dst hm r hr)

/-- **every flat variable appears and no record names a non-existing one** -/
theorem C20_exporter_vars (cfg : Cfg) (hn : CfgOk cfg) (evs : List Ev) :
    (∀ i, i < (xevs cfg {} evs).vars.length → ∃ b info, Rec.var i b info ∈ (xevs cfg {} evs).out) ∧
    (∀ i b info, Rec.var i b info ∈ (xevs cfg {} evs).out → i < (xevs cfg {} evs).vars.length) :=
  ⟨(C20_exporter_invariant cfg hn evs).vars1, (C20_exporter_invariant cfg hn evs).vars2⟩

/-- every `NodeRange` ever handed out lies inside the item count of its class (node size ≤ item count) -/
theorem C20_exporter_node_size_le_item_count (cfg : Cfg) (hn : CfgOk cfg) (evs : List Ev) (a : NodeRef)
    (ha : a ∈ (xevs cfg {} evs).created) :
    ∃ sz, sizeNow cfg (xevs cfg {} evs) a.node = some sz ∧ a.beg ≤ a.last ∧ a.last < sz :=
  refIn_iff.mp ((C20_exporter_invariant cfg hn evs).createdIn a ha)

/-- **every NL objective, NL constraint and NL common expression appears**: the records `ExportObj` / `ExportAlgCon` /
    `ExportLogCon` / `ExportCommonExpr` write are exactly `0 .. n-1` of each kind, in order, for every event sequence
    (`n` = number of export calls of that kind, which the model counts, not the items flattened; algebraic/logical flag as
    exported) -/
theorem C20_exporter_nl_items (cfg : Cfg) (evs : List Ev) :
    let s := xevs cfg {} evs
    s.out.filter isNlObj = (List.range s.nlObjs).map Rec.nlObj ∧
    s.out.filter isNlCon = (List.range s.nlCons.length).map (fun k => Rec.nlCon k (s.nlCons.getD k false)) ∧
    s.out.filter isNlDef = (List.range s.nlDefs).map Rec.nlDefVar := by
  intro s
  have h := xevs_inv (cfg := cfg) ninv_step evs {} ninv_init
  exact ⟨h.nlobjs, h.nlcons.trans (mapIdx_eq_range_map _ false _), h.nldefs⟩

/-- **every flat objective appears and none beyond; after the push the LAST record of each objective shows the objective as
    it is at that time**, i.e. what `PushObjectivesTo` hands to the ModelAPI — also when it was rewritten in place after its
    creation (`Ev.setObj`, as the conic reformulation does) -/
theorem C20_exporter_objectives (cfg : Cfg) (evs : List Ev) :
    let s := xevs cfg {} evs
    (∀ i, i < s.objs.length → ∃ o, Rec.obj i o ∈ s.out) ∧ (∀ i o, Rec.obj i o ∈ s.out → i < s.objs.length) ∧
    (s.finished = true → ∀ i o, s.objs[i]? = some o → lastObj s.out i = some o) := by
  intro s
  have h : OTab s := xevs_inv (cfg := cfg) otab_step evs {} Tab.init
  exact ⟨fun i hi => h.has i _ (List.getElem?_eq_getElem hi), fun _ _ hm => h.lt_length (k := ()) hm,
    fun hf i o hi => (lastObj_eq _ i).trans (h.last hf i o hi)⟩

/-- in the vocabulary of `WellFormed.dl_obj_last`: the file splits as `pre ++ obj i o :: post` with no later record of `i` -/
theorem C20_exporter_objective_last_record (cfg : Cfg) (evs : List Ev) (i : Nat) (o : ObjInfo)
    (hfin : (xevs cfg {} evs).finished = true) (hio : (xevs cfg {} evs).objs[i]? = some o) :
    ∃ pre post, (xevs cfg {} evs).out = pre ++ Rec.obj i o :: post ∧ ∀ o', Rec.obj i o' ∉ post :=
  lastObj_spec _ i o ((C20_exporter_objectives cfg evs).2.2 hfin i o hio)

/-- a concrete history: two keepers, `_abs 0` reformulated into two `_linge`, one `_linrange` delivered; the event with a bad
    index and the link whose endpoint `_linge [0,1]` is not (yet) made of handed-out ranges are rejected -/
def exCfg : Cfg := ⟨[cl!"_linrange", cl!"_linge", cl!"_abs"], fun _ => 3, fun ty i => ty ++ (toString i).toList, [cl!"src_cons()"]⟩
def exEvs : List Ev :=
  [.addVar true ⟨0, false, false⟩, .addVar false ⟨0, false, true⟩, .addItems cl!"src_cons()" 1, .store cl!"_abs", .store cl!"_linrange",
   .link cl!"One2ManyLink" 0 [⟨cl!"src_cons()", 0, 0⟩] [⟨cl!"_abs", 0, 0⟩],
   .link cl!"One2ManyLink" 1 [⟨cl!"_abs", 0, 0⟩] [⟨cl!"_linge", 0, 1⟩],        -- rejected: `_linge` is still empty
   .store cl!"_linge", .store cl!"_linge", .bridge cl!"_abs" 0, .bridge cl!"_abs" 7,  -- the second one is rejected
   .link cl!"One2ManyLink" 1 [⟨cl!"_abs", 0, 0⟩] [⟨cl!"_linge", 0, 1⟩], .finish,
   .link cl!"CopyLink" 0 [⟨cl!"_linge", 0, 1⟩] [⟨cl!"dest_cons(3)", 1, 2⟩]]
example : (xevs exCfg {} exEvs).rejected = 2 ∧ (xevs exCfg {} exEvs).finished = true
    ∧ (xevs exCfg {} exEvs).delivered.map (·.name) = [cl!"_linrange0", cl!"_linge0", cl!"_linge1"]
    ∧ markedDelivered (xevs exCfg {} exEvs).out = [(cl!"_linrange", cl!"_linrange0"), (cl!"_linge", cl!"_linge0"), (cl!"_linge", cl!"_linge1")]
    ∧ countStatus (xevs exCfg {} exEvs).out cl!"_abs" 0 = 1 := by decide
example : CfgOk exCfg := by
  refine ⟨by decide, ?_, ?_⟩
  · intro ty h; simp [exCfg] at h; rcases h with h | h | h <;> subst h <;> decide
  · intro n h; simp [exCfg] at h; subst h; decide

/-- non-vacuity: a quadratic objective rewritten to a linear one before the push; NL items of all kinds -/
def exEvs2 : List Ev :=
  [.nlDefVar, .nlObj, .addObj ⟨0, [], [0, 1], [0, 1]⟩, .nlCon false, .nlCon true,
   .setObj 0 ⟨0, [3], [], []⟩, .setObj 5 ⟨0, [], [], []⟩, .finish]
example : (xevs exCfg {} exEvs2).rejected = 1 ∧ lastObj (xevs exCfg {} exEvs2).out 0 = some ⟨0, [3], [], []⟩
    ∧ (xevs exCfg {} exEvs2).out.filter isNlCon = [.nlCon 0 false, .nlCon 1 true]
    ∧ (xevs exCfg {} exEvs2).out.filter isObj = [.obj 0 ⟨0, [], [0, 1], [0, 1]⟩, .obj 0 ⟨0, [3], [], []⟩] := by decide

/-- **variable records of the exporter, for every event sequence**: every variable record names an existing flat variable and
    carries its from-NL flag; every flat variable has a record carrying its flag; after the push the LAST record of every flat
    variable shows its type / bounds class as they are then (what `PushVariablesTo` hands to the ModelAPI), also when bounds or
    type were updated after the variable was created (`Ev.setVar`) -/
theorem C20_exporter_var_records (cfg : Cfg) (evs : List Ev) :
    (∀ i b info, Rec.var i b info ∈ (xevs cfg {} evs).out → ∃ info', (xevs cfg {} evs).vars[i]? = some (b, info')) ∧
    (∀ i b info', (xevs cfg {} evs).vars[i]? = some (b, info') → ∃ info, Rec.var i b info ∈ (xevs cfg {} evs).out) ∧
    ((xevs cfg {} evs).finished = true → ∀ i b info, (xevs cfg {} evs).vars[i]? = some (b, info) →
      lastVar (xevs cfg {} evs).out i = some info) :=
  have h : VTab (xevs cfg {} evs) := xevs_inv vtab_step evs {} Tab.init
  ⟨fun i b info hm => by obtain ⟨⟨_, x⟩, ha, rfl⟩ := h.flag i b info hm; exact ⟨x, ha⟩,
   fun i b info' hi => h.has i _ hi, fun hf i b info hi => (lastVar_eq _ i).trans (h.last hf i _ hi)⟩

/-- **every NL variable appears, flagged as coming from NL** -/
theorem C20_exporter_nl_vars_appear (cfg : Cfg) (evs : List Ev) (i : Nat) (info' : VarInfo)
    (h : (xevs cfg {} evs).vars[i]? = some (true, info')) : ∃ info, Rec.var i true info ∈ (xevs cfg {} evs).out :=
  (C20_exporter_var_records cfg evs).2.1 i true info' h

/-- the final-data clause in the `pre ++ var i b v :: post` form of `WellFormed.dl_var_last` -/
theorem C20_exporter_var_last_record (cfg : Cfg) (evs : List Ev) (i : Nat) (b : Bool) (v : VarInfo)
    (hfin : (xevs cfg {} evs).finished = true) (hi : (xevs cfg {} evs).vars[i]? = some (b, v)) :
    ∃ pre post b', (xevs cfg {} evs).out = pre ++ Rec.var i b' v :: post ∧ ∀ b'' v', Rec.var i b'' v' ∉ post :=
  lastVar_spec _ i v ((C20_exporter_var_records cfg evs).2.2 hfin i b v hi)

/-- non-vacuity: an NL variable and an auxiliary one whose bounds are tightened before the push; a bad `setVar` is rejected -/
def exEvs3 : List Ev :=
  [.addVar true ⟨0, true, true⟩, .addVar false ⟨0, false, true⟩, .setVar 1 ⟨1, false, false⟩, .setVar 9 ⟨0, false, false⟩, .finish]
example : (xevs exCfg {} exEvs3).rejected = 1 ∧ (xevs exCfg {} exEvs3).vars = [(true, ⟨0, true, true⟩), (false, ⟨1, false, false⟩)]
    ∧ lastVar (xevs exCfg {} exEvs3).out 1 = some ⟨1, false, false⟩
    ∧ (xevs exCfg {} exEvs3).out.filter isVarRec
        = [.var 0 true ⟨0, true, true⟩, .var 1 false ⟨0, false, true⟩, .var 0 true ⟨0, true, true⟩, .var 1 false ⟨1, false, false⟩] := by decide

end MpVerif.C20
