import MpVerif.C20.LemmasExporter
/-! # C20: the NL item records and the objective records of the exporter transition system -/
namespace MpVerif.C20

def isNlObj : Rec → Bool | .nlObj _ => true | _ => false
def isNlCon : Rec → Bool | .nlCon _ _ => true | _ => false
def isNlDef : Rec → Bool | .nlDefVar _ => true | _ => false
def isObj : Rec → Bool | .obj _ _ => true | _ => false
def isVarRec : Rec → Bool | .var _ _ _ => true | _ => false

def isPlain (r : Rec) : Bool := !(isNlObj r || isNlCon r || isNlDef r)

theorem isPlain_spec {r : Rec} (h : isPlain r = true) : isNlObj r = false ∧ isNlCon r = false ∧ isNlDef r = false := by
  simpa [isPlain, and_assoc] using h

structure NInv (s : XState) : Prop where
  /-- the NL objective records are exactly `0 .. n-1`, `n` = number of `ExportObj` calls -/
  nlobjs : s.out.filter isNlObj = (List.range s.nlObjs).map Rec.nlObj
  /-- the NL constraint records are exactly `0 .. n-1` (algebraic / logical as exported) -/
  nlcons : s.out.filter isNlCon = s.nlCons.mapIdx Rec.nlCon
  /-- the NL common-expression records are exactly `0 .. n-1` -/
  nldefs : s.out.filter isNlDef = (List.range s.nlDefs).map Rec.nlDefVar

theorem ninv_init : NInv {} := ⟨rfl, rfl, rfl⟩

/-- steps that append no NL record; `hk` is closed by `simp` when `rs` lists concrete records, the three counters by `rfl` -/
theorem ninv_plain {s s' : XState} (h : NInv s) (rs : List Rec) (ho : s'.out = s.out ++ rs)
    (hk : ∀ r, r ∈ rs → isPlain r = true := by simp [isPlain, isNlObj, isNlCon, isNlDef]) (h1 : s'.nlObjs = s.nlObjs := by rfl)
    (h2 : s'.nlCons = s.nlCons := by rfl) (h3 : s'.nlDefs = s.nlDefs := by rfl) : NInv s' := by
  have hk := fun r hr => isPlain_spec (hk r hr)
  refine ⟨?_, ?_, ?_⟩
  · rw [ho, h1, filter_append_nil _ _ _ (fun x hx => (hk x hx).1)]; exact h.nlobjs
  · rw [ho, h2, filter_append_nil _ _ _ (fun x hx => (hk x hx).2.1)]; exact h.nlcons
  · rw [ho, h3, filter_append_nil _ _ _ (fun x hx => (hk x hx).2.2)]; exact h.nldefs

theorem ninv_step {cfg : Cfg} {s s' : XState} (h : NInv s) (st : XStep cfg s s') : NInv s' := by
  cases st with
  | reject | setVar | setStat | addItems | setObj => exact ninv_plain h [] (List.append_nil _).symm
  | addVar | store | link | addObj => exact ninv_plain h [_] rfl
  | nlObj hf => exact ⟨filter_snoc_range h.nlobjs rfl, filter_snoc_false h.nlcons rfl, filter_snoc_false h.nldefs rfl⟩
  | nlCon l hf =>
    exact ⟨filter_snoc_false h.nlobjs rfl, by simp only []; rw [List.filter_append, h.nlcons, List.mapIdx_concat]; rfl,
      filter_snoc_false h.nldefs rfl⟩
  | nlDefVar hf => exact ⟨filter_snoc_false h.nlobjs rfl, filter_snoc_false h.nlcons rfl, filter_snoc_range h.nldefs rfl⟩
  | finish hf =>
    exact ninv_plain h _ rfl (fun r hr => by
      rcases mem_finishRecs cfg s r hr with ⟨_, _, _, rfl⟩ | ⟨_, _, rfl⟩ | ⟨_, _, _, _, _, _, rfl⟩ | ⟨_, _, rfl⟩ <;> rfl)

def OTab (s : XState) : Prop := Tab objFam s.objs s.out s.finished

theorem otab_step {cfg : Cfg} {s s' : XState} (h : OTab s) (st : XStep cfg s s') : OTab s' := by
  cases st with
  | reject | setVar | setStat | addItems => exact h
  | addVar | store | nlObj | nlCon | nlDefVar | link => exact h.frame [_] (by simp [objFam, objAt])
  | addObj info hf => exact h.add hf info
  | setObj i info hf => exact h.set hf i info (fun _ _ => rfl)
  | finish hf =>
    have := ((h.frame (varRecs 0 s.vars) (fun r hr i => by
      obtain ⟨_, _, rfl⟩ := List.mem_mapIdx.mp (varRecs_eq _ _ ▸ hr); rfl)).dump).frame _ (fun r hr i => (finishTail_get cfg s r hr i).2)
    simpa [OTab, finishState, finishRecs, objRecs_eq] using this

end MpVerif.C20
