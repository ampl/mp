import MpVerif.C20.LemmasEscape
/-!
# C20: the Char-level `escape` (used by `C20_json_roundtrip`) is the restriction of the byte-level `escapeB`
to valid Unicode strings:  `escapeB (utf8 s) = utf8 (escape s)`  for every `s : List Char`.
-/
namespace MpVerif.C20
open GenBase

/-- UTF-8 encoding of a Unicode scalar value (RFC 3629 §3) -/
def utf8Char (c : Char) : List Nat :=
  if c.toNat < 128 then [c.toNat]
  else if c.toNat < 2048 then [192 + c.toNat / 64, 128 + c.toNat % 64]
  else if c.toNat < 65536 then [224 + c.toNat / 4096, 128 + c.toNat / 64 % 64, 128 + c.toNat % 64]
  else [240 + c.toNat / 262144, 128 + c.toNat / 4096 % 64, 128 + c.toNat / 64 % 64, 128 + c.toNat % 64]

def utf8 (s : Str) : List Nat := s.flatMap utf8Char

theorem utf8_cons (c : Char) (s : Str) : utf8 (c :: s) = utf8Char c ++ utf8 s := by simp [utf8]
theorem utf8_append (a b : Str) : utf8 (a ++ b) = utf8 a ++ utf8 b := by simp [utf8]

theorem hexDigit_utf8 : ∀ n, n < 16 → utf8Char (hexDigit n) = [hexLo n] := by decide

/- Read through `Char.toNat_inj`, the tests of `escChar` are those of `asciiOut`, in the same order. -/
theorem escChar_ascii (c : Char) (h : c.toNat < 128) : utf8 (escChar c) = asciiOut c.toNat := by
  have e : ∀ d : Char, (c = d) = (c.toNat = d.toNat) := fun d => propext Char.toNat_inj.symm
  have hu : utf8 ['\\', 'u', '0', '0', hexDigit (c.toNat / 16), hexDigit (c.toNat % 16)] = fmtU4 c.toNat := by
    have a1 := hexDigit_utf8 (c.toNat / 16) (by omega)
    have a2 := hexDigit_utf8 (c.toNat % 16) (by omega)
    simp [utf8, a1, a2, fmtU4, show c.toNat / 4096 % 16 = 0 by omega, show c.toNat / 256 % 16 = 0 by omega,
      show c.toNat / 16 % 16 = c.toNat / 16 by omega, show utf8Char '\\' = [92] by decide, show utf8Char 'u' = [117] by decide,
      show utf8Char '0' = [48] by decide, show hexLo 0 = 48 by decide]
  have hp : utf8 [c] = [c.toNat] := by simp [utf8, utf8Char, h]
  unfold escChar asciiOut
  simp only [e, Char.reduceToNat, apply_ite utf8, hu, hp]
  rfl

theorem escChar_nonascii (c : Char) (h : ¬ c.toNat < 128) : escChar c = [c] := by
  have hne : ∀ d : Char, d.toNat < 128 → c ≠ d := fun d hd e => h (e ▸ hd)
  unfold escChar
  rw [if_neg (hne _ (by decide)), if_neg (hne _ (by decide)), if_neg (hne _ (by decide)), if_neg (hne _ (by decide)),
    if_neg (hne _ (by decide)), if_neg (by omega)]

theorem cont_mod64 (x : Nat) : isCont (128 + x % 64) = true :=
  (isCont_iff _ (by omega)).mpr ⟨by omega, by omega⟩

/-- one step of `escapeB` on the encoding of a character consumes that encoding and writes the encoding of its escape -/
theorem escStep_utf8Char (c : Char) (rest : List Nat) :
    ∃ l conts, utf8Char c = l :: conts ∧ escStep l (conts ++ rest) = (utf8 (escChar c), conts.length) := by
  by_cases h : c.toNat < 128
  · exact ⟨c.toNat, [], by simp [utf8Char, h], by rw [escStep_ascii _ _ h, escChar_ascii c h]; rfl⟩
  have hv : c.toNat < 55296 ∨ (57343 < c.toNat ∧ c.toNat < 1114112) := c.valid
  rw [escChar_nonascii c h, show utf8 [c] = utf8Char c by simp [utf8]]
  unfold utf8Char
  rw [if_neg h]
  split
  · have hs := seqLen_cases (192 + c.toNat / 64)
    exact ⟨_, _, rfl, escStep_copy _ _ [] rest (by omega) (by simp only [List.length_nil]; omega)
      (by simp [cont_mod64]) (badSecond_iff.mpr ⟨by omega, by omega, by omega, by omega⟩)⟩
  split
  · have hs := seqLen_cases (224 + c.toNat / 4096)
    exact ⟨_, _, rfl, escStep_copy _ _ [_] rest (by omega) (by simp only [List.length_cons, List.length_nil]; omega)
      (by simp [cont_mod64]) (badSecond_iff.mpr ⟨by omega, by omega, by omega, by omega⟩)⟩
  · have hs := seqLen_cases (240 + c.toNat / 262144)
    exact ⟨_, _, rfl, escStep_copy _ _ [_, _] rest (by omega) (by simp only [List.length_cons, List.length_nil]; omega)
      (by simp [cont_mod64]) (badSecond_iff.mpr ⟨by omega, by omega, by omega, by omega⟩)⟩

/-- **the Char-level `escape` is the restriction of `escapeB` to valid Unicode strings** -/
theorem escapeBF_utf8 : ∀ (s : Str) (f : Nat), (utf8 s).length ≤ f → escapeBF f (utf8 s) = utf8 (escape s)
  | [], f, _ => by cases f <;> simp [utf8, escapeBF, escape]
  | c :: s, f, hf => by
    obtain ⟨l, conts, hu, hst⟩ := escStep_utf8Char c (utf8 s)
    rw [utf8_cons, hu] at hf ⊢
    obtain ⟨f, rfl⟩ : ∃ g, f = g + 1 := ⟨f - 1, by simp at hf; omega⟩
    simp only [List.cons_append, escapeBF, hst, List.drop_left', escape, utf8_append]
    rw [escapeBF_utf8 s f (by simp at hf; omega)]

end MpVerif.C20
