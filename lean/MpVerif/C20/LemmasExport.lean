import MpVerif.C20.ModelExport
/-! # C20 lemmas for the link-export protocol

`XInv` (every run): exported extents are final unless an entry is extended in place after its export.  `AInv` (runs of
`AddEntry` calls): under the "extend only the most recently registered entry" rule that never happens. -/
namespace MpVerif.C20

theorem allEntriesExported_exportRemaining (s : PState) (h : s.iExp ≤ s.brl.length) : allEntriesExported (exportRemaining s) = true := by
  simp [allEntriesExported, exportRemaining]; omega

theorem addRange_cases {P : PState → Prop} (s : PState) (br : LRange)
    (hnew : P { exportRemaining s with brl := (exportRemaining s).brl ++ [br] })
    (hext : ∀ b, s.brl.getLast? = some b → b.link = br.link → b.end_ = br.beg →
      P { s with brl := s.brl.dropLast ++ [{ b with end_ := br.end_ }] }) : P (addRange s br) := by
  unfold addRange
  cases hl : s.brl.getLast? with
  | none => exact hnew
  | some b =>
    simp only
    split
    · rename_i hc
      simp only [Bool.and_eq_true, decide_eq_true_eq] at hc
      exact hext b hl hc.1 hc.2
    · exact hnew

theorem addEntry_cases {P : PState → Prop} (s : PState) (k : LKind) (e : Entry) (hpush : P (pushEntry s k e))
    (hrep : s.ents k ≠ [] → isLastReg s k = true → ∀ e', P (replaceLast s k e')) : P (addEntry s k e) := by
  unfold addEntry
  cases hl : (s.ents k).getLast? with
  | none => exact hpush
  | some last =>
    have hne : s.ents k ≠ [] := by intro h0; simp [h0] at hl
    simp only
    split
    · exact hpush
    · rename_i hlast
      have hrep := hrep hne (by simpa using hlast)
      cases k
      · simp only; split
        · exact hrep _
        · exact hpush
      · simp only; split
        · exact hrep _
        · split
          · exact hrep _
          · exact hpush
      · simp only; split
        · exact hrep _
        · split
          · exact hrep _
          · exact hpush

/-- every exported record shows the current extent of its entry -/
def Consistent (s : PState) : Prop := ∀ x, x ∈ s.out → (x.src, x.dst) = extentOf s x.link x.entry

structure XInv (s : PState) : Prop where
  /-- `i_exported_ ≤ brl_.size()` -/
  exp : s.iExp ≤ s.brl.length
  cons : s.late = false → Consistent s
  rng : ∀ r, r ∈ s.brl → r.end_ ≤ (s.ents r.link).length
  ent : ∀ x, x ∈ s.out → x.entry < (s.ents x.link).length

theorem ents_setEnts (s : PState) (k k' : LKind) (l : List Entry) :
    (s.setEnts k l).ents k' = if k' = k then l else s.ents k' := by
  cases k <;> cases k' <;> simp [PState.setEnts, PState.ents]

theorem setEnts_fields (s : PState) (k : LKind) (l : List Entry) :
    (s.setEnts k l).out = s.out ∧ (s.setEnts k l).late = s.late ∧ (s.setEnts k l).brl = s.brl
      ∧ (s.setEnts k l).iExp = s.iExp := by
  cases k <;> simp [PState.setEnts]

theorem mem_exportFrom (s : PState) : ∀ (rs : List LRange) (i : Nat) (x : XRec), x ∈ exportFrom s i rs →
    ∃ r, r ∈ rs ∧ x.link = r.link ∧ x.entry < r.end_ ∧ (x.src, x.dst) = extentOf s x.link x.entry
  | [], _, _, hx => by simp [exportFrom] at hx
  | r :: rs, i, x, hx => by
    simp only [exportFrom, List.mem_append] at hx
    rcases hx with hx | hx
    · simp only [exportRange, List.mem_map, List.mem_range'_1] at hx
      obtain ⟨j, hj, rfl⟩ := hx
      exact ⟨r, by simp, rfl, by simp only; omega, rfl⟩
    · obtain ⟨r', hr', h⟩ := mem_exportFrom s rs (i + 1) x hx
      exact ⟨r', by simp [hr'], h⟩

theorem exportRemaining_inv (s : PState) (h : XInv s) : XInv (exportRemaining s) := by
  have hnew : ∀ x, x ∈ exportFrom s s.iExp (s.brl.drop s.iExp) →
      (x.src, x.dst) = extentOf s x.link x.entry ∧ x.entry < (s.ents x.link).length := fun x hx => by
    obtain ⟨r, hr, hl, hlt, he⟩ := mem_exportFrom s _ _ x hx
    exact ⟨he, hl ▸ Nat.lt_of_lt_of_le hlt (h.rng r (List.mem_of_mem_drop hr))⟩
  refine ⟨by have := h.exp; simp [exportRemaining]; omega, ?_, ?_, ?_⟩
  · intro hl x hx
    simp only [exportRemaining, List.mem_append] at hx
    exact hx.elim (h.cons hl x) (fun hx => (hnew x hx).1)
  · intro r hr; exact h.rng r hr
  · intro x hx
    simp only [exportRemaining, List.mem_append] at hx
    exact hx.elim (h.ent x) (fun hx => (hnew x hx).2)

theorem exportRemaining_ents (s : PState) (k : LKind) : (exportRemaining s).ents k = s.ents k := by
  cases k <;> rfl

theorem addRange_xinv (s : PState) (br : LRange) (h : XInv s) (hb : br.end_ ≤ (s.ents br.link).length) :
    XInv (addRange s br) := by
  refine addRange_cases s br ?_ ?_
  · have h1 := exportRemaining_inv s h
    refine ⟨by have := h.exp; simp [exportRemaining]; omega, h1.cons, ?_, h1.ent⟩
    intro r hr
    simp only [List.mem_append, List.mem_singleton] at hr
    rcases hr with hr | hr
    · exact h1.rng r hr
    · subst hr; exact hb
  · intro b hl hc1 hc2
    have hne : s.brl ≠ [] := by intro h0; simp [h0] at hl
    have hlen : (s.brl.dropLast ++ [{ b with end_ := br.end_ }]).length = s.brl.length := by
      have := List.length_pos_iff.mpr hne
      simp; omega
    refine ⟨by rw [hlen]; exact h.exp, h.cons, ?_, h.ent⟩
    intro r hr
    simp only [List.mem_append, List.mem_singleton] at hr
    rcases hr with hr | hr
    · exact h.rng r ((List.dropLast_sublist _).subset hr)
    · subst hr
      show br.end_ ≤ (s.ents b.link).length
      rw [hc1]; exact hb

/-- `XInv` reads the entry lists only through their lengths and the extents of the exported entries -/
theorem xinv_ents {s t : PState} (h : XInv s) (k : LKind) (ho : t.out = s.out) (hb : t.brl = s.brl) (hi : t.iExp = s.iExp)
    (hk : ∀ k', k' ≠ k → t.ents k' = s.ents k') (hlen : (s.ents k).length ≤ (t.ents k).length)
    (hlate : t.late = false → s.late = false ∧
      ∀ x, x ∈ s.out → x.link = k → (t.ents k).getD x.entry dummy = (s.ents k).getD x.entry dummy) : XInv t := by
  have hmono : ∀ k', (s.ents k').length ≤ (t.ents k').length := fun k' => by
    by_cases e : k' = k
    · rw [e]; exact hlen
    · rw [hk k' e]; exact Nat.le_refl _
  refine ⟨by rw [hi, hb]; exact h.exp, ?_, ?_, ?_⟩
  · intro hl x hx
    rw [ho] at hx
    obtain ⟨hl', hg⟩ := hlate hl
    rw [h.cons hl' x hx]
    unfold extentOf
    by_cases e : x.link = k
    · rw [e]; exact (hg x hx e).symm
    · rw [hk _ e]
  · intro r hr; rw [hb] at hr; exact Nat.le_trans (h.rng r hr) (hmono _)
  · intro x hx; rw [ho] at hx; exact Nat.lt_of_lt_of_le (h.ent x hx) (hmono _)

theorem pushEntry_xinv (s : PState) (k : LKind) (e : Entry) (h : XInv s) : XInv (pushEntry s k e) := by
  have hf := setEnts_fields s k (s.ents k ++ [e])
  have hs : (s.setEnts k (s.ents k ++ [e])).ents k = s.ents k ++ [e] := by simp [ents_setEnts]
  unfold pushEntry
  refine addRange_xinv _ _ (xinv_ents h k hf.1 hf.2.2.1 hf.2.2.2 (fun k' e' => by simp [ents_setEnts, e']) (by simp [hs]) ?_)
    (by simp [hs])
  intro hl
  refine ⟨by rw [← hf.2.1]; exact hl, fun x hx hk => ?_⟩
  rw [hs, List.getD_eq_getElem?_getD, List.getD_eq_getElem?_getD, List.getElem?_append_left (hk ▸ h.ent x hx)]

theorem ents_late (t : PState) (b : Bool) (k : LKind) : ({ t with late := b } : PState).ents k = t.ents k := by
  cases k <;> rfl

theorem replaceLast_fields (s : PState) (k : LKind) (e' : Entry) :
    (replaceLast s k e').brl = s.brl ∧ (replaceLast s k e').out = s.out ∧ (replaceLast s k e').iExp = s.iExp ∧
    (replaceLast s k e').late = (s.late || isExported s k ((s.ents k).length - 1)) ∧
    ∀ k', (replaceLast s k e').ents k' = if k' = k then (s.ents k).dropLast ++ [e'] else s.ents k' := by
  have hf := setEnts_fields s k ((s.ents k).dropLast ++ [e'])
  unfold replaceLast
  exact ⟨hf.2.2.1, hf.1, hf.2.2.2, rfl, fun k' => by rw [ents_late, ents_setEnts]⟩

theorem isExported_iff (s : PState) (k : LKind) (j : Nat) :
    isExported s k j = true ↔ ∃ x, x ∈ s.out ∧ x.link = k ∧ x.entry = j := by
  simp only [isExported, List.any_eq_true, Bool.and_eq_true, decide_eq_true_eq]

theorem replaceLast_xinv (s : PState) (k : LKind) (e' : Entry) (h : XInv s) (hne : s.ents k ≠ []) :
    XInv (replaceLast s k e') := by
  obtain ⟨hb, ho, hi, hlate, hents⟩ := replaceLast_fields s k e'
  have hpos : 0 < (s.ents k).length := List.length_pos_iff.mpr hne
  refine xinv_ents h k ho hb hi (fun k' e => by rw [hents, if_neg e]) (by rw [hents, if_pos rfl]; simp; omega) ?_
  intro hl
  rw [hlate, Bool.or_eq_false_iff] at hl
  refine ⟨hl.1, fun x hx hk => ?_⟩
  have h2 := h.ent x hx
  rw [hk] at h2
  -- an exported last entry would have set `late`
  have hnot : x.entry ≠ (s.ents k).length - 1 := fun he => by
    rw [(isExported_iff s k _).mpr ⟨x, hx, hk, he⟩] at hl; exact Bool.noConfusion hl.2
  have hj : x.entry < (s.ents k).dropLast.length := by simp; omega
  rw [hents, if_pos rfl]
  simp only [List.getD_eq_getElem?_getD, List.getElem?_append_left hj, List.getElem?_dropLast]
  simp [show x.entry < (s.ents k).length - 1 by omega]

theorem addEntry_xinv (s : PState) (k : LKind) (e : Entry) (h : XInv s) : XInv (addEntry s k e) :=
  addEntry_cases s k e (pushEntry_xinv s k e h) (fun hne _ e' => replaceLast_xinv s k e' h hne)

theorem xrun_xinv : ∀ (ops : List XOp) (s : PState), XInv s → XInv (xrun s ops)
  | [], _, h => h
  | op :: ops, s, h => by
    have : XInv (xstep s op) := by
      cases op with
      | add k e => exact addEntry_xinv s k e h
      | finish => exact exportRemaining_inv s h
    exact xrun_xinv ops (xstep s op) this

theorem xrun_snoc_finish (s : PState) (ops : List XOp) : xrun s (ops ++ [.finish]) = exportRemaining (xrun s ops) := by
  simp [xrun, List.foldl_append, xstep]

theorem xinv_init : XInv {} := by
  refine ⟨Nat.le_refl _, ?_, ?_, ?_⟩
  · intro _ x hx; simp at hx
  · intro r hr; simp at hr
  · intro x hx; simp at hx

/-- invariant of add-only runs (no `Finish` yet) under the "extend only the most recently registered entry" rule -/
structure AInv (s : PState) : Prop where
  xi : XInv s
  nl : s.late = false
  /-- no exported record of the last registered range's link has an entry index inside or beyond that range; `replaceLast`
      happens only to the last entry of that range (`isLastReg`), hence never to an exported one -/
  fresh : ∀ b, s.brl.getLast? = some b → ∀ x, x ∈ s.out → x.link = b.link → x.entry < b.beg
  /-- registered ranges are non-empty, so the last entry of the last range has an index `≥ b.beg` -/
  pos : ∀ r, r ∈ s.brl → r.beg < r.end_

theorem exportRemaining_late (s : PState) : (exportRemaining s).late = s.late := rfl

theorem addRange_late (s : PState) (br : LRange) : (addRange s br).late = s.late :=
  addRange_cases (P := fun t => t.late = s.late) s br rfl (fun _ _ _ _ => rfl)

theorem pushEntry_ainv (s : PState) (k : LKind) (e : Entry) (h : AInv s) : AInv (pushEntry s k e) := by
  have hx := pushEntry_xinv s k e h.xi
  have hf := setEnts_fields s k (s.ents k ++ [e])
  unfold pushEntry at hx ⊢
  refine addRange_cases (P := fun t => XInv t → t.late = false → AInv t) _ _ ?_ ?_ hx ((addRange_late _ _).trans (hf.2.1.trans h.nl))
  · -- a new range: it begins at the old number of entries, which bounds the old records and the ranges exported now
    refine fun hx hnl => ⟨hx, hnl, fun b hb x hxm hk => ?_, fun r hr => ?_⟩
    · simp only [exportRemaining, List.getLast?_append, List.getLast?_singleton, Option.some_or, Option.some.injEq] at hb
      subst hb
      simp only [exportRemaining, hf.1, hf.2.2.1, hf.2.2.2, List.mem_append] at hxm
      simp only at hk ⊢
      rcases hxm with hxm | hxm
      · have := h.xi.ent x hxm; rw [hk] at this; exact this
      · obtain ⟨r, hr, h1, h2, _⟩ := mem_exportFrom _ _ _ x hxm
        have := h.xi.rng r (List.mem_of_mem_drop hr)
        rw [← h1, hk] at this; omega
    · simp only [exportRemaining, hf.2.2.1, List.mem_append, List.mem_singleton] at hr
      rcases hr with hr | hr
      · exact h.pos r hr
      · subst hr; simp
  · -- the last range extended: same records, same beginning
    intro b0 hl _ hc hx hnl
    rw [hf.2.2.1] at hl
    refine ⟨hx, hnl, fun b hb x hxm hk => ?_, fun r hr => ?_⟩
    · simp only [List.getLast?_append, List.getLast?_singleton, Option.some_or, Option.some.injEq] at hb
      subst hb
      simp only [hf.1] at hxm
      exact h.fresh b0 hl x hxm hk
    · rw [hf.2.2.1] at hr
      simp only [List.mem_append, List.mem_singleton] at hr
      rcases hr with hr | hr
      · exact h.pos r ((List.dropLast_sublist _).subset hr)
      · subst hr
        have := h.pos b0 (List.mem_of_getLast? hl)
        simp only at hc ⊢; omega

theorem replaceLast_ainv (s : PState) (k : LKind) (e' : Entry) (h : AInv s) (hne : s.ents k ≠ [])
    (hlast : isLastReg s k = true) : AInv (replaceLast s k e') := by
  have hx := replaceLast_xinv s k e' h.xi hne
  have hf := replaceLast_fields s k e'
  refine ⟨hx, ?_, ?_, ?_⟩
  · rw [hf.2.2.2.1, Bool.or_eq_false_iff]
    refine ⟨h.nl, ?_⟩
    cases hex : isExported s k ((s.ents k).length - 1) with
    | false => rfl
    | true =>
      exfalso
      obtain ⟨x, hxm, hk, he⟩ := (isExported_iff s k _).mp hex
      unfold isLastReg at hlast
      cases hl : s.brl.getLast? with
      | none => simp [hl] at hlast
      | some b =>
        simp only [hl, Bool.and_eq_true, decide_eq_true_eq] at hlast
        have h1 := h.fresh b hl x hxm (by rw [hk, hlast.1])
        have h2 := h.pos b (List.mem_of_getLast? hl)
        omega
  · intro b hb x hxm hk
    rw [hf.1] at hb; rw [hf.2.1] at hxm
    exact h.fresh b hb x hxm hk
  · intro r hr
    rw [hf.1] at hr
    exact h.pos r hr

theorem addEntry_ainv (s : PState) (k : LKind) (e : Entry) (h : AInv s) : AInv (addEntry s k e) :=
  addEntry_cases s k e (pushEntry_ainv s k e h) (fun hne hlast e' => replaceLast_ainv s k e' h hne hlast)

/-- a run consisting of `AddEntry` calls only -/
def addsOf (l : List (LKind × Entry)) : List XOp := l.map (fun p => .add p.1 p.2)

theorem xrun_adds_ainv : ∀ (l : List (LKind × Entry)) (s : PState), AInv s → AInv (xrun s (addsOf l))
  | [], _, h => h
  | p :: l, s, h => xrun_adds_ainv l (addEntry s p.1 p.2) (addEntry_ainv s p.1 p.2 h)

theorem ainv_init : AInv {} := by
  refine ⟨xinv_init, rfl, ?_, ?_⟩
  · intro b hb; simp at hb
  · intro r hr; simp at hr

theorem xrun_adds_finish (l : List (LKind × Entry)) :
    XInv (xrun {} (addsOf l ++ [.finish])) ∧ (xrun {} (addsOf l ++ [.finish])).late = false := by
  have h := xrun_adds_ainv l {} ainv_init
  rw [xrun_snoc_finish]
  exact ⟨exportRemaining_inv _ h.xi, h.nl⟩

end MpVerif.C20
