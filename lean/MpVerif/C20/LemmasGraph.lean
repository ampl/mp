import MpVerif.C20.ModelGraph
/-! # C20 lemmas for the validator: what `hasVar`, `hasObj`, `lastVar`, `lastObj`, `allIdx` compute; and `Tab`, the
relation between a list of indexed items (flat variables, flat objectives) and the records the exporter writes of them -/
namespace MpVerif.C20

theorem hasVar_spec (g : List Rec) (i : Nat) (b : Bool) (h : hasVar g i b = true) :
    ∃ info, Rec.var i b info ∈ g := by
  simp only [hasVar, List.any_eq_true] at h
  obtain ⟨r, hr, hp⟩ := h
  cases r <;> simp at hp
  rename_i j b' info
  obtain ⟨rfl, rfl⟩ := hp
  exact ⟨info, hr⟩

theorem hasObj_spec (g : List Rec) (i : Nat) (h : hasObj g i = true) : ∃ info, Rec.obj i info ∈ g := by
  simp only [hasObj, List.any_eq_true] at h
  obtain ⟨r, hr, hp⟩ := h
  cases r <;> simp at hp
  rename_i j info
  subst hp
  exact ⟨info, hr⟩

theorem refOk_iff {g : List Rec} {d : Delivered} {r : NodeRef} :
    refOk g d r = true ↔ ∃ sz, nodeSize g d r.node = some sz ∧ r.beg ≤ r.last ∧ r.last < sz := by
  unfold refOk
  cases nodeSize g d r.node <;> simp

theorem findSomeRev?_append {α β : Type} (f : α → Option β) (a b : List α) :
    (a ++ b).findSomeRev? f = (b.findSomeRev? f).or (a.findSomeRev? f) := by simp

theorem findSomeRev?_spec {α β : Type} (f : α → Option β) (l : List α) (b : β) (h : l.findSomeRev? f = some b) :
    ∃ pre a post, l = pre ++ a :: post ∧ f a = some b ∧ ∀ x, x ∈ post → f x = none := by
  rw [List.findSomeRev?_eq_findSome?_reverse, List.findSome?_eq_some_iff] at h
  obtain ⟨l₁, a, l₂, hl, ha, hn⟩ := h
  exact ⟨l₂.reverse, a, l₁.reverse, by simpa using congrArg List.reverse hl, ha, fun x hx => hn x (List.mem_reverse.mp hx)⟩

def varAt (i : Nat) : Rec → Option VarInfo
  | .var j _ info => if j = i then some info else none
  | _ => none

def objAt (i : Nat) : Rec → Option ObjInfo
  | .obj j info => if j = i then some info else none
  | _ => none

theorem lastVar_eq : ∀ (g : List Rec) (i : Nat), lastVar g i = g.findSomeRev? (varAt i)
  | [], _ => rfl
  | r :: g, i => by
    simp only [lastVar, List.findSomeRev?, lastVar_eq g i]
    cases g.findSomeRev? (varAt i) <;> cases r <;> rfl

theorem lastObj_eq : ∀ (g : List Rec) (i : Nat), lastObj g i = g.findSomeRev? (objAt i)
  | [], _ => rfl
  | r :: g, i => by
    simp only [lastObj, List.findSomeRev?, lastObj_eq g i]
    cases g.findSomeRev? (objAt i) <;> cases r <;> rfl

/-- `lastObj g i = some o`: the file has a record of objective `i` carrying `o`, and no later record of objective `i` -/
theorem lastObj_spec (g : List Rec) (i : Nat) (o : ObjInfo) (h : lastObj g i = some o) :
    ∃ pre post, g = pre ++ Rec.obj i o :: post ∧ ∀ o', Rec.obj i o' ∉ post := by
  rw [lastObj_eq] at h
  obtain ⟨pre, a, post, rfl, ha, hp⟩ := findSomeRev?_spec _ _ _ h
  cases a <;> simp only [objAt, reduceCtorEq] at ha
  split at ha <;> simp only [Option.some.injEq, reduceCtorEq] at ha
  rename_i e; subst e ha
  exact ⟨pre, post, rfl, fun o' hm => by simpa [objAt] using hp _ hm⟩

theorem lastVar_spec (g : List Rec) (i : Nat) (v : VarInfo) (h : lastVar g i = some v) :
    ∃ pre post b, g = pre ++ Rec.var i b v :: post ∧ ∀ b' v', Rec.var i b' v' ∉ post := by
  rw [lastVar_eq] at h
  obtain ⟨pre, a, post, rfl, ha, hp⟩ := findSomeRev?_spec _ _ _ h
  cases a <;> simp only [varAt, reduceCtorEq] at ha
  split at ha <;> simp only [Option.some.injEq, reduceCtorEq] at ha
  rename_i e; subst e ha
  exact ⟨pre, post, _, rfl, fun b' v' hm => by simpa [varAt] using hp _ hm⟩

theorem mem_snoc {α : Type} {l : List α} {a x : α} (h : x ∈ l ++ [a]) : x ∈ l ∨ x = a := by simpa using h

theorem snoc_induction {α : Type} {P : List α → Prop} (nil : P []) (snoc : ∀ l a, P l → P (l ++ [a])) (l : List α) : P l := by
  rw [← l.reverse_reverse]
  induction l.reverse with
  | nil => exact nil
  | cons a t ih => rw [List.reverse_cons]; exact snoc _ _ ih

/-! ### indexed items and their records (flat variables, flat objectives)

An item is created with a record (`Tab.add`), may be rewritten in place without one (`Tab.set`), and the push writes a
record of every item as it then is (`Tab.dump`); records of other kinds change nothing (`Tab.frame`).  `Fam` says how the
record of item `i` is built (`new i k x`: `k` the part of the item that never changes, `x` the part that may) and read
back (`get i`); `Tab` is what holds of the items and the records written so far. -/

structure Fam (α κ β : Type) where
  new : Nat → κ → β → Rec
  get : Nat → Rec → Option β
  key : α → κ
  pay : α → β
  get_new : ∀ i j k x, get i (new j k x) = if j = i then some x else none
  new_inj : ∀ {i j k k' x x'}, new i k x = new j k' x' → i = j ∧ k = k'

variable {α κ β : Type} {F : Fam α κ β}

def Fam.recOf (F : Fam α κ β) (i : Nat) (a : α) : Rec := F.new i (F.key a) (F.pay a)

structure Tab (F : Fam α κ β) (items : List α) (out : List Rec) (fin : Bool) : Prop where
  flag : ∀ i k x, F.new i k x ∈ out → ∃ a, items[i]? = some a ∧ F.key a = k
  has : ∀ i a, items[i]? = some a → ∃ x, F.new i (F.key a) x ∈ out
  /-- after the push the last record of an item shows it as it is -/
  last : fin = true → ∀ i a, items[i]? = some a → out.findSomeRev? (F.get i) = some (F.pay a)

theorem Tab.init : Tab F [] [] false :=
  ⟨fun _ _ _ h => by simp at h, fun _ _ h => by simp at h, fun h => by cases h⟩

theorem Tab.lt_length {items : List α} {out : List Rec} {fin : Bool} (h : Tab F items out fin) {i : Nat} {k : κ} {x : β}
    (hm : F.new i k x ∈ out) : i < items.length := by
  obtain ⟨_, ha, _⟩ := h.flag i k x hm; exact (List.getElem?_eq_some_iff.mp ha).1

theorem Tab.frame {items : List α} {out : List Rec} {fin : Bool} (h : Tab F items out fin) (rs : List Rec)
    (hk : ∀ r, r ∈ rs → ∀ i, F.get i r = none) : Tab F items (out ++ rs) fin := by
  refine ⟨fun i k x hm => ?_, fun i a hi => (h.has i a hi).imp fun _ hm => List.mem_append_left _ hm, fun hf i a hi => ?_⟩
  · refine (List.mem_append.mp hm).elim (h.flag i k x) (fun hm => ?_)
    have := hk _ hm i
    rw [F.get_new, if_pos rfl] at this; cases this
  · rw [findSomeRev?_append, List.findSomeRev?_eq_findSome?_reverse (l := rs),
      List.findSome?_eq_none_iff.mpr (fun r hr => hk r (List.mem_reverse.mp hr) i)]
    exact h.last hf i a hi

theorem Tab.add {items : List α} {out : List Rec} {fin : Bool} (h : Tab F items out fin) (hf : fin = false) (a : α) :
    Tab F (items ++ [a]) (out ++ [F.recOf items.length a]) fin := by
  refine ⟨fun i k x hm => ?_, fun i b hi => ?_, fun hfin => by rw [hf] at hfin; cases hfin⟩
  · rcases mem_snoc hm with hm | hm
    · obtain ⟨b, hb, hk⟩ := h.flag i k x hm
      exact ⟨b, by rw [List.getElem?_append_left (h.lt_length hm)]; exact hb, hk⟩
    · obtain ⟨rfl, rfl⟩ := F.new_inj hm
      exact ⟨a, by simp, rfl⟩
  · by_cases hlt : i < items.length
    · rw [List.getElem?_append_left hlt] at hi
      exact (h.has i b hi).imp fun _ hm => List.mem_append_left _ hm
    · have : i = items.length := by have := (List.getElem?_eq_some_iff.mp hi).1; simp at this; omega
      subst this
      simp at hi; subst hi
      exact ⟨F.pay a, by simp [Fam.recOf]⟩

theorem Tab.set {items : List α} {out : List Rec} {fin : Bool} (h : Tab F items out fin) (hf : fin = false) (i : Nat) (a : α)
    (hk : ∀ a0, items[i]? = some a0 → F.key a = F.key a0) : Tab F (items.set i a) out fin := by
  refine ⟨fun j k x hm => ?_, fun j b hj => ?_, fun hfin => by rw [hf] at hfin; cases hfin⟩
  · obtain ⟨b, hb, hkb⟩ := h.flag j k x hm
    by_cases e : i = j
    · subst e; exact ⟨a, by simp [h.lt_length hm], (hk b hb).trans hkb⟩
    · exact ⟨b, by simp [e, hb], hkb⟩
  · rw [List.getElem?_set] at hj
    split at hj
    · rename_i e; subst e
      split at hj
      · rename_i hlt
        cases hj
        rw [hk _ (List.getElem?_eq_getElem hlt)]
        exact h.has i _ (List.getElem?_eq_getElem hlt)
      · cases hj
    · exact h.has j b hj

theorem findSomeRev?_mapIdx (F : Fam α κ β) (i : Nat) (l : List α) :
    (l.mapIdx F.recOf).findSomeRev? (F.get i) = l[i]?.map F.pay := by
  induction l using snoc_induction with
  | nil => rfl
  | snoc l a ih =>
    rw [List.mapIdx_concat, findSomeRev?_append, ih]
    simp only [List.findSomeRev?, Fam.recOf, F.get_new]
    by_cases e : l.length = i
    · subst e; simp
    · rw [if_neg e, Option.none_or]
      by_cases hlt : i < l.length
      · rw [List.getElem?_append_left hlt]
      · rw [List.getElem?_eq_none (by omega), List.getElem?_eq_none (by simp; omega)]

theorem Tab.dump {items : List α} {out : List Rec} {fin : Bool} (h : Tab F items out fin) :
    Tab F items (out ++ items.mapIdx F.recOf) true := by
  refine ⟨fun i k x hm => ?_, fun i a hi => (h.has i a hi).imp fun _ hm => List.mem_append_left _ hm, fun _ i a hi => ?_⟩
  · rcases List.mem_append.mp hm with hm | hm
    · exact h.flag i k x hm
    · obtain ⟨j, hj, e⟩ := List.mem_mapIdx.mp hm
      obtain ⟨rfl, rfl⟩ := F.new_inj e
      exact ⟨_, List.getElem?_eq_getElem hj, rfl⟩
  · rw [findSomeRev?_append, findSomeRev?_mapIdx, hi]; rfl

def varFam : Fam (Bool × VarInfo) Bool VarInfo :=
  ⟨Rec.var, varAt, Prod.fst, Prod.snd, fun _ _ _ _ => rfl, fun e => by cases e; exact ⟨rfl, rfl⟩⟩

def objFam : Fam ObjInfo Unit ObjInfo :=
  ⟨fun i _ o => Rec.obj i o, objAt, fun _ => (), id, fun _ _ _ _ => rfl, fun e => by cases e; exact ⟨rfl, rfl⟩⟩

theorem allIdx_spec {α : Type} (p : Nat → α → Bool) : ∀ (l : List α) (i0 : Nat), allIdx p i0 l = true →
    ∀ j a, l[j]? = some a → p (i0 + j) a = true
  | [], _, _, j, a, h => by simp at h
  | x :: l, i0, h, j, a, hj => by
    simp only [allIdx, Bool.and_eq_true] at h
    cases j with
    | zero => simp at hj; subst hj; simpa using h.1
    | succ j =>
      simp only [List.getElem?_cons_succ] at hj
      have := allIdx_spec p l (i0 + 1) h.2 j a hj
      rw [show i0 + (j + 1) = i0 + 1 + j by omega]; exact this

end MpVerif.C20
