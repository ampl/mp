import MpVerif.C20.ModelExporter
import MpVerif.C20.LemmasGraph
/-! # C20: invariants of the exporter transition system, for every event sequence

`XStep` lists the accepted transitions of `xev`; every invariant is proved by one case analysis
over `XStep`, and most cases are instances of a frame lemma ("records of other kinds appended, the fields the
invariant reads untouched"). -/
namespace MpVerif.C20

def isStatus : Rec → Bool
  | .conStatus _ _ _ _ _ _ => true
  | _ => false

theorem md_append : ∀ (a b : List Rec), markedDelivered (a ++ b) = markedDelivered a ++ markedDelivered b
  | [], b => rfl
  | r :: a, b => by
    cases r with
    | conStatus ty i nm u bb f => cases f <;> simp [markedDelivered, md_append a b]
    | _ => simp [markedDelivered, md_append a b]

theorem md_nostatus : ∀ (a : List Rec), (∀ r, r ∈ a → isStatus r = false) → markedDelivered a = []
  | [], _ => rfl
  | r :: a, h => by
    have hr := h r (by simp)
    have ha := md_nostatus a (fun x hx => h x (by simp [hx]))
    cases r <;> simp [isStatus] at hr <;> simp [markedDelivered, ha]

theorem filter_append_nil {α : Type} (p : α → Bool) (a b : List α) (h : ∀ x, x ∈ b → p x = false) :
    (a ++ b).filter p = a.filter p := by
  have hb : b.filter p = [] := List.filter_eq_nil_iff.mpr (fun x hx => by simp [h x hx])
  rw [List.filter_append, hb, List.append_nil]

theorem filter_snoc_false {p : Rec → Bool} {out l : List Rec} (h : out.filter p = l) {r : Rec} (hr : p r = false) :
    (out ++ [r]).filter p = l := by
  simp [List.filter_append, h, hr]

theorem filter_snoc_range {p : Rec → Bool} {f : Nat → Rec} {out : List Rec} {n : Nat}
    (h : out.filter p = (List.range n).map f) (hr : p (f n) = true) :
    (out ++ [f n]).filter p = (List.range (n + 1)).map f := by
  simp [List.filter_append, h, hr, List.range_succ]

theorem mapIdx_eq_range_map {α β : Type} (f : Nat → α → β) (d : α) (l : List α) :
    l.mapIdx f = (List.range l.length).map (fun k => f k (l.getD k d)) := by
  apply List.ext_getElem?
  intro i
  simp only [List.getElem?_mapIdx, List.getElem?_map, List.range_eq_range']
  by_cases h : i < l.length
  · simp [h, List.getD_eq_getElem?_getD]
  · simp [h]

/-- the status records of a keeper: one per stored constraint, in index order -/
theorem kf_records (cfg : Cfg) (ty : Str) : ∀ (l : List CStat) (i : Nat),
    (keeperFinish cfg ty i l).1 = l.mapIdx fun k st => Rec.conStatus ty (i + k) (cfg.name ty (i + k))
      (st == .unused) (st != .fresh) (st == .fresh)
  | [], _ => rfl
  | st :: l, i => by
    rw [keeperFinish, kf_records cfg ty l, List.mapIdx_cons]; simp only [Nat.add_assoc, Nat.add_comm 1]; rfl

theorem kf_status (cfg : Cfg) (ty : Str) (l : List CStat) (i : Nat) (r : Rec) (h : r ∈ (keeperFinish cfg ty i l).1) :
    ∃ j nm u b f, r = Rec.conStatus ty j nm u b f := by
  obtain ⟨_, _, rfl⟩ := List.mem_mapIdx.mp (kf_records cfg ty l i ▸ h)
  exact ⟨_, _, _, _, _, rfl⟩

/-- a keeper hands over exactly its non-bridged constraints, and marks exactly those `final` -/
theorem kf_delivered (cfg : Cfg) (ty : Str) : ∀ (l : List CStat) (i : Nat),
    markedDelivered (keeperFinish cfg ty i l).1 = (keeperFinish cfg ty i l).2.map (fun c => (c.ty, c.name))
  | [], _ => by simp [keeperFinish, markedDelivered]
  | st :: l, i => by
    have ih := kf_delivered cfg ty l (i + 1)
    cases st <;> simp [keeperFinish, markedDelivered, ih]

theorem af_status (cfg : Cfg) (cons : Str → List CStat) : ∀ (tys : List Str) (r : Rec),
    r ∈ (allFinish cfg cons tys).1 → ∃ ty j nm u b f, r = Rec.conStatus ty j nm u b f
  | [], r, h => by simp [allFinish] at h
  | ty :: tys, r, h => by
    simp only [allFinish, List.mem_append] at h
    rcases h with h | h
    · exact ⟨ty, kf_status cfg ty _ _ r h⟩
    · exact af_status cfg cons tys r h

theorem af_filter (cfg : Cfg) (cons : Str → List CStat) (ty : Str) : ∀ (tys : List Str), tys.Nodup →
    (allFinish cfg cons tys).1.filter (isStatusTy ty) = if ty ∈ tys then (keeperFinish cfg ty 0 (cons ty)).1 else []
  | [], _ => by simp [allFinish]
  | t :: tys, hn => by
    have hn' := (List.nodup_cons.mp hn)
    have ih := af_filter cfg cons ty tys hn'.2
    simp only [allFinish, List.filter_append, ih]
    by_cases e : ty = t
    · subst e
      have h1 : (keeperFinish cfg ty 0 (cons ty)).1.filter (isStatusTy ty) = (keeperFinish cfg ty 0 (cons ty)).1 :=
        List.filter_eq_self.mpr (fun r hr => by
          obtain ⟨j, nm, u, b, f, rfl⟩ := kf_status cfg ty _ _ r hr; simp [isStatusTy])
      simp [h1, hn'.1]
    · have h1 : (keeperFinish cfg t 0 (cons t)).1.filter (isStatusTy ty) = [] :=
        List.filter_eq_nil_iff.mpr (fun r hr => by
          obtain ⟨j, nm, u, b, f, rfl⟩ := kf_status cfg t _ _ r hr; simpa [isStatusTy] using Ne.symm e)
      have : (ty ∈ t :: tys) ↔ ty ∈ tys := by simp [e]
      simp [h1, this]

theorem af_delivered (cfg : Cfg) (cons : Str → List CStat) : ∀ (tys : List Str),
    markedDelivered (allFinish cfg cons tys).1 = (allFinish cfg cons tys).2.map (fun c => (c.ty, c.name))
  | [] => by simp [allFinish, markedDelivered]
  | t :: tys => by
    simp only [allFinish, md_append, List.map_append, kf_delivered, af_delivered cfg cons tys]

theorem varRecs_eq : ∀ (l : List (Bool × VarInfo)) (i0 : Nat), varRecs i0 l = l.mapIdx fun i => varFam.recOf (i0 + i)
  | [], _ => rfl
  | (b, info) :: l, i0 => by
    rw [varRecs, varRecs_eq l, List.mapIdx_cons]; simp only [Nat.add_assoc, Nat.add_comm 1]; rfl

theorem objRecs_eq : ∀ (l : List ObjInfo) (i0 : Nat), objRecs i0 l = l.mapIdx fun i => objFam.recOf (i0 + i)
  | [], _ => rfl
  | o :: l, i0 => by
    rw [objRecs, objRecs_eq l, List.mapIdx_cons]; simp only [Nat.add_assoc, Nat.add_comm 1]; rfl

theorem mem_finishRecs (cfg : Cfg) (s : XState) (r : Rec) (h : r ∈ finishRecs cfg s) :
    (∃ k b info, r = Rec.var k b info) ∨ (∃ k o, r = Rec.obj k o) ∨
    (∃ ty j nm u b f, r = Rec.conStatus ty j nm u b f) ∨ (∃ t g, r = Rec.conGroup t g) := by
  simp only [finishRecs, varRecs_eq, objRecs_eq, List.mem_append, List.mem_map, List.mem_mapIdx] at h
  rcases h with ⟨_, _, rfl⟩ | ⟨_, _, rfl⟩ | h | ⟨t, _, rfl⟩
  · exact .inl ⟨_, _, _, rfl⟩
  · exact .inr (.inl ⟨_, _, rfl⟩)
  · exact .inr (.inr (.inl (af_status cfg _ _ r h)))
  · exact .inr (.inr (.inr ⟨t, _, rfl⟩))

/-- `xev cfg s e` is `reject s` or one of these, with as much of the event's guard as the invariants use -/
inductive XStep (cfg : Cfg) (s : XState) : XState → Prop
  | reject : XStep cfg s (reject s)
  | addVar (b : Bool) (info : VarInfo) : s.finished = false → XStep cfg s (addVarState s b info)
  | setVar (i : Nat) (b : Bool) (old info : VarInfo) : s.finished = false → s.vars[i]? = some (b, old) →
      XStep cfg s { s with vars := setAt s.vars i (b, info) }
  | store (ty : Str) : s.finished = false → cfg.types.contains ty = true → XStep cfg s (storeState s ty)
  /-- `bridge` and `unuse` -/
  | setStat (ty : Str) (i : Nat) (st : CStat) : s.finished = false →
      XStep cfg s { s with cons := updCons s.cons ty (setAt (s.cons ty) i st) }
  | addItems (node : Str) (n : Nat) : s.finished = false → cfg.addNodes.contains node = true → n ≠ 0 →
      XStep cfg s (addItemsState s node n)
  | nlObj : s.finished = false → XStep cfg s { s with out := s.out ++ [Rec.nlObj s.nlObjs], nlObjs := s.nlObjs + 1 }
  | nlCon (l : Bool) : s.finished = false →
      XStep cfg s { s with out := s.out ++ [Rec.nlCon s.nlCons.length l], nlCons := s.nlCons ++ [l] }
  | nlDefVar : s.finished = false → XStep cfg s { s with out := s.out ++ [Rec.nlDefVar s.nlDefs], nlDefs := s.nlDefs + 1 }
  | addObj (info : ObjInfo) : s.finished = false →
      XStep cfg s { s with out := s.out ++ [Rec.obj s.objs.length info], objs := s.objs ++ [info] }
  | setObj (i : Nat) (info : ObjInfo) : s.finished = false → XStep cfg s { s with objs := setAt s.objs i info }
  | link (lty : Str) (e : Nat) (src dst : List NodeRef) : (∀ r, r ∈ src ∨ r ∈ dst → covered cfg s r = true) →
      XStep cfg s { s with out := s.out ++ [Rec.link lty e src dst] }
  | finish : s.finished = false → XStep cfg s (finishState cfg s)

theorem xev_step (cfg : Cfg) (s : XState) (e : Ev) : XStep cfg s (xev cfg s e) := by
  cases e with
  | addVar b info =>
    simp only [xev]; split
    · exact .reject
    · rename_i hf; exact .addVar b info (by simpa using hf)
  | setVar i info =>
    simp only [xev]; split
    · exact .reject
    · rename_i hf; split
      · rename_i b old hv; exact .setVar i b old info (by simpa using hf) hv
      · exact .reject
  | store ty =>
    simp only [xev]; split
    · exact .reject
    · rename_i hf
      have hf : s.finished = false ∧ cfg.types.contains ty = true := by simpa using hf
      exact .store ty hf.1 hf.2
  | bridge ty i =>
    simp only [xev]; split
    · exact .reject
    · rename_i hf
      have hf : (s.finished = false ∧ cfg.types.contains ty = true) ∧ i < (s.cons ty).length := by simpa using hf
      exact .setStat ty i .bridged hf.1.1
  | unuse ty i =>
    simp only [xev]; split
    · exact .reject
    · rename_i hf
      have hf : (s.finished = false ∧ cfg.types.contains ty = true) ∧ i < (s.cons ty).length := by simpa using hf
      exact .setStat ty i .unused hf.1.1
  | addItems node n =>
    simp only [xev]; split
    · exact .reject
    · rename_i hf
      have hf : (s.finished = false ∧ cfg.addNodes.contains node = true) ∧ ¬ n = 0 := by simpa using hf
      exact .addItems node n hf.1.1 hf.1.2 hf.2
  | nlObj =>
    simp only [xev]; split
    · exact .reject
    · rename_i hf; exact .nlObj (by simpa using hf)
  | nlCon l =>
    simp only [xev]; split
    · exact .reject
    · rename_i hf; exact .nlCon l (by simpa using hf)
  | nlDefVar =>
    simp only [xev]; split
    · exact .reject
    · rename_i hf; exact .nlDefVar (by simpa using hf)
  | addObj info =>
    simp only [xev]; split
    · exact .reject
    · rename_i hf; exact .addObj info (by simpa using hf)
  | setObj i info =>
    simp only [xev]; split
    · exact .reject
    · rename_i hf
      have hf : s.finished = false ∧ i < s.objs.length := by simpa using hf
      exact .setObj i info hf.1
  | link lty en src dst =>
    simp only [xev]; split
    · rename_i hg
      simp only [Bool.and_eq_true, List.all_eq_true] at hg
      exact .link lty en src dst (fun r hr => hr.elim (hg.1 r) (hg.2 r))
    · exact .reject
  | finish =>
    simp only [xev]; split
    · exact .reject
    · rename_i hf; exact .finish (by simpa using hf)

theorem xevs_inv {cfg : Cfg} {P : XState → Prop} (step : ∀ {s s'}, P s → XStep cfg s s' → P s') :
    ∀ (evs : List Ev) (s : XState), P s → P (xevs cfg s evs)
  | [], _, h => h
  | e :: evs, s, h => xevs_inv step evs (xev cfg s e) (step h (xev_step cfg s e))

theorem finishTail_get (cfg : Cfg) (s : XState) (r : Rec)
    (h : r ∈ (allFinish cfg s.cons cfg.types).1 ++ cfg.types.map (fun ty => Rec.conGroup ty (cfg.grp ty))) (i : Nat) :
    varAt i r = none ∧ objAt i r = none := by
  rcases List.mem_append.mp h with h | h
  · obtain ⟨_, _, _, _, _, _, rfl⟩ := af_status cfg s.cons cfg.types r h; exact ⟨rfl, rfl⟩
  · obtain ⟨_, _, rfl⟩ := List.mem_map.mp h; exact ⟨rfl, rfl⟩

def VTab (s : XState) : Prop := Tab varFam s.vars s.out s.finished

theorem vtab_step {cfg : Cfg} {s s' : XState} (h : VTab s) (st : XStep cfg s s') : VTab s' := by
  cases st with
  | reject | setStat | setObj | addItems => exact h
  | store | nlObj | nlCon | nlDefVar | addObj | link => exact h.frame [_] (by simp [varFam, varAt])
  | addVar b info hf => exact h.add hf (b, info)
  | setVar i b old info hf hget => exact h.set hf i (b, info) (fun a0 ha => by rw [hget] at ha; cases ha; rfl)
  | finish hf =>
    have := (h.dump.frame (objRecs 0 s.objs) (fun r hr i => by
      obtain ⟨_, _, rfl⟩ := List.mem_mapIdx.mp (objRecs_eq _ _ ▸ hr); rfl)).frame _ (fun r hr i => (finishTail_get cfg s r hr i).1)
    simpa [VTab, finishState, finishRecs, varRecs_eq] using this

theorem VTab.vars {s : XState} (h : VTab s) :
    (∀ i, i < s.vars.length → ∃ b info, Rec.var i b info ∈ s.out) ∧ (∀ i b info, Rec.var i b info ∈ s.out → i < s.vars.length) :=
  ⟨fun i hi => ⟨_, h.has i _ (List.getElem?_eq_getElem hi)⟩, fun _ _ _ hm => h.lt_length hm⟩

def SLe (s s' : XState) : Prop :=
  s.vars.length ≤ s'.vars.length ∧ (∀ ty, (s.cons ty).length ≤ (s'.cons ty).length) ∧
  (∀ g, (s.delivered.filter (fun c => c.grp == g)).length ≤ (s'.delivered.filter (fun c => c.grp == g)).length) ∧
  (∀ t, s.extra t ≤ s'.extra t)

theorem SLe_refl (s : XState) : SLe s s := ⟨Nat.le_refl _, fun _ => Nat.le_refl _, fun _ => Nat.le_refl _, fun _ => Nat.le_refl _⟩

theorem refIn_iff {cfg : Cfg} {s : XState} {r : NodeRef} :
    refIn cfg s r = true ↔ ∃ sz, sizeNow cfg s r.node = some sz ∧ r.beg ≤ r.last ∧ r.last < sz := by
  unfold refIn
  cases sizeNow cfg s r.node <;> simp

theorem sizeNow_mono {cfg : Cfg} {s s' : XState} (h : SLe s s') {n : Str} {a : Nat} (ha : sizeNow cfg s n = some a) :
    ∃ b, sizeNow cfg s' n = some b ∧ a ≤ b := by
  unfold sizeNow at ha ⊢
  split at ha
  · cases ha; exact ⟨_, by simp only [*, ↓reduceIte], h.1⟩
  split at ha
  · cases ha; exact ⟨_, by simp only [*, ↓reduceIte], h.2.2.2 n⟩
  split at ha
  · cases ha; exact ⟨_, by simp only [*, ↓reduceIte, Bool.false_eq_true], h.2.2.1 _⟩
  split at ha
  · cases ha; exact ⟨_, by simp only [*, ↓reduceIte, Bool.false_eq_true], h.2.1 n⟩
  · cases ha

theorem refIn_of_le {cfg : Cfg} {s s' : XState} (h : SLe s s') {r : NodeRef} (hr : refIn cfg s r = true) :
    refIn cfg s' r = true := by
  obtain ⟨sz, hs, h1, h2⟩ := refIn_iff.mp hr
  obtain ⟨b, hb, hle⟩ := sizeNow_mono h hs
  exact refIn_iff.mpr ⟨b, hb, h1, by omega⟩

theorem updCons_same (f : Str → List CStat) (ty : Str) (l : List CStat) : updCons f ty l ty = l := by simp [updCons]
theorem updCons_other (f : Str → List CStat) (ty t : Str) (l : List CStat) (h : t ≠ ty) : updCons f ty l t = f t := by
  simp [updCons, h]

theorem updCons_len_le (f : Str → List CStat) (ty : Str) (l : List CStat) (h : (f ty).length ≤ l.length) :
    ∀ t, (f t).length ≤ (updCons f ty l t).length := by
  intro t; unfold updCons; split
  · rename_i e; subst e; exact h
  · exact Nat.le_refl _

theorem updCons_setAt_len (f : Str → List CStat) (ty : Str) (i : Nat) (st : CStat) (t : Str) :
    (updCons f ty (setAt (f ty) i st) t).length = (f t).length := by
  unfold updCons; split
  · rename_i e; subst e; simp [setAt]
  · rfl

theorem XStep.le {cfg : Cfg} {s s' : XState} (st : XStep cfg s s') (hd : s.finished = false → s.delivered = []) :
    SLe s s' := by
  cases st with
  | addVar b info => exact ⟨by simp [addVarState], fun _ => Nat.le_refl _, fun _ => Nat.le_refl _, fun _ => Nat.le_refl _⟩
  | setVar i b old info => exact ⟨by simp [setAt], fun _ => Nat.le_refl _, fun _ => Nat.le_refl _, fun _ => Nat.le_refl _⟩
  | store ty => exact ⟨Nat.le_refl _, updCons_len_le _ _ _ (by simp), fun _ => Nat.le_refl _, fun _ => Nat.le_refl _⟩
  | setStat ty i st =>
    exact ⟨Nat.le_refl _, fun t => Nat.le_of_eq (updCons_setAt_len _ _ _ _ t).symm, fun _ => Nat.le_refl _, fun _ => Nat.le_refl _⟩
  | addItems node n =>
    refine ⟨Nat.le_refl _, fun _ => Nat.le_refl _, fun _ => Nat.le_refl _, fun t => ?_⟩
    simp only [addItemsState]; split
    · rename_i e; subst e; omega
    · exact Nat.le_refl _
  | finish hf => exact ⟨Nat.le_refl _, fun _ => Nat.le_refl _, fun g => by simp [hd hf], fun _ => Nat.le_refl _⟩
  | _ => exact SLe_refl s

theorem xev_le (cfg : Cfg) (s : XState) (e : Ev) (hd : s.finished = false → s.delivered = []) : SLe s (xev cfg s e) :=
  (xev_step cfg s e).le hd

/-- the configuration is sane: keeper types are distinct and are not names of the other value nodes -/
structure CfgOk (cfg : Cfg) : Prop where
  nodup : cfg.types.Nodup
  tyRes : ∀ ty, cfg.types.contains ty = true →
    ty ≠ cl!"dest_vars()" ∧ cfg.addNodes.contains ty = false ∧ destConsGroup? ty = none
  addRes : ∀ n, cfg.addNodes.contains n = true → n ≠ cl!"dest_vars()"

theorem size_vars (cfg : Cfg) (s : XState) : sizeNow cfg s cl!"dest_vars()" = some s.vars.length := by simp [sizeNow]

theorem size_add (cfg : Cfg) (ok : CfgOk cfg) (s : XState) (n : Str) (h : cfg.addNodes.contains n = true) :
    sizeNow cfg s n = some (s.extra n) := by
  have h1 := ok.addRes n h
  unfold sizeNow
  rw [if_neg h1, if_pos h]

theorem size_ty (cfg : Cfg) (ok : CfgOk cfg) (s : XState) (ty : Str) (h : cfg.types.contains ty = true) :
    sizeNow cfg s ty = some (s.cons ty).length := by
  obtain ⟨h1, h2, h3⟩ := ok.tyRes ty h
  unfold sizeNow
  rw [if_neg h1, if_neg (by rw [h2]; simp), h3]
  simp only [h, if_true]

structure EInv (cfg : Cfg) (s : XState) : Prop where
  /-- the creation records of type `ty` are exactly `0 .. n-1`, in order, `n` = number of stored constraints -/
  news : ∀ ty, s.out.filter (isNew ty) = (List.range (s.cons ty).length).map (Rec.conNew ty)
  /-- no status record and no delivery before the push -/
  nostat : s.finished = false → ∀ r, r ∈ s.out → isStatus r = false
  nodeliv : s.finished = false → s.delivered = []
  /-- every exported link endpoint lies inside the current size of its value node -/
  links : ∀ lty e src dst, Rec.link lty e src dst ∈ s.out → ∀ r, (r ∈ src ∨ r ∈ dst) → refIn cfg s r = true
  /-- every `NodeRange` handed out by `Select`/`Add` lies inside the item count of its class ("node size ≤ item count") -/
  createdIn : ∀ a, a ∈ s.created → refIn cfg s a = true
  /-- every flat variable has a record, and no record names a variable that does not exist -/
  vars1 : ∀ i, i < s.vars.length → ∃ b info, Rec.var i b info ∈ s.out
  vars2 : ∀ i b info, Rec.var i b info ∈ s.out → i < s.vars.length
  /-- after the push: the status records of each type are exactly those `AddAllUnbridged` writes for the stored
      constraints, and the records marked `final` are exactly what was handed to the ModelAPI -/
  fin : s.finished = true →
    (∀ ty, ty ∈ cfg.types → s.out.filter (isStatusTy ty) = (keeperFinish cfg ty 0 (s.cons ty)).1) ∧
    markedDelivered s.out = s.delivered.map (fun c => (c.ty, c.name)) ∧
    s.delivered = (allFinish cfg s.cons cfg.types).2

theorem einv_init (cfg : Cfg) : EInv cfg {} := by
  refine ⟨fun ty => by simp, fun _ r hr => by simp at hr, fun _ => rfl, ?_, fun a h => by simp at h, ?_, ?_, fun h => by simp at h⟩
  · intro lty e src dst h; simp at h
  · intro i h; simp at h
  · intro i b info h; simp at h

theorem isStatusTy_isStatus (ty : Str) (r : Rec) (h : isStatus r = false) : isStatusTy ty r = false := by
  cases r <;> simp [isStatus] at h <;> simp [isStatusTy]

/-- the record kinds the invariant does not speak of -/
def inert : Rec → Bool
  | .nlObj _ | .nlCon _ _ | .nlDefVar _ | .obj _ _ => true
  | _ => false

theorem inert_spec {r : Rec} (h : inert r = true) : (∀ ty, isNew ty r = false) ∧ isStatus r = false ∧
    (∀ lty e a b, r ≠ Rec.link lty e a b) := by
  cases r <;> simp [inert] at h <;> simp [isNew, isStatus]

/-- steps before the push that append `inert` records only; the last four hypotheses (fields such a step leaves alone) are
    closed by `rfl` at the call unless given -/
theorem einv_frame {cfg : Cfg} {s s' : XState} (h : EInv cfg s) (hv : VTab s') (hle : SLe s s')
    (hnf : s.finished = false) (rs : List Rec) (hk : rs.all inert = true) (ho : s'.out = s.out ++ rs)
    (hc : ∀ ty, (s'.cons ty).length = (s.cons ty).length := by intro _; rfl)
    (hd : s'.delivered = s.delivered := by rfl) (hf : s'.finished = s.finished := by rfl)
    (hcr : s'.created = s.created := by rfl) : EInv cfg s' := by
  have hk := fun x hx => inert_spec (List.all_eq_true.mp hk x hx)
  refine ⟨?_, ?_, ?_, ?_, ?_, hv.vars.1, hv.vars.2, fun hfin => by rw [hf, hnf] at hfin; cases hfin⟩
  · intro ty; rw [ho, hc, filter_append_nil _ _ _ (fun x hx => (hk x hx).1 ty)]; exact h.news ty
  · intro _ x hx; rw [ho] at hx
    exact (List.mem_append.mp hx).elim (h.nostat hnf x) (fun hx => (hk x hx).2.1)
  · intro _; rw [hd]; exact h.nodeliv hnf
  · intro lty e src dst hm x hx; rw [ho] at hm
    rcases List.mem_append.mp hm with hm | hm
    · exact refIn_of_le hle (h.links lty e src dst hm x hx)
    · exact absurd rfl ((hk _ hm).2.2 lty e src dst)
  · intro a ha; rw [hcr] at ha; exact refIn_of_le hle (h.createdIn a ha)

theorem covered_refIn (cfg : Cfg) (s : XState) (h : EInv cfg s) (r : NodeRef) (hc : covered cfg s r = true) :
    refIn cfg s r = true := by
  unfold covered at hc
  simp only [Bool.and_eq_true, decide_eq_true_eq] at hc
  obtain ⟨hle, hc⟩ := hc
  cases hg : destConsGroup? r.node with
  | some g =>
    simp only [hg, Bool.and_eq_true, Bool.not_eq_true', decide_eq_false_iff_not, decide_eq_true_eq] at hc
    obtain ⟨⟨h1, h2⟩, h3⟩ := hc
    refine refIn_iff.mpr ⟨_, ?_, hle, h3⟩
    unfold sizeNow
    rw [if_neg h1, if_neg (by rw [h2]; simp), hg]
  | none =>
    simp only [hg, List.any_eq_true, Bool.and_eq_true, decide_eq_true_eq] at hc
    obtain ⟨a, ha, hn, hl⟩ := hc
    obtain ⟨sz, hs, _, h2⟩ := refIn_iff.mp (h.createdIn a ha)
    exact refIn_iff.mpr ⟨sz, hn ▸ hs, hle, hl ▸ h2⟩

theorem nostatus_nil (l : List Rec) (h : ∀ r, r ∈ l → isStatus r = false) (ty : Str) : l.filter (isStatusTy ty) = [] :=
  List.filter_eq_nil_iff.mpr (fun r hr => by simp [isStatusTy_isStatus ty r (h r hr)])

theorem einv_finish (cfg : Cfg) (hn : cfg.types.Nodup) (s : XState) (h : EInv cfg s) (hf : s.finished = false)
    (hle : SLe s (finishState cfg s)) (hv : VTab (finishState cfg s)) : EInv cfg (finishState cfg s) := by
  have hmem := mem_finishRecs cfg s
  refine ⟨?_, fun hfin => by simp [finishState] at hfin, fun hfin => by simp [finishState] at hfin, ?_,
    fun a ha => refIn_of_le hle (h.createdIn a ha), hv.vars.1, hv.vars.2, ?_⟩
  · intro ty
    show (s.out ++ finishRecs cfg s).filter (isNew ty) = _
    rw [filter_append_nil _ _ _ (fun r hr => by
      rcases hmem r hr with ⟨_, _, _, rfl⟩ | ⟨_, _, rfl⟩ | ⟨_, _, _, _, _, _, rfl⟩ | ⟨_, _, rfl⟩ <;> rfl)]
    exact h.news ty
  · intro lty e src dst hm r hr
    rcases List.mem_append.mp hm with hm | hm
    · exact refIn_of_le hle (h.links lty e src dst hm r hr)
    · rcases hmem _ hm with ⟨_, _, _, e'⟩ | ⟨_, _, e'⟩ | ⟨_, _, _, _, _, _, e'⟩ | ⟨_, _, e'⟩ <;> cases e'
  · intro _
    have hold := h.nostat hf
    have hvs : ∀ r, r ∈ varRecs 0 s.vars → isStatus r = false := fun r hr => by
      obtain ⟨_, _, rfl⟩ := List.mem_mapIdx.mp (varRecs_eq _ _ ▸ hr); rfl
    have hos : ∀ r, r ∈ objRecs 0 s.objs → isStatus r = false := fun r hr => by
      obtain ⟨_, _, rfl⟩ := List.mem_mapIdx.mp (objRecs_eq _ _ ▸ hr); rfl
    have hgs : ∀ r, r ∈ cfg.types.map (fun ty => Rec.conGroup ty (cfg.grp ty)) → isStatus r = false := fun r hr => by
      obtain ⟨_, _, rfl⟩ := List.mem_map.mp hr; rfl
    refine ⟨fun ty hty => ?_, ?_, rfl⟩
    · simp only [finishState, finishRecs, List.filter_append, nostatus_nil _ hold, nostatus_nil _ hvs, nostatus_nil _ hos,
        nostatus_nil _ hgs, af_filter cfg s.cons ty cfg.types hn]
      simp [hty]
    · simp only [finishState, finishRecs, md_append, md_nostatus _ hold, md_nostatus _ hvs, md_nostatus _ hos,
        md_nostatus _ hgs, af_delivered]
      simp

theorem einv_step {cfg : Cfg} (ok : CfgOk cfg) {s s' : XState} (h : EInv cfg s) (hv : VTab s) (st : XStep cfg s s') :
    EInv cfg s' := by
  have hv := vtab_step hv st
  have hle := st.le h.nodeliv
  have hlinks : ∀ lty e src dst, Rec.link lty e src dst ∈ s.out → ∀ r, r ∈ src ∨ r ∈ dst → refIn cfg s' r = true :=
    fun lty e src dst hm r hr => refIn_of_le hle (h.links lty e src dst hm r hr)
  have hcreated : ∀ a, a ∈ s.created → refIn cfg s' a = true := fun a ha => refIn_of_le hle (h.createdIn a ha)
  cases st with
  | reject => exact ⟨h.news, h.nostat, h.nodeliv, h.links, h.createdIn, h.vars1, h.vars2, h.fin⟩
  | setVar i b old info hf => exact einv_frame h hv hle hf [] rfl (List.append_nil _).symm
  | setStat ty i st hf => exact einv_frame h hv hle hf [] rfl (List.append_nil _).symm (updCons_setAt_len _ _ _ _)
  | setObj i info hf => exact einv_frame h hv hle hf [] rfl (List.append_nil _).symm
  | nlObj hf => exact einv_frame h hv hle hf [_] rfl rfl
  | nlCon l hf => exact einv_frame h hv hle hf [_] rfl rfl
  | nlDefVar hf => exact einv_frame h hv hle hf [_] rfl rfl
  | addObj info hf => exact einv_frame h hv hle hf [_] rfl rfl
  | finish hf => exact einv_finish cfg ok.nodup s h hf hle hv
  | addVar b info hf =>
    unfold addVarState at hlinks hcreated ⊢
    refine ⟨fun ty => filter_snoc_false (h.news ty) rfl,
      fun _ r hr => (mem_snoc hr).elim (h.nostat hf r) (fun e => e ▸ rfl), h.nodeliv,
      fun lty e src dst hm r hr => (mem_snoc hm).elim (fun hm => hlinks lty e src dst hm r hr) (fun e => nomatch e),
      fun a ha => (mem_snoc ha).elim (hcreated a) (fun e => by subst e; simp [refIn_iff, size_vars]),
      hv.vars.1, hv.vars.2, fun hfin => by simp [hf] at hfin⟩
  | store ty0 hf hty =>
    unfold storeState at hlinks hcreated ⊢
    refine ⟨?_, fun _ r hr => (mem_snoc hr).elim (h.nostat hf r) (fun e => e ▸ rfl), h.nodeliv,
      fun lty e src dst hm r hr => (mem_snoc hm).elim (fun hm => hlinks lty e src dst hm r hr) (fun e => nomatch e),
      fun a ha => (mem_snoc ha).elim (hcreated a) (fun e => by subst e; simp [refIn_iff, size_ty cfg ok _ ty0 hty, updCons_same]),
      hv.vars.1, hv.vars.2,
      fun hfin => by simp [hf] at hfin⟩
    intro ty
    simp only []
    by_cases e : ty = ty0
    · subst e
      rw [updCons_same, List.length_append]
      exact filter_snoc_range (h.news ty) (by simp [isNew])
    · rw [updCons_other _ _ _ _ e]
      exact filter_snoc_false (h.news ty) (by simpa [isNew] using Ne.symm e)
  | addItems node n hf hnode hn =>
    refine ⟨h.news, h.nostat, h.nodeliv, hlinks, ?_, hv.vars.1, hv.vars.2, fun hfin => by simp [addItemsState, hf] at hfin⟩
    intro a ha
    have ha' : a ∈ s.created ++ [⟨node, s.extra node, s.extra node + n - 1⟩] := ha
    simp only [List.mem_append, List.mem_singleton] at ha'
    rcases ha' with ha' | ha'
    · exact hcreated a ha'
    · subst ha'
      have hs := size_add cfg ok (addItemsState s node n) node hnode
      have he : (addItemsState s node n).extra node = s.extra node + n := by simp [addItemsState]
      rw [he] at hs
      refine refIn_iff.mpr ⟨_, hs, ?_, ?_⟩ <;> simp only <;> omega
  | link lty en src dst hg =>
    refine ⟨fun ty => filter_snoc_false (h.news ty) rfl,
      fun hf r hr => (mem_snoc hr).elim (h.nostat hf r) (fun e => e ▸ rfl), h.nodeliv, ?_, h.createdIn,
      hv.vars.1, hv.vars.2, ?_⟩
    · intro lty' e' src' dst' hm r hr
      rcases mem_snoc hm with hm | hm
      · exact h.links lty' e' src' dst' hm r hr
      · cases hm; exact covered_refIn cfg s h r (hg r hr)
    · intro hfin
      obtain ⟨f1, f2, f3⟩ := h.fin hfin
      refine ⟨fun ty hty => filter_snoc_false (f1 ty hty) rfl, ?_, f3⟩
      simp only [md_append]; rw [f2]; simp [markedDelivered]

/-! ### count form (`countStatus`, `countNew`, `classSize` are the functions `WellFormed` is stated with) -/

theorem count_one {p q : Rec → Bool} {f : Nat → Rec} {g : List Rec} {n i : Nat} (hg : g.filter q = (List.range n).map f)
    (hq : ∀ r, p r = true → q r = true) (hp : ∀ k, p (f k) = decide (k = i)) (hi : i < n) : (g.filter p).length = 1 := by
  have : g.filter p = (g.filter q).filter p := by
    rw [List.filter_filter]; exact List.filter_congr fun r _ => by cases h : p r <;> simp [hq r, h]
  rw [this, hg, ← List.countP_eq_length_filter, List.countP_map,
    show p ∘ f = (· == i) from funext fun k => (hp k).trans (Bool.beq_eq_decide_eq k i).symm]
  exact List.count_range.trans (if_pos hi)

end MpVerif.C20
