import MpVerif.Gen.C20Json
import MpVerif.C20.LemmasEscape
/-! # C20: the `EscapeJSON` loop generated from the source equals the hand model `escapeB`

The left sides of `genN_eq` and `badSecond_fold` are the text the translator prints: a change of its output shows here. -/
namespace MpVerif.C20
open GenBase MpVerif.Gen.C20Json

theorem byteAt_append (pre t : List Nat) (k : Nat) : byteAt (pre ++ t) (pre.length + k) = t.getD k 0 := by
  simp [byteAt, List.getD_eq_getElem?_getD, List.getElem?_append_right]

theorem substr_append (pre t : List Nat) (n : Nat) : substr (pre ++ t) pre.length n = t.take n := by
  simp [substr]

theorem genN_eq (c : Nat) :
    (if ((decide (c >= 194)) && (decide (c <= 223))) = true then 1 else (if ((decide (c >= 224)) && (decide (c <= 239))) = true then 2 else (if ((decide (c >= 240)) && (decide (c <= 244))) = true then 3 else 0))) = seqLen c := by
  simp [seqLen]

/-- the generated length test and continuation-byte loop, together, are the first three conjuncts of `seqOk` -/
theorem loop_eq (pre : List Nat) (c : Nat) (t : List Nat) (n : Nat) (hn : n ≤ 3) :
    loopAnd (decide (n > 0) && decide (pre.length + n < (pre ++ c :: t).length)) n
        (fun k => decide (byteAt (pre ++ c :: t) (pre.length + k) &&& 192 = 128))
      = (decide (n > 0) && decide (n ≤ t.length) && (t.take n).all isCont) := by
  have hlen : decide (pre.length + n < (pre ++ c :: t).length) = decide (n ≤ t.length) := by simp; omega
  rw [hlen]
  by_cases hl : n ≤ t.length
  · have e1 := byteAt_append pre (c :: t) 1
    have e2 := byteAt_append pre (c :: t) 2
    have e3 := byteAt_append pre (c :: t) 3
    match n, hn with
    | 0, _ => simp [loopAnd]
    | 1, _ =>
      obtain ⟨b1, t', rfl⟩ := List.exists_cons_of_length_pos hl
      simp [loopAnd, List.range', e1, isCont]
    | 2, _ =>
      obtain ⟨b1, b2, t', rfl⟩ := len2 t hl
      simp [loopAnd, List.range', e1, e2, isCont]
    | 3, _ =>
      obtain ⟨b1, b2, b3, t', rfl⟩ := len3 t hl
      simp [loopAnd, List.range', e1, e2, e3, isCont]
  · simp [loopAnd, hl]

theorem badSecond_fold (c c1 : Nat) :
    ((((((decide (c = 224)) && (decide (c1 < 160))) || ((decide (c = 237)) && (decide (c1 > 159)))) || ((decide (c = 240)) && (decide (c1 < 144)))) || ((decide (c = 244)) && (decide (c1 > 143))))) = badSecond c c1 := rfl

/-- **`escBody` (generated from the source) = `escStep` (hand model)**: at index `|pre|` of `pre ++ c :: t` the loop body
    appends `(escStep c t).1` and leaves `i = |pre| + (escStep c t).2` -/
theorem gen_escBody (pre : List Nat) (c : Nat) (t : List Nat) :
    (escBody (pre ++ c :: t) pre.length).1 = (escStep c t).1 ∧
    (escBody (pre ++ c :: t) pre.length).2.1 = pre.length + (escStep c t).2 := by
  have hb0 : byteAt (pre ++ c :: t) pre.length = c := byteAt_append pre (c :: t) 0
  have hb1 : byteAt (pre ++ c :: t) (pre.length + 1) = t.headD 0 := by
    rw [byteAt_append pre (c :: t) 1]; cases t <;> rfl
  unfold escBody escStep
  simp only [hb0, badSecond_fold, hb1]
  by_cases h1 : c = 34
  · simp [h1]
  by_cases h2 : c = 92
  · simp [h2]
  by_cases h3 : c = 10
  · simp [h3]
  by_cases h4 : c = 13
  · simp [h4]
  by_cases h5 : c = 9
  · simp [h5]
  simp only [h1, h2, h3, h4, h5, if_false]
  by_cases h6 : c < 32
  · simp [h6]
  by_cases h7 : c < 128
  · simp [h6, h7]
  simp only [h6, h7, decide_false, if_false, Bool.false_eq_true]
  rw [genN_eq c, loop_eq pre c t _ (by have := seqLen_cases c; omega)]
  have hso : seqOk c t = (decide (seqLen c > 0) && decide (seqLen c ≤ t.length) && (t.take (seqLen c)).all isCont
      && !badSecond c (t.headD 0)) := rfl
  rw [hso]
  cases (decide (seqLen c > 0) && decide (seqLen c ≤ t.length) && (t.take (seqLen c)).all isCont) <;>
    cases badSecond c (t.headD 0) <;> simp [substr_append]

/-- the loop `for (size_t i=0; i<s.size(); ++i) <body>` around the generated body (the header shape is checked by the
    translator) -/
def genLoop (s : List Nat) : Nat → Nat → List Nat
  | 0, _ => []
  | f + 1, i => if i < s.length then (escBody s i).1 ++ genLoop s f ((escBody s i).2.1 + 1) else []

/-- `EscapeJSON` assembled from the generated loop body -/
def genEscape (s : List Nat) : List Nat := genLoop s s.length 0

theorem genLoop_eq : ∀ (f : Nat) (pre rest : List Nat), genLoop (pre ++ rest) f pre.length = escapeBF f rest
  | 0, _, _ => by simp [genLoop, escapeBF]
  | f + 1, pre, [] => by simp [genLoop, escapeBF]
  | f + 1, pre, c :: t => by
    have hg := gen_escBody pre c t
    have hk := escStep_le c t
    have hlt : pre.length < (pre ++ c :: t).length := by simp
    simp only [genLoop, hlt, if_true, escapeBF, hg.1, hg.2]
    have hsplit : pre ++ c :: t = (pre ++ c :: t.take (escStep c t).2) ++ t.drop (escStep c t).2 := by
      simp [List.take_append_drop]
    have hl : (pre ++ c :: t.take (escStep c t).2).length = pre.length + (escStep c t).2 + 1 := by
      simp [List.length_take, Nat.min_eq_left hk]; omega
    have ih := genLoop_eq f (pre ++ c :: t.take (escStep c t).2) (t.drop (escStep c t).2)
    rw [← hsplit, hl] at ih
    rw [ih]

end MpVerif.C20
