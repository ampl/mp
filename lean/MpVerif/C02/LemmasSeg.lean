import MpVerif.C02.LemmasExpr
/-! # C02 lemmas: segments, the segment loop, the two passes -/
namespace MpVerif.C02
open MpVerif.Gen.Opcodes

/-- checker state between segments -/
def Top (strict : Bool) (c : CState) : Prop := c.stack = [] ∧ c.done = false ∧ (strict = true → c.vals = 0)

theorem topOK_of_top {strict : Bool} {c : CState} (ht : Top strict c) (m : Nat) : topOK strict c m = true := by
  obtain ⟨h1, _, h3⟩ := ht
  cases strict <;> simp_all [topOK]

theorem topOK_push {strict : Bool} {c : CState} (ht : Top strict c) : topOK strict c.push1 1 = true := by
  obtain ⟨h1, _, h3⟩ := ht
  cases strict <;> simp_all [topOK, CState.push1]

theorem top_mk {strict : Bool} {v : Nat} (hv : strict = true → v = 0) : Top strict ⟨v, [], false⟩ := ⟨rfl, rfl, hv⟩

theorem counted_succ (f : Nat → Frame) (k : Nat) (rest : List Frame) : counted f (k + 1) rest = f (k + 1) :: rest := rfl

theorem counted_pos (f : Nat → Frame) {k : Nat} (hk : 1 ≤ k) (rest : List Frame) : counted f k rest = f k :: rest :=
  if_neg (by omega)

section
variable {strict : Bool} {h : Header} {c : CState} {i n : Nat}

theorem core_obj {mx : Bool} (hto : topOK strict c 1 = true) (hi : i < h.num_objs) :
    stepCore strict h c (.obj i mx) = some { c with vals := 0 } := if_pos (by simp [hto, hi])
theorem core_algCon (hto : topOK strict c 1 = true) (hi : i < h.num_algebraic_cons) :
    stepCore strict h c (.algCon i) = some { c with vals := 0 } := if_pos (by simp [hto, hi])
theorem core_logCon (hto : topOK strict c 1 = true) (hv : 1 ≤ c.vals) (hi : i < h.num_logical_cons) :
    stepCore strict h c (.logCon i) = some { c with vals := 0 } := if_pos (by simp [hto, hv, hi])
theorem core_beginCommonExpr (hto : topOK strict c 0 = true) (hi : i < h.num_common_exprs) :
    stepCore strict h c (.beginCommonExpr i n) = some { c with vals := 0, stack := counted .terms n [.ce i] } :=
  if_pos (by simp [hto, hi])
theorem core_endCommonExpr {p : Nat} {d : Bool} :
    stepCore strict h ⟨1, [.ce i], d⟩ (.endCommonExpr i p) = some ⟨0, [], d⟩ := if_pos ⟨rfl, rfl⟩
theorem core_complementarity {var fl : Nat} (hto : topOK strict c 0 = true) (hi : i < h.num_algebraic_cons)
    (hv : var < h.num_vars) : stepCore strict h c (.complementarity i var fl) = some { c with vals := 0 } :=
  if_pos (by simp [hto, hi, hv])
theorem core_linearObj (hto : topOK strict c 0 = true) (hi : i < h.num_objs) (h1 : 1 ≤ n) (h2 : n ≤ h.num_vars) :
    stepCore strict h c (.linearObj i n) = some { c with vals := 0, stack := [.terms n] } :=
  if_pos (by simp [hto, hi, h1, h2])
theorem core_linearCon (hto : topOK strict c 0 = true) (hi : i < h.num_algebraic_cons) (h1 : 1 ≤ n)
    (h2 : n ≤ h.num_vars) : stepCore strict h c (.linearCon i n) = some { c with vals := 0, stack := [.terms n] } :=
  if_pos (by simp [hto, hi, h1, h2])
theorem core_addTerm {v k : Nat} {coef : F64} {rest : List Frame} {d : Bool} (hi : i < h.num_vars) :
    stepCore strict h ⟨v, .terms (k + 1) :: rest, d⟩ (.addTerm i coef) = some ⟨v, counted .terms k rest, d⟩ := if_pos hi
theorem core_varBounds {lb ub : F64} (hto : topOK strict c 0 = true) (hi : i < h.num_vars) :
    stepCore strict h c (.varBounds i lb ub) = some { c with vals := 0 } := if_pos (by simp [hto, hi])
theorem core_conBounds {lb ub : F64} (hto : topOK strict c 0 = true) (hi : i < h.num_algebraic_cons) :
    stepCore strict h c (.conBounds i lb ub) = some { c with vals := 0 } := if_pos (by simp [hto, hi])
theorem core_initVal {v : F64} (hto : topOK strict c 0 = true) (hi : i < h.num_vars) :
    stepCore strict h c (.initVal i v) = some { c with vals := 0 } := if_pos (by simp [hto, hi])
theorem core_initDual {v : F64} (hto : topOK strict c 0 = true) (hi : i < h.num_algebraic_cons) :
    stepCore strict h c (.initDual i v) = some { c with vals := 0 } := if_pos (by simp [hto, hi])
theorem core_columnSizes (hto : topOK strict c 0 = true) :
    stepCore strict h c .columnSizes = some { c with vals := 0, stack := counted .cols (h.num_vars - 1) [] } :=
  if_pos hto
theorem core_function {nm : List UInt8} {na : Int} {t : Nat} (hto : topOK strict c 0 = true) (hi : i < h.num_funcs)
    (ht : t ≤ 1) : stepCore strict h c (.function i nm na t) = some { c with vals := 0 } :=
  if_pos (by simp [hto, hi, ht])
theorem core_intSuffix {nm : List UInt8} {kind : Nat} (hto : topOK strict c 0 = true) (hk : kind ≤ 3) (h1 : 1 ≤ n)
    (h2 : n ≤ h.suffixItems kind) : stepCore strict h c (.intSuffix nm kind n) =
      some { c with vals := 0, stack := [.suf n (h.suffixItems kind) false] } := if_pos (by simp [hto, hk, h1, h2])
theorem core_dblSuffix {nm : List UInt8} {kind : Nat} (hto : topOK strict c 0 = true) (hk : kind ≤ 3) (h1 : 1 ≤ n)
    (h2 : n ≤ h.suffixItems kind) : stepCore strict h c (.dblSuffix nm kind n) =
      some { c with vals := 0, stack := [.suf n (h.suffixItems kind) true] } := if_pos (by simp [hto, hk, h1, h2])
theorem core_setInt {v k items : Nat} {x : Int} {rest : List Frame} {d : Bool} (hi : i < items) :
    stepCore strict h ⟨v, .suf (k + 1) items false :: rest, d⟩ (.setInt i x) =
      some ⟨v, counted (fun k => .suf k items false) k rest, d⟩ := if_pos hi
theorem core_setDbl {v k items : Nat} {x : F64} {rest : List Frame} {d : Bool} (hi : i < items) :
    stepCore strict h ⟨v, .suf (k + 1) items true :: rest, d⟩ (.setDbl i x) =
      some ⟨v, counted (fun k => .suf k items true) k rest, d⟩ := if_pos hi

end

section
variable {strict : Bool}

theorem Env.resObj_lt {cx : Env} {i n : Nat} (hi : i < n) : cx.resObj i < n := by
  unfold Env.resObj; split <;> omega

theorem top_push {c : CState} (ht : Top strict c) : c.push1.stack = [] ∧ c.push1.done = false := ⟨ht.1, ht.2.1⟩

end

section
variable {strict : Bool} {cx : Env} {P0 v : Nat}

/-- between segments: nothing open; with a handler that needs every objective no expression is left without owner -/
def TopPost (strict : Bool) (cx : Env) (P0 : Nat) : Unit → PState → Prop :=
  fun _ s' => ∃ v', Inv strict cx P0 v' [] s' ∧ (strict = true → v' = 0)

theorem TopPost.elim {p : P α} {Q : α → PState → Prop}
    (h : ∀ v', (strict = true → v' = 0) → Tr strict cx (Inv strict cx P0 v' []) p Q) :
    Tr strict cx (TopPost strict cx P0 ()) p Q := fun s ⟨v', hi, hv'⟩ => h v' hv' s hi

theorem TopPost.intro {Pre : PState → Prop} {p : P Unit} (hp : Tr strict cx Pre p fun _ => Inv strict cx P0 0 []) :
    Tr strict cx Pre p (TopPost strict cx P0) := tr_mono hp fun _ _ h => ⟨0, h, fun _ => rfl⟩

theorem topOK_top (hv : strict = true → v = 0) (m : Nat) : topOK strict ⟨v, [], false⟩ m = true :=
  topOK_of_top (top_mk hv) m

theorem tr_top {e : Ev} {st : List Frame} (hs : stepCore strict cx.h ⟨v, st, false⟩ e = some ⟨0, [], false⟩) :
    Tr strict cx (Inv strict cx P0 v st) (emit e) (TopPost strict cx P0) :=
  TopPost.intro (tr_em_last hs)

/-- the notification that takes the expression of a `C` or `O` segment, which `ignore_zero` may have left out -/
theorem tr_owner {e : Ev} (hv : strict = true → v = 0)
    (hs : ∀ c : CState, topOK strict c 1 = true → stepCore strict cx.h c e = some { c with vals := 0 }) :
    Tr strict cx (fun s => Inv strict cx P0 v [] s ∨ Inv strict cx P0 (v + 1) [] s) (emit e) (TopPost strict cx P0) :=
  tr_or (tr_top (hs _ (topOK_top hv 1))) (tr_top (hs _ (topOK_push (top_mk hv))))

theorem tr_items {body : Nat → P Unit} {n i : Nat} (hv : strict = true → v = 0)
    (hb : ∀ j, j < i + n → ∀ v', (strict = true → v' = 0) →
      Tr strict cx (Inv strict cx P0 v' []) (body j) (TopPost strict cx P0)) :
    Tr strict cx (Inv strict cx P0 v []) (forN n i body) (TopPost strict cx P0) :=
  fun s h => tr_forN (fun _ => TopPost strict cx P0 ()) (fun _ j hj => TopPost.elim (hb j hj)) s ⟨v, h, hv⟩

theorem tr_counted {f : Nat → Frame} {rest : List Frame} {body : Nat → P Unit} {n i : Nat}
    (hb : ∀ k j, Tr strict cx (Inv strict cx P0 v (f (k + 1) :: rest)) (body j)
      (fun _ => Inv strict cx P0 v (counted f k rest))) :
    Tr strict cx (Inv strict cx P0 v (counted f n rest)) (forN n i body) (fun _ => Inv strict cx P0 v rest) :=
  tr_forN (fun k => Inv strict cx P0 v (counted f k rest)) fun k j _ => hb k j

/-- `ReadLinearExpr(num_terms, handler)` -/
theorem linearTerms_ok {n : Nat} {rest : List Frame} :
    Tr strict cx (Inv strict cx P0 v (counted .terms n rest)) (readLinearTerms cx n false)
      (fun _ => Inv strict cx P0 v rest) :=
  tr_counted (fun _ _ => tr_index (Site.ubTermVar_le cx.h) fun _ hi => tr_rd rd_rdDouble fun _ _ =>
    tr_rd rd_eol fun _ _ => tr_em_last (core_addTerm hi))

theorem linearTermsSilent_ok {n : Nat} {st : List Frame} :
    Tr strict cx (Inv strict cx P0 v st) (readLinearTerms cx n true) (fun _ => Inv strict cx P0 v st) :=
  tr_forN (fun _ => Inv strict cx P0 v st) fun _ _ _ => tr_rd rd_readUIntUB fun _ _ =>
    tr_rd rd_rdDouble fun _ _ => tr_rd rd_eol fun _ _ => tr_pure fun _ h => h

/-- `ReadLinearExpr<LinearHandler>()` -/
theorem readLinearExpr_ok (isObj : Bool) (hv : strict = true → v = 0) :
    Tr strict cx (Inv strict cx P0 v []) (readLinearExpr cx isObj) (TopPost strict cx P0) := by
  have hto := topOK_top (strict := strict) hv 0
  unfold readLinearExpr
  refine tr_rd rd_readUIntUB fun idx hidx => tr_rd rd_readUIntLU fun n hn0 => ?_
  have hn : 1 ≤ n ∧ n ≤ cx.h.num_vars := by
    have a := Site.lbTerms_eq
    have b := Site.ubTerms_le cx.h
    omega
  refine tr_rd rd_eol fun _ _ => tr_ite (fun _ => tr_mono linearTermsSilent_ok fun _ _ h => ⟨v, h, hv⟩) fun _ => ?_
  refine tr_em (v' := 0) (st' := counted .terms n []) ?_ (TopPost.intro linearTerms_ok)
  rw [counted_pos .terms hn.1]
  cases isObj
  · exact core_linearCon hto (by simpa only [Bool.false_eq_true, ↓reduceIte, Site.itemsSeg_J] using hidx) hn.1 hn.2
  · exact core_linearObj hto (Env.resObj_lt (by simpa only [↓reduceIte, Site.itemsSeg_G] using hidx)) hn.1 hn.2

/-- `ReadBounds<BoundHandler>()` -/
theorem readBounds_ok (isCon : Bool) (hv : strict = true → v = 0) :
    Tr strict cx (Inv strict cx P0 v []) (readBounds cx isCon) (TopPost strict cx P0) := by
  unfold readBounds
  refine tr_rd rd_eol fun _ _ => ?_
  simp only []
  refine tr_items hv fun i hi0 v2 hv2 => ?_
  have hto := topOK_top (strict := strict) hv2 0
  have fin : ∀ lb ub : F64, Tr strict cx (Inv strict cx P0 v2 [])
      (do eol cx; emit (if isCon then .conBounds i lb ub else .varBounds i lb ub)) (TopPost strict cx P0) := by
    refine fun lb ub => tr_rd rd_eol fun _ _ => tr_top ?_
    cases isCon
    · exact core_varBounds hto (by simpa only [Bool.false_eq_true, ↓reduceIte, Site.itemsSeg_b, Nat.zero_add] using hi0)
    · exact core_conBounds hto (by simpa only [↓reduceIte, Site.itemsSeg_r, Nat.zero_add] using hi0)
  have one : ∀ g : F64 → F64 × F64, Tr strict cx (Inv strict cx P0 v2 [])
      (do let x ← rdDouble cx; eol cx
          emit (if isCon then .conBounds i (g x).1 (g x).2 else .varBounds i (g x).1 (g x).2)) (TopPost strict cx P0) :=
    fun g => tr_rd rd_rdDouble fun x _ => fin (g x).1 (g x).2
  refine tr_rdChar fun ch => tr_ite_pos (by nz) (tr_rd rd_rdDouble fun _ _ => tr_rd rd_rdDouble fun _ _ => fin _ _) fun _ =>
    tr_ite_pos (by nz) (one fun x => (_, x)) fun _ => tr_ite_pos (by nz) (one fun x => (x, _)) fun _ =>
    tr_ite_pos (by nz) (fin _ _) fun _ => tr_ite_pos (by nz) (one fun x => (x, x)) fun _ =>
    tr_ite_pos (by nz) (tr_ite (fun hcon => ?_) fun _ => tr_fail) fun _ => tr_failC
  refine tr_rd rd_rdInt fun _ _ => tr_rd rd_rdUInt fun w _ => tr_ite (fun _ => tr_fail) fun hw => ?_
  have hi : i < cx.h.num_algebraic_cons := by simpa only [hcon, ↓reduceIte, Site.itemsSeg_r, Nat.zero_add] using hi0
  have hw : w - 1 < cx.h.num_vars := by simp at hw; omega
  exact tr_em (v' := 0) (st' := []) (core_complementarity hto hi hw)
    (TopPost.intro (tr_rd_last rd_eol))

theorem colLoop_ok {cum : Bool} : ∀ {n prev : Nat},
    Tr strict cx (Inv strict cx P0 v (counted .cols n [])) (readColumnSizes.loop cx cum n prev)
      (fun _ => Inv strict cx P0 v []) := by
  intro n
  induction n with
  | zero => intro prev; unfold readColumnSizes.loop; exact tr_pure fun _ h => h
  | succ n ih =>
    intro prev
    have next : ∀ (e : Ev) (prev' : Nat),
        (∀ k rest, stepCore strict cx.h ⟨v, .cols (k + 1) :: rest, false⟩ e = some ⟨v, counted .cols k rest, false⟩) →
        Tr strict cx (Inv strict cx P0 v (counted .cols (n + 1) []))
          (do emit e; eol cx; readColumnSizes.loop cx cum n prev') (fun _ => Inv strict cx P0 v []) :=
      fun e prev' he => tr_em (he n []) <| tr_rd rd_eol fun _ _ => ih
    unfold readColumnSizes.loop
    exact tr_rd rd_rdUInt fun size _ => tr_ite
      (fun _ => tr_ite (fun _ => tr_fail) fun _ => next _ _ fun _ _ => rfl) fun _ => next _ _ fun _ _ => rfl

/-- `ReadColumnSizes<CUMULATIVE>()` -/
theorem readColumnSizes_ok (cum : Bool) (hv : strict = true → v = 0) :
    Tr strict cx (Inv strict cx P0 v []) (readColumnSizes cx cum) (TopPost strict cx P0) := by
  unfold readColumnSizes
  exact tr_rd rd_rdUInt fun _ _ => tr_ite (fun _ => tr_fail) fun _ => tr_rd rd_eol fun _ _ =>
    tr_em (core_columnSizes (topOK_top hv 0)) <| TopPost.intro colLoop_ok

/-- `ReadInitialValues<ValueHandler>()` -/
theorem readInitialValues_ok (isCon : Bool) (hv : strict = true → v = 0) :
    Tr strict cx (Inv strict cx P0 v []) (readInitialValues cx isCon) (TopPost strict cx P0) := by
  unfold readInitialValues
  refine tr_rd rd_rdUInt fun n _ => tr_ite (fun _ => tr_fail) fun _ => tr_rd rd_eol fun _ _ =>
    tr_items hv fun _ _ v2 hv2 => tr_rd rd_readUIntUB fun idx hidx => tr_rd rd_rdDouble fun x _ =>
    tr_em (v' := 0) (st' := []) ?_ (TopPost.intro (tr_rd_last rd_eol))
  cases isCon
  · exact core_initVal (topOK_top hv2 0) (by simpa only [Bool.false_eq_true, ↓reduceIte, Site.itemsSeg_x] using hidx)
  · exact core_initDual (topOK_top hv2 0) (by simpa only [↓reduceIte, Site.itemsSeg_d] using hidx)

/-- the shape shared by the two kinds of suffix; `dbl` tells them apart in the checker's frame -/
theorem suffixValues_ok {α : Type} {rdv : P α} (hrd : Rd cx rdv (fun _ => True)) {e0 : Ev} {ev : Nat → α → Ev}
    {dbl : Bool} {ub items n : Nat} (hle : ub ≤ items)
    (h0 : ∀ c : CState, topOK strict c 0 = true →
      stepCore strict cx.h c e0 = some { c with vals := 0, stack := [.suf n items dbl] }) (hn : 1 ≤ n)
    (hev : ∀ v k i x, i < items → stepCore strict cx.h ⟨v, [.suf (k + 1) items dbl], false⟩ (ev i x) =
      some ⟨v, counted (fun k => .suf k items dbl) k [], false⟩)
    (hv : strict = true → v = 0) :
    Tr strict cx (Inv strict cx P0 v []) (do
        emit e0
        forN n 0 fun _ => do let index ← readUIntUB cx ub; let x ← rdv; emit (ev index x); eol cx)
      (TopPost strict cx P0) := by
  refine tr_em (v' := 0) (st' := counted (fun k => .suf k items dbl) n []) ?_
    (TopPost.intro (tr_counted fun k _ => tr_index hle fun idx hidx => tr_rd hrd fun x _ =>
      tr_em (hev 0 k idx x hidx) <| tr_rd_last rd_eol))
  rw [counted_pos (fun k => .suf k items dbl) hn]
  exact h0 _ (topOK_top hv 0)

/-- the `S` segment -/
theorem readSuffix_ok (hv : strict = true → v = 0) :
    Tr strict cx (Inv strict cx P0 v []) (readSuffix cx) (TopPost strict cx P0) := by
  unfold readSuffix
  refine tr_rd rd_rdUInt fun info _ => tr_ite (fun _ => tr_fail) fun _ => tr_rd rd_readUIntLU fun n hn =>
    tr_rd rd_rdName fun name _ => tr_rd rd_eol fun _ _ => ?_
  have hk : info % 4 ≤ 3 := by omega
  have hle := Site.itemsSuffix_le cx.h (info % 4) hk
  have h2 : n ≤ cx.h.suffixItems (info % 4) := by omega
  exact tr_ite
    (fun _ => suffixValues_ok rd_rdDouble hle (fun _ hto => core_dblSuffix hto hk hn.1 h2) hn.1
      (fun _ _ _ _ hi => core_setDbl hi) hv)
    (fun _ => suffixValues_ok rd_rdInt hle (fun _ hto => core_intSuffix hto hk hn.1 h2) hn.1
      (fun _ _ _ _ hi => core_setInt hi) hv)

/-- every segment other than `b` -/
theorem readSegment_ok (hso : strict = true → cx.objsel = none) {ch : UInt8} (hv : strict = true → v = 0) :
    Tr strict cx (Inv strict cx P0 v []) (readSegment cx ch) (TopPost strict cx P0) := by
  have hto := topOK_top (strict := strict) hv
  have num : Mode.num false ≠ .num true := by decide
  unfold readSegment
  refine
    tr_ite (fun _ => tr_index (Site.ubC_le cx.h) fun _ hidx => tr_rd rd_eol fun _ _ =>
      tr_bind (readExprTop_ok (.num true)) fun _ => tr_owner hv fun _ hto => core_algCon hto hidx) fun _ =>
    tr_ite (fun _ => tr_index (Site.ubL_le cx.h) fun _ hidx => tr_rd rd_eol fun _ _ =>
      tr_bind (readExprTop_ok .log) fun _ => tr_top (core_logCon (c := ⟨v + 1, [], false⟩)
        (topOK_push (top_mk hv)) (Nat.le_add_left 1 v) hidx)) fun _ =>
    tr_ite (fun _ => tr_index (Site.ubO_le cx.h) fun _ hidx => tr_rd rd_rdUInt fun _ _ => tr_rd rd_eol fun _ _ =>
      tr_bind (readExprTop_ok (.num true)) fun _ => tr_ite
        (fun _ => tr_owner hv fun _ hto => core_obj hto (Env.resObj_lt hidx))
        fun hneed => tr_pure fun _ h =>
          -- an objective is skipped only by a handler with an objective filter, which is not checked strictly
          have hns : strict = false := by
            cases hst : strict
            · rfl
            · have := hso hst; simp [Env.needObj, this] at hneed
          h.elim (fun h => ⟨v, h, hv⟩) (fun h => ⟨v + 1, h, by simp [hns]⟩)) fun _ =>
    tr_ite (fun _ => tr_rd rd_readUIntLU fun idx hidx => tr_rd rd_rdUInt fun nlt _ =>
      tr_rd rd_rdUInt fun pos _ => tr_rd rd_eol fun _ _ => ?V) fun _ =>
    tr_ite (fun _ => tr_index (Site.ubF_le cx.h) fun _ hidx => tr_rd rd_rdUInt fun ty _ =>
      tr_ite (fun _ => tr_fail) fun hty => tr_rd rd_rdInt fun _ _ => tr_rd rd_rdName fun _ _ =>
      tr_rd rd_eol fun _ _ => tr_top (core_function (hto 0) hidx (by simp at hty; omega))) fun _ =>
    tr_ite (fun _ => readLinearExpr_ok true hv) fun _ => tr_ite (fun _ => readLinearExpr_ok false hv) fun _ =>
    tr_ite (fun _ => readSuffix_ok hv) fun _ => tr_ite (fun _ => readBounds_ok true hv) fun _ =>
    tr_ite (fun _ => readColumnSizes_ok false hv) fun _ => tr_ite (fun _ => readColumnSizes_ok true hv) fun _ =>
    tr_ite (fun _ => readInitialValues_ok false hv) fun _ => tr_ite (fun _ => readInitialValues_ok true hv) fun _ => tr_fail
  case V =>
    have after : Tr strict cx (Inv strict cx P0 0 [.ce (idx - cx.h.num_vars)])
        (do readExpr cx (exprFuel cx) (.num false); emit (.endCommonExpr (idx - cx.h.num_vars) pos)) (TopPost strict cx P0) :=
      tr_bind (tr_mono (readExprTop_ok (.num false)) fun _ _ => ExprPost.push num) fun _ => tr_top core_endCommonExpr
    simp only []
    refine tr_em (core_beginCommonExpr (n := nlt) (hto 0) (Site.V_index cx.h idx hidx.1 hidx.2)) <|
      tr_ite (fun _ => tr_bind linearTerms_ok fun _ => after) fun hz => ?_
    have hz' : nlt = 0 := by simpa using hz
    subst hz'
    exact after

/-- `NLReader::Read(Reader *bound_reader)`.  A pass consumes at least one byte per iteration; the second pass of
    READ_BOUNDS_FIRST resumes from `br`, so it gets a budget of its own.  When the loop returns in the first pass the
    cursor is inside the buffer, so the second pass may resume there. -/
theorem readLoop_ok (hso : strict = true → cx.objsel = none) :
    ∀ (fuel : Nat) (rb : Bool) (br : Option RState) (P0 v : Nat), (strict = true → v = 0) →
      (∀ r, br = some r → r.pos ≤ cx.inp.len) →
      (cx.inp.len + 1 - P0) + (match br with | some r1 => cx.inp.len + 2 - r1.pos | none => 0) < fuel →
      Tr strict cx (Inv strict cx P0 v []) (readLoop cx fuel rb br)
        (fun _ s' => ∃ v', chkRev strict cx.h s'.evs = some ⟨v', [], false⟩ ∧ (strict = true → v' = 0) ∧
          (rb = true → cx.flags % 2 = 1 → s'.r.pos ≤ cx.inp.len)) := by
  intro fuel
  induction fuel with
  | zero => intro rb br P0 v _ _ h; omega
  | succ fuel ih =>
    intro rb br P0 v hv hbr hm
    by_cases hP : P0 ≤ cx.inp.len
    case neg => exact fun s h => absurd (Nat.le_trans h.lo h.hi) hP
    have hm' : (cx.inp.len + 1 - (P0 + 1)) + (match (generalizing := false) br with | some r1 => cx.inp.len + 2 - r1.pos | none => 0) < fuel := by
      cases br <;> simp only at hm ⊢ <;> omega
    unfold readLoop
    refine tr_rdChar' fun ch => tr_ite_pos (by nz) (tr_ite (fun _ => ?first) fun hrb => ?second) fun _ =>
      tr_ite_neg (by nz) (fun _ => ?eof) ?segment
    case first =>
      refine tr_bind (readBounds_ok false hv) fun _ => TopPost.elim fun v2 hv2 =>
        tr_ite (fun _ => tr_pure fun _ h => ⟨v2, h.chk, hv2, fun _ _ => h.hi⟩) fun hfl => ?_
      exact tr_mono (ih false br (P0 + 1) v2 hv2 hbr hm')
        fun _ _ ⟨v3, h3, t3, _⟩ => ⟨v3, h3, t3, fun _ hodd => absurd (by simp [hodd]) hfl⟩
    case second =>
      cases br with
      | none => exact tr_fail
      | some r =>
        refine tr_setR (Pre' := Inv strict cx r.pos v []) (fun _ h => ⟨h.chk, Nat.le_refl _, hbr r rfl⟩) ?_
        refine tr_mono (ih false none r.pos v hv (fun _ h => by cases h) ?_)
          fun _ _ ⟨v3, h3, t3, _⟩ => ⟨v3, h3, t3, fun hrb' => absurd hrb' hrb⟩
        simp only at hm ⊢
        omega
    case eof =>
      exact tr_getR fun r => tr_ite (fun _ => tr_ite (fun _ => tr_failC)
        fun hrb => tr_pure fun _ h => ⟨v, h.chk, hv, fun hrb' => absurd hrb' hrb⟩) fun _ => tr_failC
    case segment =>
      exact tr_bind (readSegment_ok hso hv) fun _ => TopPost.elim fun v2 hv2 => ih rb br (P0 + 1) v2 hv2 hbr hm'

end

end MpVerif.C02
