import MpVerif.C02.LemmasSeg
/-! # C02 lemmas: the two passes of `NLReader::Read()` and the bridge to the in-order checker -/
namespace MpVerif.C02

theorem run_snoc (strict : Bool) (h : Header) (e : Ev) :
    ∀ (es : List Ev) (c : CState), run strict h c (es ++ [e]) =
      match run strict h c es with | some c' => step strict h c' e | none => none := by
  intro es
  induction es with
  | nil => intro c; simp [run]; cases step strict h c e <;> simp
  | cons x xs ih =>
    intro c
    simp only [List.cons_append, run]
    cases step strict h c x with
    | none => rfl
    | some c1 => exact ih c1

theorem chkRev_eq_run (strict : Bool) (h : Header) :
    ∀ L : List Ev, chkRev strict h L = run strict h CState.init L.reverse := by
  intro L
  induction L with
  | nil => rfl
  | cons e es ih =>
    rw [List.reverse_cons, run_snoc, ← ih]
    rfl

/-- what `Consistent` gives for a single notification: its indices are inside the header's ranges -/
def evInRange (h : Header) : Ev → Prop
  | .obj i _ => i < h.num_objs
  | .algCon i => i < h.num_algebraic_cons
  | .logCon i => i < h.num_logical_cons
  | .beginCommonExpr i _ => i < h.num_common_exprs
  | .complementarity con var _ => con < h.num_algebraic_cons ∧ var < h.num_vars
  | .linearObj i n => i < h.num_objs ∧ 1 ≤ n ∧ n ≤ h.num_vars
  | .linearCon i n => i < h.num_algebraic_cons ∧ 1 ≤ n ∧ n ≤ h.num_vars
  | .addTerm v _ => v < h.num_vars
  | .varBounds i _ _ => i < h.num_vars
  | .conBounds i _ _ => i < h.num_algebraic_cons
  | .initVal i _ => i < h.num_vars
  | .initDual i _ => i < h.num_algebraic_cons
  | .function i _ _ t => i < h.num_funcs ∧ t ≤ 1
  | .intSuffix _ kind n => kind ≤ 3 ∧ 1 ≤ n ∧ n ≤ h.suffixItems kind
  | .dblSuffix _ kind n => kind ≤ 3 ∧ 1 ≤ n ∧ n ≤ h.suffixItems kind
  | .varRef i => i < h.num_vars
  | .commonRef i => i < h.num_common_exprs
  | .beginCall f _ => f < h.num_funcs
  | _ => True

theorem step_inRange {strict : Bool} {h : Header} {c c' : CState} {e : Ev}
    (hs : step strict h c e = some c') : evInRange h e := by
  unfold step at hs
  split at hs
  · cases hs
  · -- the condition of each arm of `stepCore` contains the clause of `evInRange` for that notification
    cases e <;> simp only [stepCore] at hs <;> simp only [evInRange]
    all_goals try trivial
    all_goals repeat' split at hs
    all_goals simp_all

theorem run_forall {strict : Bool} {h : Header} {Pr : Ev → Prop}
    (hstep : ∀ c c' e, step strict h c e = some c' → Pr e) :
    ∀ {evs : List Ev} {c c' : CState}, run strict h c evs = some c' → ∀ e ∈ evs, Pr e := by
  intro evs
  induction evs with
  | nil => intro c c' _ e he; cases he
  | cons x xs ih =>
    intro c c' hr e he
    simp only [run] at hr
    cases hx : step strict h c x with
    | none => simp [hx] at hr
    | some c1 =>
      rw [hx] at hr
      rcases List.mem_cons.mp he with rfl | hmem
      · exact hstep _ _ _ hx
      · exact ih hr e hmem

theorem run_inRange {strict : Bool} {h : Header} :
    ∀ {evs : List Ev} {c c' : CState}, run strict h c evs = some c' → ∀ e ∈ evs, evInRange h e :=
  run_forall fun _ _ _ => step_inRange

/-- the `OnVarBounds` notifications of an accepted list (the first pass of READ_BOUNDS_FIRST), alone, are accepted and leave
    the checker in its initial state: each is in range because the checker accepted it where it stood -/
theorem filter_varBounds_ok {strict strict' : Bool} {h : Header} :
    ∀ {evs : List Ev} {c : CState}, chkRev strict' h evs = some c →
      chkRev strict h (evs.filter isVarBounds) = some CState.init
  | [], _, _ => rfl
  | e :: es, c, hc => by
    simp only [chkRev] at hc
    cases h1 : chkRev strict' h es with
    | none => simp [h1] at hc
    | some c1 =>
      rw [h1] at hc
      have ih := filter_varBounds_ok (strict := strict) h1
      cases e
      case varBounds i lb ub =>
        simp only [List.filter_cons, isVarBounds, ↓reduceIte, chkRev, ih]
        exact (step_eq rfl _).trans (core_varBounds (topOK_top (fun _ => rfl) 0) (step_inRange hc))
      all_goals exact ih

/-- final state of a completed read -/
def Finished (c : CState) : Prop := c.done = true ∧ c.stack = [] ∧ c.vals = 0

/-- `NLReader::Read()` -/
theorem readBody_ok {strict : Bool} (cx : Env) (hso : strict = true → cx.objsel = none) (r : RState)
    (hr : r.pos ≤ cx.inp.len) :
    Tri strict cx (readBody cx) ⟨r, []⟩ (fun _ s' => ∃ c, chkRev strict cx.h s'.evs = some c ∧ Finished c) := by
  have fin : ∀ (rb : Bool) (br : Option RState), (∀ r, br = some r → r.pos ≤ cx.inp.len) →
      (cx.inp.len + 1 - 0) + (match br with | some r1 => cx.inp.len + 2 - r1.pos | none => 0) < loopFuel cx.inp →
      Tr strict cx (Inv strict cx 0 0 []) (do readLoop cx (loopFuel cx.inp) rb br; emit .endInput : P Unit)
        (fun _ s' => ∃ c, chkRev strict cx.h s'.evs = some c ∧ Finished c) :=
    fun rb br hbr hm => tr_bind (readLoop_ok hso _ rb br 0 0 (fun _ => rfl) hbr hm) fun _ _ ⟨v1, hc1, hv1, _⟩ =>
      ⟨⟨0, [], true⟩, chk_emit hc1 rfl (if_pos (topOK_top hv1 0)), rfl, rfl, rfl⟩
  unfold readBody
  split
  · -- READ_BOUNDS_FIRST
    rename_i hfl
    have h1 := readLoop_ok (strict := true) (cx := { cx with objsel := none }) (fun _ => rfl)
      (loopFuel cx.inp) true none 0 0 (fun _ => rfl) (fun _ h => by cases h) (by simp only [loopFuel]; omega)
      ⟨r, []⟩ ⟨rfl, Nat.zero_le _, hr⟩
    unfold Tri
    simp only []
    rcases h1.cases with ⟨_, s1, e, v1, hc1, _, hp1⟩ | ⟨_, _, e, g⟩ <;> rw [e]
    · have hp := hp1 rfl (by simpa using hfl)
      exact fin false (some s1.r) (fun r hr => by cases hr; exact hp) (by simp only [loopFuel]; omega) _
        ⟨by rw [List.append_nil]; exact filter_varBounds_ok hc1, Nat.zero_le _, hr⟩
    · obtain ⟨c1, hc1⟩ := g.some
      exact good_of_some (by rw [List.append_nil]; exact filter_varBounds_ok hc1)
  · exact fin true none (fun _ h => by cases h) (by simp only [loopFuel]; omega) ⟨r, []⟩ ⟨rfl, Nat.zero_le _, hr⟩

end MpVerif.C02
