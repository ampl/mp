import MpVerif.C02.Model
import MpVerif.C02.LemmasIn
import MpVerif.C02.LemmasSites
/-!
# C02 lemmas: `ReadHeader` keeps the cursor inside the buffer, and an accepted header declares an index space that fits `int`

`ReadHeader` reads the five common-expression counts with `ReadUInt(int &accumulator)`: the accumulator
starts at `num_vars` and is updated by every count, so that `num_vars + Σ counts ≤ INT_MAX` for every
header that is accepted.  `NLReader::Read` relies on it (`num_vars_and_exprs_` is computed in `int`).
-/
namespace MpVerif.C02

/-! ### `ReadHeader` runs before the parser monad: one walk over `readHeader` for the cursor and the header it returns -/

section
variable {inp : Inp} {b : Nat}

theorem readOptions_safe : ∀ {n i : Nat} {opts : List Int}, LSafe b inp.len (readOptions inp n i opts) := by
  intro n
  induction n with
  | zero => intro i opts; unfold readOptions; exact lsafe_pure
  | succ n ih =>
    intro i opts
    unfold readOptions
    refine lt_bind tReadOptionalDouble_safe (fun o => ?_)
    cases o with
    | none => exact lsafe_pure
    | some tmp =>
      simp only
      split
      · exact lsafe_pure
      · split
        · exact ih
        · exact lsafe_pure

/-- one step down the text of `readHeader`: an error report ends a path, a conditional and a bind are opened by their rules,
    `split` opens the `match` on an optional read -/
syntax "lstep" : tactic
macro_rules
  | `(tactic| lstep) => `(tactic| first
      | with_reducible first
        | exact lsafe_pure | exact lt_tReport | exact tReadOptionalUInt_safe | exact tReadOptionalDouble_safe
        | exact tReadTillEndOfLine_safe | exact tReadUInt_safe | exact tReadUIntSize_safe
        | exact readOptions_safe
      | apply lt_bind | apply lt_ite | intro _ | split)

/-- `ReadChar` may step one past the terminating NUL, so what is done with that byte has to be right from any cursor (it is an error) -/
theorem lt_readChar_bind {f : UInt8 → L β} {Q : β → RState → Prop} (hf : ∀ c, c ≠ 0 → LT (InW b inp.len) (f c) Q)
    (h0 : LT (fun _ => True) (f 0) Q) : LT (InW b inp.len) (readChar inp >>= f) Q := by
  constructor
  intro r hr
  show (L.bind (readChar inp) f r).Holds Q
  unfold L.bind readChar
  simp only [Nat.not_lt.mpr hr.2, ↓reduceIte]
  by_cases hc : inp.rd r.pos = 0
  · rw [hc]; exact h0.h _ trivial
  · exact (hf _ hc).h _ (Win.step inp.nul hr hc)

theorem lt_pre_and {Pre : RState → Prop} {φ : Prop} {f : L α} {Q : α → RState → Prop} (h : φ → LT Pre f Q) :
    LT (fun r => Pre r ∧ φ) f Q := ⟨fun r hr => (h hr.2).h r hr.1⟩

theorem tReadUIntAcc_spec (acc : Nat) : LT (InW b inp.len) (tReadUIntAcc inp acc)
    (fun p r' => InW b inp.len r' ∧ (p.2 = acc + p.1 ∧ p.2 ≤ intMax)) :=
  lt_bind tReadUInt_safe fun v0 => lt_ite (fun _ => lt_tReport) fun hle => ⟨fun r hr => ⟨hr, by
    show Site.accNext acc v0 = acc + Site.accValue acc v0 ∧ Site.accNext acc v0 ≤ 2147483647
    rw [Site.accNext_eq _ _ hle, Site.accValue_eq _ _ hle]
    have : ¬ ((acc : Int) > 2147483647 - (v0 : Int)) := hle
    omega⟩⟩

/-- an accepted header: `num_vars + (all common expressions)` fits `int`, and so does `num_algebraic_cons + num_logical_cons`,
    the item count of constraint suffixes (`ConHandler::num_items()`) -/
def HeaderOK (b len : Nat) (h : Header) (r : RState) : Prop :=
  InW b len r ∧ h.num_vars_and_exprs ≤ intMax ∧ h.num_algebraic_cons + h.num_logical_cons ≤ intMax

theorem readCommonExprs_lspec (h0 : Header) (hc : h0.num_algebraic_cons + h0.num_logical_cons ≤ intMax) :
    LT (InW b inp.len) (readCommonExprs inp h0) (HeaderOK b inp.len) := by
  unfold readCommonExprs
  refine lt_bind (tReadUIntAcc_spec _) fun ⟨c1, a1⟩ => lt_pre_and fun e1 => ?_
  refine lt_bind (tReadUIntAcc_spec _) fun ⟨c2, a2⟩ => lt_pre_and fun e2 => ?_
  refine lt_bind (tReadUIntAcc_spec _) fun ⟨c3, a3⟩ => lt_pre_and fun e3 => ?_
  refine lt_bind (tReadUIntAcc_spec _) fun ⟨c4, a4⟩ => lt_pre_and fun e4 => ?_
  refine lt_bind (tReadUIntAcc_spec _) fun ⟨c5, a5⟩ => lt_pre_and fun e5 => ?_
  refine lt_bind tReadTillEndOfLine_safe fun _ => ⟨fun r hr => ⟨hr, ?_, hc⟩⟩
  rw [Site.accInit_eq] at e1
  simp only [Header.num_vars_and_exprs, Header.num_common_exprs] at *
  omega

variable (inp) in
theorem readHeader_spec : LT (InW b inp.len) (readHeader inp) (HeaderOK b inp.len) := by
  unfold readHeader
  refine lt_readChar_bind (fun c _ => ?_) ?_
  · -- every path ends in an error report or in `readCommonExprs`, reached below the negated `G.conOverflow` test
    repeat (first | (with_reducible apply readCommonExprs_lspec; simp only [G.conOverflow, intMax] at *; omega) | lstep)
  · -- NUL is not a format letter
    rw [if_neg (by decide), if_neg (by decide)]
    exact lt_bind (M := fun _ _ => False) lt_tReport fun _ => ⟨fun _ h => h.elim⟩

end
end MpVerif.C02
