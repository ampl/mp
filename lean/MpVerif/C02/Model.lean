import MpVerif.C02.ModelSites
import MpVerif.Gen.Opcodes
/-!
# C02 model: `ReadNLString` — `TextReader::ReadHeader`, `NLReader<Reader, Handler>::Read`

Entry point: `readNL data flags objsel : Result` (header delivered, notifications delivered in order,
outcome).  Everything below is a line-by-line transcription of include/mp/nl-reader.h /
src/nl-reader.cc at the pinned commit; see design_notes/C02.md for the list of reproduced quirks.

Conventions
* `P α` is the parser monad: cursor state + the list of notifications delivered so far (newest first).
  Reader primitives (`L α`, ModelLex) cannot touch the notification list.
* recursion: expression readers recurse on `fuel`; every level starts with `ReadChar`, so
  `fuel = len + 2` can never run out (`C02_total`).
* host assumptions: LP64, little-endian IEEE (`arith::GetKind() = IEEE_LITTLE_ENDIAN`).
-/
namespace MpVerif.C02
open MpVerif.Gen.Opcodes

structure PState where
  r : RState
  evs : List Ev      -- newest first

inductive PRes (α : Type) where
  | ok (a : α) (s : PState)
  | err (e : Err) (evs : List Ev)
  | ub (u : UB) (evs : List Ev)
  | fuel

abbrev P (α : Type) := PState → PRes α

@[inline] def P.pure (a : α) : P α := fun s => .ok a s
@[inline] def P.bind (x : P α) (f : α → P β) : P β := fun s =>
  match x s with
  | .ok a s' => f a s'
  | .err e evs => .err e evs
  | .ub u evs => .ub u evs
  | .fuel => .fuel

instance : Monad P where
  pure := P.pure
  bind := P.bind

/-- run a reader primitive -/
def lift (f : L α) : P α := fun s =>
  match f s.r with
  | .ok a r => .ok a { s with r := r }
  | .err e => .err e s.evs
  | .ub u => .ub u s.evs

/-- deliver a notification to the handler -/
def emit (e : Ev) : P Unit := fun s => .ok () { s with evs := e :: s.evs }

def outOfFuel : P α := fun _ => .fuel
def pub (u : UB) : P α := fun s => .ub u s.evs
def getR : P RState := fun s => .ok s.r s
def setR (r : RState) : P Unit := fun s => .ok () { s with r := r }

/-- `for (int i = 0; i < n; ++i) body(i)` -/
def forN : (n : Nat) → (i : Nat) → (body : Nat → P Unit) → P Unit
  | 0, _, _ => pure ()
  | n + 1, i, body => do body i; forN n (i + 1) body

/-- static context of one `NLReader` instance -/
structure Env where
  inp : Inp
  k : RKind
  h : Header
  flags : Nat
  /-- `none`: the handler needs every objective; `some k`: `NeedObj(i) = (i == k)`, resulting index 0 -/
  objsel : Option Nat

def Env.needObj (cx : Env) (i : Nat) : Bool := match cx.objsel with | none => true | some k => i == k
def Env.resObj (cx : Env) (i : Nat) : Nat := match cx.objsel with | none => i | some _ => 0

inductive Mode | sym | num (ignoreZero : Bool) | log
deriving Repr, BEq, DecidableEq

/-! ### the guards of `NLReader` / `ReadHeader` as named predicates (tied to the source by `Gen/NLGuards.lean`,
    theorems `C02_gen_*` in GenTie.lean; `segmentLetters` by `C02_gen_segment_letters` in GenTieStruct.lean) -/
namespace G
/-- `ReadUInt(unsigned ub)`: `unsigned_value >= ub` -/
abbrev oob (v ub : Nat) : Prop := v ≥ ub
/-- `ReadUInt(unsigned lb, unsigned ub)`: `unsigned_value < lb || unsigned_value >= ub` -/
abbrev oobLU (v lb ub : Nat) : Prop := v < lb ∨ v ≥ ub
/-- `ReadNumArgs`: `num_args < min_args` -/
abbrev fewArgs (n minArgs : Nat) : Prop := n < minArgs
/-- `ReadReference`: `reader_.ReadChar() != 'v'` -/
abbrev notRef (c : UInt8) : Bool := c != 118
/-- `ReadOpCode`: `opcode > MAX_OPCODE` -/
abbrev badOpcode (opcode : Nat) : Prop := opcode > MpVerif.Gen.Opcodes.maxOpcode
/-- PL term: `num_slopes <= 1` -/
abbrev fewSlopes (n : Nat) : Prop := n ≤ 1
/-- logical count: `c != 'o'`, then `GetOpCodeInfo(opcode).kind != expr::COUNT` -/
abbrev notOp (c : UInt8) : Bool := c != 111
abbrev notCountKind (kind : Nat) : Bool := kind != MpVerif.Gen.Opcodes.kCOUNT
/-- COMPL bound: `var_index == 0 || var_index > header_.num_vars` -/
abbrev badComplVar (v numVars : Nat) : Bool := v == 0 || v > numVars
/-- column sizes: `reader_.ReadUInt() != header_.num_vars - 1` (in `int`: never equal when `num_vars = 0`) -/
abbrev badNumSizes (v numVars : Nat) : Prop := numVars = 0 ∨ v != numVars - 1
/-- cumulative column sizes: `size < prev_size` -/
abbrev badOffset (size prev : Nat) : Prop := size < prev
/-- initial values: `num_values > vh.num_items()` -/
abbrev tooManyInit (n numItems : Nat) : Prop := n > numItems
/-- `F` segment: `type != func::NUMERIC && type != func::SYMBOLIC` -/
abbrev badFuncType (t : Nat) : Bool := t != 0 && t != 1
/-- `S` segment: `info > (SUFFIX_KIND_MASK | suf::FLOAT)` -/
abbrev badSuffixKind (info : Nat) : Prop := info > (MpVerif.Gen.Opcodes.kSUFFIX_KIND_MASK ||| MpVerif.Gen.Opcodes.kSUF_FLOAT)
/-- header: `num_ampl_options > MAX_AMPL_OPTIONS` -/
abbrev tooManyOptions (n : Nat) : Prop := n > MpVerif.Gen.Opcodes.kMAX_AMPL_OPTIONS
/-- header: `num_logical_cons > INT_MAX - num_algebraic_cons` -/
abbrev conOverflow (numLogical numAlgebraic : Nat) : Prop := numLogical + numAlgebraic > 2147483647
/-- header: `num_compl_conds > INT_MAX - num_nl_compl_conds` -/
abbrev complOverflow (cc ncc : Nat) : Prop := cc + ncc > 2147483647
/-- header: `arith_kind > arith::LAST` -/
abbrev badArith (ak : Nat) : Prop := ak > MpVerif.Gen.Opcodes.kARITH_LAST
/-- segment letters with their own `case` in `NLReader::Read` (besides `b` and NUL) -/
def segmentLetters : List UInt8 := [67, 76, 79, 86, 70, 71, 74, 83, 114, 75, 107, 120, 100]
end G

section
variable (cx : Env)

def fail (cls : ErrCls) : P α := lift (rReport cx.inp cx.k cls)
def rdChar : P UInt8 := lift (readChar cx.inp)
def rdUInt : P Nat := lift (rReadUInt cx.inp cx.k)
def rdInt (bits : Nat) : P Int := lift (rReadInt cx.inp cx.k bits)
def rdDouble : P F64 := lift (rReadDouble cx.inp cx.k)
def rdString : P (List UInt8) := lift (rReadString cx.inp cx.k)
def rdName : P (List UInt8) := lift (rReadName cx.inp cx.k)
def eol : P Unit := lift (rEol cx.inp cx.k)

/-- `NLReader::ReadUInt(unsigned ub)` -/
def readUIntUB (ub : Nat) : P Nat := do
  let v ← rdUInt cx
  if G.oob v ub then fail cx .oob else pure v

/-- `NLReader::ReadUInt(unsigned lb, unsigned ub)` -/
def readUIntLU (lb ub : Nat) : P Nat := do
  let v ← rdUInt cx
  if G.oobLU v lb ub then fail cx .oob else pure v

/-- `NLReader::ReadNumArgs(min_args)` -/
def readNumArgs (minArgs : Nat) : P Nat := do
  let n ← rdUInt cx
  if G.fewArgs n minArgs then fail cx .fewargs else pure n

/-- `NLReader::DoReadReference` -/
def doReadReference : P Unit := do
  let index ← readUIntUB cx (Site.ubRef cx.h)
  eol cx
  if index < cx.h.num_vars then emit (.varRef index) else emit (.commonRef (index - cx.h.num_vars))

/-- `NLReader::ReadReference` -/
def readReference : P Unit := do
  let c ← rdChar cx
  if G.notRef c then fail cx .ref else doReadReference cx

/-- `NLReader::ReadOpCode` -/
def readOpCode : P Nat := do
  let opcode ← rdUInt cx
  if G.badOpcode opcode then fail cx .opcode else do
  eol cx
  pure opcode

/-- `NLReader::ReadConstant(char code)` -/
def readConstant (code : UInt8) : P F64 := do
  let v ← (if code == 110 then rdDouble cx
    else if code == 115 then do let i ← rdInt cx 16; pure (intToF64 i)
    else if code == 108 then do let i ← rdInt cx 32; pure (intToF64 i)   -- sizeof(double) == 2*sizeof(int)
    else fail cx .const)
  eol cx
  pure v

def opKind (op : Nat) : Nat := (table.getD op (0, 0)).1
def opFirstKind (op : Nat) : Nat := (table.getD op (0, 0)).2

/-- `NLReader::ReadCountExpr` -/
def readCountExpr (rec : Mode → P Unit) : P Unit := do
  let n ← readNumArgs cx 1
  emit (.beginCount n)
  eol cx
  forN n 0 fun _ => do rec .log; emit .addArg
  emit .endCount

/-- `NLReader::ReadNumericExpr(int opcode)` -/
def readNumericOp (rec : Mode → P Unit) (opcode : Nat) : P Unit := do
  let kind := opKind opcode
  let fk := opFirstKind opcode
  if fk == kFIRST_UNARY then do
    rec (.num false); emit (.unary kind)
  else if fk == kFIRST_BINARY then do
    rec (.num false); rec (.num false); emit (.binary kind)
  else if fk == kIF then do
    rec .log; rec (.num false); rec (.num false); emit .ifExpr
  else if fk == kPLTERM then do
    let numSlopes ← rdUInt cx
    if G.fewSlopes numSlopes then fail cx .slopes else do
    eol cx
    emit (.beginPL (numSlopes - 1))
    forN (numSlopes - 1) 0 fun _ => do
      let c ← rdChar cx; let s ← readConstant cx c; emit (.slope s)
      let c ← rdChar cx; let b ← readConstant cx c; emit (.breakpoint b)
    let c ← rdChar cx; let s ← readConstant cx c; emit (.slope s)
    readReference cx
    emit .endPL
  else if fk == kFIRST_VARARG then do
    let n ← readNumArgs cx 1
    emit (.beginVarArg kind n)
    eol cx
    forN n 0 fun _ => do rec (.num false); emit .addArg
    emit .endVarArg
  else if fk == kSUM then do
    let n ← readNumArgs cx 3
    emit (.beginSum n)
    eol cx
    forN n 0 fun _ => do rec (.num false); emit .addArg
    emit .endSum
  else if fk == kCOUNT then readCountExpr cx rec
  else if fk == kNUMBEROF then do
    let n ← readNumArgs cx 1
    eol cx
    rec (.num false)
    emit (.beginNumberOf n)
    forN (n - 1) 0 fun _ => do rec (.num false); emit .addArg
    emit .endNumberOf
  else if fk == kNUMBEROF_SYM then do
    let n ← readNumArgs cx 1
    eol cx
    rec .sym
    emit (.beginSymNumberOf n)
    forN (n - 1) 0 fun _ => do rec .sym; emit .addArg
    emit .endSymNumberOf
  else fail cx .numop

/-- `NLReader::ReadNumericExpr(char code, bool ignore_zero)` -/
def readNumericC (rec : Mode → P Unit) (code : UInt8) (ignoreZero : Bool) : P Unit := do
  if code == 102 then do            -- 'f'
    let f ← readUIntUB cx (Site.ubCall cx.h)
    let n ← rdUInt cx
    eol cx
    emit (.beginCall f n)
    forN n 0 fun _ => do rec .sym; emit .addArg
    emit .endCall
  else if code == 110 || code == 108 || code == 115 then do   -- 'n' 'l' 's'
    let v ← readConstant cx code
    if ignoreZero && F64.isZero v then pure () else emit (.number v)
  else if code == 111 then do       -- 'o'
    let op ← readOpCode cx
    readNumericOp cx rec op
  else if code == 118 then doReadReference cx   -- 'v'
  else fail cx .expr

/-- `NLReader::ReadLogicalExpr(int opcode)` -/
def readLogicalOp (rec : Mode → P Unit) (opcode : Nat) : P Unit := do
  let kind := opKind opcode
  let fk := opFirstKind opcode
  if fk == kNOT then do
    rec .log; emit .not
  else if fk == kFIRST_BINARY_LOGICAL then do
    rec .log; rec .log; emit (.binaryLogical kind)
  else if fk == kFIRST_RELATIONAL then do
    rec (.num false); rec (.num false); emit (.relational kind)
  else if fk == kFIRST_LOGICAL_COUNT then do
    rec (.num false)
    let c ← rdChar cx
    if G.notOp c then fail cx .count else do
    let op ← readOpCode cx
    if G.notCountKind (opKind op) then fail cx .count else do
    readCountExpr cx rec
    emit (.logicalCount kind)
  else if fk == kIMPLICATION then do
    rec .log; rec .log; rec .log; emit .implication
  else if fk == kFIRST_ITERATED_LOGICAL then do
    let n ← readNumArgs cx 3
    emit (.beginIterLogical kind n)
    eol cx
    forN n 0 fun _ => do rec .log; emit .addArg
    emit .endIterLogical
  else if fk == kFIRST_PAIRWISE then do
    let n ← readNumArgs cx 1
    emit (.beginPairwise kind n)
    eol cx
    forN n 0 fun _ => do rec (.num false); emit .addArg
    emit .endPairwise
  else fail cx .logop

/-- `ReadSymbolicExpr` / `ReadNumericExpr(bool)` / `ReadLogicalExpr()`: one level of expression nesting -/
def readExpr : (fuel : Nat) → Mode → P Unit
  | 0, _ => outOfFuel
  | fuel + 1, .sym => do
    let c ← rdChar cx
    if c == 104 then do             -- 'h'
      let s ← rdString cx
      emit (.string s)
    else if c == 111 then do        -- 'o'
      let op ← readOpCode cx
      if op != knl_opcode_IFSYM then readNumericOp cx (readExpr fuel) op
      else do
        readExpr fuel .log; readExpr fuel .sym; readExpr fuel .sym
        emit .symbolicIf
    else readNumericC cx (readExpr fuel) c false
  | fuel + 1, .num iz => do
    let c ← rdChar cx
    readNumericC cx (readExpr fuel) c iz
  | fuel + 1, .log => do
    let c ← rdChar cx
    if c == 110 || c == 108 || c == 115 then do
      let v ← readConstant cx c
      emit (.bool (!F64.isZero v))
    else if c == 111 then do
      let op ← readOpCode cx
      readLogicalOp cx (readExpr fuel) op
    else fail cx .logical

def exprFuel : Nat := cx.inp.len + 2

/-- `NLReader::ReadLinearExpr(int num_terms, LinearHandler)`; `silent`: `NullLinearExprHandler` -/
def readLinearTerms (n : Nat) (silent : Bool) : P Unit :=
  forN n 0 fun _ => do
    let v ← readUIntUB cx (Site.ubTermVar cx.h)
    let coef ← rdDouble cx
    eol cx
    if silent then pure () else emit (.addTerm v coef)

/-- `NLReader::ReadLinearExpr<LinearHandler>()` (`isObj`: `ObjHandler`, else `AlgebraicConHandler`) -/
def readLinearExpr (isObj : Bool) : P Unit := do
  let index ← readUIntUB cx (Site.itemsSeg cx.h (if isObj then 71 else 74))   -- LinearHandler::num_items()
  let n ← readUIntLU cx Site.lbTerms (Site.ubTerms cx.h)
  eol cx
  if isObj && !cx.needObj index then readLinearTerms cx n true
  else do
    emit (if isObj then .linearObj (cx.resObj index) n else .linearCon index n)
    readLinearTerms cx n false

/-- `NLReader::ReadBounds<BoundHandler>()` (`isCon`: `AlgebraicConHandler`, else `VarHandler`) -/
def readBounds (isCon : Bool) : P Unit := do
  eol cx
  let inf : F64 := F64.inf
  let ninf : F64 := F64.inf + 2 ^ 63
  forN (Site.itemsSeg cx.h (if isCon then 114 else 98)) 0 fun i => do    -- BoundHandler::num_items()
    let c ← rdChar cx
    let finish (lb ub : F64) : P Unit := do
      eol cx
      emit (if isCon then .conBounds i lb ub else .varBounds i lb ub)
    if c == 48 then do let lb ← rdDouble cx; let ub ← rdDouble cx; finish lb ub
    else if c == 49 then do let ub ← rdDouble cx; finish ninf ub
    else if c == 50 then do let lb ← rdDouble cx; finish lb inf
    else if c == 51 then finish ninf inf
    else if c == 52 then do let v ← rdDouble cx; finish v v
    else if c == 53 then
      if isCon then do
        let flags ← rdInt cx 32
        let v ← rdUInt cx
        if G.badComplVar v cx.h.num_vars then fail cx .oob else do
        emit (.complementarity i (v - 1) (flags % 4).toNat)
        eol cx
      else fail cx .complvar
    else fail cx .bound

/-- `NLReader::ReadColumnSizes<CUMULATIVE>()` -/
def readColumnSizes (cumulative : Bool) : P Unit := do
  let v ← rdUInt cx
  -- num_sizes = num_vars - 1 is -1 for num_vars = 0, which no unsigned value equals
  if G.badNumSizes v cx.h.num_vars then fail cx .expectn else do
  eol cx
  emit .columnSizes
  let rec loop : (n : Nat) → (prev : Nat) → P Unit
    | 0, _ => pure ()
    | n + 1, prev => do
      let size ← rdUInt cx
      if cumulative then
        if G.badOffset size prev then fail cx .coloff else do
        emit (.colSize (size - prev)); eol cx
        loop n size
      else do
        emit (.colSize size); eol cx
        loop n prev
  loop (cx.h.num_vars - 1) 0

/-- `NLReader::ReadInitialValues<ValueHandler>()` (`isCon`: dual values) -/
def readInitialValues (isCon : Bool) : P Unit := do
  let numItems := Site.itemsSeg cx.h (if isCon then 100 else 120)   -- ValueHandler::num_items()
  let n ← rdUInt cx
  if G.tooManyInit n numItems then fail cx .manyinit else do
  eol cx
  forN n 0 fun _ => do
    let index ← readUIntUB cx numItems
    let v ← rdDouble cx
    emit (if isCon then .initDual index v else .initVal index v)
    eol cx

/-- the `'S'` case of `NLReader::Read` + `ReadSuffix<ItemInfo>(info)` -/
def readSuffix : P Unit := do
  let info ← rdUInt cx
  if G.badSuffixKind info then fail cx .sufkind else do
  let kind := info % 4
  -- ConHandler::num_items() cannot overflow (ReadHeader checks the sum); ReadUInt(1, num_items + 1u)
  let numItems := Site.itemsSuffix cx.h kind   -- ItemInfo::num_items()
  let n ← readUIntLU cx 1 (numItems + 1)
  let name ← rdName cx
  eol cx
  if (info &&& kSUF_FLOAT) != 0 then do
    emit (.dblSuffix name kind n)
    forN n 0 fun _ => do
      let index ← readUIntUB cx numItems
      let v ← rdDouble cx
      emit (.setDbl index v)
      eol cx
  else do
    emit (.intSuffix name kind n)
    forN n 0 fun _ => do
      let index ← readUIntUB cx numItems
      let v ← rdInt cx 32
      emit (.setInt index v)
      eol cx

/-- one segment other than `b` and end of input -/
def readSegment (c : UInt8) : P Unit := do
  if c == 67 then do          -- 'C'
    let index ← readUIntUB cx (Site.ubC cx.h)
    eol cx
    readExpr cx (exprFuel cx) (.num true)
    emit (.algCon index)
  else if c == 76 then do     -- 'L'
    let index ← readUIntUB cx (Site.ubL cx.h)
    eol cx
    readExpr cx (exprFuel cx) .log
    emit (.logCon index)
  else if c == 79 then do     -- 'O'
    let index ← readUIntUB cx (Site.ubO cx.h)
    let objType ← rdUInt cx
    eol cx
    readExpr cx (exprFuel cx) (.num true)
    if cx.needObj index then emit (.obj (cx.resObj index) (objType != 0)) else pure ()
  else if c == 86 then do     -- 'V'
    let idx ← readUIntLU cx (Site.lbV cx.h) (Site.ubV cx.h)
    let idx := idx - cx.h.num_vars
    let nlt ← rdUInt cx
    let position ← rdUInt cx
    eol cx
    emit (.beginCommonExpr idx nlt)
    if nlt != 0 then readLinearTerms cx nlt false else pure ()
    readExpr cx (exprFuel cx) (.num false)
    emit (.endCommonExpr idx position)
  else if c == 70 then do     -- 'F'
    let index ← readUIntUB cx (Site.ubF cx.h)
    let type ← rdUInt cx
    if G.badFuncType type then fail cx .functype else do
    let nargs ← rdInt cx 32
    let name ← rdName cx
    eol cx
    emit (.function index name nargs type)
  else if c == 71 then readLinearExpr cx true        -- 'G'
  else if c == 74 then readLinearExpr cx false       -- 'J'
  else if c == 83 then readSuffix cx                 -- 'S'
  else if c == 114 then readBounds cx true           -- 'r'
  else if c == 75 then readColumnSizes cx false      -- 'K'
  else if c == 107 then readColumnSizes cx true      -- 'k'
  else if c == 120 then readInitialValues cx false   -- 'x'
  else if c == 100 then readInitialValues cx true    -- 'd'
  else fail cx .segment

/-- `NLReader::Read(Reader *bound_reader)`: the segment loop.  `readBounds` = the local `read_bounds`,
    `br` = `bound_reader`.  Returns when the input ends (or, in the first pass of
    `READ_BOUNDS_FIRST`, right after the `b` segment). -/
def readLoop : (fuel : Nat) → (readBnds : Bool) → (br : Option RState) → P Unit
  | 0, _, _ => outOfFuel
  | fuel + 1, readBnds, br => do
    let c ← rdChar cx
    if c == 98 then             -- 'b'
      if readBnds then do
        readBounds cx false
        if cx.flags % 2 == 1 then pure () else readLoop fuel false br
      else match br with
        | none => fail cx .dupb
        | some r => do setR r; readLoop fuel false none
    else if c == 0 then do
      let r ← getR
      if r.pos == cx.inp.len + 1 then     -- IsEOF()
        if readBnds then fail cx .nob else pure ()
      else fail cx .segment
    else do
      readSegment cx c
      readLoop fuel readBnds br

end

/-! ### ReadHeader -/

section
variable (inp : Inp)

def readOptions : (n i : Nat) → List Int → L (List Int)
  | 0, _, opts => pure opts
  | n + 1, i, opts => do
    match ← tReadOptionalDouble inp with
    | none => pure opts
    | some tmp =>
      -- `if (!(tmp >= -2^63 && tmp < 2^63)) break;` (NaN, ±inf, out of range: option left unchanged)
      match F64.toLong tmp with
      | none => pure opts
      | some (v, exact) =>
        let opts := opts.set i v
        if exact then readOptions n (i + 1) opts else pure opts

/-- last header line: the five common-expression counts, read with `ReadUInt(int &accumulator)` so that the
    running total `max_vars = num_vars + c1 + .. + ck` is checked against `INT_MAX` after every count
    (variable/common-expression indices go from 0 to that total) -/
def readCommonExprs (h : Header) : L Header := do
  let (c1, acc) ← tReadUIntAcc inp (Site.accInit h)
  let (c2, acc) ← tReadUIntAcc inp acc
  let (c3, acc) ← tReadUIntAcc inp acc
  let (c4, acc) ← tReadUIntAcc inp acc
  let (c5, _) ← tReadUIntAcc inp acc
  tReadTillEndOfLine inp
  pure { h with cexprs_both := c1, cexprs_cons := c2, cexprs_objs := c3, cexprs_single_cons := c4,
                cexprs_single_objs := c5 }

/-- `TextReader::ReadHeader` -/
def readHeader : L Header := do
  let c ← readChar inp
  let fmt ← (if c == 103 then pure 0 else if c == 98 then pure 1 else tReport inp .format : L Nat)
  let h : Header := { format := fmt }
  let n? ← tReadOptionalUInt inp
  let nopts := n?.getD h.num_ampl_options
  if G.tooManyOptions nopts then tReport inp .manyopts else do
  let opts ← readOptions inp nopts 0 h.ampl_options
  let vb? ← (if opts.getD 1 0 == 3 then tReadOptionalDouble inp else pure none : L (Option F64))
  tReadTillEndOfLine inp
  let h := { h with num_ampl_options := nopts, ampl_options := opts, ampl_vbtol := vb?.getD 0 }
  -- problem dimensions
  let num_vars ← tReadUInt inp
  let num_algebraic_cons ← tReadUInt inp
  let num_objs ← tReadUInt inp
  let ranges? ← tReadOptionalUInt inp
  let eqns? ← (if ranges?.isSome then tReadOptionalUInt inp else pure none : L (Option Nat))
  let lcons? ← (if eqns?.isSome then tReadOptionalUInt inp else pure none : L (Option Nat))
  -- suffixes on constraints address algebraic and logical constraints together
  if G.conOverflow (lcons?.getD 0) num_algebraic_cons then tReport inp .ioverflow else do
  tReadTillEndOfLine inp
  let h := { h with num_vars, num_algebraic_cons, num_objs, num_ranges := ranges?.getD 0,
                    num_eqns := match eqns? with | some e => (e : Int) | none => -1,
                    num_logical_cons := lcons?.getD 0 }
  -- nonlinear and complementarity information
  let num_nl_cons ← tReadUInt inp
  let num_nl_objs ← tReadUInt inp
  let cc? ← tReadOptionalUInt inp
  let ncc? ← (if cc?.isSome then tReadOptionalUInt inp else pure none : L (Option Nat))
  let di? ← (if ncc?.isSome then tReadOptionalUInt inp else pure none : L (Option Nat))
  let nz? ← (if di?.isSome then tReadOptionalUInt inp else pure none : L (Option Nat))
  let allCompl := nz?.isSome
  let num_nl_compl_conds := ncc?.getD 0
  let num_compl_conds := cc?.getD 0 + num_nl_compl_conds
  if G.complOverflow (cc?.getD 0) num_nl_compl_conds then tReport inp .ioverflow else do
  tReadTillEndOfLine inp
  let h := { h with num_nl_cons, num_nl_objs, num_compl_conds, num_nl_compl_conds,
                    num_compl_dbl_ineqs := if num_compl_conds > 0 && !allCompl then -1 else ((di?.getD 0 : Nat) : Int),
                    num_compl_vars_with_nz_lb := nz?.getD 0 }
  -- network constraints
  let num_nl_net_cons ← tReadUInt inp
  let num_linear_net_cons ← tReadUInt inp
  tReadTillEndOfLine inp
  -- nonlinear variables
  let num_nl_vars_in_cons ← tReadUInt inp
  let num_nl_vars_in_objs ← tReadUInt inp
  let both? ← tReadOptionalUInt inp
  tReadTillEndOfLine inp
  let h := { h with num_nl_net_cons, num_linear_net_cons, num_nl_vars_in_cons, num_nl_vars_in_objs,
                    num_nl_vars_in_both := match both? with | some b => (b : Int) | none => -1 }
  let num_linear_net_vars ← tReadUInt inp
  let num_funcs ← tReadUInt inp
  let ak? ← tReadOptionalUInt inp
  let (arith_kind, flags) ← (match ak? with
    | some ak =>
      if G.badArith ak then tReport inp .arith else do
      let fl? ← tReadOptionalUInt inp
      pure (ak, fl?.getD h.flags)
    | none => pure (h.arith_kind, h.flags) : L (Nat × Nat))
  tReadTillEndOfLine inp
  let h := { h with num_linear_net_vars, num_funcs, arith_kind, flags }
  -- discrete variables
  let num_linear_binary_vars ← tReadUInt inp
  let num_linear_integer_vars ← tReadUInt inp
  let (ib, ic, io) ← (if both?.isSome then do
      let a ← tReadUInt inp; let b ← tReadUInt inp; let c ← tReadUInt inp; pure (a, b, c)
    else pure (0, 0, 0) : L (Nat × Nat × Nat))
  tReadTillEndOfLine inp
  let h := { h with num_linear_binary_vars, num_linear_integer_vars, num_nl_integer_vars_in_both := ib,
                    num_nl_integer_vars_in_cons := ic, num_nl_integer_vars_in_objs := io }
  -- nonzeros
  let num_con_nonzeros ← tReadUIntSize inp
  let num_obj_nonzeros ← tReadUIntSize inp
  tReadTillEndOfLine inp
  -- names
  let max_con_name_len ← tReadUInt inp
  let max_var_name_len ← tReadUInt inp
  tReadTillEndOfLine inp
  -- common expressions
  readCommonExprs inp { h with num_con_nonzeros, num_obj_nonzeros, max_con_name_len, max_var_name_len }

end

/-! ### ReadNLString -/

inductive Outcome | ok | err (e : Err) | ub (u : UB) | fuel
deriving Repr, BEq, DecidableEq

def Outcome.toStr : Outcome → String
  | .ok => "ok" | .err e => e.toStr | .ub u => u.toStr | .fuel => "model-out-of-fuel"

/-- what the handler saw (`header` first, then `evs` in delivery order) and how the call ended -/
structure Result where
  outcome : Outcome
  header : Option Header
  evs : List Ev
deriving Repr, BEq, DecidableEq

def isVarBounds : Ev → Bool | .varBounds .. => true | _ => false

-- every iteration of the segment loop consumes a byte: at most `len + 1` iterations from the start of the body, at
-- most `len + 2` more for the second pass of READ_BOUNDS_FIRST, which resumes from a saved cursor (`readLoop_ok`)
def loopFuel (inp : Inp) : Nat := 2 * inp.len + 4

/-- `NLReader::Read()` -/
def readBody (cx : Env) (s : PState) : PRes Unit :=
  if cx.flags % 2 == 1 then
    -- first pass: `VarBoundHandler` forwards OnVarBounds only; it needs every objective
    let cx1 : Env := { cx with objsel := none }
    match readLoop cx1 (loopFuel cx.inp) true none { r := s.r, evs := [] } with
    | .ok _ s1 =>
      let s2 : PState := { r := s.r, evs := s1.evs.filter isVarBounds ++ s.evs }
      (do readLoop cx (loopFuel cx.inp) false (some s1.r); emit .endInput : P Unit) s2
    | .err e evs1 => .err e (evs1.filter isVarBounds ++ s.evs)
    | .ub u evs1 => .ub u (evs1.filter isVarBounds ++ s.evs)
    | .fuel => .fuel
  else (do readLoop cx (loopFuel cx.inp) true none; emit .endInput : P Unit) s

def finish (h : Header) : PRes Unit → Result
  | .ok _ s => ⟨.ok, some h, s.evs.reverse⟩
  | .err e evs => ⟨.err e, some h, evs.reverse⟩
  | .ub u evs => ⟨.ub u, some h, evs.reverse⟩
  | .fuel => ⟨.fuel, some h, []⟩

/-- `mp::ReadNLString(str, handler, name, flags)` for an `NLStringRef` `inp` -/
def readNLInp (inp : Inp) (flags : Nat) (objsel : Option Nat) : Result :=
  match readHeader inp ⟨0, 0, 0, 1⟩ with
  | .err e => ⟨.err e, none, []⟩
  | .ub u => ⟨.ub u, none, []⟩
  | .ok h r =>
    if h.format == 0 then
      finish h (readBody ⟨inp, .text, h, flags, objsel⟩ ⟨r, []⟩)
    else if h.arith_kind == 1 then        -- arith::GetKind() == header.arith_kind
      finish h (readBody ⟨inp, .bin false, h, flags, objsel⟩ ⟨r, []⟩)
    else if h.arith_kind == 2 then        -- the other IEEE byte order
      finish h (readBody ⟨inp, .bin true, h, flags, objsel⟩ ⟨r, []⟩)
    else ⟨.err ⟨.unsarith, false, 0, 0⟩, some h, []⟩

/-- `mp::ReadNLString(NLStringRef(data, size), handler, name, flags)` on the bytes `data` -/
def readNL (data : ByteArray) (flags : Nat) (objsel : Option Nat) : Result :=
  readNLInp (Inp.ofBytes data) flags objsel

/-! ### NLFileReader::Read -/

/-- `NLFileReader<>::Read(filename, handler, flags)` on a file with the bytes `content` and page size
    `pageSize`: `Open` rounds the size up to a page multiple; if the size already is one, the file is copied
    into a `size + 1` buffer with a NUL appended (copy path); otherwise it is mapped and the rest of the last
    page is zero-filled by the OS (mmap path).  Both paths call `ReadNLString(NLStringRef(buf, size), handler,
    filename, flags)`. -/
def fileBuffer (content : ByteArray) (pageSize : Nat) : Array UInt8 :=
  let size := content.size
  let remainder := size % pageSize
  let rounded := if remainder != 0 then size + pageSize - remainder else size
  if size == rounded then content.data.push 0
  else content.data ++ Array.replicate (rounded - size) 0

theorem bufRd_push0 (a : Array UInt8) (p : Nat) : bufRd (a.push 0) p = bufRd a p := by
  unfold bufRd
  split
  · rw [Array.getElem_push]
  · rename_i h1
    rw [dif_neg (fun h => h1 (by rw [Array.size_push]; omega))]

theorem bufRd_pad0 (a : Array UInt8) (k p : Nat) : bufRd (a ++ Array.replicate k 0) p = bufRd a p := by
  unfold bufRd
  split
  · rw [Array.getElem_append]
    split
    · rfl
    · simp
  · rename_i h1
    rw [dif_neg (fun h => h1 (by rw [Array.size_append]; omega))]

/-- the buffer `NLFileReader::Read` hands to `ReadNLString` (either path) reads exactly like the file's
    bytes followed by NULs -/
theorem fileBuffer_rd (content : ByteArray) (pageSize : Nat) (p : Nat) :
    bufRd (fileBuffer content pageSize) p = bufRd content.data p := by
  unfold fileBuffer
  simp only
  generalize (if (content.size % pageSize != 0) = true then content.size + pageSize - content.size % pageSize
    else content.size) = rounded
  split
  · exact bufRd_push0 _ p
  · exact bufRd_pad0 _ _ p

theorem fileBuffer_nul (content : ByteArray) (pageSize : Nat) :
    ∀ p, content.size ≤ p → bufRd (fileBuffer content pageSize) p = 0 := by
  intro p hp
  rw [fileBuffer_rd]
  exact (Inp.ofBytes content).nul p hp

def readNLFile (content : ByteArray) (pageSize : Nat) (flags : Nat) (objsel : Option Nat) : Result :=
  let size := content.size
  let remainder := size % pageSize
  let rounded := if remainder != 0 then size + pageSize - remainder else size
  if size == rounded then
    -- copy path
    readNLInp ⟨bufRd (fileBuffer content pageSize), size, fileBuffer_nul content pageSize⟩ flags objsel
  else
    -- mmap path
    readNLInp ⟨bufRd (fileBuffer content pageSize), size, fileBuffer_nul content pageSize⟩ flags objsel

end MpVerif.C02
