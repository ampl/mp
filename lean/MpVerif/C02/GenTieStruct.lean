import MpVerif.C02.GenTieLex
import MpVerif.C02.LemmasSites
/-!
# C02: structure ties — which guards, which bounds with which header field, which switch cases exist in the source

The expected tables below are the hand model's view; the generated ones come from the current source.  A guard, a
`ReadUInt` bound, a segment letter, a bound type, an expression letter or an opcode class that is added, removed or
attached to another header field in the source makes one of these theorems fail.
-/
namespace MpVerif.C02
open MpVerif.CSem MpVerif.Gen MpVerif.Gen.NLGuards

def sameSet (a b : List Int) : Bool := a.all (b.contains ·) && b.all (a.contains ·)

/-- every `if (..) ReportError(..)` of the reader classes and every `ReadUInt(..)` bound the model knows about -/
def knownGuards : List String := ["g_BinaryReader_ReadUInt__expected_unsigned_integer", "g_BinaryReaderBase_Read_i__unexpected_end_of_file", "g_NLReader_ReadUInt_u__integer_N_out_of_bounds", "g_NLReader_ReadUInt_u_u__integer_N_out_of_bounds", "g_NLReader_ReadNumArgs_i__too_few_arguments", "g_NLReader_ReadReference__expected_reference", "g_NLReader_ReadOpCode__invalid_opcode_N", "g_NLReader_ReadNumericExpr_i__too_few_slopes_in_piecewise_linear_term", "g_NLReader_ReadLogicalExpr_i__expected_count_expression", "g_NLReader_ReadBounds__integer_N_out_of_bounds", "g_NLReader_ReadColumnSizes__expected_N", "g_NLReader_ReadColumnSizes__invalid_column_offset", "g_NLReader_ReadInitialValues__too_many_initial_values", "g_NLReader_Read__invalid_function_type", "g_NLReader_Read__invalid_suffix_kind", "g_TextReader_ReadString__expected", "g_TextReader_ReadString__unexpected_end_of_file_in_string", "g_TextReader_ReadString__expected_newline", "g_TextReader_ReadName__expected_name", "g_TextReader_ReadHeader__too_many_options", "g_TextReader_ReadHeader__integer_overflow", "g_TextReader_ReadHeader__integer_overflow_2", "g_TextReader_ReadHeader__unknown_floating_point_arithmetic_kind", "g_TextReader_ReadIntWithoutSign_i__number_is_too_big", "g_TextReader_ReadIntWithoutSign_u__number_is_too_big", "g_TextReader_ReadIntWithoutSign_ul__number_is_too_big", "g_TextReader_ReadIntWithoutSign_us__number_is_too_big", "g_TextReader_ReadIntWithoutSign_i__number_is_too_big_2", "g_TextReader_ReadIntWithoutSign_u__number_is_too_big_2", "g_TextReader_ReadIntWithoutSign_ul__number_is_too_big_2", "g_TextReader_ReadIntWithoutSign_us__number_is_too_big_2", "g_TextReader_DoReadOptionalInt_i__number_is_too_big", "g_TextReader_DoReadOptionalInt_l__number_is_too_big", "g_TextReader_DoReadOptionalInt_s__number_is_too_big", "g_TextReader_ReadUInt_i__integer_overflow", "g_TextReader_ReadUInt__expected_unsigned_integer", "g_TextReader_ReadInt__expected_integer", "g_TextReader_ReadDouble__expected_double", "bound_NLReader_DoReadReference_1_ub", "bound_NLReader_Read_1_ub", "bound_NLReader_Read_2_ub", "bound_NLReader_Read_3_ub", "bound_NLReader_Read_4_lb", "bound_NLReader_Read_4_ub", "bound_NLReader_Read_5_ub", "bound_NLReader_ReadInitialValues_1_ub", "bound_NLReader_ReadLinearExpr_1_ub", "bound_NLReader_ReadLinearExpr_2_lb", "bound_NLReader_ReadLinearExpr_2_ub", "bound_NLReader_ReadLinearExpr_i_1_ub", "bound_NLReader_ReadNumericExpr_c_b_1_ub", "bound_NLReader_ReadSuffixValues_i_i_1_ub", "bound_NLReader_ReadSuffix_i_1_lb", "bound_NLReader_ReadSuffix_i_1_ub", "bound_TextReader_ReadHeader_1_ub", "bound_TextReader_ReadHeader_2_ub", "bound_TextReader_ReadHeader_3_ub", "bound_TextReader_ReadHeader_4_ub", "bound_TextReader_ReadHeader_5_ub", "site_NLReader_DoReadReference_1_ub", "site_NLReader_Read_1_ub", "site_NLReader_Read_2_ub", "site_NLReader_Read_3_ub", "site_NLReader_Read_4_lb", "site_NLReader_Read_4_ub", "site_NLReader_Read_5_ub", "site_NLReader_ReadLinearExpr_2_ub", "site_NLReader_ReadLinearExpr_i_1_ub", "site_NLReader_ReadNumericExpr_c_b_1_ub", "items_AlgebraicConHandler", "items_ConHandler", "items_ObjHandler", "items_ProblemHandler", "items_VarHandler", "assign_num_vars_and_exprs", "itemsOfSegment", "itemsOfSuffixKind", "acc_next", "acc_value", "acc_init"]

/-- which source variables / header fields / calls each of them reads (parameter order of the generated definition) -/
def knownParams : List (String × List String) := [("g_BinaryReader_ReadUInt__expected_unsigned_integer", ["v_value"]), ("g_BinaryReaderBase_Read_i__unexpected_end_of_file", ["pdiff_end_ptr", "v_length"]), ("g_NLReader_ReadUInt_u__integer_N_out_of_bounds", ["v_value", "v_ub"]), ("g_NLReader_ReadUInt_u_u__integer_N_out_of_bounds", ["v_value", "v_lb", "v_ub"]), ("g_NLReader_ReadNumArgs_i__too_few_arguments", ["v_num_args", "v_min_args"]), ("g_NLReader_ReadReference__expected_reference", ["c_ReadChar"]), ("g_NLReader_ReadOpCode__invalid_opcode_N", ["v_opcode", "k_MAX_OPCODE"]), ("g_NLReader_ReadNumericExpr_i__too_few_slopes_in_piecewise_linear_term", ["v_num_slopes"]), ("g_NLReader_ReadLogicalExpr_i__expected_count_expression", ["v_c", "m_kind", "k_COUNT"]), ("g_NLReader_ReadBounds__integer_N_out_of_bounds", ["v_var_index", "m_num_vars"]), ("g_NLReader_ReadColumnSizes__expected_N", ["m_num_vars", "c_ReadUInt"]), ("g_NLReader_ReadColumnSizes__invalid_column_offset", ["v_size", "v_prev_size"]), ("g_NLReader_ReadInitialValues__too_many_initial_values", ["v_num_values", "c_num_items"]), ("g_NLReader_Read__invalid_function_type", ["v_type", "k_NUMERIC", "k_SYMBOLIC"]), ("g_NLReader_Read__invalid_suffix_kind", ["v_info", "k_SUFFIX_KIND_MASK", "k_FLOAT"]), ("g_TextReader_ReadString__expected", ["deref_ptr"]), ("g_TextReader_ReadString__unexpected_end_of_file_in_string", ["deref_ptr", "peq_ptr_end"]), ("g_TextReader_ReadString__expected_newline", ["deref_ptr"]), ("g_TextReader_ReadName__expected_name", ["deref_ptr"]), ("g_TextReader_ReadHeader__too_many_options", ["m_num_ampl_options", "k_MAX_AMPL_OPTIONS"]), ("g_TextReader_ReadHeader__integer_overflow", ["m_num_logical_cons", "m_num_algebraic_cons"]), ("g_TextReader_ReadHeader__integer_overflow_2", ["m_num_compl_conds", "m_num_nl_compl_conds"]), ("g_TextReader_ReadHeader__unknown_floating_point_arithmetic_kind", ["v_arith_kind", "k_LAST"]), ("g_TextReader_ReadIntWithoutSign_i__number_is_too_big", ["v_result", "v_c"]), ("g_TextReader_ReadIntWithoutSign_u__number_is_too_big", ["v_result", "v_c"]), ("g_TextReader_ReadIntWithoutSign_ul__number_is_too_big", ["v_result", "v_c"]), ("g_TextReader_ReadIntWithoutSign_us__number_is_too_big", ["v_result", "v_c"]), ("g_TextReader_ReadIntWithoutSign_i__number_is_too_big_2", ["v_result"]), ("g_TextReader_ReadIntWithoutSign_u__number_is_too_big_2", ["v_result"]), ("g_TextReader_ReadIntWithoutSign_ul__number_is_too_big_2", ["v_result"]), ("g_TextReader_ReadIntWithoutSign_us__number_is_too_big_2", ["v_result"]), ("g_TextReader_DoReadOptionalInt_i__number_is_too_big", ["deref_ptr", "v_result"]), ("g_TextReader_DoReadOptionalInt_l__number_is_too_big", ["deref_ptr", "v_result"]), ("g_TextReader_DoReadOptionalInt_s__number_is_too_big", ["deref_ptr", "v_result"]), ("g_TextReader_ReadUInt_i__integer_overflow", ["v_accumulator", "v_value"]), ("g_TextReader_ReadUInt__expected_unsigned_integer", ["c_ReadIntWithoutSign"]), ("g_TextReader_ReadInt__expected_integer", ["c_DoReadOptionalInt"]), ("g_TextReader_ReadDouble__expected_double", ["peq_ptr_start"]), ("bound_NLReader_DoReadReference_1_ub", ["m_num_vars_and_exprs"]), ("bound_NLReader_Read_1_ub", ["m_num_algebraic_cons"]), ("bound_NLReader_Read_2_ub", ["m_num_logical_cons"]), ("bound_NLReader_Read_3_ub", ["m_num_objs"]), ("bound_NLReader_Read_4_lb", ["m_num_vars"]), ("bound_NLReader_Read_4_ub", ["m_num_vars_and_exprs"]), ("bound_NLReader_Read_5_ub", ["m_num_funcs"]), ("bound_NLReader_ReadInitialValues_1_ub", ["c_num_items"]), ("bound_NLReader_ReadLinearExpr_1_ub", ["c_num_items"]), ("bound_NLReader_ReadLinearExpr_2_lb", []), ("bound_NLReader_ReadLinearExpr_2_ub", ["m_num_vars"]), ("bound_NLReader_ReadLinearExpr_i_1_ub", ["m_num_vars"]), ("bound_NLReader_ReadNumericExpr_c_b_1_ub", ["m_num_funcs"]), ("bound_NLReader_ReadSuffixValues_i_i_1_ub", ["v_num_items"]), ("bound_NLReader_ReadSuffix_i_1_lb", []), ("bound_NLReader_ReadSuffix_i_1_ub", ["v_num_items"]), ("bound_TextReader_ReadHeader_1_ub", ["v_max_vars"]), ("bound_TextReader_ReadHeader_2_ub", ["v_max_vars"]), ("bound_TextReader_ReadHeader_3_ub", ["v_max_vars"]), ("bound_TextReader_ReadHeader_4_ub", ["v_max_vars"]), ("bound_TextReader_ReadHeader_5_ub", ["v_max_vars"]), ("site_NLReader_DoReadReference_1_ub", ["m_num_vars_and_exprs"]), ("site_NLReader_Read_1_ub", ["m_num_algebraic_cons"]), ("site_NLReader_Read_2_ub", ["m_num_logical_cons"]), ("site_NLReader_Read_3_ub", ["m_num_objs"]), ("site_NLReader_Read_4_lb", ["m_num_vars"]), ("site_NLReader_Read_4_ub", ["m_num_vars_and_exprs"]), ("site_NLReader_Read_5_ub", ["m_num_funcs"]), ("site_NLReader_ReadLinearExpr_2_ub", ["m_num_vars"]), ("site_NLReader_ReadLinearExpr_i_1_ub", ["m_num_vars"]), ("site_NLReader_ReadNumericExpr_c_b_1_ub", ["m_num_funcs"]), ("items_AlgebraicConHandler", ["m_num_algebraic_cons"]), ("items_ConHandler", ["m_num_algebraic_cons", "m_num_logical_cons"]), ("items_ObjHandler", ["m_num_objs"]), ("items_ProblemHandler", []), ("items_VarHandler", ["m_num_vars"]), ("assign_num_vars_and_exprs", ["m_num_vars", "m_num_common_exprs_in_both", "m_num_common_exprs_in_cons", "m_num_common_exprs_in_objs", "m_num_common_exprs_in_single_cons", "m_num_common_exprs_in_single_objs"]), ("itemsOfSegment", ["letter"]), ("itemsOfSuffixKind", ["kind"]), ("acc_next", ["v_accumulator", "v_value"]), ("acc_value", ["v_accumulator", "v_value"]), ("acc_init", ["m_num_vars"])]

theorem C02_gen_all_guards_known : guardNames = knownGuards := rfl
theorem C02_gen_guard_params : paramTable = knownParams := rfl

/-- segment letters of `NLReader::Read` (0 = end of input) -/
theorem C02_gen_cases_NLReader_Read : cases_NLReader_Read = [0, 67, 70, 71, 74, 75, 76, 79, 83, 86, 98, 100, 107, 114, 120] := rfl
/-- suffix kinds dispatched in the `S` case -/
theorem C02_gen_cases_NLReader_Read_2 : cases_NLReader_Read_2 = [0, 1, 2, 3] := rfl
/-- bound types -/
theorem C02_gen_cases_NLReader_ReadBounds : cases_NLReader_ReadBounds = [0, 1, 2, 3, 4, 5] := rfl
/-- constant letters n, s, l -/
theorem C02_gen_cases_NLReader_ReadConstant_c : cases_NLReader_ReadConstant_c = [108, 110, 115] := rfl
/-- logical expression letters -/
theorem C02_gen_cases_NLReader_ReadLogicalExpr : cases_NLReader_ReadLogicalExpr = [108, 110, 111, 115] := rfl
/-- first_kind classes handled by ReadLogicalExpr(opcode) -/
theorem C02_gen_cases_NLReader_ReadLogicalExpr_i : cases_NLReader_ReadLogicalExpr_i = [49, 50, 53, 59, 65, 66, 68] := rfl
/-- numeric expression letters -/
theorem C02_gen_cases_NLReader_ReadNumericExpr_c_b : cases_NLReader_ReadNumericExpr_c_b = [102, 108, 110, 111, 115, 118] := rfl
/-- first_kind classes handled by ReadNumericExpr(opcode) -/
theorem C02_gen_cases_NLReader_ReadNumericExpr_i : cases_NLReader_ReadNumericExpr_i = [4, 25, 39, 40, 42, 44, 45, 46, 47] := rfl
/-- symbolic expression letters -/
theorem C02_gen_cases_NLReader_ReadSymbolicExpr : cases_NLReader_ReadSymbolicExpr = [104, 111] := rfl
/-- format letters -/
theorem C02_gen_cases_TextReader_ReadHeader : cases_TextReader_ReadHeader = [98, 103] := rfl

/-- the model dispatches exactly on the segment letters of the source: `b` and NUL in `readLoop`, the others in `readSegment` -/
theorem C02_gen_segment_letters :
    sameSet cases_NLReader_Read (([0, 98] : List Int) ++ G.segmentLetters.map (fun (c : UInt8) => (c.toNat : Int))) = true := by decide

/-- the model's opcode classes are the `case` labels of the two opcode switches (numeric: unary, binary, if, plterm,
    vararg, sum, numberof, numberof_sym, count; logical: not, binary logical, relational, logical count, implication,
    iterated logical, pairwise) -/
theorem C02_gen_numeric_classes :
    sameSet cases_NLReader_ReadNumericExpr_i ([Opcodes.kFIRST_UNARY, Opcodes.kFIRST_BINARY, Opcodes.kIF, Opcodes.kPLTERM, Opcodes.kFIRST_VARARG,
      Opcodes.kSUM, Opcodes.kNUMBEROF, Opcodes.kNUMBEROF_SYM, Opcodes.kCOUNT].map (fun (k : Nat) => (k : Int))) = true := by decide
theorem C02_gen_logical_classes :
    sameSet cases_NLReader_ReadLogicalExpr_i ([Opcodes.kNOT, Opcodes.kFIRST_BINARY_LOGICAL, Opcodes.kFIRST_RELATIONAL, Opcodes.kFIRST_LOGICAL_COUNT,
      Opcodes.kIMPLICATION, Opcodes.kFIRST_ITERATED_LOGICAL, Opcodes.kFIRST_PAIRWISE].map (fun (k : Nat) => (k : Int))) = true := by decide

/-! ### index bounds: the call-site functions the model's reader uses

`Gen.NLGuards.site_*` select the header field by a projection in generated code; the model's reader calls them
(`Site.*`, ModelSites.lean), and the consistency proof uses `Site.*_le` / `Site.V_index`.  The theorems below say
what they evaluate to for every header the reader accepts (`C02_header_index_space`: all counts ≤ INT_MAX). -/

theorem C02_gen_site_C (h : Header) (hr : h.num_algebraic_cons ≤ 2147483647) : Site.ubC h = h.num_algebraic_cons := by
  unfold Site.ubC; exact siteVal_conv_small _ hr
theorem C02_gen_site_L (h : Header) (hr : h.num_logical_cons ≤ 2147483647) : Site.ubL h = h.num_logical_cons := by
  unfold Site.ubL; exact siteVal_conv_small _ hr
theorem C02_gen_site_O (h : Header) (hr : h.num_objs ≤ 2147483647) : Site.ubO h = h.num_objs := by
  unfold Site.ubO; exact siteVal_conv_small _ hr
theorem C02_gen_site_F (h : Header) (hr : h.num_funcs ≤ 2147483647) : Site.ubF h = h.num_funcs := by
  unfold Site.ubF; exact siteVal_conv_small _ hr
theorem C02_gen_site_call (h : Header) (hr : h.num_funcs ≤ 2147483647) : Site.ubCall h = h.num_funcs := by
  unfold Site.ubCall; exact siteVal_conv_small _ hr
theorem C02_gen_site_ref (h : Header) (hr : h.num_vars_and_exprs ≤ 2147483647) : Site.ubRef h = h.num_vars_and_exprs := by
  unfold Site.ubRef; exact siteVal_conv_small _ hr
theorem C02_gen_site_V (h : Header) (hr : h.num_vars_and_exprs ≤ 2147483647) :
    Site.lbV h = h.num_vars ∧ Site.ubV h = h.num_vars_and_exprs := by
  have : h.num_vars ≤ 2147483647 := by simp only [Header.num_vars_and_exprs] at hr; omega
  unfold Site.lbV Site.ubV
  exact ⟨siteVal_conv_small _ this, siteVal_conv_small _ hr⟩
theorem C02_gen_site_termVar (h : Header) (hr : h.num_vars ≤ 2147483647) : Site.ubTermVar h = h.num_vars := by
  unfold Site.ubTermVar; exact siteVal_conv_small _ hr
theorem C02_gen_site_numTerms (h : Header) (hr : h.num_vars ≤ 2147483647) :
    Site.lbTerms = 1 ∧ Site.ubTerms h = h.num_vars + 1 :=
  ⟨Site.lbTerms_eq, by rw [Site.ubTerms_eq]; omega⟩

/-- `num_vars_and_exprs_ = num_vars + Σ common-expression counts` in `int`: no overflow for an accepted header -/
theorem C02_gen_num_vars_and_exprs (h : Header) (hr : h.num_vars_and_exprs ≤ 2147483647) :
    assign_num_vars_and_exprs (hdrOf h) = .ret (h.num_vars_and_exprs : Int) := by
  simp only [Header.num_vars_and_exprs, Header.num_common_exprs] at hr
  unfold assign_num_vars_and_exprs
  simp (disch := omega) only [hdrOf, cadd, arith_tI, Outcome.bind_ret]
  simp only [Header.num_vars_and_exprs, Header.num_common_exprs]
  congr 1; omega

/-! the item counts of the five item handlers (`num_items()`), as the checker's `suffixItems` / the model's counts -/
theorem C02_gen_items_var (h : Header) : items_VarHandler (hdrOf h) = .ret (h.suffixItems 0 : Nat) := rfl
theorem C02_gen_items_obj (h : Header) : items_ObjHandler (hdrOf h) = .ret (h.suffixItems 2 : Nat) := rfl
theorem C02_gen_items_problem (h : Header) : items_ProblemHandler (hdrOf h) = .ret (h.suffixItems 3 : Nat) := rfl
theorem C02_gen_items_algcon (h : Header) : items_AlgebraicConHandler (hdrOf h) = .ret (h.num_algebraic_cons : Int) := rfl
theorem C02_gen_items_con (h : Header) (hr : h.num_algebraic_cons + h.num_logical_cons ≤ 2147483647) :
    items_ConHandler (hdrOf h) = .ret (h.suffixItems 1 : Nat) := by
  unfold items_ConHandler
  simp only [hdrOf, cadd]
  rw [arith_tI (by omega) (by omega)]
  simp [Header.suffixItems]

/-! ### item counts: which item handler a segment / suffix kind instantiates

`Gen.NLGuards.itemsOfSegment` / `itemsOfSuffixKind` are generated from the template arguments of the
`ReadBounds<..>` / `ReadInitialValues<..>` / `ReadLinearExpr<..>` / `ReadSuffix<..>` calls in the `case`s of
`NLReader::Read` and from the bodies of the handlers' `num_items()`.  The modelled reader calls them
(`Site.itemsSeg`, `Site.itemsSuffix`): loop count of the bounds segments, index bound and count of initial values,
index bound of `G`/`J`, count and index bound of suffixes.  The consistency proof uses `Site.itemsSeg_*` and
`Site.itemsSuffix_le` (LemmasSites.lean). -/

theorem C02_gen_itemsSeg (h : Header) :
    Site.itemsSeg h 71 = h.num_objs ∧ Site.itemsSeg h 74 = h.num_algebraic_cons ∧
    Site.itemsSeg h 98 = h.num_vars ∧ Site.itemsSeg h 114 = h.num_algebraic_cons ∧
    Site.itemsSeg h 120 = h.num_vars ∧ Site.itemsSeg h 100 = h.num_algebraic_cons :=
  ⟨Site.itemsSeg_G h, Site.itemsSeg_J h, Site.itemsSeg_b h, Site.itemsSeg_r h, Site.itemsSeg_x h, Site.itemsSeg_d h⟩

/-- for an accepted header (`C02_header_index_space`) the suffix item count the reader uses is the declared one -/
theorem C02_gen_itemsSuffix (h : Header) (kind : Nat) (hk : kind ≤ 3)
    (hr : h.num_algebraic_cons + h.num_logical_cons ≤ 2147483647) :
    Site.itemsSuffix h kind = h.suffixItems kind := by
  unfold Site.itemsSuffix
  have : kind = 0 ∨ kind = 1 ∨ kind = 2 ∨ kind = 3 := by omega
  rcases this with rfl | rfl | rfl | rfl
  · exact siteVal_nat _
  · show siteVal (items_ConHandler (hdrOf h)) = _
    rw [C02_gen_items_con h hr]; exact siteVal_nat _
  · exact siteVal_nat _
  · exact siteVal_nat _

/-- tripwire: the (case label, template, handler) table as text -/
theorem C02_gen_segment_handlers : segmentHandlers = [(71, "ReadLinearExpr", "ObjHandler"), (74, "ReadLinearExpr", "AlgebraicConHandler"), (98, "ReadBounds", "VarHandler"), (114, "ReadBounds", "AlgebraicConHandler"), (120, "ReadInitialValues", "VarHandler"), (100, "ReadInitialValues", "AlgebraicConHandler"), (0, "ReadSuffix", "VarHandler"), (1, "ReadSuffix", "ConHandler"), (2, "ReadSuffix", "ObjHandler"), (3, "ReadSuffix", "ProblemHandler")] := rfl

/-! ### the header parse as a script of reads

`TextReader::ReadHeader` interleaves its reads with assignments of defaults (`-1`), two sums and four guards (the guards are
translated: `C02_gen_tooManyOptions`, `C02_gen_conOverflow`, `C02_gen_complOverflow`, `C02_gen_badArith`, the accumulating
check `C02_gen_accOverflow`).  Its *read structure* — which primitive fills which header field, in which order, which reads
are optional (`&&` chains), conditional (`if>`) or in the option loop (`for>`) — is extracted from the AST as
`Gen.NLGuards.headerScript`; the list below is the order in which `readHeader` / `readCommonExprs` / `readOptions`
(Model.lean) perform them.  An added, removed, reordered or re-targeted header field breaks this theorem.  (`ReadHeader`
is not translated into an executable step function: the reads are calls with side effects on the cursor inside
short-circuit conditions; the model keeps them hand-written and the correspondence compares all 47 header fields on every
input.) -/
def knownHeaderScript : List (String × String × String) := [
  ("ReadChar", "-", "top"),
  ("ReadOptionalUInt", "num_ampl_options", "top"),
  ("ReadOptionalDouble", "tmp", "for>"),
  ("ReadOptionalDouble", "ampl_vbtol", "if>"),
  ("ReadTillEndOfLine", "-", "top"),
  ("ReadUInt", "num_vars", "top"),
  ("ReadUInt", "num_algebraic_cons", "top"),
  ("ReadUInt", "num_objs", "top"),
  ("ReadOptionalUInt", "num_ranges", "top"),
  ("ReadOptionalUInt", "num_eqns", "&&"),
  ("ReadOptionalUInt", "num_logical_cons", "if>"),
  ("ReadTillEndOfLine", "-", "top"),
  ("ReadUInt", "num_nl_cons", "top"),
  ("ReadUInt", "num_nl_objs", "top"),
  ("ReadOptionalUInt", "num_compl_conds", "top"),
  ("ReadOptionalUInt", "num_nl_compl_conds", "&&"),
  ("ReadOptionalUInt", "num_compl_dbl_ineqs", "&&"),
  ("ReadOptionalUInt", "num_compl_vars_with_nz_lb", "&&"),
  ("ReadTillEndOfLine", "-", "top"),
  ("ReadUInt", "num_nl_net_cons", "top"),
  ("ReadUInt", "num_linear_net_cons", "top"),
  ("ReadTillEndOfLine", "-", "top"),
  ("ReadUInt", "num_nl_vars_in_cons", "top"),
  ("ReadUInt", "num_nl_vars_in_objs", "top"),
  ("ReadOptionalUInt", "num_nl_vars_in_both", "top"),
  ("ReadTillEndOfLine", "-", "top"),
  ("ReadUInt", "num_linear_net_vars", "top"),
  ("ReadUInt", "num_funcs", "top"),
  ("ReadOptionalUInt", "arith_kind", "top"),
  ("ReadOptionalUInt", "flags", "if>"),
  ("ReadTillEndOfLine", "-", "top"),
  ("ReadUInt", "num_linear_binary_vars", "top"),
  ("ReadUInt", "num_linear_integer_vars", "top"),
  ("ReadUInt", "num_nl_integer_vars_in_both", "if>"),
  ("ReadUInt", "num_nl_integer_vars_in_cons", "if>"),
  ("ReadUInt", "num_nl_integer_vars_in_objs", "if>"),
  ("ReadTillEndOfLine", "-", "top"),
  ("ReadUInt<size_t>", "num_con_nonzeros", "top"),
  ("ReadUInt<size_t>", "num_obj_nonzeros", "top"),
  ("ReadTillEndOfLine", "-", "top"),
  ("ReadUInt", "max_con_name_len", "top"),
  ("ReadUInt", "max_var_name_len", "top"),
  ("ReadTillEndOfLine", "-", "top"),
  ("ReadUInt", "num_common_exprs_in_both(max_vars)", "top"),
  ("ReadUInt", "num_common_exprs_in_cons(max_vars)", "top"),
  ("ReadUInt", "num_common_exprs_in_objs(max_vars)", "top"),
  ("ReadUInt", "num_common_exprs_in_single_cons(max_vars)", "top"),
  ("ReadUInt", "num_common_exprs_in_single_objs(max_vars)", "top"),
  ("ReadTillEndOfLine", "-", "top")
]
theorem C02_gen_header_script : headerScript = knownHeaderScript := rfl

/-- `ReadString`: `*ptr_ != ':'` -/
theorem C02_gen_expected_colon (c : UInt8) :
    g_TextReader_ReadString__expected (asChar c) = .ret (bi (G.notColon c)) := by
  unfold g_TextReader_ReadString__expected
  exact congrArg Outcome.ret (char_cne c 58 (by omega))

/-- `ReadString`: `*ptr_ != '\n'` after the string -/
theorem C02_gen_expected_newline_after_string (c : UInt8) :
    g_TextReader_ReadString__expected_newline (asChar c) = .ret (bi (G.notNewline c)) := by
  unfold g_TextReader_ReadString__expected_newline
  exact congrArg Outcome.ret (char_cne c 10 (by omega))

theorem asChar_zero (c : UInt8) : asChar c = 0 ↔ c = 0 := by
  have := asChar_eq c 0 (by omega)
  simpa using this

/-- `ReadName`: `*ptr_ == '\\n' || !*ptr_` -/
theorem C02_gen_noName (c : UInt8) :
    g_TextReader_ReadName__expected_name (asChar c) = .ret (bi (G.noName c)) := by
  unfold g_TextReader_ReadName__expected_name G.noName
  rw [conv_tI_char, conv_tI_small 10 (by omega) (by omega)]
  simp only [cor_ret, ceq_eq_tv, cnot_eq_tv, tobool_eq_tv, tv_ne_zero, tv_eq_zero, bi_eq_tv]
  have h10 : asChar c = 10 ↔ c = 10 := by simpa using asChar_eq c 10 (by omega)
  exact congrArg _ (tv_congr (by simp [h10, asChar_zero]))

/-- `ReadString`: `!c && ptr_ == end_` -/
theorem C02_gen_eofInString (c : UInt8) (atEnd : Bool) :
    g_TextReader_ReadString__unexpected_end_of_file_in_string (asChar c) (bi atEnd) = .ret (bi (G.eofInString c atEnd)) := by
  unfold g_TextReader_ReadString__unexpected_end_of_file_in_string G.eofInString
  simp only [cand_ret, cnot_eq_tv, tobool_eq_tv, tv_ne_zero, tv_eq_zero, bi_eq_tv]
  exact congrArg _ (tv_congr (by simp [asChar_zero]))

/-- `ReadUInt` / `ReadInt`: the error is reported iff the optional read found no digit -/
theorem C02_gen_expected_uint (found : Bool) :
    g_TextReader_ReadUInt__expected_unsigned_integer (bi found) = .ret (bi (!found)) := by
  cases found <;> rfl
theorem C02_gen_expected_int (found : Bool) :
    g_TextReader_ReadInt__expected_integer (bi found) = .ret (bi (!found)) := by
  cases found <;> rfl
/-- `ReadDouble`: the error is reported iff `strtod` did not advance (`ptr_ == start`) -/
theorem C02_gen_expected_double (same : Bool) :
    g_TextReader_ReadDouble__expected_double (bi same) = .ret (bi same) := rfl

/-! ### the accumulating `ReadUInt(int &accumulator)` and its use in `ReadHeader`

`Site.accNext` / `Site.accValue` / `Site.accInit` (ModelSites.lean), which the modelled `tReadUIntAcc` and
`readCommonExprs` call, are these generated functions; `C02_header_index_space` rests on `Site.accNext_eq`,
`Site.accValue_eq`, `Site.accInit_eq`. -/

/-- when the overflow guard does not fire, the caller's variable becomes `accumulator + value` (the parameter is a
    reference and is assigned `+= value`) -/
theorem C02_gen_acc_next (acc v : Nat) (h : ¬ G.accOverflow acc v) : acc_next acc v = .ret ((acc + v : Nat) : Int) := by
  unfold acc_next; rw [cadd_tI_nat acc v h]; rfl
/-- ... and the call returns the value read, not the accumulator -/
theorem C02_gen_acc_value (acc v : Nat) (h : ¬ G.accOverflow acc v) : acc_value acc v = .ret (v : Int) := by
  unfold acc_value; rw [cadd_tI_nat acc v h]; rfl
/-- `int max_vars = header.num_vars` -/
theorem C02_gen_acc_init (h : Header) : acc_init (hdrOf h) = .ret (h.num_vars : Int) := rfl
/-- the model's accumulating read returns exactly these -/
theorem C02_model_acc (acc v : Nat) (h : ¬ G.accOverflow acc v) :
    Site.accNext acc v = acc + v ∧ Site.accValue acc v = v :=
  ⟨Site.accNext_eq acc v h, Site.accValue_eq acc v h⟩
example : acc_next 2147483640 7 = .ret 2147483647 := by decide
example : acc_next 2147483640 8 = .ub := by decide
/-- tripwire: the five accumulating calls, their target fields, the one variable they all pass -/
theorem C02_gen_acc_targets : accTargets = [("num_common_exprs_in_both", "max_vars"), ("num_common_exprs_in_cons", "max_vars"),
    ("num_common_exprs_in_objs", "max_vars"), ("num_common_exprs_in_single_cons", "max_vars"),
    ("num_common_exprs_in_single_objs", "max_vars")] := rfl

theorem C02_model_segment_dispatch (cx : Env) (c : UInt8) (h : c ∉ G.segmentLetters) :
    readSegment cx c = fail cx .segment := by
  simp only [G.segmentLetters, List.mem_cons, List.not_mem_nil, or_false, not_or] at h
  obtain ⟨h1, h2, h3, h4, h5, h6, h7, h8, h9, h10, h11, h12, h13⟩ := h
  unfold readSegment
  simp [h1, h2, h3, h4, h5, h6, h7, h8, h9, h10, h11, h12, h13]

end MpVerif.C02
