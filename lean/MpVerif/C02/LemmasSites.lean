import MpVerif.C02.ModelSites
import MpVerif.Basic.CSemLemmas
/-!
# C02 lemmas: what the consistency proof needs from the generated call-site bounds

(kept apart from ModelSites.lean so that the driver still builds - and the correspondence still searches for a failing
input - when a changed bound in the source makes these lemmas fail)
-/
namespace MpVerif.C02
open MpVerif.CSem MpVerif.Gen.NLGuards

theorem siteVal_conv (x : Nat) : siteVal (.ret (conv tU (x : Int))) = x % 4294967296 := by
  simp only [siteVal, conv_tU]
  omega

theorem siteVal_conv_le (x : Nat) : siteVal (.ret (conv tU (x : Int))) ≤ x := by
  rw [siteVal_conv]; exact Nat.mod_le _ _

theorem siteVal_conv_small (x : Nat) (h : x ≤ 2147483647) : siteVal (.ret (conv tU (x : Int))) = x := by
  rw [siteVal_conv]; omega

/-! every bound is at most the header field it is meant to be -/

theorem Site.ubC_le (h : Header) : Site.ubC h ≤ h.num_algebraic_cons := by
  unfold Site.ubC; exact siteVal_conv_le _
theorem Site.ubL_le (h : Header) : Site.ubL h ≤ h.num_logical_cons := by
  unfold Site.ubL; exact siteVal_conv_le _
theorem Site.ubO_le (h : Header) : Site.ubO h ≤ h.num_objs := by
  unfold Site.ubO; exact siteVal_conv_le _
theorem Site.ubF_le (h : Header) : Site.ubF h ≤ h.num_funcs := by
  unfold Site.ubF; exact siteVal_conv_le _
theorem Site.ubCall_le (h : Header) : Site.ubCall h ≤ h.num_funcs := by
  unfold Site.ubCall; exact siteVal_conv_le _
theorem Site.ubRef_le (h : Header) : Site.ubRef h ≤ h.num_vars_and_exprs := by
  unfold Site.ubRef; exact siteVal_conv_le _
theorem Site.ubTermVar_le (h : Header) : Site.ubTermVar h ≤ h.num_vars := by
  unfold Site.ubTermVar; exact siteVal_conv_le _
theorem Site.lbTerms_eq : Site.lbTerms = 1 := by unfold Site.lbTerms; decide
/-- `header_.num_vars + 1u` in `unsigned` -/
theorem Site.ubTerms_eq (h : Header) : Site.ubTerms h = (h.num_vars % 4294967296 + 1) % 4294967296 := by
  unfold Site.ubTerms
  simp only [site_NLReader_ReadLinearExpr_2_ub, bound_NLReader_ReadLinearExpr_2_ub, hdrOf, cadd, arith_tU, conv_tU, siteVal]
  omega
theorem Site.ubTerms_le (h : Header) : Site.ubTerms h ≤ h.num_vars + 1 := by
  rw [Site.ubTerms_eq]; omega
/-- `V` segment: an index accepted between the two bounds denotes a declared common expression -/
theorem Site.V_index (h : Header) (idx : Nat) (h1 : Site.lbV h ≤ idx) (h2 : idx < Site.ubV h) :
    idx - h.num_vars < h.num_common_exprs := by
  have a := siteVal_conv h.num_vars
  have b := siteVal_conv h.num_vars_and_exprs
  simp only [Site.lbV, Site.ubV, site_NLReader_Read_4_lb, site_NLReader_Read_4_ub, bound_NLReader_Read_4_lb,
    bound_NLReader_Read_4_ub, hdrOf] at h1 h2
  simp only [Header.num_vars_and_exprs] at b h2
  omega

/-! item counts of the handler instantiated per segment letter / suffix kind -/

theorem siteVal_nat (x : Nat) : siteVal (.ret (x : Int)) = x := by simp [siteVal]

theorem Site.itemsSeg_G (h : Header) : Site.itemsSeg h 71 = h.num_objs := by
  unfold Site.itemsSeg; exact siteVal_nat _
theorem Site.itemsSeg_J (h : Header) : Site.itemsSeg h 74 = h.num_algebraic_cons := by
  unfold Site.itemsSeg; exact siteVal_nat _
theorem Site.itemsSeg_b (h : Header) : Site.itemsSeg h 98 = h.num_vars := by
  unfold Site.itemsSeg; exact siteVal_nat _
theorem Site.itemsSeg_r (h : Header) : Site.itemsSeg h 114 = h.num_algebraic_cons := by
  unfold Site.itemsSeg; exact siteVal_nat _
theorem Site.itemsSeg_x (h : Header) : Site.itemsSeg h 120 = h.num_vars := by
  unfold Site.itemsSeg; exact siteVal_nat _
theorem Site.itemsSeg_d (h : Header) : Site.itemsSeg h 100 = h.num_algebraic_cons := by
  unfold Site.itemsSeg; exact siteVal_nat _

/-- an `int` sum: its value when it does not overflow, `0` when it does -/
theorem siteVal_cadd_tI_le (a b : Nat) : siteVal (cadd tI (a : Int) (b : Int)) ≤ a + b := by
  simp only [cadd, arith, show tI.signed = true from rfl, ↓reduceIte]
  split <;> simp only [siteVal] <;> omega

/-- the suffix item count the reader uses is at most the declared one (equal unless `ConHandler::num_items()` would
    overflow `int`, which `ReadHeader` excludes) -/
theorem Site.itemsSuffix_le (h : Header) (kind : Nat) (hk : kind ≤ 3) : Site.itemsSuffix h kind ≤ h.suffixItems kind := by
  unfold Site.itemsSuffix
  have : kind = 0 ∨ kind = 1 ∨ kind = 2 ∨ kind = 3 := by omega
  rcases this with rfl | rfl | rfl | rfl
  · exact Nat.le_of_eq (siteVal_nat _)
  · exact siteVal_cadd_tI_le _ _
  · exact Nat.le_of_eq (siteVal_nat _)
  · exact Nat.le_of_eq (siteVal_nat _)

/-! the accumulating `ReadUInt(int &)` and the variable `ReadHeader` passes to it -/

theorem cadd_tI_nat (acc v : Nat) (h : ¬ G.accOverflow acc v) : cadd tI (acc : Int) (v : Int) = .ret ((acc + v : Nat) : Int) := by
  have h' : ¬ ((acc : Int) > (2147483647 : Int) - (v : Int)) := h
  rw [cadd, arith_tI (by omega) (by omega), Int.natCast_add]
theorem Site.accNext_eq (acc v : Nat) (h : ¬ G.accOverflow acc v) : Site.accNext acc v = acc + v := by
  unfold Site.accNext acc_next
  rw [cadd_tI_nat acc v h]
  exact siteVal_nat _
theorem Site.accValue_eq (acc v : Nat) (h : ¬ G.accOverflow acc v) : Site.accValue acc v = v := by
  unfold Site.accValue acc_value
  rw [cadd_tI_nat acc v h]
  exact siteVal_nat _
theorem Site.accInit_eq (h : Header) : Site.accInit h = h.num_vars := by
  unfold Site.accInit acc_init; exact siteVal_nat _

end MpVerif.C02
