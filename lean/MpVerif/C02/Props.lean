import MpVerif.C02.LemmasTop
import MpVerif.C02.LemmasHeader
import MpVerif.C02.GenTieStruct
/-!
# C02 — property theorems

Model: `readNL data flags objsel` (MpVerif/C02/Model.lean) = `mp::ReadNLString` over the bytes `data`
(text, binary native, binary byte-swapped; `flags` bit 0 = READ_BOUNDS_FIRST; `objsel` = the handler's
objective filter).  Property predicate: `Consistent` (MpVerif/C02/ModelCheck.lean).
All theorems quantify over every byte string, every flag value and every objective filter.

Nothing below uses `GenTieStruct`: it is imported because checks/c02.py builds this module and then audits the `C02_gen_*`
theorems of the tie modules, which have to be built by then.
-/
namespace MpVerif.C02

theorem finish_header (h : Header) (res : PRes Unit) : (finish h res).header = some h := by
  cases res <;> rfl

theorem finish_ok {strict : Bool} {cx : Env} {p : P Unit} {s : PState}
    (hs : Tri strict cx p s (fun _ s' => ∃ c, chkRev strict cx.h s'.evs = some c ∧ Finished c))
    {Pr : Header → Prop} (hp : Pr cx.h) :
    Consistent strict (finish cx.h (p s)) = true ∧ (finish cx.h (p s)).outcome ≠ .fuel ∧
      (∀ u, (finish cx.h (p s)).outcome ≠ .ub u) ∧ ∀ h, (finish cx.h (p s)).header = some h → Pr h := by
  suffices abc : Consistent strict (finish cx.h (p s)) = true ∧ (finish cx.h (p s)).outcome ≠ .fuel ∧
      ∀ u, (finish cx.h (p s)).outcome ≠ .ub u from
    ⟨abc.1, abc.2.1, abc.2.2, fun h e => by rw [finish_header] at e; cases e; exact hp⟩
  rcases hs.cases with ⟨_, _, e, c, hc, hd, hst, hv⟩ | ⟨_, _, e, g⟩ <;> rw [e]
  · simp [finish, Consistent, ← chkRev_eq_run, hc, hd, hst, hv, Outcome.isOk]
  · obtain ⟨c, hc⟩ := g.some
    simp [finish, Consistent, ← chkRev_eq_run, hc, Outcome.isOk]

/-- Every call of `ReadNLString`, on any NUL-terminated buffer: what the handler saw is consistent with the header it saw
    first, the call ends normally or with a located read error, and a header that was delivered declares index spaces
    that fit `int`.  The `C02_*` theorems below are its parts, for the buffer made of a byte string. -/
theorem readNLInp_spec (inp : Inp) (flags : Nat) (objsel : Option Nat) :
    Consistent objsel.isNone (readNLInp inp flags objsel) = true ∧ (readNLInp inp flags objsel).outcome ≠ .fuel ∧
      (∀ u, (readNLInp inp flags objsel).outcome ≠ .ub u) ∧
      ∀ h, (readNLInp inp flags objsel).header = some h →
        h.num_vars_and_exprs ≤ intMax ∧ h.num_algebraic_cons + h.num_logical_cons ≤ intMax := by
  have hso : objsel.isNone = true → objsel = none := by cases objsel <;> simp
  have hh := (readHeader_spec inp (b := 0)).h ⟨0, 0, 0, 1⟩ ⟨Nat.zero_le _, Nat.zero_le _⟩
  unfold readNLInp
  split
  · exact ⟨rfl, by simp, by simp, nofun⟩
  · rename_i hhd
    rw [hhd] at hh
    exact hh.elim
  · rename_i h r hhd
    rw [hhd] at hh
    have hr : r.pos ≤ inp.len := hh.1.2
    have hdr := hh.2
    split
    · exact finish_ok (readBody_ok ⟨inp, .text, h, flags, objsel⟩ hso r hr) hdr
    split
    · exact finish_ok (readBody_ok ⟨inp, .bin false, h, flags, objsel⟩ hso r hr) hdr
    split
    · exact finish_ok (readBody_ok ⟨inp, .bin true, h, flags, objsel⟩ hso r hr) hdr
    · exact ⟨by simp [Consistent, run, Outcome.isOk], by simp, by simp, fun h' e => by cases e; exact hdr⟩

/-- **C02 (consistency).**  Whatever bytes are read, with or without READ_BOUNDS_FIRST, in text, native
    binary or byte-swapped binary form: everything delivered to the handler — including the prefix
    delivered before a read error — is consistent with the header delivered first (indices in declared
    ranges, announced counts honoured exactly, Begin/End properly nested and matched, well-formed postfix
    expression stream, `EndInput` last and only after everything is closed).  With a handler that needs
    every objective (`objsel = none`) in the strict sense; with an objective filter in the sense that
    tolerates the expression of a skipped `O` segment being delivered and dropped. -/
theorem C02_consistent (data : ByteArray) (flags : Nat) (objsel : Option Nat) :
    Consistent objsel.isNone (readNL data flags objsel) = true := (readNLInp_spec _ flags objsel).1

/-- the same for the handler that needs every objective, spelled out -/
theorem C02_consistent_all_objectives (data : ByteArray) (flags : Nat) :
    Consistent true (readNL data flags none) = true := C02_consistent data flags none

/-- **C02 (indices).**  Every item or reference index in every notification is inside the range declared by the
    header that was delivered first — for every input, every mode, also for the prefix before an error.  (The index
    of a suffix value, `setInt i _` / `setDbl i _`, is bounded by the item count of the open suffix, which `evInRange`
    cannot see in a single notification; `Consistent` checks it against the `.suf` frame.) -/
theorem C02_indices_in_range (data : ByteArray) (flags : Nat) (objsel : Option Nat) (h : Header)
    (hh : (readNL data flags objsel).header = some h) :
    ∀ e ∈ (readNL data flags objsel).evs, evInRange h e := by
  have hc := C02_consistent data flags objsel
  unfold Consistent at hc
  rw [hh] at hc
  simp only at hc
  cases hr : run objsel.isNone h CState.init (readNL data flags objsel).evs with
  | none => simp [hr] at hc
  | some c => exact run_inRange hr

/-- nothing is delivered unless the header was: no header ⇒ no notification, and not a normal return -/
theorem C02_header_first (data : ByteArray) (flags : Nat) (objsel : Option Nat)
    (hh : (readNL data flags objsel).header = none) :
    (readNL data flags objsel).evs = [] ∧ (readNL data flags objsel).outcome ≠ .ok := by
  have hc := C02_consistent data flags objsel
  unfold Consistent at hc
  rw [hh] at hc
  simp at hc
  refine ⟨hc.1, ?_⟩
  intro ho
  rw [ho] at hc
  simp [Outcome.isOk] at hc

/-- **C02 (declared index space).**  A header that is delivered to the handler declares index spaces that
    fit `int`: `num_vars + Σ common-expression counts ≤ INT_MAX` (the five counts are accumulated by
    `ReadUInt(int &accumulator)`, each checked against the running total) and
    `num_algebraic_cons + num_logical_cons ≤ INT_MAX`.  Every later range check is made against these sums. -/
theorem C02_header_index_space (data : ByteArray) (flags : Nat) (objsel : Option Nat) (h : Header)
    (hh : (readNL data flags objsel).header = some h) :
    h.num_vars + h.num_common_exprs ≤ 2147483647 ∧ h.num_algebraic_cons + h.num_logical_cons ≤ 2147483647 :=
  (readNLInp_spec _ flags objsel).2.2.2 h hh

/-! ### termination and memory safety of the cursor at model level

Buffer contract (`NLStringRef`, `NLFileReader`): `data[0 .. len)` followed by a NUL at offset `len`
(`end_`); `Inp.rd p = 0` for `p ≥ len` (`Inp.nul`).  The model has a guard that yields `ub overrun` if the cursor
is past that NUL at the entry of `ReadChar`, `SkipSpace`, `ReadIntWithoutSign` and `ReadTillEndOfLine`, one of which
every read of the text reader begins with; the scans that follow (sign, digits, `strtod`, strings, names) read `Inp.rd`
unguarded, and for them `LemmasIn` shows that every text primitive advances only past bytes it
has seen to be non-NUL (including the model of `strtod`) and every binary primitive only after the length
check `end_ - ptr_ ≥ n`; the walk over the parser (`Inv`, `InvC`: LemmasExpr, LemmasSeg) shows that every continuation
of `ReadChar` either knows the byte was not NUL or stops, and that the cursor never moves backwards, which bounds the
recursion.  `overrun` is the only constructor of `UB`: the conversions and the signed arithmetic of the reader are guarded in /repo
(commits 1efd01c, e1c4ee8, e61f0aa, 984b1d0; the guards are the `C02_gen_*` theorems), so `C02_no_ub` excludes every
undefined behaviour of the reader that the model expresses. -/

/-- **C02 (termination).**  The recursion of the reader (expression nesting, argument loops, the segment
    loop, both passes of READ_BOUNDS_FIRST) is bounded by the number of bytes consumed: the model's fuel
    (`len + 2` per expression, `2·len + 4` segment iterations) is never exhausted, for any input. -/
theorem C02_total (data : ByteArray) (flags : Nat) (objsel : Option Nat) :
    (readNL data flags objsel).outcome ≠ .fuel := (readNLInp_spec _ flags objsel).2.1

/-- **C02 (no undefined behaviour at model level).**  For every byte string, flag value and objective
    filter the reader never dereferences its cursor past the terminating NUL — in the header, in text and
    in (native or byte-swapped) binary bodies, in both passes of READ_BOUNDS_FIRST — and no other
    undefined behaviour is left in the model. -/
theorem C02_no_ub (data : ByteArray) (flags : Nat) (objsel : Option Nat) :
    ∀ u, (readNL data flags objsel).outcome ≠ .ub u := (readNLInp_spec _ flags objsel).2.2.1

/-- every call ends in exactly one of: normal completion, or a located read error -/
theorem C02_completes_or_read_error (data : ByteArray) (flags : Nat) (objsel : Option Nat) :
    (readNL data flags objsel).outcome = .ok ∨ ∃ e, (readNL data flags objsel).outcome = .err e := by
  have h1 := C02_total data flags objsel
  have h2 := C02_no_ub data flags objsel
  cases ho : (readNL data flags objsel).outcome with
  | ok => exact Or.inl rfl
  | err e => exact Or.inr ⟨e, rfl⟩
  | ub u => exact absurd ho (h2 u)
  | fuel => exact absurd ho h1

theorem Inp.ext' {a b : Inp} (hrd : ∀ p, a.rd p = b.rd p) (hlen : a.len = b.len) : a = b := by
  cases a with | mk rd1 len1 nul1 => cases b with | mk rd2 len2 nul2 =>
  have : rd1 = rd2 := funext hrd
  subst this
  simp only at hlen
  subst hlen
  rfl

/-- **C02 (file path = memory path).**  `NLFileReader::Read` — through the copy path (file size a multiple
    of the page size) or the mmap path (zero-filled tail of the last page) — delivers exactly what
    `ReadNLString` delivers on the same bytes with the same flags: same header, same notifications, same
    outcome, for every content, page size, flag value and objective filter. -/
theorem C02_file_eq_string (content : ByteArray) (pageSize flags : Nat) (objsel : Option Nat) :
    readNLFile content pageSize flags objsel = readNL content flags objsel := by
  have key : (⟨bufRd (fileBuffer content pageSize), content.size, fileBuffer_nul content pageSize⟩ : Inp)
      = Inp.ofBytes content :=
    Inp.ext' (fun p => fileBuffer_rd content pageSize p) rfl
  unfold readNLFile readNL
  simp only [key, ite_self]

theorem foldl_congr_mem {α β : Type} (f g : α → β → α) (l : List β) (a : α)
    (h : ∀ x ∈ l, ∀ acc, f acc x = g acc x) : l.foldl f a = l.foldl g a :=
  List.foldl_rel rfl fun x hx acc _ hacc => hacc ▸ h x hx acc

/-- **C02 (byte order, per field).**  `EndiannessConverter` on a field whose `n` bytes are stored in
    reverse order yields the value `IdentityConverter` yields on the field in native order: the byte-swapped
    binary reader reads every `short`/`int`/`double` of a byte-swapped file as the native reader reads it in
    the native file.  (The whole-file statement needs the field boundaries, i.e. the parse itself; it is
    checked on generated twins — the same problem written in both byte orders must give the same
    notifications from the real reader — by `checks/c02.py`.) -/
theorem C02_swap_field (native swapped : Inp) (p n : Nat)
    (hrev : ∀ i, i < n → swapped.rd (p + i) = native.rd (p + (n - 1 - i))) :
    leBytes swapped true p n = leBytes native false p n := by
  unfold leBytes
  apply foldl_congr_mem
  intro i hi acc
  have hi' : i < n := List.mem_range.mp hi
  simp only [↓reduceIte, Bool.false_eq_true]
  have h1 : n - 1 - i < n := by omega
  rw [hrev (n - 1 - i) h1]
  have : n - 1 - (n - 1 - i) = i := by omega
  rw [this]

def bytesOf (l : List Nat) : ByteArray := ⟨(l.map Nat.toUInt8).toArray⟩

/-- regression of fix e1c4ee8: `g1 1e30\n` stops option reading and then fails on the missing newline/
    dimension line instead of converting 1e30 to `long` -/
theorem C02_fixed_float_cast :
    (readNL (bytesOf [103, 49, 32, 49, 101, 51, 48, 10]) 0 none).outcome = .err ⟨.uint, false, 2, 1⟩ := by decide

/-- regression of fix 984b1d0: header line 3 ` 0 0 2147483647 1` is a located `integer overflow` error -/
theorem C02_fixed_compl_overflow :
    (readNL (bytesOf [103, 10, 32, 49, 32, 48, 32, 48, 10, 32, 48, 32, 48, 32, 50, 49, 52, 55, 52, 56, 51, 54, 52, 55, 32, 49, 10]) 0 none).outcome
      = .err ⟨.ioverflow, false, 3, 18⟩ := by decide

/-! ### non-vacuity of the predicates and of the theorems' hypotheses

`Consistent` discriminates: under a header with two variables it accepts `OnVariableRef(1)` inside a constraint body and
rejects `OnVariableRef(5)`, a count that is not honoured (of linear terms, of arguments), an `End*` of the wrong kind,
anything after `EndInput` and a completed run without `EndInput`; a run that ended in a read error is held to its prefix. -/

def hdr2 : Header := { format := 0, num_vars := 2, num_algebraic_cons := 1, num_objs := 1, num_funcs := 1 }
example : Consistent true ⟨.ok, some hdr2, [.varRef 1, .algCon 0, .endInput]⟩ = true := by decide
example : Consistent true ⟨.ok, some hdr2, [.varRef 5, .algCon 0, .endInput]⟩ = false := by decide
example : Consistent true ⟨.ok, some hdr2, [.linearCon 0 2, .addTerm 0 0, .endInput]⟩ = false := by decide
example : Consistent true ⟨.ok, some hdr2, [.beginSum 3, .number 0, .addArg, .endSum, .algCon 0, .endInput]⟩ = false := by decide
example : Consistent true ⟨.ok, some hdr2, [.beginCall 0 1, .number 0, .addArg, .endSum, .algCon 0, .endInput]⟩ = false := by decide
example : Consistent true ⟨.ok, some hdr2, [.endInput, .varBounds 0 0 0]⟩ = false := by decide
example : Consistent true ⟨.ok, some hdr2, [.varRef 1, .algCon 0]⟩ = false := by decide            -- completed without EndInput
example : Consistent true ⟨.err ⟨.expr, false, 12, 1⟩, some hdr2, [.beginSum 3, .number 0, .addArg]⟩ = true := by decide   -- a prefix
/-- the strict / relaxed distinction: an expression left without owner -/
example : Consistent true ⟨.ok, some hdr2, [.number 0, .varBounds 0 0 0, .endInput]⟩ = false := by decide
example : Consistent false ⟨.ok, some hdr2, [.number 0, .varBounds 0 0 0, .endInput]⟩ = true := by decide

/-- instance of the hypothesis of `C02_header_first` (no header): the empty input -/
example : (readNL ByteArray.empty 0 none).header = none := by decide
/-- instances of the range hypotheses of the `C02_gen_*` theorems, one per direction -/
example : Gen.NLGuards.g_NLReader_ReadUInt_u__integer_N_out_of_bounds 5 3 = .ret 1 := by decide
example : Gen.NLGuards.g_NLReader_ReadUInt_u__integer_N_out_of_bounds 2 3 = .ret 0 := by decide
/-- outside the range hypothesis the C++ guard really differs from the mathematical one (a negative `int` converts to a
    huge `unsigned`): the hypothesis `v ≤ INT_MAX` of `C02_gen_oob` is the postcondition of `ReadUInt()`, see
    `C02_text_uint_range` -/
example : Gen.NLGuards.g_NLReader_ReadUInt_u__integer_N_out_of_bounds (-1) 3 = .ret 1 := by decide

/-- every normal result of `f` satisfies `Q` -/
structure LPost (f : L α) (Q : α → Prop) : Prop where
  h : ∀ r a r', f r = .ok a r' → Q a

theorem bind_ok {x : L α} {f : α → L β} {r : RState} {b : β} {r2 : RState}
    (h : (x >>= f) r = .ok b r2) : ∃ a r1, x r = .ok a r1 ∧ f a r1 = .ok b r2 := by
  change L.bind x f r = _ at h
  unfold L.bind at h
  cases hx : x r with
  | ok a r1 => rw [hx] at h; exact ⟨a, r1, rfl, h⟩
  | err e => rw [hx] at h; cases h
  | ub u => rw [hx] at h; cases h

section
variable (inp : Inp)

theorem lpost_tReport {cls : ErrCls} {Q : α → Prop} : LPost (tReport inp cls : L α) Q := by
  constructor
  intro r a r' h
  unfold tReport tReportAt at h
  split at h <;> cases h

theorem lpost_ub {u : UB} {Q : α → Prop} : LPost (L.ub u : L α) Q := ⟨fun _ _ _ h => by cases h⟩

end

/-- `TextReader::ReadUInt()` only returns values in `0 … INT_MAX` (the range hypothesis under which the `C02_gen_*`
    guard theorems are stated) -/
theorem C02_text_uint_range (inp : Inp) : LPost (tReadUInt inp) (fun v => v ≤ intMax) := by
  constructor
  intro r v r' h
  -- a normal end has passed every test of `ReadIntWithoutSign<int>`; the last one is `result > INT_MAX`
  unfold tReadUInt at h
  obtain ⟨_, r1, _, h⟩ := bind_ok h
  obtain ⟨o, r2, ho, h⟩ := bind_ok h
  cases o with
  | none => exact absurd h (fun h3 => (lpost_tReport inp (cls := .uint) (Q := fun _ => False)).h r2 _ _ h3)
  | some w =>
    cases h
    unfold tReadIntWithoutSign at ho
    split at ho
    · cases ho
    · split at ho
      · cases ho
      · split at ho
        · exact absurd ho (fun h3 => (lpost_tReport inp (cls := .toobig) (Q := fun _ => False)).h _ _ _ h3)
        · split at ho
          · exact absurd ho (fun h3 => (lpost_tReport inp (cls := .toobig) (Q := fun _ => False)).h _ _ _ h3)
          · rename_i hle
            cases ho
            simp only [G.tooBig] at hle
            omega

theorem foldl_bytes_lt (f : Nat → Nat) (hb : ∀ i, f i < 256) :
    ∀ n, (List.range n).foldl (fun acc i => acc + f i * 2 ^ (8 * i)) 0 < 2 ^ (8 * n) := by
  intro n
  induction n with
  | zero => simp
  | succ n ih =>
    rw [List.range_succ, List.foldl_append]
    simp only [List.foldl_cons, List.foldl_nil]
    have hx : 2 ^ (8 * (n + 1)) = 2 ^ (8 * n) * 256 := by
      rw [Nat.mul_add, Nat.pow_add]
    rw [hx]
    have h1 : f n * 2 ^ (8 * n) ≤ 255 * 2 ^ (8 * n) := Nat.mul_le_mul_right _ (by have := hb n; omega)
    generalize 2 ^ (8 * n) = X at *
    generalize f n * X = t at *
    omega

/-- an `n`-byte field is below `2^(8n)`; in particular what `BinaryReader::ReadInt<int>` reads is below 2^32 -/
theorem leBytes_lt (inp : Inp) (swap : Bool) (p n : Nat) : leBytes inp swap p n < 2 ^ (8 * n) := by
  unfold leBytes
  exact foldl_bytes_lt (fun i => (inp.rd (if swap then p + (n - 1 - i) else p + i)).toNat)
    (fun i => (inp.rd _).toNat_lt) n

/-- `BinaryReader::ReadUInt()` (native or byte-swapped) only returns values in `0 … INT_MAX`: the binary counterpart of
    `C02_text_uint_range`, so the range hypotheses of the `C02_gen_*` guard theorems hold for both reader kinds -/
theorem C02_bin_uint_range (inp : Inp) (swap : Bool) : LPost (bReadUInt inp swap) (fun v => v ≤ intMax) := by
  constructor
  intro r v r' h
  unfold bReadUInt at h
  obtain ⟨w, r1, hw, h⟩ := bind_ok h
  unfold bReadInt at hw
  obtain ⟨r0, r2, _, hw⟩ := bind_ok hw
  obtain ⟨_, r3, _, hw⟩ := bind_ok hw
  obtain ⟨q, r4, _, hw⟩ := bind_ok hw
  cases hw
  have hlt : leBytes inp swap q 4 < 4294967296 := leBytes_lt inp swap q 4
  split at h
  · cases h
  · rename_i hneg
    cases h
    simp only [G.negative, toSigned] at hneg ⊢
    unfold intMax
    split at hneg <;> split <;> omega

/-- the reader-kind independent form: whatever `reader_.ReadUInt()` returns is in `0 … INT_MAX` -/
theorem C02_uint_range (inp : Inp) (k : RKind) : LPost (rReadUInt inp k) (fun v => v ≤ intMax) := by
  cases k with
  | text => exact C02_text_uint_range inp
  | bin s => exact C02_bin_uint_range inp s

/-- `C02_file_eq_string` does not rest on the totalised read beyond the array: for a positive page size the buffer
    handed to `ReadNLString` physically contains a byte at offset `size` (copy path: the appended NUL; mmap path: the
    zero tail of the last page) and that byte is NUL -/
theorem C02_file_buffer_terminated (content : ByteArray) (pageSize : Nat) (hp : 0 < pageSize) :
    content.size < (fileBuffer content pageSize).size ∧ bufRd (fileBuffer content pageSize) content.size = 0 := by
  refine ⟨?_, fileBuffer_nul content pageSize content.size (Nat.le_refl _)⟩
  have hsz : content.data.size = content.size := rfl
  unfold fileBuffer
  simp only
  by_cases h0 : (content.size % pageSize != 0) = true
  · rw [if_pos h0]
    have hlt : content.size % pageSize < pageSize := Nat.mod_lt _ hp
    have hle : content.size % pageSize ≤ content.size := Nat.mod_le _ _
    have hne : ¬ (content.size == content.size + pageSize - content.size % pageSize) = true := by
      simp only [beq_iff_eq]; omega
    rw [if_neg hne]
    simp only [Array.size_append, Array.size_replicate]
    omega
  · rw [if_neg h0]
    simp only [beq_self_eq_true, ↓reduceIte, Array.size_push]
    omega

/-- instance of the hypothesis of `C02_swap_field`: the two-byte field `01 02` stored as `02 01` -/
def twoBytes (a b : UInt8) : Inp :=
  ⟨fun p => if p = 0 then a else if p = 1 then b else 0, 2, by
    intro p hp
    have h0 : p ≠ 0 := by omega
    have h1 : p ≠ 1 := by omega
    simp [h0, h1]⟩

example : leBytes (twoBytes 2 1) true 0 2 = leBytes (twoBytes 1 2) false 0 2 :=
  C02_swap_field _ _ 0 2 (by
    intro i hi
    have : i = 0 ∨ i = 1 := by omega
    rcases this with rfl | rfl <;> simp [twoBytes])

end MpVerif.C02
