import MpVerif.C02.ModelCheck
import MpVerif.C02.LemmasIn
/-!
# C02 lemmas: the logic over the parser monad `P`

One triple, `Tr Pre p Q`, says that `p` delivers what the checker accepts, keeps the cursor inside the buffer and terminates,
so that all three are proved in a single walk over the parser; between two steps of the parser `Pre` is `Inv`.  `Rd` is its form
for the readers that deliver nothing.
-/
namespace MpVerif.C02

section
variable (strict : Bool) (h : Header)

/-- the checker accepts the notifications delivered so far -/
def Good (evs : List Ev) : Prop := (chkRev strict h evs).isSome = true

variable {strict h}

theorem good_of_some {evs : List Ev} {c : CState} (hc : chkRev strict h evs = some c) : Good strict h evs := by
  unfold Good; rw [hc]; rfl

theorem Good.some {evs : List Ev} (hg : Good strict h evs) : ∃ c, chkRev strict h evs = some c :=
  Option.isSome_iff_exists.mp hg

theorem step_eq {c : CState} (hd : c.done = false) (e : Ev) : step strict h c e = stepCore strict h c e := by
  simp only [step, hd, Bool.false_eq_true, ↓reduceIte]

theorem chk_emit {evs : List Ev} {c c' : CState} {e : Ev}
    (h1 : chkRev strict h evs = some c) (hd : c.done = false) (h2 : stepCore strict h c e = some c') :
    chkRev strict h (e :: evs) = some c' := by
  simp only [chkRev, h1, step_eq hd, h2]

end

section
variable (strict : Bool) (cx : Env)

/-- `Inv` as the continuation of `ReadChar` finds it: `ReadChar` has returned `ch`, `inb` is `ch ≠ 0`; the cursor may be
    one past the terminating NUL, but only if `ch` is that NUL. -/
structure InvC (P0 v : Nat) (st : List Frame) (inb : Prop) (s : PState) : Prop where
  chk : chkRev strict cx.h s.evs = some ⟨v, st, false⟩
  lo : P0 ≤ s.r.pos
  hi1 : s.r.pos ≤ cx.inp.len + 1
  hi : inb → s.r.pos ≤ cx.inp.len

/-- the invariant between two steps of the parser -/
structure Inv (P0 v : Nat) (st : List Frame) (s : PState) : Prop where
  chk : chkRev strict cx.h s.evs = some ⟨v, st, false⟩
  lo : P0 ≤ s.r.pos
  hi : s.r.pos ≤ cx.inp.len

/-- a normal end satisfies `Q`; the only other end is a read error, after notifications the checker accepts -/
def Tri (p : P α) (s : PState) (Q : α → PState → Prop) : Prop :=
  match p s with
  | .ok a s' => Q a s'
  | .err _ evs => Good strict cx.h evs
  | .ub _ _ => False
  | .fuel => False

def Tr (Pre : PState → Prop) (p : P α) (Q : α → PState → Prop) : Prop := ∀ s, Pre s → Tri strict cx p s Q

variable {strict cx}

variable {P0 v : Nat} {st : List Frame}

theorem InvC.inv {inb : Prop} {s : PState} (h : InvC strict cx P0 v st inb s) (hb : inb) : Inv strict cx P0 v st s :=
  ⟨h.chk, h.lo, h.hi hb⟩

theorem Inv.toC {inb : Prop} {s : PState} (h : Inv strict cx P0 v st s) : InvC strict cx P0 v st inb s :=
  ⟨h.chk, h.lo, Nat.le_succ_of_le h.hi, fun _ => h.hi⟩

section
variable {Pre : PState → Prop} {Q : α → PState → Prop}

theorem tr_pure {a : α} (h : ∀ s, Pre s → Q a s) : Tr strict cx Pre (pure a : P α) Q := h

theorem Tri.cases {p : P α} {s : PState} (h : Tri strict cx p s Q) :
    (∃ a s', p s = .ok a s' ∧ Q a s') ∨ ∃ e evs, p s = .err e evs ∧ Good strict cx.h evs := by
  unfold Tri at h
  cases hps : p s <;> rw [hps] at h
  · exact .inl ⟨_, _, rfl, h⟩
  · exact .inr ⟨_, _, rfl, h⟩
  · exact h.elim
  · exact h.elim

theorem tr_bind {p : P α} {f : α → P β} {M : α → PState → Prop} {Q : β → PState → Prop}
    (hp : Tr strict cx Pre p M) (hf : ∀ a, Tr strict cx (M a) (f a) Q) : Tr strict cx Pre (p >>= f) Q := by
  intro s h
  show Tri strict cx (P.bind p f) s Q
  unfold Tri P.bind
  rcases (hp s h).cases with ⟨a, s1, e, q⟩ | ⟨_, _, e, g⟩ <;> rw [e]
  · exact hf a s1 q
  · exact g

theorem tr_mono {p : P α} {Q' : α → PState → Prop} (hp : Tr strict cx Pre p Q) (hq : ∀ a s', Q a s' → Q' a s') :
    Tr strict cx Pre p Q' := by
  intro s h
  unfold Tri
  rcases (hp s h).cases with ⟨a, s1, e, q⟩ | ⟨_, _, e, g⟩ <;> rw [e]
  · exact hq a s1 q
  · exact g

theorem tr_ite {p q : P α} {cnd : Prop} [Decidable cnd] (h1 : cnd → Tr strict cx Pre p Q) (h2 : ¬cnd → Tr strict cx Pre q Q) :
    Tr strict cx Pre (if cnd then p else q) Q :=
  iteInduction (motive := fun p => Tr strict cx Pre p Q) h1 h2

theorem tr_or {A B : PState → Prop} {p : P α} (h1 : Tr strict cx A p Q) (h2 : Tr strict cx B p Q) :
    Tr strict cx (fun s => A s ∨ B s) p Q := fun s h => h.elim (h1 s) (h2 s)

theorem tr_failC {cls : ErrCls} {inb : Prop} : Tr strict cx (InvC strict cx P0 v st inb) (fail cx cls : P α) Q := by
  intro s h
  obtain ⟨e, he⟩ := rReport_err (α := α) cx.inp cx.k cls s.r
  unfold Tri fail lift
  rw [he]
  exact good_of_some h.chk

theorem tr_fail {cls : ErrCls} : Tr strict cx (Inv strict cx P0 v st) (fail cx cls : P α) Q :=
  fun s h => tr_failC s (h.toC (inb := True))

/-- discharge `cnd → c ≠ 0` (or `¬cnd → c ≠ 0`) where `cnd` compares `c` with non-zero literals -/
syntax "nz" : tactic
macro_rules
  | `(tactic| nz) => `(tactic| (intro h_ h0_; subst h0_; simp at h_))

/-- a branch taken only on a non-NUL byte starts inside the buffer -/
theorem tr_ite_pos {inb : Prop} {p q : P α} {cnd : Prop} [Decidable cnd] (hne : cnd → inb)
    (h1 : Tr strict cx (Inv strict cx P0 v st) p Q) (h2 : ¬cnd → Tr strict cx (InvC strict cx P0 v st inb) q Q) :
    Tr strict cx (InvC strict cx P0 v st inb) (if cnd then p else q) Q :=
  tr_ite (fun hc s h => h1 s (h.inv (hne hc))) h2

theorem tr_ite_neg {inb : Prop} {p q : P α} {cnd : Prop} [Decidable cnd] (hne : ¬cnd → inb)
    (h1 : cnd → Tr strict cx (InvC strict cx P0 v st inb) p Q) (h2 : Tr strict cx (Inv strict cx P0 v st) q Q) :
    Tr strict cx (InvC strict cx P0 v st inb) (if cnd then p else q) Q :=
  tr_ite h1 (fun hc s h => h2 s (h.inv (hne hc)))

end

/-- `forN` with an invariant indexed by the number of remaining iterations -/
theorem tr_forN {body : Nat → P Unit} (I : Nat → PState → Prop) {n i : Nat}
    (hb : ∀ k j, j < i + n → Tr strict cx (I (k + 1)) (body j) (fun _ => I k)) :
    Tr strict cx (I n) (forN n i body) (fun _ => I 0) := by
  induction n generalizing i with
  | zero => exact tr_pure fun _ h => h
  | succ n ih => exact tr_bind (hb n i (by omega)) fun _ => ih fun k j hj => hb k j (by omega)

theorem tr_getR {Pre : PState → Prop} {f : RState → P β} {Q : β → PState → Prop} (hf : ∀ r, Tr strict cx Pre (f r) Q) :
    Tr strict cx Pre (getR >>= f) Q :=
  tr_bind (M := fun _ => Pre) (fun _ h => h) hf

theorem tr_setR {r : RState} {Pre Pre' : PState → Prop} {f : Unit → P β} {Q : β → PState → Prop}
    (h : ∀ s, Pre s → Pre' { s with r := r }) (hf : Tr strict cx Pre' (f ()) Q) : Tr strict cx Pre (setR r >>= f) Q :=
  tr_bind (M := fun _ => Pre') h fun _ => hf

end

/-- `p` delivers nothing and keeps the cursor inside the buffer; a normal result satisfies `φ` -/
def Rd (cx : Env) (p : P α) (φ : α → Prop) : Prop :=
  ∀ strict P0 v st, Tr strict cx (Inv strict cx P0 v st) p (fun a s' => Inv strict cx P0 v st s' ∧ φ a)

section
variable {strict : Bool} {cx : Env} {P0 v : Nat} {st : List Frame} {Q : β → PState → Prop}

theorem tr_rd {p : P α} {φ : α → Prop} (hp : Rd cx p φ) {f : α → P β}
    (hf : ∀ a, φ a → Tr strict cx (Inv strict cx P0 v st) (f a) Q) : Tr strict cx (Inv strict cx P0 v st) (p >>= f) Q :=
  tr_bind (hp strict P0 v st) fun a _ h => hf a h.2 _ h.1

theorem tr_rd_last {p : P α} {φ : α → Prop} (hp : Rd cx p φ) :
    Tr strict cx (Inv strict cx P0 v st) p (fun _ => Inv strict cx P0 v st) :=
  tr_mono (hp strict P0 v st) fun _ _ h => h.1

theorem tr_em_last {e : Ev} {v' : Nat} {st' : List Frame}
    (hs : stepCore strict cx.h ⟨v, st, false⟩ e = some ⟨v', st', false⟩) :
    Tr strict cx (Inv strict cx P0 v st) (emit e) (fun _ => Inv strict cx P0 v' st') :=
  fun _ h => ⟨chk_emit h.chk rfl hs, h.lo, h.hi⟩

theorem tr_em {e : Ev} {v' : Nat} {st' : List Frame}
    (hs : stepCore strict cx.h ⟨v, st, false⟩ e = some ⟨v', st', false⟩)
    {f : Unit → P β} (hf : Tr strict cx (Inv strict cx P0 v' st') (f ()) Q) :
    Tr strict cx (Inv strict cx P0 v st) (emit e >>= f) Q :=
  tr_bind (tr_em_last hs) fun _ => hf

/-- `ReadChar` moves the cursor by one: what follows only has to work from `P0 + 1` on, which is what bounds the
    nesting of expressions by the bytes consumed -/
theorem tr_rdChar' {f : UInt8 → P β} (hf : ∀ ch, Tr strict cx (InvC strict cx (P0 + 1) v st (ch ≠ 0)) (f ch) Q) :
    Tr strict cx (Inv strict cx P0 v st) (rdChar cx >>= f) Q :=
  tr_bind (M := fun ch => InvC strict cx (P0 + 1) v st (ch ≠ 0)) (fun s h => by
    unfold Tri rdChar lift readChar
    simp only [Nat.not_lt.mpr h.hi, ↓reduceIte]
    exact ⟨h.chk, Nat.succ_le_succ h.lo, Nat.succ_le_succ h.hi, fun hc => lt_of_ne0 cx.inp.nul hc⟩) hf

theorem tr_rdChar {f : UInt8 → P β} (hf : ∀ ch, Tr strict cx (InvC strict cx P0 v st (ch ≠ 0)) (f ch) Q) :
    Tr strict cx (Inv strict cx P0 v st) (rdChar cx >>= f) Q :=
  tr_rdChar' fun ch s h => hf ch s ⟨h.chk, Nat.le_of_succ_le h.lo, h.hi1, h.hi⟩

end

section
variable {cx : Env}

theorem rd_lift {f : L α} (hs : ∀ b, LSafe b cx.inp.len f) : Rd cx (lift f) (fun _ => True) := by
  intro strict P0 v st s h
  have w := (hs P0).h s.r ⟨h.lo, h.hi⟩
  unfold Tri lift
  cases hfs : f s.r with
  | ok a r => rw [hfs] at w; exact ⟨⟨h.chk, w.1, w.2⟩, trivial⟩
  | err e => exact good_of_some h.chk
  | ub u => rw [hfs] at w; exact w

theorem rd_guard {p : P α} {g : α → Prop} [DecidablePred g] {cls : ErrCls} (hp : Rd cx p (fun _ => True)) :
    Rd cx (do let a ← p; if g a then fail cx cls else pure a) (fun a => ¬ g a) :=
  fun _ _ _ _ => tr_rd hp fun _ _ => tr_ite (fun _ => tr_fail) fun hg => tr_pure fun _ h => ⟨h, hg⟩

theorem Rd.mono {p : P α} {φ ψ : α → Prop} (hp : Rd cx p φ) (hi : ∀ a, φ a → ψ a) : Rd cx p ψ :=
  fun _ _ _ _ => tr_mono (hp _ _ _ _) fun a _ h => ⟨h.1, hi a h.2⟩

theorem rd_rdUInt : Rd cx (rdUInt cx) (fun _ => True) := rd_lift primSafe.uint
theorem rd_rdInt {b : Nat} : Rd cx (rdInt cx b) (fun _ => True) := rd_lift fun b' => primSafe.int b' b
theorem rd_rdDouble : Rd cx (rdDouble cx) (fun _ => True) := rd_lift primSafe.dbl
theorem rd_rdString : Rd cx (rdString cx) (fun _ => True) := rd_lift primSafe.str
theorem rd_rdName : Rd cx (rdName cx) (fun _ => True) := rd_lift primSafe.name
theorem rd_eol : Rd cx (eol cx) (fun _ => True) := rd_lift primSafe.eol

theorem rd_readUIntUB {ub : Nat} : Rd cx (readUIntUB cx ub) (fun v => v < ub) :=
  (rd_guard rd_rdUInt).mono fun _ => Nat.lt_of_not_le

theorem rd_readUIntLU {lb ub : Nat} : Rd cx (readUIntLU cx lb ub) (fun v => lb ≤ v ∧ v < ub) :=
  (rd_guard rd_rdUInt).mono fun _ h => by simp only [G.oobLU] at h; omega

theorem rd_readNumArgs {m : Nat} : Rd cx (readNumArgs cx m) (fun v => m ≤ v) :=
  (rd_guard rd_rdUInt).mono fun _ => Nat.le_of_not_lt

theorem rd_readOpCode : Rd cx (readOpCode cx) (fun _ => True) :=
  fun _ _ _ _ => tr_rd rd_rdUInt fun _ _ => tr_ite (fun _ => tr_fail) fun _ => tr_rd rd_eol fun _ _ =>
    tr_pure fun _ h => ⟨h, trivial⟩

/-- `ReadConstant(code)` with the byte `ReadChar` has just returned, which stops at once if that byte is NUL -/
theorem tr_readConstant {strict : Bool} {P0 v : Nat} {st : List Frame} {c : UInt8} {f : F64 → P β} {Q : β → PState → Prop}
    (hf : ∀ x, Tr strict cx (Inv strict cx P0 v st) (f x) Q) :
    Tr strict cx (InvC strict cx P0 v st (c ≠ 0)) (readConstant cx c >>= f) Q :=
  tr_bind (M := fun _ => Inv strict cx P0 v st)
    (tr_bind (M := fun _ => Inv strict cx P0 v st)
      (tr_ite_pos (by nz) (tr_rd_last rd_rdDouble) fun _ =>
       tr_ite_pos (by nz) (tr_rd rd_rdInt fun _ _ => tr_pure fun _ h => h) fun _ =>
       tr_ite_pos (by nz) (tr_rd rd_rdInt fun _ _ => tr_pure fun _ h => h) fun _ => tr_failC)
      fun _ => tr_rd rd_eol fun _ _ => tr_pure fun _ h => h)
    hf

end

/-! ### two weaker judgments, which the walk over the parser does not go through

`Sat` is `Tri` without the exclusion of `ub` and `fuel` (`Tri.sat`); `Reads` says of a reader that it delivers nothing,
whatever its end, and does not run out of fuel. -/

section
variable (strict : Bool) (h : Header)

def Sat (p : P α) (s : PState) (Q : α → PState → Prop) : Prop :=
  match p s with
  | .ok a s' => Q a s'
  | .err _ evs => Good strict h evs
  | .ub _ evs => Good strict h evs
  | .fuel => True

variable {strict h}

theorem sat_lift {f : L α} {s : PState} {Q : α → PState → Prop}
    (hg : Good strict h s.evs) (hq : ∀ a r, Q a { s with r := r }) : Sat strict h (lift f) s Q := by
  unfold Sat lift
  cases hf : f s.r <;> simp_all

theorem sat_pub {u : UB} {s : PState} {Q : α → PState → Prop} (hg : Good strict h s.evs) :
    Sat strict h (pub u : P α) s Q := hg

end

theorem Tri.sat {strict : Bool} {cx : Env} {p : P α} {s : PState} {Q : α → PState → Prop} (h : Tri strict cx p s Q) :
    Sat strict cx.h p s Q := by
  unfold Sat
  rcases h.cases with ⟨_, _, e, q⟩ | ⟨_, _, e, g⟩ <;> rw [e]
  · exact q
  · exact g

/-- `p` never changes the notification list; a normal result satisfies `φ` -/
def Reads (p : P α) (φ : α → Prop) : Prop :=
  ∀ s, match p s with
    | .ok a s' => s'.evs = s.evs ∧ φ a
    | .err _ evs => evs = s.evs
    | .ub _ evs => evs = s.evs
    | .fuel => False

theorem reads_mono {p : P α} {φ ψ : α → Prop} (hp : Reads p φ) (hi : ∀ a, φ a → ψ a) : Reads p ψ := by
  intro s
  have h1 := hp s
  cases hps : p s <;> simp_all

theorem reads_pub (u : UB) (φ : α → Prop) : Reads (pub u : P α) φ := by
  intro s; rfl

end MpVerif.C02
