import MpVerif.C02.GenTie
/-!
# C02: the guards of the digit loop and of the sign handling of the text reader

`TextReader::ReadIntWithoutSign<Int>` accumulates `result * 10 + (c - '0')` in the unsigned type of `Int` and reports
`number is too big` when the result wrapped (`G.wrapped`) or exceeds the maximum of `Int` (`G.tooBig`);
`DoReadOptionalInt` admits one more for a negative number (`G.signedTooBig`).  One theorem per instantiated width.
-/
namespace MpVerif.C02
open MpVerif.CSem MpVerif.Gen MpVerif.Gen.NLGuards

theorem digit_char (c : UInt8) (hd : isDigit c = true) : asChar c = (c.toNat : Int) ∧ 48 ≤ c.toNat ∧ c.toNat ≤ 57 := by
  simp only [isDigit, Bool.and_eq_true, decide_eq_true_eq] at hd
  have h1 : 48 ≤ c.toNat := by have := hd.1; exact UInt8.le_iff_toNat_le.mp this
  have h2 : c.toNat ≤ 57 := by have := hd.2; exact UInt8.le_iff_toNat_le.mp this
  refine ⟨?_, h1, h2⟩
  unfold asChar
  split <;> omega

theorem arith_tI' (r : Int) (h0 : -2147483648 ≤ r) (h1 : r ≤ 2147483647) : arith tI r = .ret r := arith_tI h0 h1

/-- `c - '0'`, evaluated in `int` -/
theorem digit_sub (c : UInt8) (hd : isDigit c = true) :
    csub tI (conv tI (asChar c)) (conv tI 48) = .ret ((c.toNat : Int) - 48) := by
  obtain ⟨hc, h1, h2⟩ := digit_char c hd
  rw [hc, conv_tI_small (c.toNat : Int) (by omega) (by omega), conv_tI_small 48 (by omega) (by omega), csub,
    arith_tI' ((c.toNat : Int) - 48) (by omega) (by omega)]

/-- `ReadIntWithoutSign<int>` / `<unsigned>`: `result * 10 + (c - '0')` in 32-bit unsigned arithmetic -/
theorem C02_gen_wrapped32 (result : Nat) (c : UInt8) (hr : result < 4294967296) (hd : isDigit c = true) :
    g_TextReader_ReadIntWithoutSign_u__number_is_too_big result (asChar c)
      = .ret (bi (decide (G.wrapped (G.newResult 32 result c) result))) := by
  obtain ⟨-, h1, h2⟩ := digit_char c hd
  unfold g_TextReader_ReadIntWithoutSign_u__number_is_too_big G.wrapped G.newResult
  simp only [digit_sub c hd, cmul, cadd, arith_tU, conv_tU, Outcome.bind_ret, clt_eq_tv, bi_decide]
  exact congrArg _ (tv_congr (by omega))

theorem C02_gen_wrapped32i (result c : Int) :
    g_TextReader_ReadIntWithoutSign_i__number_is_too_big result c
      = g_TextReader_ReadIntWithoutSign_u__number_is_too_big result c := rfl

/-- `ReadIntWithoutSign<unsigned short>` (`ReadInt<short>`): arithmetic in `int`, truncated to 16 bits -/
theorem C02_gen_wrapped16 (result : Nat) (c : UInt8) (hr : result < 65536) (hd : isDigit c = true) :
    g_TextReader_ReadIntWithoutSign_us__number_is_too_big result (asChar c)
      = .ret (bi (decide (G.wrapped (G.newResult 16 result c) result))) := by
  obtain ⟨-, h1, h2⟩ := digit_char c hd
  unfold g_TextReader_ReadIntWithoutSign_us__number_is_too_big G.wrapped G.newResult
  simp only [digit_sub c hd, cmul, cadd, conv_tUS]
  rw [conv_tI_small (result : Int) (by omega) (by omega), arith_tI' ((result : Int) * 10) (by omega) (by omega)]
  simp only [Outcome.bind_ret]
  rw [arith_tI' ((result : Int) * 10 + ((c.toNat : Int) - 48)) (by omega) (by omega)]
  simp only [Outcome.bind_ret]
  rw [conv_tI (v := ((result : Int) * 10 + ((c.toNat : Int) - 48)) % 65536) (by omega) (by omega), clt_eq_tv, bi_decide]
  exact congrArg _ (tv_congr (by omega))

/-- `ReadIntWithoutSign<std::size_t>` (header non-zero counts): 64-bit unsigned arithmetic -/
theorem C02_gen_wrapped64 (result : Nat) (c : UInt8) (hr : result < 18446744073709551616) (hd : isDigit c = true) :
    g_TextReader_ReadIntWithoutSign_ul__number_is_too_big result (asChar c)
      = .ret (bi (decide (G.wrapped (G.newResult 64 result c) result))) := by
  obtain ⟨-, h1, h2⟩ := digit_char c hd
  unfold g_TextReader_ReadIntWithoutSign_ul__number_is_too_big G.wrapped G.newResult
  simp only [digit_sub c hd, cmul, cadd, arith_tUL, conv_tUL, Outcome.bind_ret, clt_eq_tv, bi_decide]
  exact congrArg _ (tv_congr (by omega))

/-- `if (result > max)` after the loop, per instantiation (`max = numeric_limits<Int>::max()`) -/
theorem C02_gen_tooBig_i (result : Nat) :
    g_TextReader_ReadIntWithoutSign_i__number_is_too_big_2 result = .ret (bi (decide (G.tooBig result intMax))) := by
  unfold g_TextReader_ReadIntWithoutSign_i__number_is_too_big_2 G.tooBig intMax
  simp only [conv_tU, cgt_eq_tv, bi_decide]
  exact congrArg _ (tv_congr (by omega))

theorem C02_gen_tooBig_u (result : Nat) :
    g_TextReader_ReadIntWithoutSign_u__number_is_too_big_2 result = .ret (bi (decide (G.tooBig result (2 ^ 32 - 1)))) := by
  unfold g_TextReader_ReadIntWithoutSign_u__number_is_too_big_2 G.tooBig
  simp only [cgt_eq_tv, bi_decide]
  exact congrArg _ (tv_congr (by omega))

theorem C02_gen_tooBig_ul (result : Nat) :
    g_TextReader_ReadIntWithoutSign_ul__number_is_too_big_2 result = .ret (bi (decide (G.tooBig result (2 ^ 64 - 1)))) := by
  unfold g_TextReader_ReadIntWithoutSign_ul__number_is_too_big_2 G.tooBig
  simp only [cgt_eq_tv, bi_decide]
  exact congrArg _ (tv_congr (by omega))

theorem C02_gen_tooBig_us (result : Nat) (hr : result < 65536) :
    g_TextReader_ReadIntWithoutSign_us__number_is_too_big_2 result = .ret (bi (decide (G.tooBig result (2 ^ 16 - 1)))) := by
  unfold g_TextReader_ReadIntWithoutSign_us__number_is_too_big_2 G.tooBig
  simp only []
  rw [conv_tI_small (result : Int) (by omega) (by omega), conv_tI_small 65535 (by omega) (by omega)]
  simp only [cgt_eq_tv, bi_decide]
  exact congrArg _ (tv_congr (by omega))

/-- `DoReadOptionalInt<int>`: `result > max && !(sign == '-' && result == max + 1)` -/
theorem C02_gen_signedTooBig_i (result : Nat) (sign : UInt8) (hr : result < 4294967296) :
    g_TextReader_DoReadOptionalInt_i__number_is_too_big (asChar sign) result
      = .ret (bi (G.signedTooBig result (2 ^ (32 - 1) - 1) sign)) := by
  unfold g_TextReader_DoReadOptionalInt_i__number_is_too_big G.signedTooBig
  simp only []
  rw [conv_tI_char, conv_tI_small 45 (by omega) (by omega)]
  simp only [conv_tU, cadd, arith_tU, cand_ret, Outcome.bind_ret, cgt_eq_tv, ceq_eq_tv, cnot_eq_tv, tv_ne_zero, tv_eq_zero, bi_eq_tv]
  have h45 : asChar sign = 45 ↔ sign = 45 := by simpa using asChar_eq sign 45 (by omega)
  exact congrArg _ (tv_congr (by rw [h45]; by_cases hs : sign = 45 <;> simp [hs] <;> omega))

/-- `DoReadOptionalInt<short>` -/
theorem C02_gen_signedTooBig_s (result : Nat) (sign : UInt8) (hr : result < 65536) :
    g_TextReader_DoReadOptionalInt_s__number_is_too_big (asChar sign) result
      = .ret (bi (G.signedTooBig result (2 ^ (16 - 1) - 1) sign)) := by
  unfold g_TextReader_DoReadOptionalInt_s__number_is_too_big G.signedTooBig
  simp only []
  simp (disch := omega) only [conv_tI_char, conv_tI, conv_tUS, cadd, arith_tI, cand_ret, Outcome.bind_ret, cgt_eq_tv, ceq_eq_tv,
    cnot_eq_tv, tv_ne_zero, tv_eq_zero, bi_eq_tv]
  have h45 : asChar sign = 45 ↔ sign = 45 := by simpa using asChar_eq sign 45 (by omega)
  exact congrArg _ (tv_congr (by rw [h45]; by_cases hs : sign = 45 <;> simp [hs] <;> omega))

end MpVerif.C02
