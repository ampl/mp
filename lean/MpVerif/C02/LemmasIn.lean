import MpVerif.C02.ModelLex
/-!
# C02 lemmas: the cursor stays inside the buffer

Buffer contract (`NLStringRef`): the bytes `data[0 .. len)` are followed by a terminating NUL at offset
`len` (`end_`); `Inp.rd p = 0` for every `p ≥ len`.  A text primitive advances the cursor only past a
byte it has seen to be non-NUL (`Win.step`: so never past `len`); a binary primitive advances only after the
length check `end_ - ptr_ ≥ n`.  `ReadChar` is the one unconditional advance: from `pos ≤ len` it ends
at `pos + 1 ≤ len + 1`, and at `≤ len` whenever the byte it returns is not NUL (`tr_rdChar'` in Lemmas.lean,
`lt_readChar_bind` in LemmasHeader.lean).
-/
namespace MpVerif.C02

/-! ### byte classes never contain NUL -/

theorem isDigit_ne0 {c : UInt8} (h : isDigit c = true) : c ≠ 0 := by
  intro h0; subst h0; simp [isDigit] at h
theorem isSpace_ne0 {c : UInt8} (h : isSpace c = true) : c ≠ 0 := by
  intro h0; subst h0; simp [isSpace] at h
theorem hexVal_ne0 {c : UInt8} (h : (hexVal c).isSome = true) : c ≠ 0 := by
  intro h0; subst h0; simp [hexVal, isDigit, lower] at h
theorem isAlnum_ne0 {c : UInt8} (h : isAlnum_ c = true) : c ≠ 0 := by
  intro h0; subst h0; simp [isAlnum_, isDigit, lower] at h
theorem lower_eq_ne0 {c k : UInt8} (hk : k ≠ 0) (h : (lower c == k) = true) : c ≠ 0 := by
  intro h0; subst h0
  have : lower 0 = 0 := by simp [lower]
  rw [this] at h
  have h' : (0 : UInt8) = k := by simpa using h
  exact hk h'.symm
theorem beq_ne0 {c k : UInt8} (hk : k ≠ 0) (h : (c == k) = true) : c ≠ 0 := by
  intro h0; subst h0
  have h' : (0 : UInt8) = k := by simpa using h
  exact hk h'.symm

/-- the window of the cursor: at or beyond `b`, at most at the terminating NUL -/
def Win (b len p : Nat) : Prop := b ≤ p ∧ p ≤ len

section
variable {rd : Nat → UInt8} {b len : Nat} (hz : ∀ p, len ≤ p → rd p = 0)
include hz

theorem lt_of_ne0 {p : Nat} (h : rd p ≠ 0) : p < len :=
  Nat.lt_of_not_le fun hle => h (hz p hle)

theorem Win.step {p : Nat} (h : Win b len p) (hne : rd p ≠ 0) : Win b len (p + 1) :=
  ⟨Nat.le_succ_of_le h.1, lt_of_ne0 hz hne⟩

theorem scanDigits_win (hex : Bool) : ∀ fuel p acc cnt, Win b len p → Win b len (scanDigits rd hex fuel p acc cnt).2.2 := by
  intro fuel; induction fuel with
  | zero => intro p acc cnt hp; exact hp
  | succ n ih =>
    intro p acc cnt hp
    unfold scanDigits
    simp only
    split
    · split
      · rename_i v hv
        exact ih _ _ _ (hp.step hz (hexVal_ne0 (by rw [hv]; rfl)))
      · exact hp
    · split
      · rename_i hd
        exact ih _ _ _ (hp.step hz (isDigit_ne0 hd))
      · exact hp

theorem scanMant_win (hex : Bool) (fuel q : Nat) (hq : Win b len q) : Win b len (scanMant rd hex fuel q).2.2.2 := by
  unfold scanMant
  simp only
  have h1 := scanDigits_win hz hex fuel q 0 0 hq
  split
  · rename_i hdot
    exact scanDigits_win hz hex fuel _ _ _ (h1.step hz (beq_ne0 (by decide) hdot))
  · exact h1

theorem Win.sign {p : Nat} (h : Win b len p) : Win b len (if (rd p == 45 || rd p == 43) = true then p + 1 else p) := by
  split
  · rename_i hs
    exact h.step hz (by intro h0; rw [h0] at hs; simp at hs)
  · exact h

theorem scanExp_win (fuel : Nat) (mk : UInt8) (hmk : mk ≠ 0) (r2 : Nat) (hr : Win b len r2) :
    Win b len (scanExp rd fuel mk r2).2 := by
  unfold scanExp
  by_cases hm : (lower (rd r2) == mk) = true
  · rw [if_pos hm]
    have hr' : Win b len (if (rd (r2 + 1) == 45 || rd (r2 + 1) == 43) = true then r2 + 2 else r2 + 1) :=
      (hr.step hz (lower_eq_ne0 hmk hm)).sign hz
    simp only
    generalize (if (rd (r2 + 1) == 45 || rd (r2 + 1) == 43) = true then r2 + 2 else r2 + 1) = r at hr'
    by_cases hd : isDigit (rd r) = true
    · rw [if_pos hd]; exact scanDigits_win hz false fuel r 0 0 hr'
    · rw [if_neg hd]; exact hr
  · rw [if_neg hm]; exact hr

theorem nanScan_win : ∀ fuel r, Win b len r → Win b len (nanScan rd fuel r) := by
  intro fuel; induction fuel with
  | zero => intro r hr; exact hr
  | succ n ih =>
    intro r hr
    unfold nanScan
    split
    · rename_i ha
      exact ih _ (hr.step hz (isAlnum_ne0 ha))
    · exact hr

theorem matchWord_win : ∀ (w : List UInt8) (q : Nat), (∀ c ∈ w, c ≠ 0) → matchWord rd q w = true → Win b len q →
    Win b len (q + w.length) := by
  intro w; induction w with
  | nil => intro q _ _ hq; exact hq
  | cons c w ih =>
    intro q hw hm hq
    simp only [matchWord, Bool.and_eq_true] at hm
    have := ih (q + 1) (fun c' hc' => hw c' (List.mem_cons_of_mem _ hc')) hm.2
      (hq.step hz (lower_eq_ne0 (hw c (List.mem_cons_self ..)) hm.1))
    rwa [List.length_cons, Nat.add_comm w.length, ← Nat.add_assoc]

theorem strtodHex_win (fuel : Nat) (neg : Bool) (q : Nat) (hq : Win b len (q + 2)) : Win b len (strtodHex rd fuel neg q).1 := by
  have h2 := scanExp_win hz fuel 112 (by decide) _ (scanMant_win hz true fuel (q + 2) hq)
  unfold strtodHex
  simp only
  -- the branches differ in the value only: each ends where the exponent scan ended
  repeat' split
  all_goals exact h2

theorem strtodDec_win (fuel : Nat) (neg : Bool) (p q : Nat) (hp : Win b len p) (hq : Win b len q) :
    Win b len (strtodDec rd fuel neg p q).1 := by
  have h2 := scanExp_win hz fuel 101 (by decide) _ (scanMant_win hz false fuel q hq)
  unfold strtodDec
  simp only
  -- without a digit nothing is consumed (`p`); every other branch ends where the exponent scan ended
  repeat' split
  all_goals first | exact h2 | exact hp

theorem strtod_win (fuel p : Nat) (hp : Win b len p) : Win b len (strtod rd fuel p).1 := by
  unfold strtod
  simp only
  have hq := hp.sign hz
  generalize (if (rd p == 45 || rd p == 43) = true then p + 1 else p) = q at hq ⊢
  split
  · rename_i hinf
    have h3 := matchWord_win hz [105, 110, 102] q (by decide) hinf hq
    split
    · rename_i hity
      exact matchWord_win hz [105, 110, 105, 116, 121] (q + 3) (by decide) hity h3
    · exact h3
  split
  · rename_i hnan
    have h3 : Win b len (q + 3) := matchWord_win hz [110, 97, 110] q (by decide) hnan hq
    split
    · rename_i hpar
      have h5 := nanScan_win hz fuel (q + 4) (h3.step hz (beq_ne0 (by decide) hpar))
      split
      · rename_i hcl
        exact h5.step hz (beq_ne0 (by decide) hcl)
      · exact h3
    · exact h3
  split
  · rename_i hhex
    simp only [Bool.and_eq_true] at hhex
    exact strtodHex_win hz fuel _ q
      ((hq.step hz (beq_ne0 (by decide) hhex.1.1)).step hz (lower_eq_ne0 (by decide) hhex.1.2))
  · exact strtodDec_win hz fuel _ p q hp hq

end

/-! ### reader primitives keep the cursor inside the buffer and never trip the overrun guard -/

def LRes.Holds (Q : α → RState → Prop) : LRes α → Prop
  | .ok a r => Q a r
  | .err _ => True
  | .ub _ => False

/-- the triple of the reader primitives: `Holds Q` from every cursor state that satisfies `Pre` -/
structure LT (Pre : RState → Prop) (f : L α) (Q : α → RState → Prop) : Prop where
  h : ∀ r, Pre r → (f r).Holds Q

def InW (b len : Nat) (r : RState) : Prop := Win b len r.pos

/-- `f` keeps the cursor in its window: inside the buffer and, taken for every `b`, never moving backwards -/
abbrev LSafe (b len : Nat) (f : L α) : Prop := LT (InW b len) f (fun _ => InW b len)

section
variable {Pre : RState → Prop}

theorem lt_bind {x : L α} {f : α → L β} {M : α → RState → Prop} {Q : β → RState → Prop}
    (hx : LT Pre x M) (hf : ∀ a, LT (M a) (f a) Q) : LT Pre (x >>= f) Q := by
  constructor
  intro r hr
  have h := hx.h r hr
  show (L.bind x f r).Holds Q
  unfold L.bind
  cases hxr : x r with
  | ok a r1 => rw [hxr] at h; exact (hf a).h r1 h
  | err e => trivial
  | ub u => rw [hxr] at h; exact h

theorem lt_get_bind {f : RState → L β} {Q : β → RState → Prop} (hf : ∀ r0, Pre r0 → LT Pre (f r0) Q) :
    LT Pre (L.get >>= f) Q := ⟨fun r hr => (hf r hr).h r hr⟩

theorem lt_set {r' : RState} {Q : Unit → RState → Prop} (h : Q () r') : LT Pre (L.set r') Q := ⟨fun _ _ => h⟩

theorem lt_ite {p q : L α} {Q : α → RState → Prop} {cnd : Prop} [Decidable cnd] (h1 : cnd → LT Pre p Q)
    (h2 : ¬cnd → LT Pre q Q) : LT Pre (if cnd then p else q) Q :=
  iteInduction (motive := fun p => LT Pre p Q) h1 h2

end

theorem lsafe_pure {b len : Nat} {a : α} : LSafe b len (pure a : L α) := ⟨fun _ h => h⟩

theorem lsafe_set {b len : Nat} {r' : RState} (h : Win b len r'.pos) : LSafe b len (L.set r') := lt_set h

section
variable {inp : Inp} {b : Nat} {Pre : RState → Prop} {Q : α → RState → Prop}

theorem lt_tReportAt {loc : Nat} {cls : ErrCls} : LT Pre (tReportAt inp loc cls : L α) Q := by
  constructor; intro r _; unfold tReportAt; split <;> trivial
theorem lt_tReport {cls : ErrCls} : LT Pre (tReport inp cls : L α) Q := ⟨fun r hr => lt_tReportAt.h r hr⟩
theorem lt_bReport {cls : ErrCls} : LT Pre (bReport cls : L α) Q := ⟨fun _ _ => trivial⟩

omit Pre Q

theorem rReport_err (inp : Inp) (k : RKind) (cls : ErrCls) (r : RState) : ∃ e, (rReport inp k cls : L α) r = .err e := by
  cases k <;> simp only [rReport, tReport, tReportAt, bReport]
  · split <;> exact ⟨_, rfl⟩
  · exact ⟨_, rfl⟩


theorem skipSpaceFrom_win : ∀ {fuel p}, Win b inp.len p → Win b inp.len (skipSpaceFrom inp fuel p) := by
  intro fuel; induction fuel with
  | zero => intro p hp; exact hp
  | succ n ih =>
    intro p hp; unfold skipSpaceFrom; simp only; split
    · rename_i h
      simp only [Bool.and_eq_true] at h
      exact ih (hp.step inp.nul (isSpace_ne0 h.1))
    · exact hp

theorem tSkipSpace_safe : LSafe b inp.len (tSkipSpace inp) := by
  constructor; intro r hr; unfold tSkipSpace
  split
  · exact absurd hr.2 (Nat.not_le.mpr ‹_›)
  · exact skipSpaceFrom_win hr

theorem digitsLoop_win {bits : Nat} : ∀ {fuel p res v p'}, Win b inp.len p →
    digitsLoop inp bits fuel p res = some (v, p') → Win b inp.len p' := by
  intro fuel; induction fuel with
  | zero => intro p res v p' hp h; cases h; exact hp
  | succ n ih =>
    intro p res v p' hp h
    unfold digitsLoop at h
    simp only at h
    split at h
    · rename_i hd
      split at h
      · cases h
      · exact ih (hp.step inp.nul (isDigit_ne0 hd)) h
    · cases h; exact hp

theorem tReadIntWithoutSign_safe {bits max : Nat} : LSafe b inp.len (tReadIntWithoutSign inp bits max) := by
  constructor; intro r hr; unfold tReadIntWithoutSign
  split
  · exact absurd hr.2 (Nat.not_le.mpr ‹_›)
  · split
    · exact hr
    · split
      · exact lt_tReport.h r hr
      · rename_i v p hd
        have h1 : InW b inp.len { r with pos := p } := digitsLoop_win hr hd
        split
        · exact lt_tReport.h _ h1
        · exact h1

theorem tReadUInt_safe : LSafe b inp.len (tReadUInt inp) := by
  unfold tReadUInt
  refine lt_bind tSkipSpace_safe (fun _ => lt_bind tReadIntWithoutSign_safe (fun o => ?_))
  cases o
  · exact lt_tReport
  · exact lsafe_pure

theorem tReadUIntSize_safe : LSafe b inp.len (tReadUIntSize inp) := by
  unfold tReadUIntSize
  refine lt_bind tSkipSpace_safe (fun _ => lt_bind tReadIntWithoutSign_safe (fun o => ?_))
  cases o
  · exact lt_tReport
  · exact lsafe_pure

theorem tReadOptionalUInt_safe : LSafe b inp.len (tReadOptionalUInt inp) :=
  lt_bind tSkipSpace_safe (fun _ => tReadIntWithoutSign_safe)

theorem tReadInt_safe {bits : Nat} : LSafe b inp.len (tReadInt inp bits) := by
  unfold tReadInt
  refine lt_bind tSkipSpace_safe (fun _ => lt_get_bind (fun r0 h0 => ?_))
  -- the optional sign is an `if` without `else`: what follows it appears once in each branch
  refine lt_ite (fun hs => lt_bind (lsafe_set ?sign) (fun _ => ?afterSign)) (fun _ => ?noSign)
  case afterSign | noSign =>
    refine lt_bind tReadIntWithoutSign_safe (fun o => ?_)
    cases o
    · exact lt_tReport
    · exact lt_ite (fun _ => lt_tReport) fun _ => lsafe_pure
  exact Win.step inp.nul h0 (by intro h0; rw [h0] at hs; simp at hs)

theorem tReadDouble_safe : LSafe b inp.len (tReadDouble inp) := by
  unfold tReadDouble
  refine lt_bind tSkipSpace_safe (fun _ => lt_get_bind (fun r0 h0 => ?_))
  refine lt_ite (fun _ => ?_) fun _ => lt_tReport
  have := strtod_win inp.nul (inp.len + 2 - r0.pos) r0.pos h0
  generalize strtod inp.rd (inp.len + 2 - r0.pos) r0.pos = pv at this
  obtain ⟨p, v⟩ := pv
  exact lt_ite (fun _ => lt_tReport) fun _ => lt_bind (lsafe_set this) (fun _ => lsafe_pure)

theorem tReadOptionalDouble_safe : LSafe b inp.len (tReadOptionalDouble inp) := by
  unfold tReadOptionalDouble
  refine lt_bind tSkipSpace_safe (fun _ => lt_get_bind (fun r0 h0 => ?_))
  refine lt_ite (fun _ => lsafe_pure) fun _ => ?_
  have := strtod_win inp.nul (inp.len + 2 - r0.pos) r0.pos h0
  generalize strtod inp.rd (inp.len + 2 - r0.pos) r0.pos = pv at this
  obtain ⟨p, v⟩ := pv
  exact lt_bind (lsafe_set this) (fun _ => lsafe_pure)

theorem findEol_win : ∀ {fuel p p'}, Win b inp.len p → findEol inp fuel p = some p' → Win b inp.len p' := by
  intro fuel; induction fuel with
  | zero => intro p p' _ h; cases h
  | succ n ih =>
    intro p p' hp h
    unfold findEol at h
    simp only at h
    split at h
    · cases h
    · rename_i hnz
      have hs := hp.step inp.nul (by intro h0; rw [h0] at hnz; simp at hnz)
      split at h
      · cases h; exact hs
      · exact ih hs h

theorem tReadTillEndOfLine_safe : LSafe b inp.len (tReadTillEndOfLine inp) := by
  constructor; intro r hr; unfold tReadTillEndOfLine
  split
  · exact absurd hr.2 (Nat.not_le.mpr ‹_›)
  · split
    · rename_i p hp
      exact findEol_win hr hp
    · exact (lt_tReportAt (Pre := fun _ => True)).h _ trivial

theorem nameEnd_win : ∀ {fuel p}, Win b inp.len p → Win b inp.len (nameEnd inp fuel p) := by
  intro fuel; induction fuel with
  | zero => intro p hp; exact hp
  | succ n ih =>
    intro p hp; unfold nameEnd; simp only; split
    · rename_i h
      simp only [Bool.and_eq_true] at h
      exact ih (hp.step inp.nul (by intro h0; rw [h0] at h; simp at h))
    · exact hp

theorem tReadName_safe : LSafe b inp.len (tReadName inp) := by
  unfold tReadName
  refine lt_bind tSkipSpace_safe (fun _ => lt_get_bind (fun r0 h0 => ?_))
  simp only
  refine lt_ite (fun _ => lt_tReport) (fun hc => ?_)
  exact lt_bind
    (lsafe_set (nameEnd_win (Win.step inp.nul h0 (by intro h0; rw [h0] at hc; simp at hc)))) (fun _ => lsafe_pure)

/-- inside a string the loop advances past any byte but the NUL at `len` -/
theorem Win.step_str {p : Nat} (hp : Win b inp.len p) (hne : ¬ G.eofInString (inp.rd p) (p == inp.len) = true) :
    Win b inp.len (p + 1) :=
  ⟨Nat.le_succ_of_le hp.1, Nat.lt_of_le_of_ne hp.2 fun heq => hne (by simp [heq, inp.nul inp.len (Nat.le_refl _)])⟩

theorem strLoop_win : ∀ {n r r'}, Win b inp.len r.pos → strLoop inp n r = some r' → Win b inp.len r'.pos := by
  intro n; induction n with
  | zero => intro r r' hr h; cases h; exact hr
  | succ n ih =>
    intro r r' hr h
    unfold strLoop at h
    simp only at h
    split at h
    · rename_i hnl
      exact ih (hr.step inp.nul (beq_ne0 (by decide) hnl)) h
    · split at h
      · cases h
      · rename_i hne
        exact ih (hr.step_str hne) h

theorem tReadString_safe : LSafe b inp.len (tReadString inp) := by
  unfold tReadString
  refine lt_bind tReadUInt_safe (fun length => lt_get_bind (fun r0 h0 => ?_))
  refine lt_ite (fun _ => lt_tReportAt) (fun hc => ?_)
  have h1 : Win b inp.len (r0.pos + 1) := Win.step inp.nul h0 (by intro h0; rw [h0] at hc; simp at hc)
  simp only
  split
  · exact lt_bind (M := fun _ _ => True) (lt_set trivial) (fun _ => lt_tReportAt)
  · rename_i r' hr'
    have h2 := strLoop_win h1 hr'
    refine lt_ite (fun _ => lt_bind (M := fun _ _ => True) (lt_set trivial) (fun _ => lt_tReportAt)) (fun hnl => ?_)
    exact lt_bind
      (lsafe_set (h2.step inp.nul (by intro h0; rw [h0] at hnl; simp at hnl))) (fun _ => lsafe_pure)

/-! binary: every advance is length-checked -/

theorem bRead_safe {n : Nat} : LSafe b inp.len (bRead inp n) := by
  constructor; intro r hr; unfold bRead
  split
  · trivial
  · rename_i hlen
    have := hr.1; have := hr.2
    exact ⟨by simp only; omega, by simp only [G.shortRead] at hlen ⊢; omega⟩

theorem bReadAt_safe {n : Nat} {f : Nat → α} :
    LSafe b inp.len (do let r ← L.get; L.set { r with tok := r.pos }; let p ← bRead inp n; pure (f p)) :=
  lt_get_bind (fun _ h0 => lt_bind (lsafe_set h0) (fun _ => lt_bind bRead_safe (fun _ => lsafe_pure)))

theorem bReadInt_safe {n : Nat} {swap : Bool} : LSafe b inp.len (bReadInt inp swap n) := bReadAt_safe

theorem bReadUInt_safe {swap : Bool} : LSafe b inp.len (bReadUInt inp swap) :=
  lt_bind bReadInt_safe (fun _ => lt_ite (fun _ => lt_bReport) fun _ => lsafe_pure)

theorem bReadDouble_safe {swap : Bool} : LSafe b inp.len (bReadDouble inp swap) := bReadAt_safe

theorem bReadString_safe {swap : Bool} : LSafe b inp.len (bReadString inp swap) :=
  lt_bind bReadUInt_safe (fun _ => lt_ite (fun _ => lt_bind bRead_safe (fun _ => lsafe_pure)) fun _ => lsafe_pure)

structure PrimSafe (inp : Inp) (k : RKind) : Prop where
  uint : ∀ b, LSafe b inp.len (rReadUInt inp k)
  int : ∀ b bits, LSafe b inp.len (rReadInt inp k bits)
  dbl : ∀ b, LSafe b inp.len (rReadDouble inp k)
  str : ∀ b, LSafe b inp.len (rReadString inp k)
  name : ∀ b, LSafe b inp.len (rReadName inp k)
  eol : ∀ b, LSafe b inp.len (rEol inp k)

theorem primSafe {k : RKind} : PrimSafe inp k := by
  cases k with
  | text => exact ⟨fun _ => tReadUInt_safe, fun _ _ => tReadInt_safe, fun _ => tReadDouble_safe,
      fun _ => tReadString_safe, fun _ => tReadName_safe, fun _ => tReadTillEndOfLine_safe⟩
  | bin s => exact ⟨fun _ => bReadUInt_safe, fun _ _ => bReadInt_safe, fun _ => bReadDouble_safe,
      fun _ => bReadString_safe, fun _ => bReadString_safe, fun _ => lsafe_pure⟩

end
end MpVerif.C02
