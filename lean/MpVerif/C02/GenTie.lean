import MpVerif.C02.Model
import MpVerif.Basic.CSemLemmas
/-!
# C02: the guards of the hand model are the guards of the source

`MpVerif.Gen.NLGuards` is regenerated on every run from clang's typed AST of the instantiated reader templates
(translators/gen_nlguards.py): every `if (cond) ReportError(..)` of `TextReader`, `BinaryReader(Base)`, `NLReader`,
the bound arguments of every `NLReader::ReadUInt(..)` call, and the case labels of every `switch`.
The theorems `C02_gen_*` state that the named guard predicates `G.*` the model is written with (ModelLex.lean,
Model.lean) decide exactly what the generated conditions decide, on the value ranges the reader primitives produce
(`ReadUInt()`: `0 … INT_MAX`; header counts: `0 … INT_MAX`; bytes: `char`).
A change of a guard in the source changes the generated definition and breaks its theorem.
-/
namespace MpVerif.C02
open MpVerif.CSem MpVerif.Gen MpVerif.Gen.NLGuards

def bi (b : Bool) : Int := if b then 1 else 0
theorem bi_eq_tv (b : Bool) : bi b = tv (b = true) := rfl
theorem bi_decide (p : Prop) [Decidable p] : bi (decide p) = tv p := tv_congr decide_eq_true_iff
/-- a byte as the (signed) `char` value the C++ code sees -/
def asChar (c : UInt8) : Int := if c.toNat ≥ 128 then (c.toNat : Int) - 256 else c.toNat

theorem asChar_range (c : UInt8) : -128 ≤ asChar c ∧ asChar c ≤ 127 := by
  have := c.toNat_lt
  unfold asChar; split <;> omega

theorem asChar_eq (c : UInt8) (k : Nat) (hk : k < 128) : asChar c = k ↔ c = k.toUInt8 := by
  have hc := c.toNat_lt
  unfold asChar
  constructor
  · intro h
    apply UInt8.toNat_inj.mp
    have : (k.toUInt8).toNat = k := by simp [Nat.toUInt8]; omega
    rw [this]
    split at h <;> omega
  · intro h
    subst h
    have : (k.toUInt8).toNat = k := by simp [Nat.toUInt8]; omega
    rw [this]
    simp; omega

theorem C02_gen_oob (v ub : Nat) (hv : v ≤ 2147483647) (hub : ub < 4294967296) :
    g_NLReader_ReadUInt_u__integer_N_out_of_bounds v ub = .ret (bi (decide (G.oob v ub))) := by
  unfold g_NLReader_ReadUInt_u__integer_N_out_of_bounds G.oob
  simp only [conv_tU, cge_eq_tv, bi_decide]
  exact congrArg _ (tv_congr (by omega))

theorem C02_gen_oobLU (v lb ub : Nat) (hv : v ≤ 2147483647) :
    g_NLReader_ReadUInt_u_u__integer_N_out_of_bounds v lb ub = .ret (bi (decide (G.oobLU v lb ub))) := by
  unfold g_NLReader_ReadUInt_u_u__integer_N_out_of_bounds G.oobLU
  simp only [conv_tU, cor_ret, clt_eq_tv, cge_eq_tv, tv_ne_zero, bi_decide]
  exact congrArg _ (tv_congr (by omega))

theorem C02_gen_fewArgs (n m : Nat) :
    g_NLReader_ReadNumArgs_i__too_few_arguments n m = .ret (bi (decide (G.fewArgs n m))) := by
  unfold g_NLReader_ReadNumArgs_i__too_few_arguments G.fewArgs
  rw [clt_eq_tv, bi_decide]
  exact congrArg _ (tv_congr (by omega))

theorem conv_tI_small (k : Int) (h0 : -2147483648 ≤ k) (h1 : k ≤ 2147483647) : conv tI k = k := conv_tI h0 h1

theorem conv_tI_char (c : UInt8) : conv tI (asChar c) = asChar c := by
  have := asChar_range c
  exact conv_tI (by omega) (by omega)

theorem char_cne (c : UInt8) (k : Nat) (hk : k < 128) :
    cne (conv tI (asChar c)) (conv tI (k : Int)) = bi (c != k.toUInt8) := by
  rw [conv_tI_char, conv_tI_small (k : Int) (by omega) (by omega), cne_eq_tv, bi_eq_tv]
  exact tv_congr (by simpa using not_congr (asChar_eq c k hk))

theorem C02_gen_notRef (c : UInt8) :
    g_NLReader_ReadReference__expected_reference (asChar c) = .ret (bi (G.notRef c)) := by
  unfold g_NLReader_ReadReference__expected_reference
  exact congrArg Outcome.ret (char_cne c 118 (by omega))

theorem C02_gen_badOpcode (op : Nat) :
    g_NLReader_ReadOpCode__invalid_opcode_N op Opcodes.maxOpcode = .ret (bi (decide (G.badOpcode op))) := by
  unfold g_NLReader_ReadOpCode__invalid_opcode_N G.badOpcode
  rw [conv_tI (by decide) (by decide), cgt_eq_tv, bi_decide]
  exact congrArg _ (tv_congr (by omega))

theorem C02_gen_fewSlopes (n : Nat) :
    g_NLReader_ReadNumericExpr_i__too_few_slopes_in_piecewise_linear_term n = .ret (bi (decide (G.fewSlopes n))) := by
  unfold g_NLReader_ReadNumericExpr_i__too_few_slopes_in_piecewise_linear_term G.fewSlopes
  rw [cle_eq_tv, bi_decide]
  exact congrArg _ (tv_congr (by omega))

/-- `hk` keeps `kind - kCOUNT` inside `int`; any bound below `2^31` would do, the expression kinds are below 100 -/
theorem C02_gen_countExpr (c : UInt8) (kind : Nat) (hk : kind ≤ 1000) :
    g_NLReader_ReadLogicalExpr_i__expected_count_expression (asChar c) kind Opcodes.kCOUNT
      = .ret (bi (G.notOp c || G.notCountKind kind)) := by
  unfold g_NLReader_ReadLogicalExpr_i__expected_count_expression G.notOp G.notCountKind
  rw [show cne (conv tI (asChar c)) (conv tI 111) = bi (c != 111) from char_cne c 111 (by omega),
    conv_tI_small (kind : Int) (by omega) (by omega), conv_tI (by decide) (by decide), cor_ret]
  simp only [cne_eq_tv, bi_eq_tv, tv_ne_zero]
  exact congrArg _ (tv_congr (by simp [Int.natCast_inj]))

theorem C02_gen_badComplVar (v nv : Nat) :
    g_NLReader_ReadBounds__integer_N_out_of_bounds v nv = .ret (bi (G.badComplVar v nv)) := by
  unfold g_NLReader_ReadBounds__integer_N_out_of_bounds G.badComplVar
  rw [cor_ret, bi_eq_tv]
  simp only [ceq_eq_tv, cgt_eq_tv, tv_ne_zero]
  exact congrArg _ (tv_congr (by simp))

theorem C02_gen_badNumSizes (v nv : Nat) (hnv : nv ≤ 2147483647) :
    g_NLReader_ReadColumnSizes__expected_N nv v = .ret (bi (decide (G.badNumSizes v nv))) := by
  unfold g_NLReader_ReadColumnSizes__expected_N G.badNumSizes
  rw [csub, arith_tI (by omega) (by omega), Outcome.bind_ret, cne_eq_tv, bi_eq_tv]
  exact congrArg _ (tv_congr (by simp; omega))

theorem C02_gen_badOffset (size prev : Nat) :
    g_NLReader_ReadColumnSizes__invalid_column_offset size prev = .ret (bi (decide (G.badOffset size prev))) := by
  unfold g_NLReader_ReadColumnSizes__invalid_column_offset G.badOffset
  rw [clt_eq_tv, bi_decide]
  exact congrArg _ (tv_congr (by omega))

theorem C02_gen_tooManyInit (n items : Nat) :
    g_NLReader_ReadInitialValues__too_many_initial_values n items = .ret (bi (decide (G.tooManyInit n items))) := by
  unfold g_NLReader_ReadInitialValues__too_many_initial_values G.tooManyInit
  rw [cgt_eq_tv, bi_decide]
  exact congrArg _ (tv_congr (by omega))

theorem C02_gen_badFuncType (t : Nat) :
    g_NLReader_Read__invalid_function_type t Opcodes.kFUNC_NUMERIC Opcodes.kFUNC_SYMBOLIC = .ret (bi (G.badFuncType t)) := by
  unfold g_NLReader_Read__invalid_function_type G.badFuncType
  rw [conv_tI (by decide) (by decide), conv_tI (by decide) (by decide), cand_ret, bi_eq_tv]
  simp only [cne_eq_tv, tv_ne_zero]
  exact congrArg _ (tv_congr (by simp [Opcodes.kFUNC_NUMERIC, Opcodes.kFUNC_SYMBOLIC]; omega))

theorem C02_gen_badSuffixKind (info : Nat) :
    g_NLReader_Read__invalid_suffix_kind info Opcodes.kSUFFIX_KIND_MASK Opcodes.kSUF_FLOAT
      = .ret (bi (decide (G.badSuffixKind info))) := by
  unfold g_NLReader_Read__invalid_suffix_kind G.badSuffixKind
  have e : cbor (Opcodes.kSUFFIX_KIND_MASK : Int) (Opcodes.kSUF_FLOAT : Int) = 7 := by decide
  have e2 : (Opcodes.kSUFFIX_KIND_MASK ||| Opcodes.kSUF_FLOAT) = 7 := by decide
  rw [conv_tI (by decide) (by decide), conv_tI (by decide) (by decide), e, e2, cgt_eq_tv, bi_decide]
  exact congrArg _ (tv_congr (by omega))

theorem C02_gen_tooManyOptions (n : Nat) :
    g_TextReader_ReadHeader__too_many_options n Opcodes.kMAX_AMPL_OPTIONS = .ret (bi (decide (G.tooManyOptions n))) := by
  unfold g_TextReader_ReadHeader__too_many_options G.tooManyOptions
  rw [conv_tI (by decide) (by decide), cgt_eq_tv, bi_decide]
  exact congrArg _ (tv_congr (by omega))

theorem C02_gen_conOverflow (nl nc : Nat) (hc : nc ≤ 2147483647) :
    g_TextReader_ReadHeader__integer_overflow nl nc = .ret (bi (decide (G.conOverflow nl nc))) := by
  unfold g_TextReader_ReadHeader__integer_overflow G.conOverflow
  rw [csub, arith_tI (by omega) (by omega), Outcome.bind_ret, cgt_eq_tv, bi_eq_tv]
  exact congrArg _ (tv_congr (by simp; omega))

theorem C02_gen_complOverflow (cc ncc : Nat) (hc : ncc ≤ 2147483647) :
    g_TextReader_ReadHeader__integer_overflow_2 cc ncc = .ret (bi (decide (G.complOverflow cc ncc))) := by
  unfold g_TextReader_ReadHeader__integer_overflow_2 G.complOverflow
  rw [csub, arith_tI (by omega) (by omega), Outcome.bind_ret, cgt_eq_tv, bi_eq_tv]
  exact congrArg _ (tv_congr (by simp; omega))

theorem C02_gen_badArith (ak : Nat) :
    g_TextReader_ReadHeader__unknown_floating_point_arithmetic_kind ak Opcodes.kARITH_LAST = .ret (bi (decide (G.badArith ak))) := by
  unfold g_TextReader_ReadHeader__unknown_floating_point_arithmetic_kind G.badArith
  rw [conv_tI (by decide) (by decide), cgt_eq_tv, bi_decide]
  exact congrArg _ (tv_congr (by omega))

theorem C02_gen_accOverflow (acc v : Nat) (hv : v ≤ 2147483647) :
    g_TextReader_ReadUInt_i__integer_overflow acc v = .ret (bi (decide (G.accOverflow acc v))) := by
  unfold g_TextReader_ReadUInt_i__integer_overflow G.accOverflow
  rw [csub, arith_tI (by omega) (by omega), Outcome.bind_ret, cgt_eq_tv, bi_eq_tv]
  exact congrArg _ (tv_congr (by simp))

theorem C02_gen_shortRead (len pos length : Nat) (hl : length ≤ 2147483647) :
    g_BinaryReaderBase_Read_i__unexpected_end_of_file ((len : Int) - pos) length = .ret (bi (decide (G.shortRead len pos length))) := by
  unfold g_BinaryReaderBase_Read_i__unexpected_end_of_file G.shortRead
  rw [conv_tL (by omega) (by omega), clt_eq_tv, bi_decide]

theorem C02_gen_negative (v : Int) :
    g_BinaryReader_ReadUInt__expected_unsigned_integer v = .ret (bi (decide (G.negative v))) := by
  unfold g_BinaryReader_ReadUInt__expected_unsigned_integer G.negative
  rw [clt_eq_tv, bi_decide]

end MpVerif.C02
