import MpVerif.C02.Lemmas
import MpVerif.C02.LemmasSites
/-! # C02 lemmas: the expression readers deliver well-formed postfix streams, stay inside the buffer, and nest no deeper than the bytes they consume -/
namespace MpVerif.C02
open MpVerif.Gen.Opcodes

/-! `stepCore` on the notifications whose guard needs a hypothesis; where the guard only counts complete expressions
    (`c.push1` is `c` after one more) `stepCore` computes and `by rfl` does -/
section
variable {strict : Bool} {h : Header} {c : CState}

theorem core_varRef {i : Nat} (hi : i < h.num_vars) : stepCore strict h c (.varRef i) = some c.push1 := if_pos hi
theorem core_commonRef {i : Nat} (hi : i < h.num_common_exprs) : stepCore strict h c (.commonRef i) = some c.push1 :=
  if_pos hi
theorem core_beginCall {f n : Nat} (hf : f < h.num_funcs) :
    stepCore strict h c (.beginCall f n) = some { c with stack := .args n 0 :: c.stack } := if_pos hf
theorem core_beginNumberOf {n : Nat} (hn : 1 ≤ n) :
    stepCore strict h c.push1 (.beginNumberOf n) = some { c with stack := .args (n - 1) 4 :: c.stack } :=
  if_pos ⟨Nat.le_add_left 1 c.vals, hn⟩
theorem core_beginSymNumberOf {n : Nat} (hn : 1 ≤ n) :
    stepCore strict h c.push1 (.beginSymNumberOf n) = some { c with stack := .args (n - 1) 5 :: c.stack } :=
  if_pos ⟨Nat.le_add_left 1 c.vals, hn⟩
theorem core_beginPL {n : Nat} (hn : 1 ≤ n) :
    stepCore strict h c (.beginPL n) = some { c with stack := .pl (2 * n + 1) :: c.stack } := if_pos hn
theorem core_slope {v k k' : Nat} {st : List Frame} {d : Bool} {x : F64} (hk : k % 2 = 1) (hk' : k' + 1 = k) :
    stepCore strict h ⟨v, .pl k :: st, d⟩ (.slope x) = some ⟨v, .pl k' :: st, d⟩ := by
  subst hk'; exact if_pos hk
theorem core_breakpoint {v k k' : Nat} {st : List Frame} {d : Bool} {x : F64} (hk : k % 2 = 0) (hk' : k' + 1 = k) :
    stepCore strict h ⟨v, .pl k :: st, d⟩ (.breakpoint x) = some ⟨v, .pl k' :: st, d⟩ := by
  subst hk'; exact if_pos ⟨Nat.succ_pos _, hk⟩

end

section
variable {strict : Bool} {cx : Env} {P0 v : Nat} {st : List Frame}

/-- what an expression reader leaves: one more complete expression; in mode `.num true` (`ignore_zero`, the body of a `C`
    or `O` segment) a constant 0 is not delivered and the checker is where it was -/
def ExprPost (strict : Bool) (cx : Env) (P0 : Nat) (m : Mode) (v : Nat) (st : List Frame) : Unit → PState → Prop := fun _ s' =>
  match m with
  | .num true => Inv strict cx P0 v st s' ∨ Inv strict cx P0 (v + 1) st s'
  | _ => Inv strict cx P0 (v + 1) st s'

def RecOK (strict : Bool) (cx : Env) (P0 : Nat) (rec : Mode → P Unit) : Prop :=
  ∀ m v st, Tr strict cx (Inv strict cx P0 v st) (rec m) (ExprPost strict cx P0 m v st)

theorem ExprPost.of_push {m : Mode} {u : Unit} {s' : PState} (h : Inv strict cx P0 (v + 1) st s') :
    ExprPost strict cx P0 m v st u s' := by
  unfold ExprPost; split
  · exact Or.inr h
  · exact h

theorem ExprPost.push {m : Mode} (hm : m ≠ .num true) {u : Unit} {s' : PState}
    (h : ExprPost strict cx P0 m v st u s') : Inv strict cx P0 (v + 1) st s' := by
  unfold ExprPost at h; split at h
  · exact absurd rfl hm
  · exact h

theorem ExprPost.anti {m : Mode} {u : Unit} {s' : PState} (h : ExprPost strict cx (P0 + 1) m v st u s') :
    ExprPost strict cx P0 m v st u s' := by
  have anti : ∀ {v}, Inv strict cx (P0 + 1) v st s' → Inv strict cx P0 v st s' :=
    fun h => ⟨h.chk, Nat.le_of_succ_le h.lo, h.hi⟩
  unfold ExprPost at *; split at h
  · exact h.imp anti anti
  · exact anti h

/-- an index read by `ReadUInt(ub)` where the site's bound `ub` is at most the size `n` of the index space -/
theorem tr_index {ub n : Nat} (hle : ub ≤ n) {f : Nat → P β} {Q : β → PState → Prop}
    (hf : ∀ i, i < n → Tr strict cx (Inv strict cx P0 v st) (f i) Q) :
    Tr strict cx (Inv strict cx P0 v st) (readUIntUB cx ub >>= f) Q :=
  tr_rd rd_readUIntUB fun i hlt => hf i (Nat.lt_of_lt_of_le hlt hle)

theorem tr_constant {f : F64 → P β} {Q : β → PState → Prop} (hf : ∀ x, Tr strict cx (Inv strict cx P0 v st) (f x) Q) :
    Tr strict cx (Inv strict cx P0 v st) (rdChar cx >>= fun ch => readConstant cx ch >>= f) Q :=
  tr_rdChar fun _ => tr_readConstant hf

variable {rec : Mode → P Unit} (hrec : RecOK strict cx P0 rec)
include hrec

theorem tr_rec (m : Mode) (hm : m ≠ .num true) {f : Unit → P β} {Q : β → PState → Prop}
    (hf : Tr strict cx (Inv strict cx P0 (v + 1) st) (f ()) Q) :
    Tr strict cx (Inv strict cx P0 v st) (rec m >>= f) Q :=
  tr_bind (tr_mono (hrec m v st) fun _ _ => ExprPost.push hm) fun _ => hf

/-- the argument loops: every `rec m; emit .addArg` takes one off the count of the innermost frame -/
theorem tr_args (m : Mode) (hm : m ≠ .num true) {n tag : Nat} {f : Unit → P β} {Q : β → PState → Prop}
    (hf : Tr strict cx (Inv strict cx P0 v (.args 0 tag :: st)) (f ()) Q) :
    Tr strict cx (Inv strict cx P0 v (.args n tag :: st)) ((forN n 0 fun _ => do rec m; emit .addArg) >>= f) Q :=
  tr_bind (tr_forN (fun k => Inv strict cx P0 v (.args k tag :: st)) fun _ _ _ =>
    tr_rec hrec m hm (tr_em_last (by rfl))) fun _ => hf

/-- the shape shared by the iterated operators -/
theorem iter_ok (k : Nat) (m : Mode) (hm : m ≠ .num true) (tag : Nat) {e1 : Nat → Ev} {e2 : Ev}
    (h1 : ∀ n (c : CState), stepCore strict cx.h c (e1 n) = some { c with stack := .args n tag :: c.stack })
    (h2 : ∀ c : CState, stepCore strict cx.h { c with stack := .args 0 tag :: c.stack } e2 = some c.push1) :
    Tr strict cx (Inv strict cx P0 v st) (do
        let n ← readNumArgs cx k; emit (e1 n); eol cx; forN n 0 (fun _ => do rec m; emit .addArg); emit e2)
      (fun _ => Inv strict cx P0 (v + 1) st) :=
  tr_rd rd_readNumArgs fun n _ => tr_em (h1 n _) <| tr_rd rd_eol fun _ _ =>
    tr_args hrec m hm (tr_em_last (h2 ⟨v, st, false⟩))

/-- `numberof`: the first argument is read before `Begin*(n)` and is not followed by `AddArg` -/
theorem numberOf_ok (m : Mode) (hm : m ≠ .num true) (tag : Nat) {e1 : Nat → Ev} {e2 : Ev}
    (h1 : ∀ n (c : CState), 1 ≤ n →
      stepCore strict cx.h c.push1 (e1 n) = some { c with stack := .args (n - 1) tag :: c.stack })
    (h2 : ∀ c : CState, stepCore strict cx.h { c with stack := .args 0 tag :: c.stack } e2 = some c.push1) :
    Tr strict cx (Inv strict cx P0 v st) (do
        let n ← readNumArgs cx 1; eol cx; rec m; emit (e1 n)
        forN (n - 1) 0 (fun _ => do rec m; emit .addArg); emit e2)
      (fun _ => Inv strict cx P0 (v + 1) st) :=
  tr_rd rd_readNumArgs fun n hn => tr_rd rd_eol fun _ _ => tr_rec hrec m hm <|
    tr_em (h1 n ⟨v, st, false⟩ hn) <| tr_args hrec m hm <| tr_em_last (h2 ⟨v, st, false⟩)

/-- `ReadCountExpr` -/
theorem count_ok : Tr strict cx (Inv strict cx P0 v st) (readCountExpr cx rec) (fun _ => Inv strict cx P0 (v + 1) st) :=
  iter_ok hrec 1 .log (by decide) 3 (fun _ _ => by rfl) (fun _ => by rfl)

omit hrec

theorem reference_ok : Tr strict cx (Inv strict cx P0 v st) (doReadReference cx) (fun _ => Inv strict cx P0 (v + 1) st) :=
  tr_index (Site.ubRef_le cx.h) fun _ hlt => tr_rd rd_eol fun _ _ => tr_ite
    (fun hv => tr_em_last (core_varRef hv))
    (fun hv => tr_em_last (core_commonRef (by simp only [Header.num_vars_and_exprs] at hlt; omega)))

theorem readReference_ok :
    Tr strict cx (Inv strict cx P0 v st) (readReference cx) (fun _ => Inv strict cx P0 (v + 1) st) :=
  tr_rdChar fun _ => tr_ite_neg (by nz) (fun _ => tr_failC) reference_ok

/-- the `pl` frame counts the slopes and breakpoints still to come -/
theorem pl_loop {n i : Nat} :
    Tr strict cx (Inv strict cx P0 v (.pl (2 * n + 1) :: st)) (forN n i fun _ => do
        let ch ← rdChar cx; let sl ← readConstant cx ch; emit (.slope sl)
        let ch ← rdChar cx; let b ← readConstant cx ch; emit (.breakpoint b))
      (fun _ => Inv strict cx P0 v (.pl 1 :: st)) :=
  tr_forN (fun k => Inv strict cx P0 v (.pl (2 * k + 1) :: st)) fun k _ _ =>
    tr_constant fun _ => tr_em (st' := .pl (2 * k + 2) :: st) (core_slope (by omega) (by omega)) <|
    tr_constant fun _ => tr_em_last (core_breakpoint (by omega) (by omega))

include hrec

/-- `ReadNumericExpr(int opcode)` -/
theorem numericOp_ok (op : Nat) :
    Tr strict cx (Inv strict cx P0 v st) (readNumericOp cx rec op) (fun _ => Inv strict cx P0 (v + 1) st) := by
  have num : Mode.num false ≠ .num true := by decide
  unfold readNumericOp
  exact
    tr_ite (fun _ => tr_rec hrec _ num <| tr_em_last (by rfl)) fun _ =>
    tr_ite (fun _ => tr_rec hrec _ num <| tr_rec hrec _ num <| tr_em_last (by rfl)) fun _ =>
    tr_ite (fun _ => tr_rec hrec .log (by decide) <| tr_rec hrec _ num <| tr_rec hrec _ num <| tr_em_last (by rfl)) fun _ =>
    tr_ite (fun _ => tr_rd rd_rdUInt fun ns _ => tr_ite (fun _ => tr_fail) fun hns => tr_rd rd_eol fun _ _ =>
      tr_em (st' := .pl (2 * (ns - 1) + 1) :: st) (core_beginPL (by simp only [G.fewSlopes] at hns; omega)) <|
      tr_bind pl_loop fun _ => tr_constant fun _ =>
      tr_em (st' := .pl 0 :: st) (core_slope (by decide) rfl) <|
      tr_bind readReference_ok fun _ => tr_em_last (by rfl)) fun _ =>
    tr_ite (fun _ => iter_ok hrec 1 _ num 1 (fun _ _ => by rfl) (fun _ => by rfl)) fun _ =>
    tr_ite (fun _ => iter_ok hrec 3 _ num 2 (fun _ _ => by rfl) (fun _ => by rfl)) fun _ =>
    tr_ite (fun _ => count_ok hrec) fun _ =>
    tr_ite (fun _ => numberOf_ok hrec _ num 4 (fun _ _ => core_beginNumberOf) (fun _ => by rfl)) fun _ =>
    tr_ite (fun _ => numberOf_ok hrec .sym (by decide) 5 (fun _ _ => core_beginSymNumberOf) (fun _ => by rfl)) fun _ =>
    tr_fail

/-- `ReadNumericExpr(char code, bool ignore_zero)`, called with the byte `ReadChar` has just returned -/
theorem numericC_ok (code : UInt8) (iz : Bool) :
    Tr strict cx (InvC strict cx P0 v st (code ≠ 0)) (readNumericC cx rec code iz) (ExprPost strict cx P0 (.num iz) v st) := by
  have post : ∀ (_ : Unit) s', Inv strict cx P0 (v + 1) st s' → ExprPost strict cx P0 (.num iz) v st () s' :=
    fun _ _ => ExprPost.of_push
  unfold readNumericC
  exact
    tr_ite_pos (by nz) (tr_index (Site.ubCall_le cx.h) fun f hf => tr_rd rd_rdUInt fun n _ =>
      tr_rd rd_eol fun _ _ => tr_em (core_beginCall (c := ⟨v, st, false⟩) hf) <| tr_args hrec .sym (by decide) <|
      tr_mono (tr_em_last (by rfl)) post) fun _ =>
    tr_ite (fun _ => tr_readConstant fun x => tr_ite
      (fun hz => tr_pure fun _ hi => by cases iz; (· simp at hz); exact Or.inl hi)
      fun _ => tr_mono (tr_em_last (by rfl)) post) fun _ =>
    tr_ite_pos (by nz) (tr_rd rd_readOpCode fun op _ => tr_mono (numericOp_ok hrec op) post) fun _ =>
    tr_ite_pos (by nz) (tr_mono reference_ok post) fun _ => tr_failC

/-- `ReadLogicalExpr(int opcode)` -/
theorem logicalOp_ok (op : Nat) :
    Tr strict cx (Inv strict cx P0 v st) (readLogicalOp cx rec op) (fun _ => Inv strict cx P0 (v + 1) st) := by
  have num : Mode.num false ≠ .num true := by decide
  have log : Mode.log ≠ .num true := by decide
  unfold readLogicalOp
  exact
    tr_ite (fun _ => tr_rec hrec _ log <| tr_em_last (by rfl)) fun _ =>
    tr_ite (fun _ => tr_rec hrec _ log <| tr_rec hrec _ log <| tr_em_last (by rfl)) fun _ =>
    tr_ite (fun _ => tr_rec hrec _ num <| tr_rec hrec _ num <| tr_em_last (by rfl)) fun _ =>
    tr_ite (fun _ => tr_rec hrec _ num <| tr_rdChar fun _ => tr_ite_neg (by nz) (fun _ => tr_failC) <|
      tr_rd rd_readOpCode fun _ _ => tr_ite (fun _ => tr_fail) fun _ =>
      tr_bind (count_ok hrec) fun _ => tr_em_last (by rfl)) fun _ =>
    tr_ite (fun _ => tr_rec hrec _ log <| tr_rec hrec _ log <| tr_rec hrec _ log <| tr_em_last (by rfl)) fun _ =>
    tr_ite (fun _ => iter_ok hrec 3 _ log 6 (fun _ _ => by rfl) (fun _ => by rfl)) fun _ =>
    tr_ite (fun _ => iter_ok hrec 1 _ num 7 (fun _ _ => by rfl) (fun _ => by rfl)) fun _ => tr_fail

omit hrec

/-- all three expression readers: every level of nesting starts with `ReadChar`, so `fuel` levels suffice from cursor
    position `len + 2 - fuel` on -/
theorem readExpr_ok : ∀ (fuel P0 : Nat), cx.inp.len + 2 - fuel ≤ P0 → RecOK strict cx P0 (readExpr cx fuel) := by
  intro fuel
  induction fuel with
  | zero => intro P0 hP m v st s hi; have := hi.lo; have := hi.hi; omega
  | succ fuel ih =>
    intro P0 hP m v st
    have ih := ih (P0 + 1) (by omega)
    refine tr_mono ?_ fun _ _ => ExprPost.anti
    cases m with
    | sym =>
      show Tr strict cx _ (readExpr cx (fuel + 1) .sym) (fun _ => Inv strict cx (P0 + 1) (v + 1) st)
      unfold readExpr
      exact tr_rdChar' fun ch =>
        tr_ite_pos (by nz) (tr_rd rd_rdString fun _ _ => tr_em_last (by rfl)) fun _ =>
        tr_ite_pos (by nz) (tr_rd rd_readOpCode fun op _ =>
          tr_ite (fun _ => numericOp_ok ih op) fun _ => tr_rec ih .log (by decide) <| tr_rec ih .sym (by decide) <|
          tr_rec ih .sym (by decide) <| tr_em_last (by rfl)) fun _ =>
        numericC_ok ih ch false
    | num iz =>
      unfold readExpr
      exact tr_rdChar' fun ch => numericC_ok ih ch iz
    | log =>
      show Tr strict cx _ (readExpr cx (fuel + 1) .log) (fun _ => Inv strict cx (P0 + 1) (v + 1) st)
      unfold readExpr
      exact tr_rdChar' fun ch =>
        tr_ite (fun _ => tr_readConstant fun _ => tr_em_last (by rfl)) fun _ =>
        tr_ite_pos (by nz) (tr_rd rd_readOpCode fun op _ => logicalOp_ok ih op) fun _ => tr_failC

theorem readExprTop_ok (m : Mode) :
    Tr strict cx (Inv strict cx P0 v st) (readExpr cx (exprFuel cx) m) (ExprPost strict cx P0 m v st) :=
  readExpr_ok _ P0 (by unfold exprFuel; omega) m v st

end

end MpVerif.C02
