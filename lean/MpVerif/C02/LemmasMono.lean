import MpVerif.C02.Model
/-!
# C02 lemmas: single steps that do not move the cursor backwards

`LGe` / `LMono` (a reader primitive) and `Prog` / `T` (a parser step, which besides does not run out of fuel).  The proofs of
`C02_total` and `C02_no_ub` do not go through these: the scanning loops and the composite readers get the lower and the upper
bound of the cursor together, in `Win` / `LSafe` (LemmasIn.lean) and `Inv` (Lemmas.lean).
-/
namespace MpVerif.C02

/-- started at or beyond `b`, `f` ends at or beyond `b` -/
def LGe (b : Nat) (f : L α) : Prop := ∀ r, b ≤ r.pos → ∀ a r', f r = .ok a r' → b ≤ r'.pos

theorem lge_ub {b : Nat} {u : UB} : LGe b (L.ub u : L α) := by
  intro r hr a' r' h; cases h

section
variable (inp : Inp)

theorem readChar_lge {b : Nat} : LGe b (readChar inp) := by
  intro r hr a r' h; unfold readChar at h
  split at h
  · cases h
  · cases h; simp; omega

/-- a reader primitive never moves the cursor backwards -/
def LMono (f : L α) : Prop := ∀ r, match f r with | .ok _ r' => r.pos ≤ r'.pos | _ => True

theorem lmono_of_lge {f : L α} (h : ∀ b, LGe b f) : LMono f := by
  intro r
  cases hfr : f r with
  | ok a r' => exact h r.pos r (Nat.le_refl _) a r' hfr
  | err e => trivial
  | ub u => trivial

/-- the monotonicity facts about the lifted primitives of one reader kind -/
structure PrimMono (inp : Inp) (k : RKind) : Prop where
  uint : LMono (rReadUInt inp k)
  int : ∀ b, LMono (rReadInt inp k b)
  dbl : LMono (rReadDouble inp k)
  str : LMono (rReadString inp k)
  name : LMono (rReadName inp k)
  eol : LMono (rEol inp k)

end

/-- `Prog p s Q`: `p` does not run out of fuel from `s`, does not move the cursor backwards, and a normal
    result satisfies `Q` -/
def Prog (p : P α) (s : PState) (Q : α → PState → Prop) : Prop :=
  match p s with
  | .ok a s' => s.r.pos ≤ s'.r.pos ∧ Q a s'
  | .err _ _ => True
  | .ub _ _ => True
  | .fuel => False

theorem prog_lift {f : L α} (hf : LMono f) {s : PState} {Q : α → PState → Prop}
    (hq : ∀ a r, s.r.pos ≤ r.pos → Q a { s with r := r }) : Prog (lift f) s Q := by
  unfold Prog lift
  have := hf s.r
  cases hfs : f s.r with
  | ok a r => rw [hfs] at this; exact ⟨this, hq a r this⟩
  | err e => trivial
  | ub u => trivial

theorem prog_pub {u : UB} {s : PState} {Q : α → PState → Prop} : Prog (pub u : P α) s Q := trivial

theorem prog_ite {p q : P α} {cnd : Prop} [Decidable cnd] {s : PState} {Q : α → PState → Prop}
    (h1 : cnd → Prog p s Q) (h2 : ¬cnd → Prog q s Q) : Prog (if cnd then p else q) s Q :=
  iteInduction (motive := fun p => Prog p s Q) h1 h2

/-- from every state whose cursor is at or beyond `P0`, `p` has progress in the sense of `Prog` -/
structure T (P0 : Nat) (p : P α) : Prop where
  h : ∀ s, P0 ≤ s.r.pos → Prog p s (fun _ _ => True)

theorem T_pub {P0 : Nat} {u : UB} : T P0 (pub u : P α) := ⟨fun _ _ => prog_pub⟩
theorem T_lift {P0 : Nat} {f : L α} (hf : LMono f) : T P0 (lift f) :=
  ⟨fun _ _ => prog_lift hf (fun _ _ _ => trivial)⟩

section
variable {cx : Env} (pm : PrimMono cx.inp cx.k) {P0 : Nat}
include pm

set_option linter.unusedSectionVars false in
theorem T_rdChar : T P0 (rdChar cx) := T_lift (lmono_of_lge fun _ => readChar_lge _)

end
end MpVerif.C02
