import MpVerif.Basic.CSem
/-! # What generated C conditions and checked arithmetic mean

Generated conditions are `Int`-valued and a branch is taken when the value is `≠ 0`.  Every comparison operator is the truth value
`tv` of its proposition, so the tests of such values, and those of `||` and `&&`, turn into propositions (`simp` rewrites the
condition of an `if` with these lemmas).  Arithmetic and conversion inside the range of the type are the plain ones; the instances
with literal bounds are for `simp (disch := omega)`, which proves the range from the guards already passed. -/
namespace MpVerif.CSem

/-- the C truth value of `p` -/
def tv (p : Prop) [Decidable p] : Int := if p then 1 else 0

section tv
variable {p q : Prop} [Decidable p] [Decidable q]

theorem tv_ne_zero : tv p ≠ 0 ↔ p := by by_cases p <;> simp [tv, *]
theorem tv_eq_zero : tv p = 0 ↔ ¬p := by by_cases p <;> simp [tv, *]
theorem tv_congr (h : p ↔ q) : tv p = tv q := by by_cases p <;> simp_all [tv]

end tv

theorem clt_eq_tv (a b : Int) : clt a b = tv (a < b) := rfl
theorem cgt_eq_tv (a b : Int) : cgt a b = tv (a > b) := rfl
theorem cle_eq_tv (a b : Int) : cle a b = tv (a ≤ b) := rfl
theorem cge_eq_tv (a b : Int) : cge a b = tv (a ≥ b) := rfl
theorem ceq_eq_tv (a b : Int) : ceq a b = tv (a = b) := rfl
theorem cne_eq_tv (a b : Int) : cne a b = tv (a ≠ b) := rfl
theorem cnot_eq_tv (a : Int) : cnot a = tv (a = 0) := rfl
theorem tobool_eq_tv (a : Int) : tobool a = tv (a ≠ 0) := by by_cases a = 0 <;> simp [tobool, tv, *]

theorem clt_ne_zero {a b : Int} : clt a b ≠ 0 ↔ a < b := tv_ne_zero
theorem cgt_ne_zero {a b : Int} : cgt a b ≠ 0 ↔ b < a := tv_ne_zero

theorem cor_ret (a b : Int) : cor a (.ret b) = .ret (tv (a ≠ 0 ∨ b ≠ 0)) := by
  by_cases a = 0 <;> by_cases b = 0 <;> simp [cor, tv, tobool, *]

theorem cand_ret (a b : Int) : cand a (.ret b) = .ret (tv (a ≠ 0 ∧ b ≠ 0)) := by
  by_cases a = 0 <;> by_cases b = 0 <;> simp [cand, tv, tobool, *]

theorem cand_eq (a : Int) (b : Outcome Int) :
    cand a b = if a ≠ 0 then b.bind fun x => .ret (tv (x ≠ 0)) else .ret 0 := by
  by_cases a = 0 <;> simp [cand, tobool_eq_tv, *]

section range
variable {t : CTy}

theorem half_pos (t : CTy) : (0 : Int) < 2 ^ (t.bits - 1) := Int.pow_pos (by decide)

theorem two_pow_bits (ht : 0 < t.bits) : (2 : Int) ^ t.bits = 2 * 2 ^ (t.bits - 1) := by
  obtain ⟨n, hn⟩ : ∃ n, t.bits = n + 1 := ⟨t.bits - 1, by omega⟩
  rw [hn, Nat.add_sub_cancel, Int.pow_succ']

theorem conv_inRange (ht : 0 < t.bits) {v : Int} (h : t.inRange v) : conv t v = v := by
  have := half_pos t; have := two_pow_bits ht
  unfold CTy.inRange CTy.lo CTy.hi at h
  unfold conv CTy.wrap
  cases hs : t.signed <;> simp only [hs, Bool.false_eq_true, ↓reduceIte] at h ⊢
  · exact Int.emod_eq_of_lt h.1 (by omega)
  · rw [Int.emod_eq_of_lt (by omega) (by omega)]; omega

theorem arith_inRange (ht : 0 < t.bits) {r : Int} (h : t.inRange r) : arith t r = .ret r := by
  unfold arith
  cases t.signed
  · simp only [Bool.false_eq_true, ↓reduceIte]; exact congrArg _ (conv_inRange ht h)
  · simp only [↓reduceIte]; exact if_pos h

theorem arith_unsigned (hs : t.signed = false) (r : Int) : arith t r = .ret (r % 2 ^ t.bits) := by
  simp [arith, CTy.wrap, hs]

theorem conv_unsigned (hs : t.signed = false) (v : Int) : conv t v = v % 2 ^ t.bits := by
  simp [conv, CTy.wrap, hs]

end range

theorem arith_tI {r : Int} (h1 : -2147483648 ≤ r) (h2 : r ≤ 2147483647) : arith tI r = .ret r :=
  arith_inRange (by decide) ⟨h1, h2⟩
theorem conv_tI {v : Int} (h1 : -2147483648 ≤ v) (h2 : v ≤ 2147483647) : conv tI v = v :=
  conv_inRange (by decide) ⟨h1, h2⟩
theorem conv_tL {v : Int} (h1 : -9223372036854775808 ≤ v) (h2 : v ≤ 9223372036854775807) : conv tL v = v :=
  conv_inRange (by decide) ⟨h1, h2⟩

theorem arith_tU (r : Int) : arith tU r = .ret (r % 4294967296) := arith_unsigned rfl r
theorem arith_tUL (r : Int) : arith tUL r = .ret (r % 18446744073709551616) := arith_unsigned rfl r
theorem conv_tU (v : Int) : conv tU v = v % 4294967296 := conv_unsigned rfl v
theorem conv_tUL (v : Int) : conv tUL v = v % 18446744073709551616 := conv_unsigned rfl v
theorem conv_tUS (v : Int) : conv tUS v = v % 65536 := conv_unsigned rfl v

end MpVerif.CSem
