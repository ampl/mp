import MpVerif.C12.Model
/-! The option parser and the segment loop in closed form (`parseOpts_eq`, `readSegs_eq`: a bad-index test, then a fold);
the fold then has a closed form as a state (`foldl_segStep`): slot `j` sees only the segments of file index `srcIdx … j`.
What the slots hold is `fileObj` as a fold of `upd` (`fileObj_eq_foldl`); the reading of `encode objs` (`encO_eq` / `encG_eq`,
`fileObj_encode`, `encode_idx`, `hasO_encode`) serves `C12_encode_faithful` and the examples.  Core Lean only. -/
namespace MpVerif.C12

/-- effect of one segment on objective `i`, read per index -/
def upd (i : Nat) (o : Obj) : Seg → Obj
  | .O j mx nl => if j = i then { o with isMax := mx, nl := nl } else o
  | .G j ts => if j = i then { o with lin := o.lin ++ ts } else o
  | .other => o

theorem foldl_upd (i : Nat) (segs : List Seg) : ∀ (o : Obj),
    segs.foldl (upd i) o =
      { isMax := ((segs.filterMap (segO? i)).getLast?.getD (o.isMax, o.nl)).1,
        nl := ((segs.filterMap (segO? i)).getLast?.getD (o.isMax, o.nl)).2,
        lin := o.lin ++ (segs.filterMap (segG? i)).flatten } := by
  induction segs with
  | nil => intro o; simp
  | cons sg segs ih =>
    intro o
    rw [List.foldl_cons, ih]
    cases sg with
    | O j mx nl =>
      by_cases hj : j = i
      · simp [upd, segO?, segG?, hj, List.getLast?_cons, List.filterMap_cons]
      · simp [upd, segO?, segG?, hj, List.filterMap_cons]
    | G j ts =>
      by_cases hj : j = i
      · simp [upd, segO?, segG?, hj, List.filterMap_cons]
      · simp [upd, segO?, segG?, hj, List.filterMap_cons]
    | other => simp [upd, segO?, segG?, List.filterMap_cons]

theorem fileObj_eq_foldl (segs : List Seg) (i : Nat) :
    fileObj segs i = segs.foldl (upd i) Obj.empty := by
  rw [foldl_upd]; simp [fileObj, Obj.empty]

def objnoVals (ops : List OptOp) : List Int :=
  ops.filterMap fun | .objno v => some v | _ => none
def multiVals (ops : List OptOp) : List Int :=
  ops.filterMap fun | .multi v => some v | _ => none

/-- the value of this assignment is acceptable to its setter (`setOpt` does not throw: `setOpt_eq`) -/
def optOk : OptOp → Bool
  | .objno v => decide (0 ≤ v)
  | .multi v => decide (v = 0 ∨ v = 1)

theorem setOpt_eq (s : Solver) (op : OptOp) :
    setOpt s op = if optOk op then
      .ok (match op with
        | .objno v => { s with objnoRaw := v }
        | .multi v => { s with multiFlag := decide (v ≠ 0) })
      else .error .invalidOption := by
  cases op <;> simp only [setOpt, optOk, decide_eq_true_eq] <;> split <;> rename_i h
  · rw [if_neg (by omega)]
  · rw [if_pos (by omega)]
  · rw [if_neg (by omega)]
  · rw [if_pos (by omega)]

theorem all_optOk (ops : List OptOp) :
    ops.all optOk = true ↔ (∀ v ∈ objnoVals ops, 0 ≤ v) ∧ (∀ v ∈ multiVals ops, v = 0 ∨ v = 1) := by
  induction ops with
  | nil => simp [objnoVals, multiVals]
  | cons op ops ih =>
    rw [List.all_cons, Bool.and_eq_true, ih]
    cases op <;> simp [optOk, objnoVals, multiVals, and_assoc, and_left_comm]

theorem parseOpts_eq : ∀ (ops : List OptOp) (s : Solver), parseOpts s ops =
    if ops.all optOk then
      .ok { s with objnoRaw := (objnoVals ops).getLast?.getD s.objnoRaw,
                   multiFlag := ((multiVals ops).getLast?.map (fun v => decide (v ≠ 0))).getD s.multiFlag }
    else .error .invalidOption
  | [], _ => rfl
  | op :: ops, s => by
    rw [parseOpts, setOpt_eq, List.all_cons]
    cases hop : optOk op
    · rfl
    · simp only [if_true, Bool.true_and, parseOpts_eq ops]
      cases op <;> simp only [objnoVals, multiVals, List.filterMap_cons, List.getLast?_cons, Option.getD_some, Option.map_some]
      rw [Option.getD_map]

def segIdx? : Seg → Option Nat
  | .O i _ _ => some i
  | .G i _ => some i
  | .other => none

/-- the reader fails on an objective segment whose index is not below the header count -/
def segBad (n : Nat) (sg : Seg) : Bool := (segIdx? sg).any (n ≤ ·)

def segStep (st : St) : Seg → St
  | .O idx mx nl =>
    if needObj (multiobj st.solver) (objnoSpecified st.solver) idx then
      { solver := { st.solver with objAdded := true },
        objs := st.objs.modify (resultingObjIndex (multiobj st.solver) idx) (fun o => { o with isMax := mx, nl := nl }) }
    else st
  | .G idx terms =>
    if needObj (multiobj st.solver) (objnoSpecified st.solver) idx then
      { st with objs := st.objs.modify (resultingObjIndex (multiobj st.solver) idx) (fun o => { o with lin := o.lin ++ terms }) }
    else st
  | .other => st

theorem onSeg_eq (n : Nat) (st : St) (sg : Seg) :
    onSeg n st sg = if segBad n sg then .error .readError else .ok (segStep st sg) := by
  cases sg <;> simp [onSeg, segBad, segIdx?, segStep, apply_ite Except.ok]

theorem readSegs_eq (n : Nat) : ∀ (segs : List Seg) (st : St),
    readSegs n st segs = if segs.any (segBad n) then .error .readError else .ok (segs.foldl segStep st)
  | [], _ => rfl
  | sg :: segs, st => by
    simp only [readSegs, onSeg_eq, List.any_cons, List.foldl_cons]
    by_cases h : segBad n sg = true <;> simp [h, readSegs_eq n segs]

theorem any_segBad {n : Nat} {segs : List Seg} :
    segs.any (segBad n) = true ↔ ∃ sg ∈ segs, ∃ i, segIdx? sg = some i ∧ n ≤ i := by
  simp [segBad, Option.any_eq_true]

theorem readSegs_cases (n : Nat) (segs : List Seg) (st : St) :
    (∃ sg ∈ segs, ∃ i, segIdx? sg = some i ∧ n ≤ i) ∧ readSegs n st segs = .error .readError ∨
    (∀ sg ∈ segs, ∀ i, segIdx? sg = some i → i < n) ∧ readSegs n st segs = .ok (segs.foldl segStep st) := by
  rw [readSegs_eq]
  by_cases hb : segs.any (segBad n) = true
  · exact Or.inl ⟨any_segBad.mp hb, if_pos hb⟩
  · exact Or.inr ⟨fun sg hsg i hi => Nat.lt_of_not_le fun hle => hb (any_segBad.mpr ⟨sg, hsg, i, hi, hle⟩), if_neg hb⟩

/-- does this segment make the handler call `notify_obj_added`? -/
def addsObj (multi : Bool) (k : Nat) : Seg → Bool
  | .O idx _ _ => needObj multi k idx
  | _ => false

theorem needObj_single (k idx : Nat) (hk : 1 ≤ k) :
    needObj false k idx = decide (idx = k - 1) := by
  simp only [needObj, Bool.false_or]
  exact decide_eq_decide.mpr (by omega)

theorem needObj_zero (idx : Nat) : needObj false 0 idx = false := by
  simp [needObj]

theorem resultingNObj_single (k n : Nat) : resultingNObj false k n = if 1 ≤ k ∧ 1 ≤ n then 1 else 0 := by
  simp only [resultingNObj, Bool.false_eq_true, if_false]; split <;> split <;> split <;> omega

/-- the file index whose segments are written to slot `j` -/
def srcIdx (multi : Bool) (k j : Nat) : Nat := if multi then j else k - 1

theorem mapIdx_snd {α : Type} (l : List α) : l.mapIdx (fun _ a => a) = l :=
  List.mapIdx_eq_iff.mpr fun i => by simp

theorem ite_modify_eq_mapIdx {α : Type} {l : List α} {c : Bool} {t : Nat} {p : Nat → Prop} [DecidablePred p]
    (h : ∀ j < l.length, (c = true ∧ t = j) ↔ p j) (f : α → α) :
    (if c then l.modify t f else l) = l.mapIdx fun j a => if p j then f a else a := by
  refine (List.mapIdx_eq_iff.mpr fun j => ?_).symm
  by_cases hj : j < l.length
  · cases c <;> simp [List.getElem_modify, hj, ← h j hj]
  · cases c <;> simp [Nat.le_of_not_lt hj]

/-- `hlen`: in single mode at most one slot exists, and only for `k ≥ 1` -/
theorem srcIdx_iff {multi : Bool} {k len : Nat} (hlen : multi = false → len ≤ min k 1) {idx j : Nat} (hj : j < len) :
    (needObj multi k idx = true ∧ resultingObjIndex multi idx = j) ↔ idx = srcIdx multi k j := by
  cases multi with
  | true => simp [needObj, resultingObjIndex, srcIdx]
  | false =>
    have := hlen rfl
    simp only [needObj, resultingObjIndex, srcIdx, Bool.false_or, decide_eq_true_eq, Bool.false_eq_true, if_false]
    omega

theorem segStep_eq {st : St} (sg : Seg)
    (hlen : multiobj st.solver = false → st.objs.length ≤ min (objnoSpecified st.solver) 1) :
    segStep st sg =
      ⟨{ st.solver with objAdded := st.solver.objAdded || addsObj (multiobj st.solver) (objnoSpecified st.solver) sg },
       st.objs.mapIdx fun j o => upd (srcIdx (multiobj st.solver) (objnoSpecified st.solver) j) o sg⟩ := by
  obtain ⟨s, objs⟩ := st
  -- a kept `O`/`G` segment rewrites slot `resultingObjIndex idx` under the guard `needObj`; read at every slot, that test is `upd`'s
  have hslot (idx) := ite_modify_eq_mapIdx (l := objs) fun j hj => srcIdx_iff (idx := idx) hlen hj
  cases sg with
  | other => simp [segStep, addsObj, upd, mapIdx_snd]
  | _ => simp only [segStep, addsObj, upd, ← hslot]; split <;> simp [*]

theorem foldl_segStep : ∀ (segs : List Seg) (st : St),
    (multiobj st.solver = false → st.objs.length ≤ min (objnoSpecified st.solver) 1) →
    segs.foldl segStep st =
      ⟨{ st.solver with objAdded := st.solver.objAdded || segs.any (addsObj (multiobj st.solver) (objnoSpecified st.solver)) },
       st.objs.mapIdx fun j o => segs.foldl (upd (srcIdx (multiobj st.solver) (objnoSpecified st.solver) j)) o⟩
  | [], _, _ => by simp [mapIdx_snd]
  | sg :: segs, st, hlen => by
    -- the record update of `segStep_eq` leaves mode and number untouched, so `hlen` carries over as it stands
    rw [List.foldl_cons, segStep_eq sg hlen, foldl_segStep segs _ (by rw [List.length_mapIdx]; exact hlen)]
    simp [Bool.or_assoc, multiobj, objnoSpecified]; rfl

theorem hasO_eq_any (segs : List Seg) (i : Nat) : hasO segs i = segs.any fun sg => (segO? i sg).isSome := by
  induction segs with
  | nil => rfl
  | cons sg segs ih =>
    rw [List.any_cons, ← ih, hasO, hasO, List.filterMap_cons]
    cases segO? i sg <;> rfl

theorem segO?_isSome (i : Nat) (sg : Seg) : (segO? i sg).isSome = addsObj false (i + 1) sg := by
  cases sg <;> simp [segO?, addsObj, needObj_single]
  split <;> simp [*]

theorem any_addsObj_multi (k : Nat) (segs : List Seg) :
    segs.any (addsObj true k) = true ↔ ∃ i, hasO segs i = true := by
  simp only [hasO_eq_any, List.any_eq_true]
  constructor
  · rintro ⟨sg, h, ha⟩
    cases sg with
    | O idx mx nl => exact ⟨idx, _, h, by simp [segO?]⟩
    | _ => cases ha
  · rintro ⟨i, sg, h, hi⟩
    cases sg with
    | O idx mx nl => exact ⟨_, h, by simp [addsObj, needObj]⟩
    | _ => cases hi

theorem any_addsObj_single (k : Nat) (hk : 1 ≤ k) (segs : List Seg) :
    segs.any (addsObj false k) = hasO segs (k - 1) := by
  simp only [hasO_eq_any, segO?_isSome, show k - 1 + 1 = k by omega]

theorem encO_eq : ∀ (os : List Obj) (k : Nat), encO k os = (os.zipIdx k).flatMap fun p => [Seg.O p.2 p.1.isMax p.1.nl]
  | [], _ => rfl
  | _ :: os, k => by simp [encO, encO_eq os]

theorem encG_eq : ∀ (os : List Obj) (k : Nat),
    encG k os = (os.zipIdx k).flatMap fun p => if p.1.lin.isEmpty then [] else [Seg.G p.2 p.1.lin]
  | [], _ => rfl
  | _ :: os, k => by simp [encG, encG_eq os]

theorem foldl_flatMap_zipIdx {α β γ : Type} (g : β → γ → β) (f : α × Nat → List γ) (i : Nat)
    (hf : ∀ p a, p.2 ≠ i → (f p).foldl g a = a) : ∀ (os : List α) (k : Nat) (a : β),
    ((os.zipIdx k).flatMap f).foldl g a = ((if k ≤ i then os[i - k]? else none).map fun o => (f (o, i)).foldl g a).getD a
  | [], k, a => by simp
  | o :: os, k, a => by
    rw [List.zipIdx_cons, List.flatMap_cons, List.foldl_append, foldl_flatMap_zipIdx g f i hf os]
    by_cases hk : k = i
    · subst hk; simp [show ¬ k + 1 ≤ k by omega]
    · rw [hf (o, k) a hk]
      by_cases hlt : k < i
      · rw [if_pos (by omega), if_pos (by omega), show i - k = (i - (k + 1)) + 1 by omega, List.getElem?_cons_succ]
      · rw [if_neg (by omega), if_neg (by omega)]

theorem fileObj_encode (objs : List Obj) (i : Nat) (hi : i < objs.length) :
    fileObj (encode objs) i = objs[i] := by
  -- read through `upd i`, which handles both kinds of segment: one instance per pass of `encode`
  rw [fileObj_eq_foldl, encode, List.foldl_append, encO_eq, encG_eq,
    foldl_flatMap_zipIdx _ _ i (fun p a hj => by split <;> simp [upd, hj]),
    foldl_flatMap_zipIdx _ _ i (fun p a hj => by simp [upd, hj])]
  simp only [Nat.zero_le, if_true, Nat.sub_zero, List.getElem?_eq_getElem hi, Option.map_some, Option.getD_some]
  generalize objs[i] = o
  obtain ⟨mx, nl, lin⟩ := o
  by_cases he : lin = [] <;> simp [upd, Obj.empty, he]

theorem encode_idx (objs : List Obj) : ∀ sg ∈ encode objs, ∀ i, segIdx? sg = some i → i < objs.length := by
  intro sg h i hi
  simp only [encode, encO_eq, encG_eq, List.mem_append, List.mem_flatMap, List.mem_zipIdx_iff_getElem?] at h
  rcases h with ⟨p, hp, h⟩ | ⟨p, hp, h⟩
  · simp only [List.mem_singleton] at h; subst h; cases hi; exact (List.getElem?_eq_some_iff.mp hp).1
  · split at h
    · cases h
    · simp only [List.mem_singleton] at h; subst h; cases hi; exact (List.getElem?_eq_some_iff.mp hp).1

theorem hasO_encode (objs : List Obj) (i : Nat) (hi : i < objs.length) : hasO (encode objs) i = true :=
  (hasO_eq_any _ i).trans <| List.any_eq_true.mpr ⟨.O i objs[i].isMax objs[i].nl,
    List.mem_append_left _ (encO_eq objs 0 ▸ List.mem_flatMap_of_mem (a := (objs[i], i))
      (List.mk_mem_zipIdx_iff_getElem?.mpr (List.getElem?_eq_getElem hi)) (List.mem_singleton_self _)),
    by simp [segO?]⟩
end MpVerif.C12
