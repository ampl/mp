import MpVerif.C12.Model
/-! Lemmas about the model of `LinTerms::sort_terms`: the map stays ascending, sums per variable are kept, and its length
tells whether anything was merged (core Lean only).  Of `sortQuadTerms`, the model of `QuadTerms::sort_terms`, only the first
loop as a fold (`accumulateQ_eq_foldl`, for the tie `C12_gen_quad_sort_terms`) is here: the one property proved of it
(`C12_quad_terms_nonzero`) is read off its definition. -/
namespace MpVerif.C12

def keys (m : List (Nat × Int)) : List Nat := m.map (·.1)
/-- keys strictly ascending (the iteration order of `std::map`) -/
def Asc (m : List (Nat × Int)) : Prop := (keys m).Pairwise (· < ·)

theorem asc_nil : Asc [] := List.Pairwise.nil

@[simp] theorem mem_keys_cons {k w : Nat} {d : Int} {m : List (Nat × Int)} :
    k ∈ keys ((w, d) :: m) ↔ k = w ∨ k ∈ keys m := List.mem_cons

theorem asc_cons {w : Nat} {d : Int} {m : List (Nat × Int)} :
    Asc ((w, d) :: m) ↔ (∀ k ∈ keys m, w < k) ∧ Asc m := List.pairwise_cons

theorem mem_keys_addTo {v : Nat} {c : Int} {k : Nat} : ∀ m : List (Nat × Int),
    k ∈ keys (addTo m v c) ↔ k = v ∨ k ∈ keys m
  | [] => by simp [addTo, keys]
  | (w, d) :: m => by
    simp only [addTo]
    split
    · exact mem_keys_cons
    · split
      · rename_i h; simp [h]
      · rw [mem_keys_cons, mem_keys_cons, mem_keys_addTo m]; exact or_left_comm

theorem addTo_asc (v : Nat) (c : Int) : ∀ m : List (Nat × Int), Asc m → Asc (addTo m v c)
  | [], _ => by simp [addTo, Asc, keys]
  | (w, d) :: m, h => by
    obtain ⟨h1, h2⟩ := asc_cons.mp h
    simp only [addTo]
    split
    · exact asc_cons.mpr ⟨fun k hk => by
        rcases mem_keys_cons.mp hk with rfl | hk
        · assumption
        · exact Nat.lt_trans ‹v < w› (h1 k hk), h⟩
    · split
      · exact asc_cons.mpr ⟨h1, h2⟩
      · refine asc_cons.mpr ⟨fun k hk => ?_, addTo_asc v c m h2⟩
        rcases (mem_keys_addTo m).mp hk with rfl | hk'
        · omega
        · exact h1 k hk'

theorem sumCoef_append (a b : List (Nat × Int)) (k : Nat) : sumCoef (a ++ b) k = sumCoef a k + sumCoef b k := by
  induction a with
  | nil => simp [sumCoef]
  | cons t a ih => obtain ⟨w, d⟩ := t; simp only [List.cons_append, sumCoef, ih]; omega

theorem sumCoef_addTo (v : Nat) (c : Int) (k : Nat) : ∀ m : List (Nat × Int),
    sumCoef (addTo m v c) k = sumCoef m k + (if v = k then c else 0) := by
  intro m
  induction m with
  | nil => simp [addTo, sumCoef]
  | cons t m ih =>
    obtain ⟨w, d⟩ := t
    simp only [addTo]
    split
    · simp only [sumCoef]; omega
    · split
      · rename_i h; subst h; simp only [sumCoef]; split <;> omega
      · simp only [sumCoef, ih]; omega

theorem length_addTo (v : Nat) (c : Int) : ∀ m : List (Nat × Int), Asc m →
    (addTo m v c).length = m.length + (if v ∈ keys m then 0 else 1)
  | [], _ => by simp [addTo, keys]
  | (w, d) :: m, h => by
    obtain ⟨h1, h2⟩ := asc_cons.mp h
    have ih := length_addTo v c m h2
    simp only [addTo, mem_keys_cons]
    split
    · have : ¬ (v = w ∨ v ∈ keys m) := fun h => h.elim (by omega) (fun hm => by have := h1 v hm; omega)
      rw [if_neg this]; rfl
    · split
      · rename_i h; rw [if_pos (Or.inl h)]; rfl
      · rename_i hv; simp only [List.length_cons, ih, hv, false_or]; omega

theorem accumulate_eq_foldl : ∀ (l acc : List (Nat × Int)),
    accumulate acc l = l.foldl (fun acc t => if t.2 ≠ 0 then addTo acc t.1 t.2 else acc) acc
  | [], _ => rfl
  | _ :: l, _ => accumulate_eq_foldl l _

theorem accumulateQ_eq_foldl : ∀ (l : List (Int × Int × Int)) (acc : List ((Int × Int) × Int)),
    accumulateQ acc l = l.foldl (fun acc t => if t.1 ≠ 0 then addToP acc (sortPair t.2.1 t.2.2) t.1 else acc) acc
  | [], _ => rfl
  | _ :: l, _ => accumulateQ_eq_foldl l _

theorem accumulate_asc : ∀ (l acc : List (Nat × Int)), Asc acc → Asc (accumulate acc l) := by
  intro l
  induction l with
  | nil => intro acc h; exact h
  | cons t l ih =>
    intro acc h
    simp only [accumulate]
    apply ih
    split
    · exact addTo_asc _ _ _ h
    · exact h

theorem accumulate_sum (k : Nat) : ∀ (l acc : List (Nat × Int)),
    sumCoef (accumulate acc l) k = sumCoef acc k + sumCoef l k := by
  intro l
  induction l with
  | nil => intro acc; simp [accumulate, sumCoef]
  | cons t l ih =>
    intro acc
    obtain ⟨w, d⟩ := t
    simp only [accumulate, ih, sumCoef]
    split
    · rw [sumCoef_addTo]; omega
    · rename_i hd
      have : d = 0 := by simpa using hd
      subst this; split <;> omega

theorem accumulate_keys_mono (k : Nat) : ∀ (l acc : List (Nat × Int)), k ∈ keys acc → k ∈ keys (accumulate acc l) := by
  intro l
  induction l with
  | nil => intro acc h; exact h
  | cons t l ih =>
    intro acc h
    simp only [accumulate]
    apply ih
    split
    · exact (mem_keys_addTo _).mpr (Or.inr h)
    · exact h

/-- the map is never longer than the term list, and it is as long only if nothing was dropped or merged -/
theorem accumulate_length : ∀ (l acc : List (Nat × Int)), Asc acc →
    (accumulate acc l).length ≤ acc.length + l.length ∧
    ((accumulate acc l).length = acc.length + l.length →
      (∀ t ∈ l, t.2 ≠ 0) ∧ (keys l).Nodup ∧ ∀ t ∈ l, t.1 ∉ keys acc) := by
  intro l
  induction l with
  | nil => intro acc _; simp [accumulate, keys]
  | cons t l ih =>
    intro acc h
    obtain ⟨w, d⟩ := t
    by_cases hd : d ≠ 0
    · simp only [accumulate, if_pos hd, List.length_cons]
      obtain ⟨i1, i2⟩ := ih (addTo acc w d) (addTo_asc w d acc h)
      have hl := length_addTo w d acc h
      refine ⟨by split at hl <;> omega, fun heq => ?_⟩
      have hw : w ∉ keys acc := fun hm => by rw [if_pos hm] at hl; omega
      rw [if_neg hw] at hl
      obtain ⟨j1, j2, j3⟩ := i2 (by omega)
      refine ⟨List.forall_mem_cons.mpr ⟨hd, j1⟩, List.nodup_cons.mpr ⟨fun hm => ?_, j2⟩,
        List.forall_mem_cons.mpr ⟨hw, fun t ht hm => j3 t ht ((mem_keys_addTo acc).mpr (Or.inr hm))⟩⟩
      obtain ⟨t, ht, hte⟩ := List.mem_map.mp hm
      exact j3 t ht (by rw [hte]; exact (mem_keys_addTo acc).mpr (Or.inl rfl))
    · simp only [accumulate, if_neg hd, List.length_cons]
      obtain ⟨i1, _⟩ := ih acc h
      exact ⟨by omega, fun heq => by omega⟩

theorem sumCoef_filter_nz : ∀ (m : List (Nat × Int)) (k : Nat),
    sumCoef (m.filter (fun t => t.2 ≠ 0)) k = sumCoef m k := by
  intro m k
  induction m with
  | nil => rfl
  | cons t m ih =>
    obtain ⟨w, d⟩ := t
    simp only [List.filter_cons]
    split
    · simp only [sumCoef, ih]
    · rename_i h
      have : d = 0 := by simpa using h
      subst this; simp only [sumCoef, ih]; simp

theorem any_key_iff (m : List (Nat × Int)) (k : Nat) : m.any (fun t => t.1 == k) = true ↔ k ∈ keys m := by
  simp only [List.any_eq_true, keys, List.mem_map, beq_iff_eq]

theorem sumCoef_of_not_mem {k : Nat} : ∀ {m : List (Nat × Int)}, k ∉ keys m → sumCoef m k = 0
  | [], _ => rfl
  | (w, d) :: m, h => by
    obtain ⟨h1, h2⟩ := not_or.mp (mt List.mem_cons.mpr h)
    simp [sumCoef, Ne.symm h1, sumCoef_of_not_mem h2]

/-- with distinct keys the coefficient a solver holds after per-variable assignment is the sum -/
theorem heldCoef_eq_sumCoef : ∀ (m : List (Nat × Int)) (k : Nat), (keys m).Nodup → heldCoef m k = sumCoef m k
  | [], _, _ => rfl
  | (w, d) :: m, k, h => by
    obtain ⟨h1, h2⟩ := List.nodup_cons.mp h
    simp only [heldCoef, sumCoef, any_key_iff]
    by_cases hk : k ∈ keys m
    · have : w ≠ k := fun e => h1 (e ▸ hk)
      simp [hk, this, heldCoef_eq_sumCoef m k h2]
    · simp [hk, sumCoef_of_not_mem hk]

end MpVerif.C12
