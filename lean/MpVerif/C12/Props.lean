import MpVerif.C12.Lemmas
import MpVerif.C12.LemmasTerms
import MpVerif.Gen.ObjFilter
import MpVerif.Basic.CSemLemmas
/-!
# C12 — the solver receives exactly the objective(s) the user selected

Property theorems (prefix `C12_`) about the model in `Model.lean`.  The statements of the selection theorems are
quantified over every option sequence `ops`, every objective count `n`, every segment
stream `segs` (any interleaving, repeated or missing `O`/`G` segments included) – proofs
by induction over the streams, no enumeration.

First the user-level reading of the options (specification side, independent of the solver fields).
-/
namespace MpVerif.C12

/-- the objective number the user gave: the last `objno=` assignment, if any -/
def givenObjno (ops : List OptOp) : Option Int := (objnoVals ops).getLast?
/-- the `multiobj` flag the user gave: the last `multiobj=` assignment, default off -/
def givenMulti (ops : List OptOp) : Bool :=
  ((multiVals ops).getLast?.map (fun v => decide (v ≠ 0))).getD false
/-- objective number in effect: the given one, or 1 when defaulted -/
def selK (ops : List OptOp) : Nat := ((givenObjno ops).getD 1).toNat
/-- multi-objective mode in effect: requested and no explicit objective number
    (documented precedence: `multiobj()` is `multiobj_ && objno_ < 0`) -/
def selMulti (ops : List OptOp) : Bool := givenMulti ops && (givenObjno ops).isNone
/-- all option values acceptable to their setters -/
def validOpts (ops : List OptOp) : Prop :=
  (∀ v ∈ objnoVals ops, 0 ≤ v) ∧ (∀ v ∈ multiVals ops, v = 0 ∨ v = 1)

/-- SPECIFICATION: the objectives of the file that must reach the solver -/
def selected (ops : List OptOp) (n : Nat) (segs : List Seg) : List Obj :=
  if selMulti ops then fileObjs n segs
  else if 1 ≤ selK ops ∧ selK ops ≤ n then [fileObj segs (selK ops - 1)] else []

/-- SPECIFICATION: the number on the `objno` line of the .sol file (0-based; -1 = no objective) -/
def echoSpec (ops : List OptOp) (n : Nat) : Int :=
  if selMulti ops then (if n > 0 then 0 else -1)
  else if 1 ≤ selK ops ∧ selK ops ≤ n then (selK ops : Int) - 1 else -1

theorem onHeader_cases (ops : List OptOp) (n : Nat) :
    (¬ validOpts ops ∧ onHeader {} ops n = .error .invalidOption) ∨
    (validOpts ops ∧ (∃ k : Int, givenObjno ops = some k ∧ k > n) ∧ onHeader {} ops n = .error .objnoOutOfRange) ∨
    (validOpts ops ∧ (∀ k : Int, givenObjno ops = some k → k ≤ n) ∧ ∃ st0, onHeader {} ops n = .ok st0 ∧
      multiobj st0.solver = selMulti ops ∧ objnoSpecified st0.solver = selK ops ∧ st0.solver.optsRead = true ∧
      st0.solver.objAdded = decide (resultingNObj (selMulti ops) (selK ops) n > 0) ∧
      st0.objs = List.replicate (resultingNObj (selMulti ops) (selK ops) n) Obj.empty) := by
  have hp := parseOpts_eq ops { ({} : Solver) with optsRead := false }
  by_cases hv : validOpts ops
  · rw [if_pos ((all_optOk ops).mpr hv)] at hp
    right
    cases hg : givenObjno ops with
    | none =>
      have hg' : (objnoVals ops).getLast? = none := hg
      refine Or.inr ⟨hv, nofun, ?_⟩
      simp [onHeader, hp, hg', multiobj, objnoSpecified, isObjnoSpecified, selMulti, selK, givenMulti, hg]
    | some v =>
      have hg' : (objnoVals ops).getLast? = some v := hg
      have hv0 : 0 ≤ v := hv.1 v (List.mem_of_getLast? hg)
      have hneg : decide (v < 0) = false := decide_eq_false (by omega)
      have hk : v.natAbs = v.toNat := by omega
      by_cases hvn : v > n
      · refine Or.inl ⟨hv, ⟨v, rfl, hvn⟩, ?_⟩
        have : n < v.toNat := by omega
        simp [onHeader, hp, hg', isObjnoSpecified, objnoSpecified, hv0, hk, this]
      · refine Or.inr ⟨hv, fun k hk => by cases hk; omega, ?_⟩
        have : ¬ n < v.toNat := by omega
        simp [onHeader, hp, hg', multiobj, objnoSpecified, selMulti, selK, hg, hneg, hv0, hk, this]
  · rw [if_neg (fun h => hv ((all_optOk ops).mp h))] at hp
    exact Or.inl ⟨hv, by simp [onHeader, hp]⟩

/-- **Memory safety of the index remapping.**  Whenever an objective segment is kept, the slot it
    is written to exists (`builder_.obj(i)` only asserts its index). -/
theorem C12_index_in_range (multi : Bool) (k n idx : Nat) (hidx : idx < n)
    (hneed : needObj multi k idx = true) :
    resultingObjIndex multi idx < resultingNObj multi k n := by
  cases multi with
  | true => simpa [resultingObjIndex, resultingNObj] using hidx
  | false =>
    by_cases hk : 1 ≤ k
    · rw [resultingNObj_single, if_pos ⟨hk, by omega⟩]; exact Nat.zero_lt_one
    · have : k = 0 := by omega
      subst this
      simp [needObj_zero] at hneed

/-- `resulting_nobj` once the range check has passed.  In multi-objective mode the number is the default 1; outside
    `1 ≤ k ≤ n` means `k = 0`, or the number was defaulted and the file has no objective. -/
theorem nobj_cases {ops : List OptOp} {n : Nat} (hle : ∀ k : Int, givenObjno ops = some k → k ≤ n) :
    (selMulti ops = true ∧ selK ops = 1 ∧ resultingNObj true 1 n = n) ∨
    (selMulti ops = false ∧ (1 ≤ selK ops ∧ selK ops ≤ n) ∧ resultingNObj false (selK ops) n = 1) ∨
    (selMulti ops = false ∧ ¬ (1 ≤ selK ops ∧ selK ops ≤ n) ∧ resultingNObj false (selK ops) n = 0) := by
  simp only [selMulti, selK, resultingNObj_single]
  cases hg : givenObjno ops with
  | none => cases givenMulti ops <;> simp [resultingNObj] <;> omega
  | some v => have := hle v hg; simp; omega

theorem readNL_ok {ops : List OptOp} {n : Nat} {segs : List Seg} {st : St} (h : readNL ops n segs = .ok st) :
    multiobj st.solver = selMulti ops ∧ objnoSpecified st.solver = selK ops ∧ st.solver.optsRead = true ∧
    st.solver.objAdded = decide (resultingNObj (selMulti ops) (selK ops) n > 0) ∧
    st.objs = (List.range (resultingNObj (selMulti ops) (selK ops) n)).map
      (fun j => fileObj segs (srcIdx (selMulti ops) (selK ops) j)) ∧
    (∀ k : Int, givenObjno ops = some k → k ≤ n) := by
  rcases onHeader_cases ops n with ⟨_, hh⟩ | ⟨_, _, hh⟩ | ⟨_, hle, st0, hh, hm, hk, hor, hoa, hobjs⟩ <;>
    simp only [readNL, hh] at h
  · cases h
  · cases h
  · rcases readSegs_cases n segs st0 with ⟨_, h'⟩ | ⟨hidx, h'⟩
    · rw [h'] at h; cases h
    · rw [h'] at h; cases h
      rw [foldl_segStep segs st0 fun hf => by
        rw [hobjs, List.length_replicate, ← hm, hf, hk, resultingNObj_single]; split <;> omega]
      refine ⟨hm, hk, hor, ?_, ?_, hle⟩
      · -- without a slot no in-range segment is kept, so `obj_added_` is decided by the header alone
        rw [hoa, hm, hk]
        refine Bool.or_eq_left_iff_imp.mpr fun hany => ?_
        obtain ⟨sg, hsg, hadd⟩ := List.any_eq_true.mp hany
        cases sg with
        | O idx mx nl => exact decide_eq_true (Nat.zero_lt_of_lt (C12_index_in_range _ _ n idx (hidx _ hsg idx rfl) hadd))
        | _ => cases hadd
      · rw [hobjs, hm, hk, List.mapIdx_eq_iff]
        intro j
        by_cases hj : j < resultingNObj (selMulti ops) (selK ops) n <;> simp [hj, fileObj_eq_foldl]

theorem readNL_cases (ops : List OptOp) (n : Nat) (segs : List Seg) :
    (¬ validOpts ops ∧ readNL ops n segs = .error .invalidOption) ∨
    (validOpts ops ∧ (∃ k : Int, givenObjno ops = some k ∧ k > n) ∧ readNL ops n segs = .error .objnoOutOfRange) ∨
    (validOpts ops ∧ (∀ k : Int, givenObjno ops = some k → k ≤ n) ∧
      ((∃ sg ∈ segs, ∃ i, segIdx? sg = some i ∧ n ≤ i) ∧ readNL ops n segs = .error .readError ∨
       (∀ sg ∈ segs, ∀ i, segIdx? sg = some i → i < n) ∧ ∃ st, readNL ops n segs = .ok st)) := by
  rcases onHeader_cases ops n with ⟨h1, h2⟩ | ⟨h1, h2, h3⟩ | ⟨h1, h2, st0, h3, _⟩
  · exact Or.inl ⟨h1, by simp [readNL, h2]⟩
  · exact Or.inr (Or.inl ⟨h1, h2, by simp [readNL, h3]⟩)
  · refine Or.inr (Or.inr ⟨h1, h2, ?_⟩)
    simp only [readNL, h3]
    exact (readSegs_cases n segs st0).imp id fun ⟨hi, h⟩ => ⟨hi, _, h⟩

/-- **Selection.**  Whenever a run gets as far as delivering a model, the objectives delivered to
    the solver are exactly: all objectives of the file in file order in multi-objective mode; the
    `k`-th objective (sense, nonlinear expression, linear terms) when `1 ≤ k ≤ n`; none when `k = 0`
    or the file has no objective.  For every option sequence, every `n`, every segment stream. -/
theorem C12_select (ops : List OptOp) (n : Nat) (segs : List Seg) (st : St)
    (h : readNL ops n segs = .ok st) : delivered st = selected ops n segs := by
  obtain ⟨_, _, _, _, hobjs, hle⟩ := readNL_ok h
  rw [delivered, hobjs, selected]
  rcases nobj_cases hle with ⟨hm, hk, hn⟩ | ⟨hm, hr, hn⟩ | ⟨hm, hr, hn⟩
  · simp [hm, hk, hn, srcIdx, fileObjs]
  · simp [hm, hr, hn, srcIdx]
  · simp [hm, hr, hn]

/-- the file is read back per index: objective `i` of `encode objs` is `objs[i]` -/
theorem C12_encode_faithful (objs : List Obj) : fileObjs objs.length (encode objs) = objs := by
  simp only [fileObjs]
  apply List.ext_getElem?
  intro i
  by_cases hi : i < objs.length
  · simp [hi, fileObj_encode objs i hi]
  · have : (List.range objs.length)[i]? = none := by simp; omega
    simp [this]; omega

/-- **Selection, in the form "a list of objectives goes in, the selected ones come out".**
    For the segments `encode objs` of any list of objectives (all `O` segments, then the `G`
    segments, as AMPL writes them) the delivered list is `objs` itself in multi-objective mode,
    `[objs[k-1]]` for `1 ≤ k ≤ n`, `[]` otherwise.  (Also shows that `fileObj` reads a file back
    as intended, i.e. `C12_select` is not vacuous.) -/
theorem C12_select_encoded (ops : List OptOp) (objs : List Obj) (st : St)
    (h : readNL ops objs.length (encode objs) = .ok st) :
    delivered st =
      if selMulti ops then objs
      else if hk : 1 ≤ selK ops ∧ selK ops ≤ objs.length then [objs[selK ops - 1]'(by omega)] else [] := by
  rw [C12_select ops _ _ st h, selected]
  cases selMulti ops with
  | true => exact C12_encode_faithful objs
  | false =>
    simp only [Bool.false_eq_true, if_false]
    by_cases hr : 1 ≤ selK ops ∧ selK ops ≤ objs.length
    · simp only [hr, and_self, if_true, dite_true]
      rw [fileObj_encode objs (selK ops - 1) (by omega)]
    · simp [hr]

/-- **Discarded segments are inert.**  In single-objective mode two files that agree on objective `k`
    (per-index reading) deliver the same thing, whatever the segments of the other objectives contain
    and wherever they are placed in the file. -/
theorem C12_unselected_inert (ops : List OptOp) (n : Nat) (segs segs' : List Seg) (st st' : St)
    (h : readNL ops n segs = .ok st) (h' : readNL ops n segs' = .ok st')
    (hs : selMulti ops = false)
    (hk : fileObj segs (selK ops - 1) = fileObj segs' (selK ops - 1)) :
    delivered st = delivered st' := by
  rw [C12_select ops n segs st h, C12_select ops n segs' st' h']
  simp only [selected, hs, Bool.false_eq_true, if_false, hk]

/-- **Rejection.**  An explicitly given objective number beyond the file's objectives is rejected
    with the option error of `OnHeader`, whatever `multiobj` says and whatever the file contains;
    nothing is delivered. -/
theorem C12_reject (ops : List OptOp) (n : Nat) (segs : List Seg) (hv : validOpts ops)
    (k : Int) (hg : givenObjno ops = some k) (hk : k > n) :
    readNL ops n segs = .error .objnoOutOfRange := by
  rcases readNL_cases ops n segs with ⟨h, _⟩ | ⟨_, _, h⟩ | ⟨_, h, _⟩
  · exact absurd hv h
  · exact h
  · have := h k hg; omega

/-- **Rejection is not spurious**: the `objno` option error occurs only for an explicitly given
    number larger than the number of objectives. -/
theorem C12_reject_only (ops : List OptOp) (n : Nat) (segs : List Seg)
    (h : readNL ops n segs = .error .objnoOutOfRange) :
    ∃ k : Int, givenObjno ops = some k ∧ k > n := by
  rcases readNL_cases ops n segs with ⟨_, h'⟩ | ⟨_, hk, _⟩ | ⟨_, _, ⟨_, h'⟩ | ⟨_, _, h'⟩⟩
  · rw [h'] at h; cases h
  · exact hk
  · rw [h'] at h; cases h
  · rw [h'] at h; cases h

/-- **No other failure.**  Valid option values, an objective number that is defaulted or within
    `0..n`, and in-range segment indices: the run delivers a model. -/
theorem C12_accept (ops : List OptOp) (n : Nat) (segs : List Seg) (hv : validOpts ops)
    (hk : ∀ k, givenObjno ops = some k → k ≤ n)
    (hidx : ∀ sg ∈ segs, ∀ i, segIdx? sg = some i → i < n) :
    ∃ st, readNL ops n segs = .ok st := by
  rcases readNL_cases ops n segs with ⟨h, _⟩ | ⟨_, ⟨k, hg, hgt⟩, _⟩ | ⟨_, _, ⟨⟨sg, hsg, i, hi, hle⟩, _⟩ | ⟨_, h⟩⟩
  · exact absurd hv h
  · have := hk k hg; omega
  · have := hidx sg hsg i hi; omega
  · exact h

/-- **Echo.**  The number on the `objno` line of the .sol file is the 0-based index of the objective
    that was used (`k-1`; `0` in multi-objective mode with `n>0`), and `-1` when none was - for every
    option sequence, every `n`, every segment stream (objectives without an `O` segment included). -/
theorem C12_echo (ops : List OptOp) (n : Nat) (segs : List Seg) (st : St)
    (h : readNL ops n segs = .ok st) : solObjnoLine st = echoSpec ops n := by
  obtain ⟨_, hk, hor, hoa, _, hle⟩ := readNL_ok h
  simp only [solObjnoLine, objnoUsed, hor, hoa, hk, echoSpec, if_true]
  rcases nobj_cases hle with ⟨hm, hk, hn⟩ | ⟨hm, hr, hn⟩ | ⟨hm, hr, hn⟩
  · by_cases h0 : n > 0 <;> simp [hm, hk, hn, h0]
  · simp [hm, hr, hn]
  · simp [hm, hr, hn]

/-- one objective declared, only a `G` segment, default options: the objective is delivered and echoed as objective 0
    (`obj_added_` is set when the header creates the slot, not only by an `O` segment) -/
theorem C12_echo_noO_regression :
    ∃ st, readNL [] 1 [Seg.G 0 [(0, 1)]] = .ok st ∧
      delivered st = [⟨false, 0, [(0, 1)]⟩] ∧ solObjnoLine st = 0 := by
  exact ⟨_, rfl, by decide, by decide⟩

/-- **Objective names.**  The row-file entries used as names of the
    delivered objectives are those of the selected objectives: `numCons + (k-1)`, resp.
    `numCons + i` for every `i < n` in multi-objective mode. -/
theorem C12_names (ops : List OptOp) (n numCons : Nat) (segs : List Seg) (st : St)
    (h : readNL ops n segs = .ok st) :
    objRowIdx numCons st =
      if selMulti ops then (List.range n).map (fun i => ((numCons + i : Nat) : Int))
      else if 1 ≤ selK ops ∧ selK ops ≤ n then [((numCons + (selK ops - 1) : Nat) : Int)] else [] := by
  obtain ⟨hmo, hk, hor, hoa, hobjs, hle⟩ := readNL_ok h
  simp only [objRowIdx, objnoUsed, hmo, hor, hoa, hk, hobjs, List.length_map, List.length_range, if_true]
  rcases nobj_cases hle with ⟨hm, hk, hn⟩ | ⟨hm, hr, hn⟩ | ⟨hm, hr, hn⟩
  · simp [hm, hk, hn]
  · simp [hm, hr, hn]; omega
  · simp [hm, hr, hn]

/-! ## Tie to the source text

`MpVerif.Gen.ObjFilter` is regenerated on every run by `translators/gen_objfilter.py` from clang's typed AST of the
*instantiated* member functions in `include/mp/nl-reader.h`, `solver-base.h`, `solver-io.h`, `model-mgr-with-pb.h`, of
`BoolOption::SetValue` in `src/solver.cc` and of the two `sort_terms` in `src/std_constr.cc`; the statement skeletons also
come from `flat/problem_flattener.h`, `flat/converter_model.h` and `sol.h`.  The `C12_gen_*` theorems below state that the
generated definitions (C++ `int`/`bool` semantics of `MpVerif.Basic.CSem`, including undefined behaviour; the two
`sort_terms` on lists in exact arithmetic) coincide with the hand model the selection theorems are about, for every input
in `int` range resp. every term list.  A change of the C++ text changes the generated definition, and the corresponding
theorem fails to check. -/
section GenTie
open MpVerif.CSem MpVerif.Gen

/-- C++ `bool` as an integer -/
def bi (b : Bool) : Int := if b then 1 else 0

/-- `objno_` values a `BasicSolver` can hold: the default `-1` or what `SetObjNo` accepted, within `int` -/
def rawInRange (raw : Int) : Prop := -2147483648 < raw ∧ raw ≤ 2147483647

theorem bi_eq_tv (b : Bool) : bi b = tv (b = true) := rfl

theorem C12_gen_NeedObj (multi : Bool) (k idx : Nat) (hk : (k : Int) ≤ 2147483647) :
    ObjFilter.NeedObj idx (bi multi) k = .ret (bi (needObj multi k idx)) := by
  simp (disch := omega) only [ObjFilter.NeedObj, csub, arith_tI, Outcome.bind_ret, cor_ret, ceq_eq_tv, bi_eq_tv, tv_ne_zero,
    needObj, Bool.or_eq_true, decide_eq_true_eq]

theorem C12_gen_resulting_nobj (multi : Bool) (k n : Nat) :
    ObjFilter.resulting_nobj n (bi multi) k = .ret ((resultingNObj multi k n : Nat) : Int) := by
  have c0 : conv tI 0 = 0 := by decide
  have c1 : conv tI 1 = 1 := by decide
  cases multi with
  | true => simp [ObjFilter.resulting_nobj, bi, resultingNObj]
  | false =>
    by_cases hk : k > 0 <;> by_cases hn : n > 0 <;>
      simp [ObjFilter.resulting_nobj, bi, resultingNObj, ObjFilter.cmin, cgt, hk, hn, c0, c1] <;> omega

theorem C12_gen_resulting_obj_index (multi : Bool) (idx : Nat) :
    ObjFilter.resulting_obj_index idx (bi multi) = .ret ((resultingObjIndex multi idx : Nat) : Int) := by
  cases multi <;> simp [ObjFilter.resulting_obj_index, bi, resultingObjIndex]

theorem C12_gen_objno_specified (s : Solver) (h : rawInRange s.objnoRaw) :
    ObjFilter.objno_specified s.objnoRaw = .ret (objnoSpecified s : Int) := by
  obtain ⟨h1, h2⟩ := h
  simp only [ObjFilter.objno_specified, ObjFilter.cabs, objnoSpecified]
  by_cases hneg : s.objnoRaw < 0
  · have hr : arith tI (-s.objnoRaw) = .ret (-s.objnoRaw) := arith_tI (by omega) (by omega)
    simp [hneg, cneg, hr]; omega
  · simp [hneg]; omega

theorem C12_gen_is_objno_specified (s : Solver) :
    ObjFilter.is_objno_specified s.objnoRaw = .ret (bi (isObjnoSpecified s)) := by
  by_cases h : 0 ≤ s.objnoRaw <;> simp [ObjFilter.is_objno_specified, cge, bi, isObjnoSpecified, h]

theorem C12_gen_multiobj (s : Solver) :
    ObjFilter.multiobj (bi s.multiFlag) s.objnoRaw = .ret (bi (multiobj s)) := by
  simp only [ObjFilter.multiobj, cand_ret, clt_eq_tv, bi_eq_tv, tv_ne_zero, multiobj, Bool.and_eq_true, decide_eq_true_eq]

theorem C12_gen_objno_used (s : Solver) (h : rawInRange s.objnoRaw) :
    ObjFilter.objno_used (bi s.optsRead) (bi s.objAdded) s.objnoRaw = .ret (objnoUsed s : Int) := by
  have hs := C12_gen_objno_specified s h
  cases ho : s.optsRead <;> cases ha : s.objAdded <;>
    simp [ObjFilter.objno_used, bi, objnoUsed, ho, ha, hs]

/-- the overrides in `SolverNLHandlerImpl` (what the virtual calls `objno()` / `multiobj()` of
    `NLProblemBuilder` evaluate to in a driver) are the solver accessors -/
theorem C12_gen_handler_overrides (fm raw : Int) :
    ObjFilter.handler_objno raw = ObjFilter.objno_specified raw ∧
    ObjFilter.handler_multiobj fm raw = ObjFilter.multiobj fm raw := ⟨rfl, rfl⟩

theorem C12_gen_SetObjNo (s : Solver) (v : Int) :
    ObjFilter.SetObjNo v = (match setOpt s (.objno v) with
      | .error _ => .throw
      | .ok s' => .ret s'.objnoRaw) := by
  by_cases h : v < 0 <;> simp [ObjFilter.SetObjNo, clt, setOpt, h]

/-- the three notifications store `true`, `false`, `true` (as `onSeg` / `onHeader` of the model do) -/
theorem C12_gen_notify :
    ObjFilter.notify_obj_added = .ret (bi true) ∧ ObjFilter.notify_start_opts = .ret (bi false) ∧
    ObjFilter.notify_end_opts = .ret (bi true) := ⟨rfl, rfl, rfl⟩

/-- the objno range check of `SolverNLHandlerImpl::OnHeader` is the condition of the model's `onHeader` -/
theorem C12_gen_OnHeader_check (s : Solver) (n : Nat) (h : rawInRange s.objnoRaw) :
    ObjFilter.OnHeader_check s.objnoRaw n =
      if (decide (objnoSpecified s > n) && isObjnoSpecified s) = true then .throw else .ret 0 := by
  simp only [ObjFilter.OnHeader_check, C12_gen_objno_specified s h, C12_gen_is_objno_specified s,
    Outcome.bind_ret, cand_ret, cgt_eq_tv, bi_eq_tv, tv_ne_zero, Bool.and_eq_true, decide_eq_true_eq, Int.ofNat_lt, gt_iff_lt]

/-- order of the steps of `SolverNLHandlerImpl::OnHeader`: options are parsed (`after_header_`), then
    `notify_end_opts`, then the range check, then the base class creates the objectives -/
theorem C12_gen_skel_OnHeader : ObjFilter.skel_SolverNLHandler_OnHeader = [
    "store num_options_ := h.num_ampl_options",
    "call copy(h.ampl_options, (h.ampl_options + num_options_), options_)",
    "if after_header_.operator bool() { call solver_.notify_start_opts() ; call operator()(after_header_) }",
    "call solver_.notify_end_opts()",
    "decl objno := solver_.objno_specified()",
    "throw-if ((objno > h.num_objs) && solver_.is_objno_specified()) : InvalidOptionValue(StringRef(\"objno\"), objno, StringRef(format(CStringRef(\"expected value between 0 and {}\"), h.num_objs)))",
    "call OnHeader(h)"] := rfl

/-- `NLProblemBuilder::OnHeader`: `resulting_nobj(h.num_objs)` objectives are created and, if any,
    `notify_obj_added()` is called -/
theorem C12_gen_skel_builder_OnHeader : ObjFilter.skel_NLProblemBuilder_OnHeader = [
    "call builder_.SetInfo(h)",
    "call AddVariables(h)",
    "if decl n := h.num_common_exprs() ; n { call builder_.AddCommonExprs(n) }",
    "decl n_objs := resulting_nobj(h.num_objs)",
    "if (n_objs != 0) { call builder_.AddObjs(n_objs) ; call notify_obj_added() }",
    "if (h.num_algebraic_cons != 0) { call builder_.AddAlgebraicCons(h.num_algebraic_cons) }",
    "if (h.num_logical_cons != 0) { call builder_.AddLogicalCons(h.num_logical_cons) }",
    "if (h.num_funcs != 0) { call builder_.AddFunctions(h.num_funcs) }"] := rfl

/-- `OnObj` sets sense and expression of slot `index` and notifies; `OnLinearObjExpr` hands out the
    linear builder of slot `obj_index`; the handler's notification reaches the solver -/
theorem C12_gen_skel_obj_events :
    ObjFilter.skel_NLProblemBuilder_OnObj =
      ["call SetObj(builder_.obj(index), type, NLProblemBuilder(expr))", "call notify_obj_added()"] ∧
    ObjFilter.skel_NLProblemBuilder_OnLinearObjExpr =
      ["return builder_.obj(obj_index).set_linear_expr(num_linear_terms)"] ∧
    ObjFilter.skel_SolverNLHandler_notify_obj_added = ["call solver_.notify_obj_added()"] := ⟨rfl, rfl, rfl⟩

theorem C12_gen_GetObjNo (raw : Int) : ObjFilter.GetObjNo raw = ObjFilter.objno_specified raw := rfl

/-- `BoolOption::SetValue` (the `obj:multi` setter, src/solver.cc) is the model's `setOpt … (.multi v)`: rejects everything
    but 0/1, stores `v ≠ 0` -/
theorem C12_gen_BoolOption_SetValue (s : Solver) (v : Int) :
    ObjFilter.BoolOption_SetValue v = (match setOpt s (.multi v) with
      | .error _ => .throw
      | .ok s' => .ret (bi s'.multiFlag)) := by
  have c0 : conv tLL 0 = 0 := by decide
  have c1 : conv tLL 1 = 1 := by decide
  simp only [ObjFilter.BoolOption_SetValue, c0, c1, cne_eq_tv, cand_ret, Outcome.bind_ret, tv_ne_zero, setOpt]
  split <;> simp_all [bi, tv]

/-- `ObjHandler::SkipExpr` (guard of the `G` segments) is the negation of the model's `needObj` -/
theorem C12_gen_SkipExpr (multi : Bool) (k idx : Nat) (hk : (k : Int) ≤ 2147483647) :
    ObjFilter.ObjHandler_SkipExpr idx (bi multi) k = .ret (bi (!needObj multi k idx)) := by
  simp only [ObjFilter.ObjHandler_SkipExpr, C12_gen_NeedObj multi k idx hk, Outcome.bind_ret]
  cases needObj multi k idx <;> simp [bi, cnot]

/-- guard of the `O` segments (`case 'O'` of `NLReader::Read`) is the model's `needObj` -/
theorem C12_gen_caseO_guard (multi : Bool) (k idx : Nat) (hk : (k : Int) ≤ 2147483647) :
    ObjFilter.caseO_guard idx (bi multi) k = .ret (bi (needObj multi k idx)) :=
  C12_gen_NeedObj multi k idx hk

/-- the slot an `O` resp. `G` segment is written to is the model's `resultingObjIndex` -/
theorem C12_gen_segment_slots (multi : Bool) (idx : Nat) :
    ObjFilter.caseO_slot idx (bi multi) = .ret ((resultingObjIndex multi idx : Nat) : Int) ∧
    ObjFilter.ObjHandler_OnLinearExpr_slot idx (bi multi) = .ret ((resultingObjIndex multi idx : Nat) : Int) :=
  ⟨C12_gen_resulting_obj_index multi idx, C12_gen_resulting_obj_index multi idx⟩

/-- `.row` indices `a, a+1, …, b-1` -/
def rowsFromTo (a b : Int) : List Int := (List.range (b - a).toNat).map (fun (j : Nat) => a + (j : Int))

theorem rowsFromTo_add (a : Int) (n : Nat) :
    rowsFromTo a (a + n) = (List.range n).map (fun (j : Nat) => a + (j : Int)) := by
  rw [rowsFromTo, show (a + (n : Int) - a).toNat = n by omega]

/-- `SetObjNames`: guard and loop bounds generated from the source give exactly the model's `objRowIdx` -/
theorem C12_gen_SetObjNames (st : St) (numCons : Nat) (h : rawInRange st.solver.objnoRaw)
    (hb : (numCons : Int) + st.objs.length + objnoUsed st.solver ≤ 2147483647) :
    ObjFilter.SetObjNames_guard st.objs.length = .ret (if st.objs.length = 0 then 0 else 1) ∧
    ∃ a b : Int,
      ObjFilter.SetObjNames_first numCons (bi st.solver.optsRead) (bi st.solver.objAdded) st.solver.objnoRaw
        (bi st.solver.multiFlag) st.objs.length = .ret a ∧
      ObjFilter.SetObjNames_end numCons (bi st.solver.optsRead) (bi st.solver.objAdded) st.solver.objnoRaw
        (bi st.solver.multiFlag) st.objs.length = .ret b ∧
      objRowIdx numCons st = if st.objs.length = 0 then [] else rowsFromTo a b := by
  refine ⟨by simp [ObjFilter.SetObjNames_guard, tobool], ?_⟩
  -- none of the `int` operations of the index arithmetic overflows: `arith_tI` rewrites each, its bounds follow from `hb`
  simp (disch := omega) only [ObjFilter.SetObjNames_first, ObjFilter.SetObjNames_end, C12_gen_objno_used st.solver h,
    C12_gen_multiobj st.solver, Outcome.bind_ret, csub, cadd, arith_tI]
  cases hmulti : multiobj st.solver with
  | true =>
    refine ⟨numCons, numCons + st.objs.length, by simp [bi], by simp [bi], ?_⟩
    simp only [objRowIdx, hmulti, if_true, rowsFromTo_add, Int.natCast_add]
  | false =>
    refine ⟨numCons + ((objnoUsed st.solver : Int) - 1), numCons + ((objnoUsed st.solver : Int) - 1) + (1 : Nat),
      by simp [bi], by simp [bi]; omega, ?_⟩
    rw [rowsFromTo_add]; simp [objRowIdx, hmulti]

/-- `case 'O'`: index bounded by the header count, guard `NeedObj`, slot `resulting_obj_index`, sense `type != 0 ↦ MAX` -/
theorem C12_gen_skel_caseO : ObjFilter.skel_NLReader_caseO = [
    "decl index := ReadUInt(header_.num_objs)",
    "decl obj_type := reader_.ReadUInt()",
    "call reader_.ReadTillEndOfLine()",
    "decl expr := ReadNumericExpr(true)",
    "if handler_.NeedObj(index) { call handler_.OnObj(handler_.resulting_obj_index(index), ((obj_type != 0) ? MAX : MIN), NLProblemBuilder(expr)) }",
    "break"] := rfl

/-- `case 'G'`: `ReadLinearExpr<ObjHandler>()`: index bounded by `num_items()`, skipped terms go to the null handler -/
theorem C12_gen_skel_caseG : ObjFilter.skel_NLReader_caseG = [
    "call ReadLinearExpr<ObjHandler>()",
    "decl lh := NLReader(*(this))",
    "decl index := ReadUInt(lh.num_items())",
    "decl num_terms := ReadUInt(1, (header_.num_vars + 1))",
    "call reader_.ReadTillEndOfLine()",
    "if lh.SkipExpr(index) { call ReadLinearExpr(num_terms, NullLinearExprHandler()) } else { call ReadLinearExpr(num_terms, lh.OnLinearExpr(index, num_terms)) }"] := rfl

/-- every problem objective `i` is converted, in order (flattener), and pushed as flat objective `i` (model `delivered`);
    the `.sol` line prints `objno() - 1` (model `solObjnoLine`).  (`?` = a member name clang's dump of the uninstantiated
    template does not carry.) -/
theorem C12_gen_skel_delivery :
    ObjFilter.skel_Flattener_objective_loop =
      ["if decl num_objs := ?().num_objs() ; num_objs { for (decl i := 0 ; (i < num_objs) ; ++(i)) { call this.ExportObj(i) ; call this.Convert(?().obj(i)) } }"] ∧
    ObjFilter.skel_FlatModel_PushObjectivesTo =
      ["if decl n_objs := num_objs() ; n_objs { for (decl i := 0 ; (i < n_objs) ; ++(i)) { decl obj := get_obj(i) ; if obj.GetQPTerms().size() { call backend.SetQuadraticObjective(i, obj) } else { call backend.SetLinearObjective(i, obj) } ; call ExportObjective(i, obj) } }"] ∧
    ObjFilter.skel_WriteSolFile_objno =
      ["call file.?(\"objno {} {}\\n\", operator-(sol.objno(), 1), sol.status())"] := ⟨rfl, rfl, rfl⟩

/-- `ProblemFlattener::Convert(MutObjective)`: G terms, then the expression's linear terms and the constant's fixed variable
    are appended, and only THEN `le.sort_terms()` / `QPTerms().sort_terms()` run, before the objective is added - the order
    `deliveredLin` assumes -/
theorem C12_gen_skel_Convert_objective : ObjFilter.skel_Flattener_Convert_objective = [
    "decl obj_src := GetValuePresolver().GetSourceNodes().GetObjValues()().Add()",
    "call GetCopyLink().AddEntry({obj_src, GetValuePresolver().GetTargetNodes().GetObjValues()().Add()})",
    "decl auto_link_scope := {?(), obj_src}",
    "decl le := ToLinTerms(obj.linear_expr())",
    "decl e := obj.nonlinear_expr()",
    "decl eexpr := EExpr()",
    "if e.operator void (mp::internal::ExprBase::*)() const() { store eexpr := this.Visit(e) ; call le.add(eexpr.GetLinTerms()) ; if (fabs(eexpr.constant_term()) != 0) { call le.add_term(1, MakeFixedVar(eexpr.constant_term())) } }",
    "call le.sort_terms()",
    "call eexpr.GetQPTerms().sort_terms()",
    "decl ctx := ((MAX == obj.type()) ? CTX_POS : CTX_NEG)",
    "call ?().PropagateResult2LinTerms(le, ?().MinusInfty(), ?().Infty(), ctx)",
    "call ?().PropagateResult2QuadTerms(eexpr.GetQPTerms(), ?().MinusInfty(), ?().Infty(), ctx)",
    "decl lo := {obj.type(), move(le.coefs()), move(le.vars())}",
    "call ?().AddObjective(QuadraticObjective(move(lo), move(eexpr.GetQPTerms())))"] := rfl

/-- tripwire: the text of `LinTerms::sort_terms` (src/std_constr.cc), whose semantic tie is `C12_gen_sort_terms`: accumulate
    non-zero entries in a `std::map`, rebuild in key order without zero sums only if the map is smaller than the list -/
theorem C12_gen_skel_sort_terms : ObjFilter.skel_LinTerms_sort_terms = [
    "decl var_coef_map := map()",
    "for (decl i := 0 ; (i < size()) ; ++(i)) { if (0 != fabs(operator[](coefs_, i))) { store operator[](var_coef_map, operator[](vars_, i)) += operator[](coefs_, i) } }",
    "if (force_sort || (var_coef_map.size() < size())) { call coefs_.clear() ; call vars_.clear() ; for (vc : var_coef_map) { if (0 != fabs(vc.second)) { call coefs_.push_back(vc.second) ; call vars_.push_back(vc.first) } } }"] := rfl

/-- `SetObjNames` as a whole: guard, index arithmetic, loop, name taken from `.row` entry `io` or generated `_sobj[io-num_c+1]` -/
theorem C12_gen_skel_SetObjNames : ObjFilter.skel_SetObjNames = [
    "if GetModel().num_objs() { decl num_c := GetModel().num_cons() ; decl o1 := (GetEnv().objno_used() - 1) ; decl o2 := (o1 + 1) ; if GetEnv().multiobj() { store o1 := 0 ; store o2 := GetModel().num_objs() } ; decl names_o := vector() ; for (decl io := (num_c + o1) ; (io < (num_c + o2)) ; ++(io)) { if (npco.number_read() > io) { call names_o.push_back(npco.name(io, default).operator basic_string()) } else { call names_o.push_back(operator+(operator+(\"_sobj[\", to_string(((io - num_c) + 1))), ']')) } } ; call GetModel().SetObjNames(vector(move(names_o))) }"] := rfl

/-! ### `LinTerms::sort_terms` translated (vector/map loops as folds) and proved equal to `sortTerms` -/

/-- a model term with its variable index as a C++ `int` -/
def castT (t : Nat × Int) : Int × Int := ((t.1 : Int), t.2)

theorem mapAddTo_cast (w : Nat) (d : Int) : ∀ m : List (Nat × Int),
    ObjFilter.mapAddTo (m.map castT) (w : Int) d = (addTo m w d).map castT := by
  intro m
  induction m with
  | nil => simp [ObjFilter.mapAddTo, addTo, castT]
  | cons t m ih =>
    obtain ⟨x, y⟩ := t
    simp only [List.map_cons, castT, ObjFilter.mapAddTo, addTo]
    by_cases h1 : w < x
    · have : (w : Int) < (x : Int) := by omega
      simp [h1, this, castT]
    · have h1' : ¬ ((w : Int) < (x : Int)) := by omega
      by_cases h2 : w = x
      · subst h2; simp [castT]
      · have h2' : ¬ ((w : Int) = (x : Int)) := by omega
        simp only [h1, h1', h2, h2', if_false, List.map_cons, castT]
        rw [← ih]

theorem nz_iff (d : Int) : (cne (0 : Int) (ObjFilter.dabs d) ≠ 0) ↔ d ≠ 0 := by
  simp only [cne, ObjFilter.dabs]
  by_cases h : d < 0 <;> simp [h] <;> omega

/-- for a translated loop whose state embeds the model's value (the `std::map`); `hs` is a hypothesis so that `rw` can find
    the loop whatever form its initial state has -/
theorem foldl_emb {σ μ α β : Type} (emb : μ → σ) (step : μ → α → μ) (enc : α → β) {g : σ → β → σ} {s0 : σ} {m : μ}
    (hs : s0 = emb m) (H : ∀ m a, g (emb m) (enc a) = emb (step m a)) (l : List α) :
    (l.map enc).foldl g s0 = emb (l.foldl step m) := by
  rw [hs, List.foldl_map]; exact List.foldl_hom emb H

/-- a loop of `push_back`s guarded by `p`, the state holding what was pushed so far as `app acc` -/
theorem foldl_push {σ α : Type} (p : α → Bool) (app : List α → σ) {g : σ → α → σ} {s0 : σ} (hs : s0 = app [])
    (H : ∀ acc a, g (app acc) a = app (if p a then acc ++ [a] else acc)) (l : List α) :
    l.foldl g s0 = app (l.filter p) := by
  subst hs
  suffices ∀ acc, l.foldl g (app acc) = app (acc ++ l.filter p) from this []
  induction l with
  | nil => simp
  | cons a l ih =>
    intro acc
    rw [List.foldl_cons, H, ih, List.filter_cons]
    split <;> simp

/-- **`LinTerms::sort_terms` generated from src/std_constr.cc equals the model's `sortTerms`** for every term list (exact
    arithmetic; the two vectors are the coefficient and variable columns of the list, i.e. of equal length - the class
    invariant of `LinTerms`; `force_sort = false`, the default used by `Convert(MutObjective)`) -/
theorem C12_gen_sort_terms (l : List (Nat × Int)) :
    ObjFilter.LinTerms_sort_terms 0 (l.map (·.2)) (l.map (fun t => (t.1 : Int))) =
      ((sortTerms l).map (·.2), (sortTerms l).map (fun t => (t.1 : Int))) := by
  simp only [ObjFilter.LinTerms_sort_terms, List.zip_map']
  -- first loop: the map field holds `castT` of the model's map; second loop: the two vectors are the columns of what was pushed
  rw [foldl_emb (fun m => (⟨l.map (·.2), l.map (fun t => (t.1 : Int)), m.map castT⟩ : ObjFilter.LinTerms_sort_terms.St))
      (fun acc t => if t.2 ≠ 0 then addTo acc t.1 t.2 else acc) (m := []), ← accumulate_eq_foldl,
    foldl_push (fun vc : Int × Int => decide (vc.2 ≠ 0))
      (fun acc => (⟨acc.map (·.2), acc.map (·.1), (accumulate [] l).map castT⟩ : ObjFilter.LinTerms_sort_terms.St))]
  · simp only [sortTerms, ObjFilter.lor, clt, List.length_map, List.filter_map]
    by_cases hlt : (accumulate [] l).length < l.length
    · simp [hlt, castT, Function.comp_def]; exact ⟨rfl, rfl⟩
    · simp [hlt]
  · rfl
  · intro acc vc; by_cases h : vc.2 = 0 <;> simp [nz_iff, h]
  · rfl
  · intro m t; simp only [nz_iff, mapAddTo_cast]; split <;> rfl

/-! ### `QuadTerms::sort_terms` translated and proved equal to `sortQuadTerms` -/

theorem mapAddToP_eq : ObjFilter.mapAddToP = addToP := by
  funext m k c
  induction m with
  | nil => rfl
  | cons t m ih =>
    obtain ⟨w, d⟩ := t
    simp only [ObjFilter.mapAddToP, addToP, ih]
    rfl

/-- **`QuadTerms::sort_terms` generated from src/std_constr.cc equals the model's `sortQuadTerms`** for every list of
    `(coefficient, var1, var2)` (exact arithmetic; the three vectors are the columns of the list, i.e. of equal length) -/
theorem C12_gen_quad_sort_terms (l : List (Int × Int × Int)) :
    ObjFilter.QuadTerms_sort_terms (l.map (·.1)) (l.map (·.2.1)) (l.map (·.2.2)) =
      ((sortQuadTerms l).map (·.1), (sortQuadTerms l).map (·.2.1), (sortQuadTerms l).map (·.2.2)) := by
  simp only [ObjFilter.QuadTerms_sort_terms, List.zip_map', mapAddToP_eq]
  rw [foldl_emb (fun m => (⟨l.map (·.1), l.map (·.2.1), l.map (·.2.2), m⟩ : ObjFilter.QuadTerms_sort_terms.St))
      (fun acc t => if t.1 ≠ 0 then addToP acc (sortPair t.2.1 t.2.2) t.1 else acc) (m := []), ← accumulateQ_eq_foldl]
  simp only [ne_eq, Int.one_ne_zero, not_false_eq_true, if_true]
  rw [foldl_push (fun vc : (Int × Int) × Int => decide (vc.2 ≠ 0))
      (fun acc => (⟨acc.map (·.2), acc.map (·.1.1), acc.map (·.1.2), accumulateQ [] l⟩ : ObjFilter.QuadTerms_sort_terms.St))]
  · simp [sortQuadTerms, Function.comp_def]
  · rfl
  · intro acc vc; by_cases h : vc.2 = 0 <;> simp [nz_iff, h]
  · rfl
  · intro m t
    have hp : (if clt t.2.1 t.2.2 ≠ 0 then (t.2.1, t.2.2) else (t.2.2, t.2.1)) = sortPair t.2.1 t.2.2 := by
      simp only [clt, sortPair]; by_cases h : t.2.1 < t.2.2 <;> simp [h]
    simp only [nz_iff, hp]; split <;> rfl

/-- what `sortQuadTerms` guarantees outright: no zero coefficient is delivered (the "no unordered pair twice" clause is
    NOT proved - it is checked per run on every recorded `SetQuadraticObjective` call) -/
theorem C12_quad_terms_nonzero (l : List (Int × Int × Int)) : ∀ t ∈ sortQuadTerms l, t.1 ≠ 0 := by
  intro t ht
  simp only [sortQuadTerms, List.mem_map, List.mem_filter] at ht
  obtain ⟨u, ⟨_, hu⟩, rfl⟩ := ht
  simpa using hu

-- instance: x0*x1 + 2*x1*x0 - 3*x2^2 + 0*x0*x0 + 3*x2*x2  ->  3*x0*x1 (the two orientations merged, the cancelled square dropped)
example : sortQuadTerms [(1, 0, 1), (2, 1, 0), (-3, 2, 2), (0, 0, 0), (3, 2, 2)] = [(3, 0, 1)] := by decide

end GenTie

/-! ## The error branches and the state invariant behind `List.modify` -/

/-- **Option errors, both directions.**  A run ends with the setter's option error exactly when some option value is
    not acceptable (negative `objno`, `multiobj` other than 0/1) - whatever the file contains. -/
theorem C12_invalid_option (ops : List OptOp) (n : Nat) (segs : List Seg) :
    readNL ops n segs = .error .invalidOption ↔ ¬ validOpts ops := by
  rcases readNL_cases ops n segs with ⟨hv, h⟩ | ⟨hv, _, h⟩ | ⟨hv, _, ⟨_, h⟩ | ⟨_, _, h⟩⟩ <;> rw [h]
  · exact ⟨fun _ => hv, fun _ => rfl⟩
  all_goals exact ⟨nofun, fun hnv => absurd hv hnv⟩

/-- **Read errors, both directions.**  With acceptable options and an objective number that is not beyond the file,
    the run fails (with the reader's error) exactly when an `O`/`G` segment carries an index that is not below the
    header's objective count. -/
theorem C12_read_error (ops : List OptOp) (n : Nat) (segs : List Seg) :
    readNL ops n segs = .error .readError ↔
      (validOpts ops ∧ (∀ k, givenObjno ops = some k → k ≤ n) ∧ ∃ sg ∈ segs, ∃ i, segIdx? sg = some i ∧ n ≤ i) := by
  rcases readNL_cases ops n segs with ⟨hv, h⟩ | ⟨_, ⟨k, hg, hgt⟩, h⟩ | ⟨hv, hk, ⟨hb, h⟩ | ⟨hi, _, h⟩⟩ <;> rw [h]
  · exact ⟨nofun, fun h' => absurd h'.1 hv⟩
  · exact ⟨nofun, fun h' => by have := h'.2.1 k hg; omega⟩
  · exact ⟨fun _ => ⟨hv, hk, hb⟩, fun _ => rfl⟩
  · refine ⟨nofun, fun ⟨_, _, sg, hsg, i, hi', hle⟩ => ?_⟩
    have := hi sg hsg i hi'; omega

/-- **The objective slots.**  At every successful end of reading the problem holds exactly `resulting_nobj` objectives;
    together with `C12_index_in_range` this is the guard under which the model's `List.modify` (a no-op outside the
    list) and the code's unchecked `builder_.obj(i)` agree: a kept segment always addresses an existing slot. -/
theorem C12_slot_count (ops : List OptOp) (n : Nat) (segs : List Seg) (st : St)
    (h : readNL ops n segs = .ok st) :
    st.objs.length = resultingNObj (selMulti ops) (selK ops) n := by
  rw [(readNL_ok h).2.2.2.2.1, List.length_map, List.length_range]

section Examples
/-- three objectives used in the examples: `min e1`, `max e2 + 3 x0`, `min x1` -/
def exObjs : List Obj := [⟨false, 1, []⟩, ⟨true, 2, [(0, 3)]⟩, ⟨false, 0, [(1, 1)]⟩]
-- C12_select / C12_echo / C12_names / C12_slot_count: a run that delivers (objno=2 of 3, multiobj=1 also given)
example : ∃ st, readNL [.multi 1, .objno 2] 3 (encode exObjs) = .ok st ∧ delivered st = [⟨true, 2, [(0, 3)]⟩] ∧
    solObjnoLine st = 1 ∧ objRowIdx 4 st = [5] ∧ st.objs.length = 1 := ⟨_, rfl, by decide, by decide, by decide, by decide⟩
-- C12_unselected_inert: two different files that agree on objective 2 (segments of objectives 1 and 3 differ, order differs)
example : ∃ st st', readNL [.objno 2] 3 (encode exObjs) = .ok st ∧
    readNL [.objno 2] 3 [Seg.G 1 [(0, 3)], Seg.O 2 true 9, Seg.other, Seg.O 1 true 2, Seg.O 0 true 7, Seg.G 0 [(5, 5)]] = .ok st' ∧
    delivered st = delivered st' ∧ delivered st = [⟨true, 2, [(0, 3)]⟩] := ⟨_, _, rfl, rfl, by decide, by decide⟩
-- C12_reject (⇐ of the pair): valid options, objno 4 of 3;   C12_reject_only (⇒): the error does occur and the number is beyond
example : validOpts [.multi 1, .objno 4] ∧ givenObjno [.multi 1, .objno 4] = some 4 ∧
    readNL [.multi 1, .objno 4] 3 (encode exObjs) = .error .objnoOutOfRange := ⟨(all_optOk _).mp rfl, by decide, rfl⟩
-- C12_accept: valid options, number within range, indices in range - and a model is delivered
example : validOpts [.objno 3, .multi 0] ∧ (∀ k, givenObjno [.objno 3, .multi 0] = some k → k ≤ (3 : Nat)) ∧
    (∀ sg ∈ encode exObjs, ∀ i, segIdx? sg = some i → i < 3) ∧ ∃ st, readNL [.objno 3, .multi 0] 3 (encode exObjs) = .ok st := by
  refine ⟨(all_optOk _).mp rfl, ?_, encode_idx exObjs, ⟨_, rfl⟩⟩
  intro k hk; simp [givenObjno, objnoVals] at hk; omega
-- C12_invalid_option, both directions
example : ¬ validOpts [.objno 1, .multi 2] ∧ readNL [.objno 1, .multi 2] 3 (encode exObjs) = .error .invalidOption :=
  ⟨fun h => (nomatch (all_optOk _).mpr h), rfl⟩
example : validOpts [.objno 1] ∧ readNL [.objno 1] 3 (encode exObjs) ≠ .error .invalidOption := by
  refine ⟨(all_optOk _).mp rfl, fun h => ?_⟩
  obtain ⟨st, hst⟩ : ∃ st, readNL [.objno 1] 3 (encode exObjs) = .ok st := ⟨_, rfl⟩
  rw [hst] at h; cases h
-- C12_read_error, both directions (an `O` segment with index 3 in a file that declares 3 objectives)
example : readNL [] 3 (encode exObjs ++ [Seg.O 3 false 4]) = .error .readError := rfl
example : readNL [] 3 (encode exObjs) ≠ .error .readError := by
  intro h
  obtain ⟨st, hst⟩ : ∃ st, readNL [] 3 (encode exObjs) = .ok st := ⟨_, rfl⟩
  rw [hst] at h; cases h
-- C12_index_in_range: a kept segment in single mode (k = 2, idx = 1, n = 3) and in multi mode
example : needObj false 2 1 = true ∧ resultingObjIndex false 1 < resultingNObj false 2 3 := by decide
example : needObj true 1 2 = true ∧ resultingObjIndex true 2 < resultingNObj true 1 3 := by decide
-- hypotheses of the generated-tie theorems: the default and a given objective number are in range
example : rawInRange (-1) ∧ rawInRange 5 := by constructor <;> (constructor <;> decide)
end Examples

/-! ## What the solver receives: a finite map, not a list

`delivered` above says *which* objectives reach the solver.  Their linear part reaches it as a sparse vector that solver
APIs apply per variable (`obj[var] := coef`); it denotes the intended objective only if no variable occurs twice.  The
model of `LinTerms::sort_terms` (called at the end of `ProblemFlattener::Convert(MutObjective)`) establishes exactly that. -/

/-- **Well-formedness of the delivered linear part**: after `sort_terms` no variable occurs twice and no coefficient is
    zero - for every term list (any number of repeated variables, zero entries, any order). -/
theorem C12_delivered_terms_are_a_map (l : List (Nat × Int)) :
    (keys (sortTerms l)).Nodup ∧ ∀ t ∈ sortTerms l, t.2 ≠ 0 := by
  have hasc : Asc (accumulate [] l) := accumulate_asc l [] asc_nil
  obtain ⟨hle, heq⟩ := accumulate_length l [] asc_nil
  simp only [sortTerms]
  split
  · constructor
    · have hsub : (keys ((accumulate [] l).filter (fun t => t.2 ≠ 0))).Sublist (keys (accumulate [] l)) :=
        (List.filter_sublist).map _
      exact (List.Pairwise.sublist hsub hasc).imp (fun h => Nat.ne_of_lt h)
    · intro t ht
      have := (List.mem_filter.mp ht).2
      simpa using this
  · rename_i hnl
    have : (accumulate [] l).length = ([] : List (Nat × Int)).length + l.length := by
      simp only [List.length_nil] at hle ⊢; omega
    obtain ⟨h1, h2, _⟩ := heq this
    exact ⟨h2, h1⟩

/-- **The delivered linear part denotes the right function**: the coefficient of every variable is the sum of all its
    entries before merging. -/
theorem C12_delivered_terms_value (l : List (Nat × Int)) (k : Nat) :
    sumCoef (sortTerms l) k = sumCoef l k := by
  simp only [sortTerms]
  split
  · rw [sumCoef_filter_nz, accumulate_sum]; simp [sumCoef]
  · rfl

/-- **Delivered-objective theorem with the well-formedness clause.**  For G terms `g`, expression-derived linear terms `e`
    and the optional constant term `cv`: the vector handed to `Set{Linear,Quadratic}Objective` is a finite map without
    zero entries, and what a solver holds after assigning it per variable is, for every variable, the G coefficient plus
    the expression-derived coefficient plus the constant's term. -/
theorem C12_delivered_lin (g e : List (Nat × Int)) (cv : Option (Nat × Int)) :
    (keys (deliveredLin g e cv)).Nodup ∧ (∀ t ∈ deliveredLin g e cv, t.2 ≠ 0) ∧
    ∀ k, heldCoef (deliveredLin g e cv) k = sumCoef g k + sumCoef e k + sumCoef cv.toList k := by
  obtain ⟨h1, h2⟩ := C12_delivered_terms_are_a_map (g ++ e ++ cv.toList)
  refine ⟨h1, h2, ?_⟩
  intro k
  rw [deliveredLin, heldCoef_eq_sumCoef _ k h1, C12_delivered_terms_value, sumCoef_append, sumCoef_append]

/-- **Main delivery theorem (selection + well-formedness).**  Whenever a run delivers a model, the calls the ModelAPI
    receives are the selected objectives of the file, in order, each passed through `Convert(MutObjective)`; and for each of
    them the linear vector is a finite map (no variable twice, no zero coefficient) whose per-variable value - what a solver
    holds after `obj[var] := coef` - is the file's G coefficient plus what flattening the expression contributes (exact
    arithmetic; `F` abstract). -/
theorem C12_received (F : Flat) (ops : List OptOp) (n : Nat) (segs : List Seg) (st : St)
    (h : readNL ops n segs = .ok st) :
    received F st = (selected ops n segs).map (toSolver F) ∧
    ∀ r ∈ received F st, ∃ o ∈ selected ops n segs, r = toSolver F o ∧
      (keys r.lin).Nodup ∧ (∀ t ∈ r.lin, t.2 ≠ 0) ∧
      ∀ k, heldCoef r.lin k = sumCoef o.lin k + sumCoef (F.lin o.nl) k + sumCoef (F.cv o.nl).toList k := by
  have hsel := C12_select ops n segs st h
  refine ⟨by rw [received, hsel], ?_⟩
  intro r hr
  rw [received, hsel] at hr
  obtain ⟨o, ho, rfl⟩ := List.mem_map.mp hr
  obtain ⟨h1, h2, h3⟩ := C12_delivered_lin o.lin (F.lin o.nl) (F.cv o.nl)
  exact ⟨o, ho, rfl, h1, h2, h3⟩

-- instance: objno=2 of the three example objectives; flattening expression token 2 yields -4*x0 and the constant's variable 7
example : ∃ st, readNL [.objno 2] 3 (encode exObjs) = .ok st ∧
    received ⟨fun t => if t = 2 then [(0, -4)] else [], fun t => if t = 2 then some (7, 1) else none⟩ st =
      [⟨true, 2, [(0, -1), (7, 1)]⟩] := ⟨_, rfl, by decide⟩

-- why the clause matters: the unmerged list for `min 3*x0 + x1 + (x0-2)^2` (G terms 3*x0 + x1, expansion term -4*x0)
-- sums to -1 for x0 but a solver assigning per variable holds -4; after `sortTerms` both agree
example : sumCoef [(0, 3), (1, 1), (0, -4)] 0 = -1 ∧ heldCoef [(0, 3), (1, 1), (0, -4)] 0 = -4 ∧
    deliveredLin [(0, 3), (1, 1)] [(0, -4)] (some (2, 1)) = [(0, -1), (1, 1), (2, 1)] ∧
    heldCoef (deliveredLin [(0, 3), (1, 1)] [(0, -4)] (some (2, 1))) 0 = -1 := by decide
-- no merge needed: the list is handed over as it is (not re-sorted), as the code does
example : sortTerms [(2, 5), (0, 1)] = [(2, 5), (0, 1)] ∧ sortTerms [(2, 5), (0, 0), (2, -5), (1, 1)] = [(1, 1)] := by decide

/-! ### non-vacuity: concrete runs of the model -/

-- three objectives, objno=2: exactly the second one, echo 1
example : (readNL [.objno 2] 3 (encode [⟨false, 1, []⟩, ⟨true, 2, [(0, 3)]⟩, ⟨false, 0, [(1, 1)]⟩])).map
    (fun st => (delivered st, solObjnoLine st)) = .ok ([⟨true, 2, [(0, 3)]⟩], 1) := by rfl
-- multiobj=1: all three in file order
example : (readNL [.multi 1] 3 (encode [⟨false, 1, []⟩, ⟨true, 2, [(0, 3)]⟩, ⟨false, 0, [(1, 1)]⟩])).map
    (fun st => (delivered st, solObjnoLine st)) =
    .ok ([⟨false, 1, []⟩, ⟨true, 2, [(0, 3)]⟩, ⟨false, 0, [(1, 1)]⟩], 0) := by rfl
-- multiobj=1 together with objno=3: the explicit number wins
example : (readNL [.multi 1, .objno 3] 3 (encode [⟨false, 1, []⟩, ⟨true, 2, [(0, 3)]⟩, ⟨false, 0, [(1, 1)]⟩])).map
    (fun st => (delivered st, solObjnoLine st)) = .ok ([⟨false, 0, [(1, 1)]⟩], 2) := by rfl
-- objno=4 of 3: rejected;  objno=0: nothing delivered, echo -1
example : readNL [.objno 4] 3 (encode [⟨false, 1, []⟩, ⟨true, 2, []⟩, ⟨false, 0, []⟩]) = .error .objnoOutOfRange := by rfl
example : (readNL [.objno 0] 1 (encode [⟨true, 1, []⟩])).map (fun st => (delivered st, solObjnoLine st)) = .ok ([], -1) := by rfl
-- the hypotheses of C12_reject / C12_accept are satisfiable
example : validOpts [.multi 1, .objno 3] := (all_optOk _).mp rfl

end MpVerif.C12
