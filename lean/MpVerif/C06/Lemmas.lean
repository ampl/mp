import Mathlib.Tactic.Linarith
import Mathlib.Algebra.Order.Field.Rat
import MpVerif.C06.Sem
import MpVerif.C06.LemmasER
/-! Interval arithmetic over `ER`: the order `ER.lt` against the bound predicates, `min_element`/`max_element`, scaling, sums,
`ProductBounds`; `termStep`, the loop body of `ComputeBoundsAndType` for linear and quadratic terms alike.  The upper-bound facts for scaling
and for corner products are obtained from the lower-bound ones through `ER.neg`; the others are proved side by side.  At the end what the
property theorems need of `listMin`/`listMax`, of filtered lists and of `b2r`/`truthy`. -/
namespace MpVerif.C06
open ER

theorem lbW_of_lbOK {b : ER} {v : Rat} (h : lbOK b v) : lbW b v := Or.inr h
theorem ubW_of_ubOK {b : ER} {v : Rat} (h : ubOK b v) : ubW b v := Or.inr h

theorem ne_nan_of_lbOK {b : ER} {x : Rat} (h : lbOK b x) : b ≠ nan := by rintro rfl; exact h
theorem ne_nan_of_ubOK {b : ER} {x : Rat} (h : ubOK b x) : b ≠ nan := by rintro rfl; exact h

theorem lbOK_mono {b : ER} {x y : Rat} (h : lbOK b x) (hxy : x ≤ y) : lbOK b y := by
  cases b with
  | fin q => exact le_trans h hxy
  | _ => exact h
theorem ubOK_mono {b : ER} {x y : Rat} (h : ubOK b x) (hxy : y ≤ x) : ubOK b y := by
  cases b with
  | fin q => exact le_trans hxy h
  | _ => exact h

theorem neg_eq_nan {a : ER} : neg a = nan ↔ a = nan := by cases a <;> simp [neg]
theorem lbOK_neg {a : ER} {v : Rat} : lbOK (neg a) (-v) ↔ ubOK a v := by cases a <;> simp [neg, lbOK, ubOK]
theorem ubOK_neg {a : ER} {v : Rat} : ubOK (neg a) (-v) ↔ lbOK a v := by cases a <;> simp [neg, lbOK, ubOK]
theorem lbW_neg {a : ER} {v : Rat} : lbW (neg a) (-v) ↔ ubW a v := by rw [lbW, ubW, neg_eq_nan, lbOK_neg]
theorem ubW_neg {a : ER} {v : Rat} : ubW (neg a) (-v) ↔ lbW a v := by rw [lbW, ubW, neg_eq_nan, ubOK_neg]

theorem lbOK_of_lt {a b : ER} {v : Rat} (h : lt b a = true) (ha : lbOK a v) : lbOK b v := by
  cases a <;> cases b <;> simp_all [ER.lt, lbOK]; linarith

theorem lbW_of_not_lt {a b : ER} {v : Rat} (h : ¬ lt b a = true) (hb : lbOK b v) : lbW a v := by
  cases a <;> cases b <;> simp_all [ER.lt, lbOK, lbW]; linarith

theorem ubOK_of_lt {a b : ER} {v : Rat} (h : lt a b = true) (ha : ubOK a v) : ubOK b v := by
  cases a <;> cases b <;> simp_all [ER.lt, ubOK]; linarith

theorem ubW_of_not_lt {a b : ER} {v : Rat} (h : ¬ lt a b = true) (hb : ubOK b v) : ubW a v := by
  cases a <;> cases b <;> simp_all [ER.lt, ubOK, ubW]; linarith

theorem lt_nan_right (b : ER) : lt b nan = false := by cases b <;> rfl
theorem lt_nan_left (b : ER) : lt nan b = false := by cases b <;> rfl

theorem smin_lb_left (a b : ER) (x : Rat) (ha : lbOK a x) : lbOK (smin a b) x := by
  unfold smin; split
  · exact lbOK_of_lt ‹_› ha
  · exact ha
theorem smin_lb_right (a b : ER) (x : Rat) (hb : lbOK b x) (ha : a ≠ nan) : lbOK (smin a b) x := by
  unfold smin; split
  · exact hb
  · exact (lbW_of_not_lt ‹_› hb).resolve_left ha
theorem smax_ub_left (a b : ER) (x : Rat) (ha : ubOK a x) : ubOK (smax a b) x := by
  unfold smax; split
  · exact ubOK_of_lt ‹_› ha
  · exact ha
theorem smax_ub_right (a b : ER) (x : Rat) (hb : ubOK b x) (ha : a ≠ nan) : ubOK (smax a b) x := by
  unfold smax; split
  · exact hb
  · exact (ubW_of_not_lt ‹_› hb).resolve_left ha

theorem smin_lbW {a b : ER} {v : Rat} (h : lbW a v ∨ lbOK b v) : lbW (smin a b) v := by
  rcases h with (rfl | ha) | hb
  · unfold smin; rw [lt_nan_right]; exact Or.inl rfl
  · exact Or.inr (smin_lb_left a b v ha)
  · unfold smin; split
    · exact Or.inr hb
    · exact lbW_of_not_lt ‹_› hb
theorem smax_ubW {a b : ER} {v : Rat} (h : ubW a v ∨ ubOK b v) : ubW (smax a b) v := by
  rcases h with (rfl | ha) | hb
  · unfold smax; rw [lt_nan_left]; exact Or.inl rfl
  · exact Or.inr (smax_ub_left a b v ha)
  · unfold smax; split
    · exact Or.inr hb
    · exact ubW_of_not_lt ‹_› hb

theorem smin_cases (a b : ER) : smin a b = a ∨ smin a b = b := by unfold smin; split <;> simp
theorem smax_cases (a b : ER) : smax a b = a ∨ smax a b = b := by unfold smax; split <;> simp

/-! `minElem a l` is `l.foldl smin a` and `maxElem a l` is `l.foldl smax a`: a step that keeps the bound its first argument has, or takes the
one its second has, makes the fold a bound as soon as the seed or some element is one; a step that returns one of its arguments makes the
fold the seed or an element -/

theorem foldl_bound {op : ER → ER → ER} {W OK : ER → Rat → Prop} {v : Rat} (hop : ∀ {a b}, W a v ∨ OK b v → W (op a b) v) {a : ER}
    {l : List ER} (h : W a v ∨ ∃ c ∈ l, OK c v) : W (l.foldl op a) v := by
  induction l generalizing a with
  | nil => simpa using h
  | cons b l ih =>
    refine ih ?_
    rcases h with ha | ⟨c, hc, hcv⟩
    · exact Or.inl (hop (Or.inl ha))
    · rcases List.mem_cons.mp hc with rfl | hc
      · exact Or.inl (hop (Or.inr hcv))
      · exact Or.inr ⟨c, hc, hcv⟩

theorem foldl_choice {α} {op : α → α → α} (hop : ∀ a b, op a b = a ∨ op a b = b) (a : α) (l : List α) :
    l.foldl op a = a ∨ l.foldl op a ∈ l := by
  induction l generalizing a with
  | nil => exact Or.inl rfl
  | cons b l ih =>
    rcases ih (op a b) with h | h
    · rw [List.foldl_cons, h]; rcases hop a b with h' | h' <;> simp [h']
    · exact Or.inr (List.mem_cons_of_mem _ h)

theorem minElem_cons (a b : ER) (l : List ER) : minElem a (b :: l) = minElem (if lt b a then b else a) l := rfl
theorem maxElem_cons (a b : ER) (l : List ER) : maxElem a (b :: l) = maxElem (if lt a b then b else a) l := rfl

/-- `std::min_element` with IEEE `<` returns a NaN head and skips NaN elements of the tail: hence the weak bound `lbW` (NaN allowed)
for the head and the result, and `lbOK` for an element of the tail. -/
theorem minElem_lbW {a : ER} {l : List ER} {v : Rat} (h : lbW a v ∨ ∃ c ∈ l, lbOK c v) : lbW (minElem a l) v :=
  foldl_bound smin_lbW h
theorem maxElem_ubW {a : ER} {l : List ER} {v : Rat} (h : ubW a v ∨ ∃ c ∈ l, ubOK c v) : ubW (maxElem a l) v :=
  foldl_bound smax_ubW h

theorem minElem_mem (a : ER) (l : List ER) : minElem a l = a ∨ minElem a l ∈ l := foldl_choice smin_cases a l
theorem maxElem_mem (a : ER) (l : List ER) : maxElem a l = a ∨ maxElem a l ∈ l := foldl_choice smax_cases a l

/-- `narrow_result_bounds`, lower side: a NaN candidate compares false and is dropped -/
theorem smax_lb_left (a b : ER) (x : Rat) (ha : lbOK a x) (hb : lbW b x) : lbOK (smax a b) x := by
  unfold smax; split
  · rcases hb with rfl | hb
    · simp [lt_nan_right] at *
    · exact hb
  · exact ha

theorem smin_ub_left (a b : ER) (x : Rat) (ha : ubOK a x) (hb : ubW b x) : ubOK (smin a b) x := by
  unfold smin; split
  · rcases hb with rfl | hb
    · simp [lt_nan_left] at *
    · exact hb
  · exact ha

theorem smin_ne_nan {a b : ER} (ha : a ≠ nan) (hb : b ≠ nan) : smin a b ≠ nan := by
  unfold smin; split <;> assumption
theorem smax_ne_nan {a b : ER} (ha : a ≠ nan) (hb : b ≠ nan) : smax a b ≠ nan := by
  unfold smax; split <;> assumption

theorem fin_of_not_le_lb {l : ER} {c x : Rat} (h : ¬le l (fin c) = true) (hl : lbOK l x) : ∃ a, l = fin a ∧ c < a := by
  cases l with
  | fin a => exact ⟨a, rfl, by simpa [le_fin] using h⟩
  | ninf => simp [le, ER.lt] at h
  | pinf => exact hl.elim
  | nan => exact hl.elim
theorem fin_of_not_le_ub {u : ER} {c x : Rat} (h : ¬le (fin c) u = true) (hu : ubOK u x) : ∃ b, u = fin b ∧ b < c := by
  cases u with
  | fin b => exact ⟨b, rfl, by simpa [le_fin] using h⟩
  | pinf => simp [le, ER.lt] at h
  | ninf => exact hu.elim
  | nan => exact hu.elim

theorem lt_fin_lb {l : ER} {c x : Rat} (h : lt (fin c) l = true) (hl : lbW l x) : c < x := by
  rcases hl with rfl | hl
  · simp [ER.lt] at h
  cases l with
  | fin a => exact lt_of_lt_of_le (of_decide_eq_true h) hl
  | ninf => simp [ER.lt] at h
  | pinf => exact hl.elim
  | nan => exact hl.elim
theorem lt_fin_ub {u : ER} {c x : Rat} (h : lt u (fin c) = true) (hu : ubW u x) : x < c := by
  rcases hu with rfl | hu
  · simp [ER.lt] at h
  cases u with
  | fin b => exact lt_of_le_of_lt hu (of_decide_eq_true h)
  | pinf => simp [ER.lt] at h
  | ninf => exact hu.elim
  | nan => exact hu.elim
theorem le_fin_lb {l : ER} {c x : Rat} (h : le (fin c) l = true) (hl : lbOK l x) : c ≤ x := by
  cases l with
  | fin a => rw [le_fin] at h; exact le_trans (of_decide_eq_true h) hl
  | ninf => simp [le, ER.lt, ER.eq] at h
  | pinf => exact hl.elim
  | nan => exact hl.elim
theorem le_fin_ub {u : ER} {c x : Rat} (h : le u (fin c) = true) (hu : ubOK u x) : x ≤ c := by
  cases u with
  | fin b => rw [le_fin] at h; exact le_trans hu (of_decide_eq_true h)
  | pinf => simp [le, ER.lt, ER.eq] at h
  | ninf => exact hu.elim
  | nan => exact hu.elim
theorem fin_of_not_lt_lb {l : ER} {c x : Rat} (h : ¬lt l (fin c) = true) (hl : lbOK l x) : ∃ a, l = fin a ∧ c ≤ a := by
  cases l with
  | fin a => exact ⟨a, rfl, by simpa [ER.lt] using h⟩
  | ninf => simp [ER.lt] at h
  | pinf => exact hl.elim
  | nan => exact hl.elim
theorem fin_of_not_lt_ub {u : ER} {c x : Rat} (h : ¬lt (fin c) u = true) (hu : ubOK u x) : ∃ b, u = fin b ∧ b ≤ c := by
  cases u with
  | fin b => exact ⟨b, rfl, by simpa [ER.lt] using h⟩
  | pinf => simp [ER.lt] at h
  | ninf => exact hu.elim
  | nan => exact hu.elim
theorem fin_of_lb_gt {b : ER} {x q : Rat} (h : lbOK b x) (hc : lt (fin q) b = true) : ∃ p, b = fin p := by
  cases b with
  | fin p => exact ⟨p, rfl⟩
  | ninf => simp [ER.lt] at hc
  | pinf => simp [lbOK] at h
  | nan => simp [lbOK] at h
theorem fin_of_ub_lt {b : ER} {x q : Rat} (h : ubOK b x) (hc : lt b (fin q) = true) : ∃ p, b = fin p := by
  cases b with
  | fin p => exact ⟨p, rfl⟩
  | pinf => simp [ER.lt] at hc
  | ninf => simp [ubOK] at h
  | nan => simp [ubOK] at h

theorem lt_of_not_le_lb {l : ER} {c x : Rat} (h : ¬le l (fin c) = true) (hl : lbOK l x) : c < x := by
  obtain ⟨a, rfl, ha⟩ := fin_of_not_le_lb h hl; exact lt_of_lt_of_le ha hl
theorem lt_of_not_le_ub {u : ER} {c x : Rat} (h : ¬le (fin c) u = true) (hu : ubOK u x) : x < c := by
  obtain ⟨b, rfl, hb⟩ := fin_of_not_le_ub h hu; exact lt_of_le_of_lt hu hb

theorem eq_fin_iff {a : ER} {c : Rat} : eq a (fin c) = true ↔ a = fin c := by cases a <;> simp [ER.eq]
theorem fin_eq_iff {a : ER} {c : Rat} : eq (fin c) a = true ↔ a = fin c := by cases a <;> simp [ER.eq, eq_comm]

theorem foldl_smin_map {α} (f : α → ER) (l : List α) (a : ER) : l.foldl (fun r v => smin r (f v)) a = minElem a (l.map f) := by
  rw [minElem, List.foldl_map]; rfl
theorem foldl_smax_map {α} (f : α → ER) (l : List α) (a : ER) : l.foldl (fun r v => smax r (f v)) a = maxElem a (l.map f) := by
  rw [maxElem, List.foldl_map]; rfl
theorem foldl_smin_eq_minElem (a : ER) (l : List ER) : l.foldl smin a = minElem a l := rfl
theorem foldl_smax_eq_maxElem (a : ER) (l : List ER) : l.foldl smax a = maxElem a l := rfl

theorem eq_fin_of_eq {a b : ER} {x : Rat} (h : eq a b = true) (hl : lbOK a x) (hu : ubOK b x) : a = fin x ∧ b = fin x := by
  cases a with
  | fin p =>
    cases b with
    | fin q =>
      obtain rfl : p = q := of_decide_eq_true h
      obtain rfl := le_antisymm hl hu
      exact ⟨rfl, rfl⟩
    | pinf => simp [ER.eq] at h
    | ninf => exact hu.elim
    | nan => exact hu.elim
  | ninf => cases b <;> simp [ER.eq, ubOK] at h hu
  | pinf => exact hl.elim
  | nan => exact hl.elim


theorem isInt_of_ratIsInt {q : Rat} (h : ratIsInt q = true) : IsInt q := by
  refine ⟨q.num, ?_⟩
  have hd : q.den = 1 := by simpa [ratIsInt] using h
  exact (Rat.coe_int_num_of_den_eq_one hd).symm

theorem IsInt.add {x y : Rat} (hx : IsInt x) (hy : IsInt y) : IsInt (x + y) := by
  obtain ⟨a, rfl⟩ := hx; obtain ⟨b, rfl⟩ := hy; exact ⟨a + b, by simp⟩
theorem IsInt.mul {x y : Rat} (hx : IsInt x) (hy : IsInt y) : IsInt (x * y) := by
  obtain ⟨a, rfl⟩ := hx; obtain ⟨b, rfl⟩ := hy; exact ⟨a * b, by simp⟩
theorem IsInt.neg {x : Rat} (hx : IsInt x) : IsInt (-x) := by
  obtain ⟨a, rfl⟩ := hx; exact ⟨-a, by simp⟩
theorem IsInt.zero : IsInt 0 := ⟨0, by simp⟩
theorem IsInt.one : IsInt 1 := ⟨1, by simp⟩
theorem IsInt.natCast (n : Nat) : IsInt (n : Rat) := ⟨n, by simp⟩
theorem IsInt.intCast (n : Int) : IsInt (n : Rat) := ⟨n, rfl⟩
theorem IsInt.pow {x : Rat} (hx : IsInt x) (k : Nat) : IsInt (x ^ k) := by
  obtain ⟨z, rfl⟩ := hx; exact ⟨z ^ k, by simp⟩


theorem add_lbW {a b : ER} {x y : Rat} (ha : lbW a x) (hb : lbW b y) : lbW (add a b) (x + y) := by
  cases a <;> cases b <;> simp [lbW, lbOK, add] at *; linarith

theorem add_ubW {a b : ER} {x y : Rat} (ha : ubW a x) (hb : ubW b y) : ubW (add a b) (x + y) := by
  cases a <;> cases b <;> simp [ubW, ubOK, add] at *; linarith

theorem infTimes_of_pos {q : Rat} (s : Bool) (h : 0 < q) : infTimes s q = if s then pinf else ninf := by
  cases s <;> simp [infTimes, h, h.ne']
theorem infTimes_of_neg {q : Rat} (s : Bool) (h : q < 0) : infTimes s q = if s then ninf else pinf := by
  cases s <;> simp [infTimes, h.ne, not_lt.mpr h.le]
theorem infTimes_zero (s : Bool) : infTimes s 0 = nan := by simp [infTimes]

theorem mul_comm_er (a b : ER) : mul a b = mul b a := by
  cases a <;> cases b <;> simp [mul, Rat.mul_comm]

theorem neg_infTimes (s : Bool) (q : Rat) : neg (infTimes s q) = infTimes (!s) q := by
  rcases lt_trichotomy q 0 with h | rfl | h
  · simp only [infTimes_of_neg _ h]; cases s <;> rfl
  · simp only [infTimes_zero]; rfl
  · simp only [infTimes_of_pos _ h]; cases s <;> rfl
theorem infTimes_neg (s : Bool) (q : Rat) : infTimes s (-q) = infTimes (!s) q := by
  rcases lt_trichotomy q 0 with h | rfl | h
  · rw [infTimes_of_pos _ (neg_pos.mpr h), infTimes_of_neg _ h]; cases s <;> rfl
  · simp [infTimes_zero]
  · rw [infTimes_of_neg _ (neg_neg_iff_pos.mpr h), infTimes_of_pos _ h]; cases s <;> rfl
theorem neg_mul_er : ∀ a b : ER, mul (neg a) b = neg (mul a b)
  | ninf, fin q => (neg_infTimes false q).symm
  | pinf, fin q => (neg_infTimes true q).symm
  | fin a, ninf => (infTimes_neg false a).trans (neg_infTimes false a).symm
  | fin a, pinf => (infTimes_neg true a).trans (neg_infTimes true a).symm
  | fin a, fin b => congrArg fin (neg_mul a b)
  | ninf, ninf | ninf, pinf | pinf, ninf | pinf, pinf | nan, _ | ninf, nan | pinf, nan | fin _, nan => rfl


theorem mul_neg_er (a b : ER) : mul a (neg b) = neg (mul a b) := by
  rw [mul_comm_er, neg_mul_er, mul_comm_er]

theorem mul_fin_nan (c : Rat) : mul (fin c) nan = nan := rfl

theorem scaleW_pos_lb (c : Rat) (b : ER) (x : Rat) (hc : 0 ≤ c) (h : lbW b x) : lbW (mul (fin c) b) (c * x) := by
  rcases h with rfl | h
  · exact Or.inl rfl
  cases b with
  | ninf =>
    rcases hc.eq_or_lt with rfl | hc
    · exact Or.inl (infTimes_zero _)
    · simp [mul, infTimes_of_pos _ hc, lbW, lbOK]
  | fin q => exact Or.inr (mul_le_mul_of_nonneg_left h hc)
  | pinf => exact h.elim
  | nan => exact h.elim

theorem scaleW_pos_ub (c : Rat) (b : ER) (x : Rat) (hc : 0 ≤ c) (h : ubW b x) : ubW (mul (fin c) b) (c * x) := by
  have := scaleW_pos_lb c (neg b) (-x) hc (lbW_neg.mpr h)
  rwa [mul_neg_er, mul_neg, lbW_neg] at this

theorem scaleW_neg_lb (c : Rat) (b : ER) (x : Rat) (hc : c ≤ 0) (h : ubW b x) : lbW (mul (fin c) b) (c * x) := by
  have := scaleW_pos_ub (-c) b x (neg_nonneg.mpr hc) h
  rwa [show fin (-c) = neg (fin c) from rfl, neg_mul_er, neg_mul, ubW_neg] at this

theorem scaleW_neg_ub (c : Rat) (b : ER) (x : Rat) (hc : c ≤ 0) (h : lbW b x) : ubW (mul (fin c) b) (c * x) := by
  have := scaleW_pos_lb (-c) b x (neg_nonneg.mpr hc) h
  rwa [show fin (-c) = neg (fin c) from rfl, neg_mul_er, neg_mul, lbW_neg] at this

/-- one pass of the loop of `ComputeBoundsAndType`, for `LinTerms` and `QuadTerms` alike -/
def termStep (r : Pre) (c : Rat) (L U : ER) (i : Bool) : Pre :=
  if 0 ≤ c then { lb := add r.lb (mul (fin c) L), ub := add r.ub (mul (fin c) U), int := r.int && i }
  else { lb := add r.lb (mul (fin c) U), ub := add r.ub (mul (fin c) L), int := r.int && i }

theorem termStep_sound {r : Pre} {c : Rat} {L U : ER} {i : Bool} {x v : Rat} (hr : r.ContainsW x) (hL : lbW L v) (hU : ubW U v)
    (hi : i = true → IsInt (c * v)) : (termStep r c L U i).ContainsW (c * v + x) := by
  obtain ⟨hl, hu, hint⟩ := hr
  have hty : ∀ {a b : ER}, ({ lb := a, ub := b, int := r.int && i } : Pre).int = true → IsInt (x + c * v) := fun h => by
    rw [Bool.and_eq_true] at h; exact (hint h.1).add (hi h.2)
  rw [add_comm, termStep]
  split
  · next hc => exact ⟨add_lbW hl (scaleW_pos_lb _ _ _ hc hL), add_ubW hu (scaleW_pos_ub _ _ _ hc hU), hty⟩
  · next hc =>
    exact ⟨add_lbW hl (scaleW_neg_lb _ _ _ (not_le.mp hc).le hU), add_ubW hu (scaleW_neg_ub _ _ _ (not_le.mp hc).le hL), hty⟩

theorem boundsLin_cons (e : Env) (t : Rat × Nat) (ts : LinT) :
    boundsLin e (t :: ts) = termStep (boundsLin e ts) t.1 (e t.2).lb (e t.2).ub ((e t.2).int && ratIsInt t.1) := by
  simp only [boundsLin, List.foldr_cons, termStep]; split <;> rfl

theorem linVal_cons (val : Val) (t : Rat × Nat) (ts : LinT) : linVal val (t :: ts) = t.1 * val t.2 + linVal val ts := by
  simp [linVal]

/-- `ComputeBoundsAndType(LinTerms)` is sound (NaN = no information) -/
theorem boundsLin_sound (e : Env) (val : Val) (h : Feasible e val) (ts : LinT) :
    (boundsLin e ts).ContainsW (linVal val ts) := by
  induction ts with
  | nil => exact ⟨Or.inr (le_refl _), Or.inr (le_refl _), fun _ => IsInt.zero⟩
  | cons t ts ih =>
    obtain ⟨bl, bu, bi⟩ := h t.2
    rw [boundsLin_cons, linVal_cons]
    exact termStep_sound ih (Or.inr bl) (Or.inr bu) fun hi => by
      rw [Bool.and_eq_true] at hi; exact (isInt_of_ratIsInt hi.2).mul (bi hi.1)

theorem addBounds_sound (a b : Pre) (x y : Rat) (ha : a.ContainsW x) (hb : b.ContainsW y) :
    (addBounds a b).ContainsW (x + y) := by
  obtain ⟨al, au, ai⟩ := ha
  obtain ⟨bl, bu, bi⟩ := hb
  refine ⟨add_lbW al bl, add_ubW au bu, ?_⟩
  intro hint
  simp only [addBounds, Bool.and_eq_true] at hint
  exact IsInt.add (ai hint.1) (bi hint.2)

theorem withConst_sound (r : Pre) (x c0 : Rat) (h : r.ContainsW x) : (withConst r c0).ContainsW (x + c0) :=
  addBounds_sound r ⟨fin c0, fin c0, ratIsInt c0⟩ x c0 h ⟨Or.inr (le_refl c0), Or.inr (le_refl c0), isInt_of_ratIsInt⟩

theorem default_contains (x : Rat) : ({} : Pre).Contains x := ⟨trivial, trivial, fun h => by simp at h⟩

theorem Pre.Contains.narrow {p : Pre} {x : Rat} (h : p.Contains x) {l u : ER} (hl : lbW l x) (hu : ubW u x) :
    (p.narrow l u).Contains x :=
  ⟨smax_lb_left _ _ _ h.1 hl, smin_ub_left _ _ _ h.2.1 hu, h.2.2⟩

theorem Pre.Contains.setType {p : Pre} {x : Rat} (h : p.Contains x) {t : Bool} (hi : t = true → IsInt x) :
    (p.setType t).Contains x :=
  ⟨h.1, h.2.1, hi⟩

theorem fresh_narrow_sound {r : Pre} {x : Rat} (h : r.ContainsW x) :
    (((({} : Pre).narrow r.lb r.ub).setType r.int)).Contains x :=
  ((default_contains x).narrow h.1 h.2.1).setType h.2.2

theorem Pre.Contains.narrow_pair {p : Pre} {x : Rat} (h : p.Contains x) {a b : ER}
    (hab : (lbOK a x ∧ ubOK b x) ∨ (lbOK b x ∧ ubOK a x)) : (p.narrow (smin a b) (smax a b)).Contains x := by
  rcases hab with ⟨ha, hb⟩ | ⟨hb, ha⟩
  · exact h.narrow (Or.inr (smin_lb_left _ _ _ ha)) (Or.inr (smax_ub_right _ _ _ hb (ne_nan_of_lbOK ha)))
  · exact h.narrow (Or.inr (smin_lb_right _ _ _ hb (ne_nan_of_ubOK ha))) (Or.inr (smax_ub_left _ _ _ ha))

theorem const_contains (r : Rat) : (({} : Pre).narrow (fin r) (fin r)).Contains r :=
  (default_contains r).narrow (Or.inr (le_refl r)) (Or.inr (le_refl r))

theorem preBool_contains_b2r (b : Bool) : preBool.Contains (b2r b) := by
  cases b <;>
    exact ((default_contains _).narrow (Or.inr (by simp [lbOK, b2r])) (Or.inr (by simp [ubOK, b2r]))).setType
      fun _ => by simp [b2r, IsInt.zero, IsInt.one]

theorem pre00 : (preBool.narrow (fin 0) (fin 0)).Contains (b2r false) ∧ (preBool.narrow (fin 0) (fin 0)).isConstant = true :=
  ⟨(preBool_contains_b2r false).narrow (Or.inr (le_refl _)) (Or.inr (le_refl _)), by decide +kernel⟩
theorem pre11 : (preBool.narrow (fin 1) (fin 1)).Contains (b2r true) ∧ (preBool.narrow (fin 1) (fin 1)).isConstant = true :=
  ⟨(preBool_contains_b2r true).narrow (Or.inr (le_refl _)) (Or.inr (le_refl _)), by decide +kernel⟩

theorem count_contains {n : Nat} {m : Rat} (h : (n : Rat) ≤ m) : ((({} : Pre).narrow (fin 0) (fin m)).setType true).Contains n :=
  ((default_contains _).narrow (Or.inr (by simp [lbOK])) (Or.inr (show ubOK (fin m) n from h))).setType fun _ => IsInt.natCast _

theorem sq_le_of_bounds {a b x : Rat} (ha : a ≤ x) (hb : x ≤ b) : x * x ≤ a * a ∨ x * x ≤ b * b := by
  rcases le_total 0 x with h | h
  · right; nlinarith [mul_nonneg (sub_nonneg.2 hb) (by linarith : (0 : Rat) ≤ b + x)]
  · left; nlinarith [mul_nonneg (sub_nonneg.2 ha) (by linarith : (0 : Rat) ≤ -(a + x))]
theorem sq_ge_of_neg {b x : Rat} (h0 : b < 0) (hb : x ≤ b) : b * b ≤ x * x :=
  mul_le_mul_of_nonpos_of_nonpos hb hb (hb.trans h0.le) h0.le

/-- One-dimensional step: a lower bound `b·t` of `w` (with `t` real) is carried to one of the ends `b·l`, `b·u` of the range of `t`,
provided `t` is bounded on some side (otherwise `b = 0` makes both ends `0·∞`). -/
theorem mul_end_lb {l u b : ER} {t w : Rat} (hl : lbOK l t) (hu : ubOK u t) (hf : ¬(l = ninf ∧ u = pinf))
    (hw : lbOK (mul b (fin t)) w) : lbOK (mul b l) w ∨ lbOK (mul b u) w := by
  cases b with
  | nan => exact hw.elim
  | ninf =>
    have ht : 0 < t := by
      rcases lt_trichotomy t 0 with h | rfl | h
      · simp [mul, infTimes_of_neg _ h, lbOK] at hw
      · simp [mul, infTimes_zero, lbOK] at hw
      · exact h
    right
    cases u with
    | fin d => simp [mul, infTimes_of_pos _ (lt_of_lt_of_le ht hu), lbOK]
    | pinf => trivial
    | ninf => exact hu.elim
    | nan => exact hu.elim
  | pinf =>
    have ht : t < 0 := by
      rcases lt_trichotomy t 0 with h | rfl | h
      · exact h
      · simp [mul, infTimes_zero, lbOK] at hw
      · simp [mul, infTimes_of_pos _ h, lbOK] at hw
    left
    cases l with
    | fin c => simp [mul, infTimes_of_neg _ (lt_of_le_of_lt hl ht), lbOK]
    | ninf => trivial
    | pinf => exact hl.elim
    | nan => exact hl.elim
  | fin p =>
    have hw' : p * t ≤ w := hw
    rcases lt_trichotomy p 0 with hp | rfl | hp
    · right
      cases u with
      | fin d => exact le_trans (mul_le_mul_of_nonpos_left hu hp.le) hw'
      | pinf => simp [mul, infTimes_of_neg _ hp, lbOK]
      | ninf => exact hu.elim
      | nan => exact hu.elim
    · rw [zero_mul] at hw'
      cases l with
      | fin c => left; simpa [mul, lbOK] using hw'
      | ninf =>
        cases u with
        | fin d => right; simpa [mul, lbOK] using hw'
        | pinf => exact (hf ⟨rfl, rfl⟩).elim
        | ninf => exact hu.elim
        | nan => exact hu.elim
      | pinf => exact hl.elim
      | nan => exact hl.elim
    · left
      cases l with
      | fin c => exact le_trans (mul_le_mul_of_nonneg_left hl hp.le) hw'
      | ninf => simp [mul, infTimes_of_pos _ hp, lbOK]
      | pinf => exact hl.elim
      | nan => exact hl.elim

theorem mul_inf_row (b : ER) (w : Rat) :
    (mul b ninf = nan ∧ mul b pinf = nan) ∨ lbOK (mul b ninf) w ∨ lbOK (mul b pinf) w := by
  cases b with
  | fin p =>
    rcases lt_trichotomy p 0 with hp | rfl | hp
    · simp [mul, infTimes_of_neg _ hp, lbOK]
    · simp [mul, infTimes_zero]
    · simp [mul, infTimes_of_pos _ hp, lbOK]
  | _ => simp [mul, lbOK]

theorem corner_lb {lx ux ly uy : ER} {x y : Rat} (hxl : lbOK lx x) (hxu : ubOK ux x) (hyl : lbOK ly y) (hyu : ubOK uy y) :
    (mul lx ly = nan ∧ mul lx uy = nan ∧ mul ux ly = nan ∧ mul ux uy = nan) ∨
      lbOK (mul lx ly) (x * y) ∨ lbOK (mul lx uy) (x * y) ∨ lbOK (mul ux ly) (x * y) ∨ lbOK (mul ux uy) (x * y) := by
  by_cases hy : ly = ninf ∧ uy = pinf
  · obtain ⟨rfl, rfl⟩ := hy
    rcases mul_inf_row lx (x * y) with ⟨a, b⟩ | h | h
    · rcases mul_inf_row ux (x * y) with ⟨c, d⟩ | h | h
      · exact .inl ⟨a, b, c, d⟩
      · exact .inr (.inr (.inr (.inl h)))
      · exact .inr (.inr (.inr (.inr h)))
    · exact .inr (.inl h)
    · exact .inr (.inr (.inl h))
  by_cases hx : lx = ninf ∧ ux = pinf
  · obtain ⟨rfl, rfl⟩ := hx
    have h1 := mul_inf_row ly (x * y)
    have h2 := mul_inf_row uy (x * y)
    simp only [mul_comm_er ly, mul_comm_er uy] at h1 h2
    rcases h1 with ⟨a, c⟩ | h | h
    · rcases h2 with ⟨b, d⟩ | h | h
      · exact .inl ⟨a, b, c, d⟩
      · exact .inr (.inr (.inl h))
      · exact .inr (.inr (.inr (.inr h)))
    · exact .inr (.inl h)
    · exact .inr (.inr (.inr (.inl h)))
  -- both ranges bounded on some side: move `x` to an end of its range, then `y`
  have h := mul_end_lb (b := fin y) (w := x * y) hxl hxu hx (le_of_eq (mul_comm y x))
  simp only [mul_comm_er (fin y)] at h
  rcases h with h | h
  · rcases mul_end_lb hyl hyu hy h with h | h
    · exact .inr (.inl h)
    · exact .inr (.inr (.inl h))
  · rcases mul_end_lb hyl hyu hy h with h | h
    · exact .inr (.inr (.inr (.inl h)))
    · exact .inr (.inr (.inr (.inr h)))

theorem corner_ub {lx ux ly uy : ER} {x y : Rat} (hxl : lbOK lx x) (hxu : ubOK ux x) (hyl : lbOK ly y) (hyu : ubOK uy y) :
    (mul lx ly = nan ∧ mul lx uy = nan ∧ mul ux ly = nan ∧ mul ux uy = nan) ∨
      ubOK (mul lx ly) (x * y) ∨ ubOK (mul lx uy) (x * y) ∨ ubOK (mul ux ly) (x * y) ∨ ubOK (mul ux uy) (x * y) := by
  -- `-x` lies within `[-ux, -lx]`, and `(-a)·b = -(a·b)` also for infinite `a`, `b`
  have h := corner_lb (x := -x) (lx := neg ux) (ux := neg lx) (lbOK_neg.mpr hxu) (ubOK_neg.mpr hxl) hyl hyu
  simp only [neg_mul_er, neg_eq_nan, neg_mul, lbOK_neg] at h
  rcases h with ⟨c, d, a, b⟩ | h | h | h | h
  · exact .inl ⟨a, b, c, d⟩
  · exact .inr (.inr (.inr (.inl h)))
  · exact .inr (.inr (.inr (.inr h)))
  · exact .inr (.inl h)
  · exact .inr (.inr (.inl h))

/-- corner products of two different variables -/
theorem corners_sound (lx ux ly uy : ER) (x y : Rat) (hxl : lbOK lx x) (hxu : ubOK ux x) (hyl : lbOK ly y) (hyu : ubOK uy y) :
    lbW (minElem (mul lx ly) [mul lx uy, mul ux ly, mul ux uy]) (x * y) ∧
    ubW (maxElem (mul lx ly) [mul lx uy, mul ux ly, mul ux uy]) (x * y) := by
  constructor
  · refine minElem_lbW ?_
    rcases corner_lb hxl hxu hyl hyu with ⟨a, -⟩ | h | h | h | h
    · exact .inl (.inl a)
    · exact .inl (.inr h)
    · exact .inr ⟨_, .head _, h⟩
    · exact .inr ⟨_, .tail _ (.head _), h⟩
    · exact .inr ⟨_, .tail _ (.tail _ (.head _)), h⟩
  · refine maxElem_ubW ?_
    rcases corner_ub hxl hxu hyl hyu with ⟨a, -⟩ | h | h | h | h
    · exact .inl (.inl a)
    · exact .inl (.inr h)
    · exact .inr ⟨_, .head _, h⟩
    · exact .inr ⟨_, .tail _ (.head _), h⟩
    · exact .inr ⟨_, .tail _ (.tail _ (.head _)), h⟩

theorem sq_corner_ub {lx ux : ER} {x : Rat} (hxl : lbOK lx x) (hxu : ubOK ux x) :
    ubOK (mul lx lx) (x * x) ∨ ubOK (mul ux ux) (x * x) := by
  cases lx with
  | ninf => exact Or.inl trivial
  | fin a =>
    cases ux with
    | pinf => exact Or.inr trivial
    | fin b => exact sq_le_of_bounds hxl hxu
    | ninf => exact hxu.elim
    | nan => exact hxu.elim
  | pinf => exact hxl.elim
  | nan => exact hxl.elim

/-- a range that excludes 0 has a finite end next to 0 -/
theorem sq_corner_lb {lx ux : ER} {x : Rat} (hxl : lbOK lx x) (hxu : ubOK ux x)
    (h : ¬(le lx (fin 0) && le (fin 0) ux) = true) : lbOK (mul lx lx) (x * x) ∨ lbOK (mul ux ux) (x * x) := by
  rw [Bool.and_eq_true, not_and_or] at h
  rcases h with h | h
  · obtain ⟨a, rfl, ha⟩ := fin_of_not_le_lb h hxl
    exact Or.inl (mul_self_le_mul_self ha.le hxl)
  · obtain ⟨b, rfl, hb⟩ := fin_of_not_le_ub h hxu
    exact Or.inr (sq_ge_of_neg hb hxu)

/-- the square rule (same variable twice) -/
theorem square_sound (lx ux : ER) (x : Rat) (hxl : lbOK lx x) (hxu : ubOK ux x) :
    lbW (if le lx (fin 0) && le (fin 0) ux then fin 0 else smin (mul lx lx) (mul ux ux)) (x * x) ∧
    ubW (smax (mul lx lx) (mul ux ux)) (x * x) := by
  constructor
  · split
    · exact Or.inr (mul_self_nonneg x)
    · exact smin_lbW ((sq_corner_lb hxl hxu ‹_›).imp_left Or.inr)
  · exact smax_ubW ((sq_corner_ub hxl hxu).imp_left Or.inr)

/-- **`ProductBounds` is sound on every box.** -/
theorem productBounds_sound_all (e : Env) (val : Val) (h : Feasible e val) (x y : Nat) :
    lbW (productBounds e x y).1 (val x * val y) ∧ ubW (productBounds e x y).2 (val x * val y) := by
  obtain ⟨hxl, hxu, _⟩ := h x
  obtain ⟨hyl, hyu, _⟩ := h y
  unfold productBounds
  by_cases hxy : x = y
  · subst hxy
    simp only [ne_eq, not_true_eq_false, if_false]
    exact square_sound _ _ _ hxl hxu
  · simp only [ne_eq, hxy, not_false_eq_true, if_true]
    exact corners_sound _ _ _ _ _ _ hxl hxu hyl hyu

/-- every variable has finite bounds -/
def FinBox (e : Env) : Prop := ∀ v, ∃ p q, (e v).lb = fin p ∧ (e v).ub = fin q

/-- `productBounds_sound_all` read on a finite box; the finiteness `hf` plays no part -/
theorem productBounds_sound (e : Env) (val : Val) (h : Feasible e val) (hf : FinBox e) (x y : Nat) :
    lbW (productBounds e x y).1 (val x * val y) ∧ ubW (productBounds e x y).2 (val x * val y) :=
  productBounds_sound_all e val h x y


theorem boundsQuadT_cons (e : Env) (t : Rat × Nat × Nat) (qs : QuadT) :
    boundsQuadT e (t :: qs) = termStep (boundsQuadT e qs) t.1 (productBounds e t.2.1 t.2.2).1 (productBounds e t.2.1 t.2.2).2
      ((e t.2.1).int && (e t.2.2).int && ratIsInt t.1) := by
  simp only [boundsQuadT, List.foldr_cons, termStep]; split <;> rfl

theorem quadVal_cons (val : Val) (t : Rat × Nat × Nat) (qs : QuadT) :
    quadVal val (t :: qs) = t.1 * (val t.2.1 * val t.2.2) + quadVal val qs := by
  simp [quadVal]

theorem boundsQuadT_sound (e : Env) (val : Val) (h : Feasible e val) (qs : QuadT) :
    (boundsQuadT e qs).ContainsW (quadVal val qs) := by
  induction qs with
  | nil => exact ⟨Or.inr (le_refl _), Or.inr (le_refl _), fun _ => IsInt.zero⟩
  | cons t qs ih =>
    rw [boundsQuadT_cons, quadVal_cons]
    obtain ⟨hl, hu⟩ := productBounds_sound_all e val h t.2.1 t.2.2
    exact termStep_sound ih hl hu fun hi => by
      simp only [Bool.and_eq_true] at hi
      exact (isInt_of_ratIsInt hi.2).mul (((h _).2.2 hi.1.1).mul ((h _).2.2 hi.1.2))

theorem boundsQL_sound (e : Env) (val : Val) (hf : Feasible e val) (ts : LinT) (qs : QuadT) :
    (boundsQL e ts qs).ContainsW (linVal val ts + quadVal val qs) :=
  addBounds_sound _ _ _ _ (boundsLin_sound e val hf ts) (boundsQuadT_sound e val hf qs)

theorem listMin_mem_le : ∀ (l : List Rat), l ≠ [] → listMin l ∈ l ∧ ∀ y ∈ l, listMin l ≤ y
  | [], h => absurd rfl h
  | [a], _ => by simp [listMin]
  | a :: b :: l, _ => by
    obtain ⟨hm, hl⟩ := listMin_mem_le (b :: l) (by simp)
    have hdef : listMin (a :: b :: l) = min a (listMin (b :: l)) := rfl
    rw [hdef]
    constructor
    · rcases min_choice a (listMin (b :: l)) with h | h <;> rw [h]
      · simp
      · exact List.mem_cons_of_mem _ hm
    · intro y hy
      rcases List.mem_cons.mp hy with rfl | hy
      · exact min_le_left _ _
      · exact le_trans (min_le_right _ _) (hl y hy)

theorem listMax_mem_le : ∀ (l : List Rat), l ≠ [] → listMax l ∈ l ∧ ∀ y ∈ l, y ≤ listMax l
  | [], h => absurd rfl h
  | [a], _ => by simp [listMax]
  | a :: b :: l, _ => by
    obtain ⟨hm, hl⟩ := listMax_mem_le (b :: l) (by simp)
    have hdef : listMax (a :: b :: l) = max a (listMax (b :: l)) := rfl
    rw [hdef]
    constructor
    · rcases max_choice a (listMax (b :: l)) with h | h <;> rw [h]
      · simp
      · exact List.mem_cons_of_mem _ hm
    · intro y hy
      rcases List.mem_cons.mp hy with rfl | hy
      · exact le_max_left _ _
      · exact le_trans (hl y hy) (le_max_right _ _)

theorem all_filter_of_imp {α} (l : List α) (p q : α → Bool) (h : ∀ x ∈ l, q x = false → p x = true) :
    l.all p = (l.filter q).all p := by
  rw [Bool.eq_iff_iff, List.all_eq_true, List.all_eq_true]
  refine ⟨fun H x hx => H x (List.mem_filter.mp hx).1, fun H x hx => ?_⟩
  cases hq : q x
  · exact h x hx hq
  · exact H x (List.mem_filter.mpr ⟨hx, hq⟩)

theorem any_filter_of_imp {α} (l : List α) (p q : α → Bool) (h : ∀ x ∈ l, q x = false → p x = false) :
    l.any p = (l.filter q).any p := by
  rw [List.any_eq_not_all_not, List.any_eq_not_all_not,
    all_filter_of_imp l (fun x => !p x) q fun x hx hq => by rw [h x hx hq]; rfl]

theorem filter_length_ne_zero {α} {p : α → Bool} {l : List α} : (l.filter p).length ≠ 0 ↔ ∃ x ∈ l, p x = true := by
  rw [← List.countP_eq_length_filter, ← Nat.pos_iff_ne_zero, List.countP_pos_iff]
theorem length_eq_filter_length {α} {p : α → Bool} {l : List α} : l.length = (l.filter p).length ↔ ∀ x ∈ l, p x = true := by
  rw [eq_comm, List.length_filter_eq_length_iff]

theorem truthy_b2r (b : Bool) : truthy (b2r b) = b := by cases b <;> simp [truthy, b2r]; norm_num
theorem b2r_mono {a b : Bool} (h : a = true → b = true) : b2r a ≤ b2r b := by
  cases a <;> cases b <;> simp_all [b2r]
theorem b2r_all_le {α} {f : α → Bool} {l : List α} {a : α} (ha : a ∈ l) : b2r (l.all f) ≤ b2r (f a) :=
  b2r_mono fun h => List.all_eq_true.mp h a ha
theorem b2r_le_any {α} {f : α → Bool} {l : List α} {a : α} (ha : a ∈ l) : b2r (f a) ≤ b2r (l.any f) :=
  b2r_mono fun h => List.any_eq_true.mpr ⟨a, ha, h⟩
theorem b2r_truthy_of_binary {x : Rat} (h : x = 0 ∨ x = 1) : b2r (truthy x) = x := by
  rcases h with rfl | rfl <;> norm_num [truthy, b2r]
theorem binary_bounds {x : Rat} (h : x = 0 ∨ x = 1) : 0 ≤ x ∧ x ≤ 1 := by
  rcases h with rfl | rfl <;> norm_num

end MpVerif.C06
