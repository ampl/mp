import MpVerif.C06.Model
/-! `ER.le` and `ER.isInteger` on finite values: what the tests of the translated code (`lean/MpVerif/Gen/C06Prepro.lean`) mean there.
Core Lean only (C01's tie to the translated code imports it). -/
namespace MpVerif.C06
open ER

theorem le_fin (p q : Rat) : le (fin p) (fin q) = decide (p ≤ q) := by
  simp only [le, ER.lt, ER.eq]
  by_cases h : p ≤ q <;> simp [h] <;> grind

theorem isInteger_fin (c : Rat) : isInteger (fin c) = ratIsInt c := by
  simp only [isInteger, ER.floor, ER.ceil, ER.eq, Rat.floor, Rat.ceil, ratIsInt]
  by_cases h : c.den = 1
  · simp [h]
  · simp only [h, if_false, decide_false, decide_eq_false_iff_not]
    intro hh
    have := Rat.intCast_inj.mp hh
    omega

end MpVerif.C06
