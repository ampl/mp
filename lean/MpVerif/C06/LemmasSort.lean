import Mathlib.Tactic.Ring
import Mathlib.Tactic.SplitIfs
import MpVerif.C06.Lemmas
/-! `sort_terms` and negation keep the value of a constraint body.  Both loops of `sort_terms` are read through `kvSum`, the value of the
`std::map` accumulator. -/
namespace MpVerif.C06

/-- value of a `std::map<key,double>` accumulator, a key `k` standing for `f k` -/
def kvSum {κ} (f : κ → Rat) (m : List (κ × Rat)) : Rat := (m.map fun kc => kc.2 * f kc.1).sum

theorem kvSum_accInsert (val : Val) (k : Nat) (c : Rat) (m : List (Nat × Rat)) :
    kvSum val (accInsert k c m) = kvSum val m + c * val k := by
  induction m with
  | nil => simp [accInsert, kvSum]
  | cons kc m ih =>
    obtain ⟨k', c'⟩ := kc
    simp only [accInsert]
    split_ifs with h1 h2
    · simp [kvSum]; ring
    · subst h2; simp [kvSum]; ring
    · simp only [kvSum, List.map_cons, List.sum_cons] at ih ⊢; rw [ih]; ring

theorem kvSum_accInsert2 (f : Nat × Nat → Rat) (k : Nat × Nat) (c : Rat) (m : List ((Nat × Nat) × Rat)) :
    kvSum f (accInsert2 k c m) = kvSum f m + c * f k := by
  induction m with
  | nil => simp [accInsert2, kvSum]
  | cons kc m ih =>
    obtain ⟨k', c'⟩ := kc
    simp only [accInsert2]
    split_ifs with h1 h2
    · simp [kvSum]; ring
    · subst h2; simp [kvSum]; ring
    · simp only [kvSum, List.map_cons, List.sum_cons] at ih ⊢; rw [ih]; ring

/-- first loop of `sort_terms`, for any insertion `ins` that adds `c · f k` -/
theorem kvSum_foldl {κ τ} (f : κ → Rat) (ins : κ → Rat → List (κ × Rat) → List (κ × Rat))
    (hins : ∀ k c m, kvSum f (ins k c m) = kvSum f m + c * f k) (key : τ → κ) (coef : τ → Rat) (ts : List τ) (m : List (κ × Rat)) :
    kvSum f (ts.foldl (fun m t => if coef t = 0 then m else ins (key t) (coef t) m) m) =
      kvSum f m + (ts.map fun t => coef t * f (key t)).sum := by
  induction ts generalizing m with
  | nil => simp
  | cons t ts ih =>
    rw [List.foldl_cons, ih, List.map_cons, List.sum_cons]
    by_cases h : coef t = 0
    · simp [h]
    · rw [if_neg h, hins]; ring

/-- second loop of `sort_terms`: entries whose coefficients cancelled are dropped -/
theorem kvSum_filter {κ} (f : κ → Rat) (m : List (κ × Rat)) : kvSum f (m.filter fun kc => kc.2 ≠ 0) = kvSum f m := by
  induction m with
  | nil => rfl
  | cons kc m ih =>
    by_cases h : kc.2 = 0 <;> simp [h, kvSum] at ih ⊢ <;> exact ih

/-- **`LinTerms::sort_terms` preserves the value** of the linear body -/
theorem linVal_sortLin (val : Val) (ts : LinT) : linVal val (sortLin ts) = linVal val ts := by
  unfold sortLin
  simp only []
  split_ifs
  · rw [linVal, List.map_map]
    exact (kvSum_filter val _).trans ((kvSum_foldl val accInsert (kvSum_accInsert val) (·.2) (·.1) ts []).trans (zero_add _))
  · rfl

theorem linVal_negLin (val : Val) (ts : LinT) : linVal val (negLin ts) = - linVal val ts := by
  induction ts with
  | nil => simp [negLin, linVal]
  | cons t ts ih => simp only [negLin, List.map_cons, linVal_cons] at ih ⊢; rw [ih]; ring

theorem accInsert_length (k : Nat) (c : Rat) (m : List (Nat × Rat)) : (accInsert k c m).length ≤ m.length + 1 := by
  induction m with
  | nil => simp [accInsert]
  | cons kc m ih =>
    obtain ⟨k', c'⟩ := kc
    simp only [accInsert]
    split_ifs <;> simp; omega

theorem accInsert_foldl_length (ts : LinT) (m : List (Nat × Rat)) :
    (ts.foldl (fun m t => if t.1 = 0 then m else accInsert t.2 t.1 m) m).length ≤ m.length + (ts.filter (fun t => t.1 ≠ 0)).length := by
  induction ts generalizing m with
  | nil => simp
  | cons t ts ih =>
    simp only [List.foldl_cons]
    refine le_trans (ih _) ?_
    by_cases h : t.1 = 0
    · simp [h]
    · have := accInsert_length t.2 t.1 m
      simp [h]; omega

theorem sortLin_nonzero (ts : LinT) : ∀ t ∈ sortLin ts, t.1 ≠ 0 := by
  unfold sortLin
  simp only []
  split_ifs with h
  · intro t ht
    simp only [List.mem_map, List.mem_filter] at ht
    obtain ⟨kc, ⟨_, hk⟩, rfl⟩ := ht
    simpa using hk
  · intro t ht h0
    apply h
    have h1 := accInsert_foldl_length ts []
    have h2 : (ts.filter (fun t => t.1 ≠ 0)).length < ts.length := by
      apply List.length_filter_lt_length_iff_exists.mpr
      exact ⟨t, ht, by simp [h0]⟩
    simp only [List.length_nil, Nat.zero_add] at h1
    omega

/-- **`QuadTerms::sort_terms` preserves the value** (pairs ordered, equal pairs merged, zero terms dropped) -/
theorem quadVal_sortQuad (val : Val) (qs : QuadT) : quadVal val (sortQuad qs) = quadVal val qs := by
  rw [sortQuad, quadVal, List.map_map]
  refine (kvSum_filter (fun k => val k.1 * val k.2) _).trans ((kvSum_foldl _ accInsert2 (kvSum_accInsert2 _) _ (·.1) qs []).trans
    ((zero_add _).trans (congrArg List.sum (List.map_congr_left fun t _ => ?_))))
  -- the pair is stored ordered; the product does not depend on the order
  split <;> ring

theorem quadVal_negQuad (val : Val) (qs : QuadT) : quadVal val (negQuad qs) = - quadVal val qs := by
  induction qs with
  | nil => simp [negQuad, quadVal]
  | cons t qs ih => simp only [negQuad, List.map_cons, quadVal_cons] at ih ⊢; rw [ih]; ring

end MpVerif.C06
