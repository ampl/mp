import Mathlib.Analysis.Real.Pi.Bounds
import MpVerif.C06.Model
/-! Over ℝ: where the literal `Pi()` lies relative to π, and the range of `tanh` (the other ranges `PreprocessConstraint` uses are
single Mathlib lemmas).  Proof-only. -/
namespace MpVerif.C06
open Real

theorem piLit_pos : (0 : ℝ) < ((piLit : ℚ) : ℝ) := by unfold piLit; push_cast; norm_num

theorem piLit_lt_pi : ((piLit : ℚ) : ℝ) < π := by
  have h : ((piLit : ℚ) : ℝ) < 3.14159265358979323846 := by
    unfold piLit; push_cast; norm_num
  exact lt_trans h Real.pi_gt_d20

/-- `Pi()` is the double nearest to π: doubles in `[2,4)` are spaced `2⁻⁵¹` apart and `0 < π − Pi() < 2⁻⁵²` -/
theorem piLit_nearest : 0 < π - ((piLit : ℚ) : ℝ) ∧ π - ((piLit : ℚ) : ℝ) < 1 / 2 ^ 52 := by
  refine ⟨by linarith [piLit_lt_pi], ?_⟩
  have h : (3.14159265358979323847 : ℝ) - ((piLit : ℚ) : ℝ) < 1 / 2 ^ 52 := by
    unfold piLit; push_cast; norm_num
  linarith [Real.pi_lt_d20]

theorem tanh_range (x : ℝ) : -1 ≤ tanh x ∧ tanh x ≤ 1 := by
  have hc : 0 < cosh x := cosh_pos x
  have h1 : sinh x < cosh x := sinh_lt_cosh x
  have h2 : -cosh x < sinh x := by
    have := sinh_lt_cosh (-x); rw [sinh_neg, cosh_neg] at this; linarith
  rw [tanh_eq_sinh_div_cosh]
  constructor
  · rw [le_div_iff₀ hc]; linarith
  · rw [div_le_iff₀ hc]; linarith

end MpVerif.C06
