import MpVerif.C06.Lemmas
/-! The converter state: what `finish`, `makeFixedVar` and `assignBase` do to it, written with `State.pushDef`, `State.pushFixed`, `State.nested`, and the
two invariants kept along conversions: `BoundsSound` (no value is cut off) and `FixedInv` (the fixed-variable map is consistent).  Nothing here depends
on what `PreprocessConstraint` infers for a particular kind of constraint. -/
namespace MpVerif.C06
open ER

variable (tr : UnFn → Rat → Rat) (trp : UnPFn → Rat → Rat → Rat)

theorem getD_push_lt {α} {a : Array α} {b d : α} {i : Nat} (h : i < a.size) : (a.push b).getD i d = a.getD i d := by
  simp [Array.getD, h, Nat.lt_succ_of_lt h, Array.getElem_push_lt]
theorem getD_push_eq {α} (a : Array α) (b d : α) : (a.push b).getD a.size d = b := by
  simp [Array.getD]
theorem getD_ge {α} {a : Array α} {d : α} {i : Nat} (h : a.size ≤ i) : a.getD i d = d := by
  simp [Array.getD, Nat.not_lt.mpr h]

/-- the state after `AddVar` + `AddConstraint` of `finish` -/
def State.pushDef (s : State) (b : VarB) (con : Con) : State :=
  { s with vars := s.vars.push b, defs := (s.defs.push none).setIfInBounds s.vars.size (some con) }

/-- under `WF` the `AddConstraint` of `finish` fills the slot that `AddVar` has just appended -/
theorem pushDef_defs (s : State) (b : VarB) (con : Con) (hwf : s.WF) : (s.pushDef b con).defs = s.defs.push (some con) := by
  simp only [State.pushDef, ← show s.defs.size = s.vars.size from hwf]
  rw [← Array.toList_inj]; simp

theorem finish_eq (s : State) (pre : Pre) (con : Con) :
    s.finish pre con =
      if pre.isConstant then (s, .const pre.lb)
      else match s.mapFind con with
        | some v => (s, .var v)
        | none => (s.pushDef { lb := pre.lb, ub := pre.ub, int := pre.int } con, .var s.vars.size) := by
  unfold State.finish
  by_cases hc : pre.isConstant = true
  · simp [hc]
  · have hne : eq pre.lb pre.ub = false := by simpa [Pre.isConstant] using hc
    simp only [hc, State.addVar, hne, State.addVarRaw, State.pushDef]
    cases s.mapFind con <;> rfl

theorem finish_const_state (s : State) (pre : Pre) (K : Con) (k : ER) (h : (s.finish pre K).2 = .const k) :
    (s.finish pre K).1 = s := by
  rw [finish_eq] at h ⊢
  by_cases hc : pre.isConstant = true
  · simp [hc]
  · simp only [hc] at h ⊢
    cases hm : s.mapFind K <;> simp [hm] at h

/-- the state after `MakeFixedVar` has created a new variable fixed at `k` -/
def State.pushFixed (s : State) (k : ER) : State :=
  { s with vars := s.vars.push { lb := k, ub := k, int := false }, defs := s.defs.push none, fixed := (k, s.vars.size) :: s.fixed }

theorem makeFixed_eq (s : State) (k : ER) :
    s.makeFixedVar k = match s.fixed.find? (fun kv => eq kv.1 k) with
      | some kv => (s, kv.2)
      | none => (s.pushFixed k, s.vars.size) := by
  unfold State.makeFixedVar State.pushFixed
  cases s.fixed.find? (fun kv => eq kv.1 k) <;> rfl

def freeBox : VarB := { lb := ninf, ub := pinf, int := false }
theorem inBox_free (x : Rat) : InBox freeBox x := ⟨trivial, trivial, fun h => by simp [freeBox] at h⟩

/-- **no value is cut off** (state invariant): whenever the variables WITHOUT a defining constraint (original variables,
fixed constants) take values in their boxes and every defined variable equals the value of its defining constraint, every
defined variable lies in the bounds and type the converter recorded for it. -/
def BoundsSound (tr : UnFn → Rat → Rat) (trp : UnPFn → Rat → Rat → Rat) (s : State) : Prop :=
  ∀ val, (∀ i, i < s.vars.size → s.defs.getD i none = none → InBox (s.env i) (val i)) → DefsHold tr trp s val →
    ∀ i, i < s.vars.size → InBox (s.env i) (val i)

theorem env_ge {s : State} {i : Nat} (h : s.vars.size ≤ i) : s.env i = freeBox := getD_ge h

theorem feasible_of_inbox (s : State) (val : Val) (h : ∀ i, i < s.vars.size → InBox (s.env i) (val i)) : Feasible s.env val := by
  intro v
  by_cases hv : v < s.vars.size
  · exact h v hv
  · rw [env_ge (Nat.le_of_not_lt hv)]; exact inBox_free _

/-! `pushDef` and `pushFixed` both append one variable and one slot for its definition: what the invariants need of that is proved about
any `s'` with `s'.vars = s.vars.push b` and `s'.defs = s.defs.push d` -/

theorem env_push_lt {s s' : State} {b : VarB} (hv : s'.vars = s.vars.push b) {i : Nat} (h : i < s.vars.size) : s'.env i = s.env i := by
  simp only [State.env, hv]; exact getD_push_lt h
theorem env_push_eq {s s' : State} {b : VarB} (hv : s'.vars = s.vars.push b) : s'.env s.vars.size = b := by
  simp only [State.env, hv]; exact getD_push_eq _ _ _

theorem BoundsSound.push {s s' : State} {b : VarB} {d : Option Con} (hwf : s.WF) (hb : BoundsSound tr trp s)
    (hv : s'.vars = s.vars.push b) (hd : s'.defs = s.defs.push d)
    (hnew : ∀ con, d = some con → ∀ val, Feasible s.env val → DefsHold tr trp s val → InBox b (con.eval tr trp val)) :
    BoundsSound tr trp s' ∧ s'.WF := by
  refine ⟨fun val hfree hdefs i hi => ?_, by rw [State.WF, hd, hv, Array.size_push, Array.size_push, hwf]⟩
  have hsz : s'.vars.size = s.vars.size + 1 := by rw [hv, Array.size_push]
  have hdl : ∀ j, j < s.vars.size → s'.defs.getD j none = s.defs.getD j none := fun j hj => by
    rw [hd]; exact getD_push_lt (by rw [hwf]; exact hj)
  have hdn : s'.defs.getD s.vars.size none = d := by rw [hd, ← hwf]; exact getD_push_eq _ _ _
  -- the definitions of `s` hold, since `s'` has them all; so the invariant of `s` gives the old variables
  have hd0 : DefsHold tr trp s val := fun j c hj => by
    by_cases hjs : j < s.vars.size
    · exact hdefs j c (by rw [hdl j hjs]; exact hj)
    · rw [getD_ge (by rw [hwf]; exact Nat.le_of_not_lt hjs)] at hj; cases hj
  have hold : ∀ j, j < s.vars.size → InBox (s.env j) (val j) := hb val (fun j hj hnone => by
    have := hfree j (by omega) (by rw [hdl j hj]; exact hnone)
    rwa [env_push_lt hv hj] at this) hd0
  by_cases his : i < s.vars.size
  · rw [env_push_lt hv his]; exact hold i his
  · obtain rfl : i = s.vars.size := by omega
    rw [env_push_eq hv]
    cases d with
    | none => have := hfree _ hi hdn; rwa [env_push_eq hv] at this
    | some con => rw [hdefs _ con hdn]; exact hnew con rfl val (feasible_of_inbox s val hold) hd0

/-- `finish` keeps the invariant, given that the inferred `pre` contains the value of the stored constraint at every valuation
that is feasible for the current state and satisfies its definitions -/
theorem finish_bounds (s : State) (pre : Pre) (con : Con) (hwf : s.WF) (hb : BoundsSound tr trp s)
    (hpre : ∀ val, Feasible s.env val → DefsHold tr trp s val → pre.Contains (con.eval tr trp val)) :
    BoundsSound tr trp (s.finish pre con).1 ∧ (s.finish pre con).1.WF ∧ (s.finish pre con).1.opts = s.opts := by
  rw [finish_eq]
  split
  · exact ⟨hb, hwf, rfl⟩
  · cases s.mapFind con with
    | some v => exact ⟨hb, hwf, rfl⟩
    | none =>
      exact And.imp_right (⟨·, rfl⟩) (BoundsSound.push tr trp hwf hb rfl (pushDef_defs s _ con hwf) fun c h => by cases h; exact hpre)

/-- `MakeFixedVar` keeps the invariant (the new variable has no definition: its box is part of the hypothesis) -/
theorem makeFixed_bounds (s : State) (k : ER) (hwf : s.WF) (hb : BoundsSound tr trp s) :
    BoundsSound tr trp (s.makeFixedVar k).1 ∧ (s.makeFixedVar k).1.WF ∧ (s.makeFixedVar k).1.opts = s.opts := by
  rw [makeFixed_eq]
  cases s.fixed.find? (fun kv => eq kv.1 k) with
  | some kv => exact ⟨hb, hwf, rfl⟩
  | none =>
    exact And.imp_right (⟨·, rfl⟩) (BoundsSound.push tr trp hwf hb rfl rfl fun c h => by cases h)

theorem resultVar_bounds (s : State) (r : Res) (hwf : s.WF) (hb : BoundsSound tr trp s) :
    BoundsSound tr trp (State.resultVar (s, r)).1 ∧ (State.resultVar (s, r)).1.WF ∧ (State.resultVar (s, r)).1.opts = s.opts := by
  cases r with
  | const k => simp only [State.resultVar]; exact makeFixed_bounds tr trp s k hwf hb
  | var v => exact ⟨hb, hwf, rfl⟩
  | throw w => exact ⟨hb, hwf, rfl⟩
  | unsupported => exact ⟨hb, hwf, rfl⟩

/-- invariant of `map_fixed_vars_`: every entry names an existing variable whose bounds are both the key -/
def FixedInv (s : State) : Prop :=
  ∀ kv ∈ s.fixed, kv.2 < s.vars.size ∧ (s.env kv.2).lb = kv.1 ∧ (s.env kv.2).ub = kv.1

theorem fixedOK_of_inv (s : State) (h : FixedInv s) : FixedOK s := fun kv hk => (h kv hk).2

theorem FixedInv.push {s s' : State} {b : VarB} (h : FixedInv s) (hv : s'.vars = s.vars.push b)
    (hfx : ∀ kv ∈ s'.fixed, kv ∈ s.fixed ∨ (kv.2 = s.vars.size ∧ b.lb = kv.1 ∧ b.ub = kv.1)) : FixedInv s' := by
  intro kv hk
  rw [hv, Array.size_push]
  rcases hfx kv hk with hk | ⟨h1, h2⟩
  · obtain ⟨h1, h2⟩ := h kv hk
    exact ⟨by omega, by rwa [env_push_lt hv h1]⟩
  · exact ⟨by omega, by rwa [h1, env_push_eq hv]⟩

theorem finish_fixedInv (s : State) (pre : Pre) (con : Con) (h : FixedInv s) : FixedInv (s.finish pre con).1 := by
  rw [finish_eq]
  split
  · exact h
  · cases s.mapFind con with
    | some v => exact h
    | none => exact h.push rfl fun kv hk => Or.inl hk

theorem makeFixed_fixedInv (s : State) (k : ER) (h : FixedInv s) : FixedInv (s.makeFixedVar k).1 := by
  rw [makeFixed_eq]
  cases s.fixed.find? (fun kv => eq kv.1 k) with
  | some kv => exact h
  | none => exact h.push rfl fun kv hk => (List.mem_cons.mp hk).symm.imp_right fun (h : kv = (k, s.vars.size)) => h ▸ ⟨rfl, rfl, rfl⟩

theorem resultVar_fixedInv (s : State) (r : Res) (h : FixedInv s) : FixedInv (State.resultVar (s, r)).1 := by
  cases r with
  | const k => simp only [State.resultVar]; exact makeFixed_fixedInv s k h
  | var v => exact h
  | throw w => exact h
  | unsupported => exact h

/-- `IntegrateNested`: replacing an argument that is the result of an `and` (resp. `or`) by that constraint's arguments does not
change the value, in every valuation satisfying the definitions -/
theorem nest_and (s : State) (val : Val) (hd : DefsHold tr trp s val) (as : List Nat) :
    Con.eval tr trp val (.and (s.integrateNested true as)) = Con.eval tr trp val (.and as) := by
  simp only [Con.eval, State.integrateNested, List.all_flatMap]
  congr 1
  apply List.all_congr rfl
  intro v
  have hdv' : ∀ d, s.defs.getD v none = some d → val v = d.eval tr trp val := fun d h => hd v d h
  generalize s.defs.getD v none = o at hdv' ⊢
  cases o with
  | none => simp
  | some d =>
    have hv := hdv' d rfl
    cases d <;> simp
    all_goals (rw [hv]; simp only [Con.eval, truthy_b2r])

theorem nest_or (s : State) (val : Val) (hd : DefsHold tr trp s val) (as : List Nat) :
    Con.eval tr trp val (.or (s.integrateNested false as)) = Con.eval tr trp val (.or as) := by
  simp only [Con.eval, State.integrateNested, List.any_flatMap]
  congr 1
  apply List.any_congr rfl
  intro v
  have hdv' : ∀ d, s.defs.getD v none = some d → val v = d.eval tr trp val := fun d h => hd v d h
  generalize s.defs.getD v none = o at hdv' ⊢
  cases o with
  | none => simp
  | some d =>
    have hv := hdv' d rfl
    cases d <;> simp
    all_goals (rw [hv]; simp only [Con.eval, truthy_b2r])

/-- the constraint actually stored by `assignBase` for a `keep` decision -/
def State.nested (s : State) (pre : Pre) (con' : Con) : Con :=
  match con' with
  | .and as => if pre.isConstant || !s.opts.unnest then con' else Con.and (s.integrateNested true as)
  | .or as => if pre.isConstant || !s.opts.unnest then con' else Con.or (s.integrateNested false as)
  | _ => con'

theorem nested_eval (s : State) (pre : Pre) (con' : Con) (val : Val) (hd : DefsHold tr trp s val) :
    Con.eval tr trp val (s.nested pre con') = Con.eval tr trp val con' := by
  cases con' <;> simp only [State.nested]
  next as => split <;> [rfl; exact nest_and tr trp s val hd as]
  next as => split <;> [rfl; exact nest_or tr trp s val hd as]

theorem assignBase_eq (s : State) (c : Con) :
    s.assignBase c = match preproO s.opts s.env c with
      | .keep pre c' => s.finish pre (s.nested pre c')
      | .alias v => (s, .var v)
      | _ => (s, .unsupported) := by
  unfold State.assignBase
  cases preproO s.opts s.env c with
  | keep pre c' => cases c' <;> rfl
  | _ => rfl

end MpVerif.C06
