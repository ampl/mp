import MpVerif.C06.Model
/-!
# C06: semantics of the flat functional constraints over `Rat`, and the soundness predicates

`Con.eval` follows `include/mp/flat/constr_eval.h` (logical arguments are thresholded at 1/2).  Transcendental
functions are interpreted through a parameter `tr` (the theorems about algebraic constraints hold for every `tr`;
the ranges of the real functions are proved over ℝ in `C06_transcendental_ranges` and `C06_pi_rounded_ranges` of `Props.lean`, over `LemmasReal.lean`).  Core Lean only.
-/
namespace MpVerif.C06
open ER

abbrev Val := Nat → Rat

def linVal (val : Val) (ts : LinT) : Rat := (ts.map fun t => t.1 * val t.2).sum
def quadVal (val : Val) (qs : QuadT) : Rat := (qs.map fun t => t.1 * (val t.2.1 * val t.2.2)).sum

def truthy (x : Rat) : Bool := decide ((1 : Rat) / 2 ≤ x)

def listMin : List Rat → Rat
  | [] => 0
  | [a] => a
  | a :: l => Min.min a (listMin l)
def listMax : List Rat → Rat
  | [] => 0
  | [a] => a
  | a :: l => Max.max a (listMax l)

/-- value of a functional constraint at a valuation -/
def Con.eval (tr : UnFn → Rat → Rat) (trp : UnPFn → Rat → Rat → Rat) (val : Val) : Con → Rat
  | .lin c0 ts => c0 + linVal val ts
  | .quad c0 ts qs => c0 + (linVal val ts + quadVal val qs)
  | .pow a p => if p.den = 1 then val a ^ p.num else 0     -- integer exponents only (see `LemmasReal` for the rest)
  | .min as => listMin (as.map val)
  | .max as => listMax (as.map val)
  | .and as => b2r (as.all fun v => truthy (val v))
  | .or as => b2r (as.any fun v => truthy (val v))
  | .alldiff as => b2r ((as.map val).Nodup)
  | .count as => ((as.filter fun v => truthy (val v)).length : Nat)
  | .nvar as => match as with
      | [] => 0
      | r :: l => ((l.filter fun v => val v = val r).length : Nat)
  | .nconst k as => ((as.filter fun v => val v = k).length : Nat)
  | .abs a => if 0 ≤ val a then val a else - val a
  | .not a => b2r (!truthy (val a))
  | .div a b => val a / val b
  | .ifthen c t f => if truthy (val c) then val t else val f
  | .impl c t f => b2r ((truthy (val c) && truthy (val t)) || (!truthy (val c) && truthy (val f)))
  | .clin kind rhs ts => b2r (cmpKind kind (linVal val ts) rhs)
  | .cquad kind rhs ts qs => b2r (cmpKind kind (linVal val ts + quadVal val qs) rhs)
  | .un f a => tr f (val a)
  | .unp f a p => trp f p (val a)

/-- a (final) lower bound holds -/
def lbOK : ER → Rat → Prop
  | ninf, _ => True
  | fin q, v => q ≤ v
  | pinf, _ => False
  | nan, _ => False
def ubOK : ER → Rat → Prop
  | pinf, _ => True
  | fin q, v => v ≤ q
  | ninf, _ => False
  | nan, _ => False
/-- an intermediate lower bound: NaN carries no information (it is dropped by `narrow_result_bounds`) -/
def lbW (b : ER) (v : Rat) : Prop := b = nan ∨ lbOK b v
def ubW (b : ER) (v : Rat) : Prop := b = nan ∨ ubOK b v

def IsInt (x : Rat) : Prop := ∃ z : Int, x = (z : Rat)

/-- the value lies in the domain of a variable -/
def InBox (b : VarB) (x : Rat) : Prop := lbOK b.lb x ∧ ubOK b.ub x ∧ (b.int = true → IsInt x)

/-- every variable takes a value of its domain -/
def Feasible (e : Env) (val : Val) : Prop := ∀ v, InBox (e v) (val v)

/-- the inferred bounds and type contain the value -/
def Pre.Contains (p : Pre) (x : Rat) : Prop := lbOK p.lb x ∧ ubOK p.ub x ∧ (p.int = true → IsInt x)

/-- intermediate (`ComputeBoundsAndType`) result, NaN-tolerant -/
def Pre.ContainsW (p : Pre) (x : Rat) : Prop := lbW p.lb x ∧ ubW p.ub x ∧ (p.int = true → IsInt x)


/-! ### converter-state predicates -/

/-- every defined variable equals the value of its defining constraint -/
def DefsHold (tr : UnFn → Rat → Rat) (trp : UnPFn → Rat → Rat → Rat) (s : State) (val : Val) : Prop :=
  ∀ i c, s.defs.getD i none = some c → val i = c.eval tr trp val

/-- `map_fixed_vars_` only holds variables fixed at their key -/
def FixedOK (s : State) : Prop := ∀ kv ∈ s.fixed, (s.env kv.2).lb = kv.1 ∧ (s.env kv.2).ub = kv.1

/-- one init-expression slot per variable -/
def State.WF (s : State) : Prop := s.defs.size = s.vars.size

end MpVerif.C06
