import MpVerif.C06.LemmasState
import MpVerif.C06.LemmasSort
import MpVerif.C06.LemmasReal
import MpVerif.Gen.C06Prepro
import Mathlib.Data.Rat.Floor
import Mathlib.Analysis.SpecialFunctions.Trigonometric.Arctan
import Mathlib.Analysis.SpecialFunctions.Trigonometric.Inverse
import Mathlib.Analysis.SpecialFunctions.Trigonometric.DerivHyp
import Mathlib.Algebra.Order.Ring.Pow
/-!
# C06 — property theorems

Property: whenever the converter introduces a variable for the value of an expression, the bounds it assigns contain
every value of the expression over the argument domains, INTEGER is declared only for integer-valued expressions,
and a constant / an existing variable replaces the expression only if it equals it on the whole domain.

All theorems are about the model in `Model.lean` (which is compared with the real code on every run) and are
quantified over **all** environments (`e : Env`, arbitrary bounds in −∞ | ℚ | +∞ | NaN and types), all valuations in
the boxes, all coefficient lists / parameters.  `tr`/`trp` interpret the transcendental functions; they are arbitrary in the
per-kind theorems and subject to `TrRange` in `decision_sound`, `C06_cond` and the assign-level and history theorems.
-/
namespace MpVerif.C06
open ER

variable (tr : UnFn → Rat → Rat) (trp : UnPFn → Rat → Rat → Rat)

/-- **Constant replacement** (`BasicFCC::Convert`: `if (ResultIsConstant()) return MakeConst(lb())`): whenever the
inferred bounds are sound and `lb == ub`, the expression equals that constant. -/
theorem C06_constant_sound (p : Pre) (x : Rat) (h : p.Contains x) (hc : p.isConstant = true) : p.lb = fin x :=
  (eq_fin_of_eq hc h.1 h.2.1).1

/-- **Linear expressions** (`PreprocessConstraint(LinearFunctionalConstraint&)` over `ComputeBoundsAndType`):
bounds and type are sound for every box and every coefficient list (zero coefficients, infinite bounds, NaN from
`0·∞` included). -/
theorem C06_lin (e : Env) (val : Val) (h : Feasible e val) (c0 : Rat) (ts : LinT) :
    ∃ pre, prepro e (.lin c0 ts) = .keep pre (.lin c0 ts) ∧ pre.Contains (Con.eval tr trp val (.lin c0 ts)) := by
  refine ⟨_, rfl, ?_⟩
  have := fresh_narrow_sound (withConst_sound _ _ c0 (boundsLin_sound e val h ts))
  simpa [Con.eval, add_comm] using this


/-- **Quadratic expressions** (`ComputeBoundsAndType(QuadAndLinTerms)`, `ProductBounds` incl. the `x = y` square rule,
`AddBoundsAndType`): bounds and INTEGER type are sound for EVERY box — finite, half-infinite and infinite bounds (the corner
products `0·∞ = NaN` are skipped by `min_element`/`max_element` or make the whole bound NaN, which `narrow_result_bounds` drops) —
every coefficient list and every mix of types. -/
theorem C06_quad (e : Env) (val : Val) (h : Feasible e val) (c0 : Rat) (ts : LinT) (qs : QuadT) :
    ∃ pre, prepro e (.quad c0 ts qs) = .keep pre (.quad c0 ts qs) ∧
      pre.Contains (Con.eval tr trp val (.quad c0 ts qs)) := by
  refine ⟨_, rfl, ?_⟩
  have := fresh_narrow_sound (withConst_sound _ _ c0 (boundsQL_sound e val h ts qs))
  simpa [Con.eval, add_comm] using this

/-- **`ProductBounds`** on every box: corner products for `x ≠ y` (finite or infinite bounds, NaN corners
included), `[0 or min(lb²,ub²), max(lb²,ub²)]` for `x = y`. -/
theorem C06_product_bounds (e : Env) (val : Val) (h : Feasible e val) (x y : Nat) :
    lbW (productBounds e x y).1 (val x * val y) ∧ ubW (productBounds e x y).2 (val x * val y) :=
  productBounds_sound_all e val h x y

/-- **abs, preprocessing level**: the alias `|x| = x` is taken only if `x ≥ 0` on the whole box, the redirection to
`−x` only if `x ≤ 0` on the whole box, and otherwise `[0, max(−lb, ub)]` with the argument's type is sound. -/
theorem C06_abs (e : Env) (val : Val) (h : Feasible e val) (a : Nat) :
    match preproAbs e a with
    | .alias v => val v = Con.eval tr trp val (.abs a)
    | .redirect c => c = .lin 0 [(-1, a)] ∧ Con.eval tr trp val c = Con.eval tr trp val (.abs a)
    | .keep pre c => c = .abs a ∧ pre.Contains (Con.eval tr trp val (.abs a))
    | _ => False := by
  obtain ⟨hl, hu, hi⟩ := h a
  unfold preproAbs
  by_cases h1 : le (fin 0) (e a).lb = true
  · simp only [h1, if_true]
    have : 0 ≤ val a := le_fin_lb h1 hl
    simp [Con.eval, this]
  · simp only [h1]
    by_cases h2 : le (e a).ub (fin 0) = true
    · simp only [h2, if_true]
      have hx : val a ≤ 0 := le_fin_ub h2 hu
      refine ⟨rfl, ?_⟩
      by_cases h0 : 0 ≤ val a
      · have : val a = 0 := le_antisymm hx h0
        simp [Con.eval, linVal, this]
      · simp [Con.eval, linVal, h0]
    · simp only [h2]
      refine ⟨rfl, ((default_contains _).narrow (Or.inr ?_) (smax_ubW ?_)).setType fun hint => ?_⟩
      · simp only [Con.eval, lbOK]; split <;> linarith
      · simp only [Con.eval]; split
        · exact Or.inr hu
        · exact Or.inl (Or.inr (ubOK_neg.mpr hl))
      · have := hi hint
        simp only [Con.eval]; split
        · exact this
        · exact this.neg

/-! ## the tail of `BasicFCC::Convert` and `AssignResultVar2Args`, on the converter state -/

/-- **`Convert()` after preprocessing** (constant / map lookup / new result variable): if the inferred `pre` contains
the value `x` of the (possibly rewritten) constraint `con`, then a returned constant equals `x`, and a returned
variable — found through the map or newly created — has value `x` in every valuation satisfying the definitions of
the resulting state. -/
theorem C06_finish_sound (s : State) (pre : Pre) (con : Con) (val : Val) (x : Rat) (hwf : s.WF)
    (hx : pre.Contains x) (hcon : con.eval tr trp val = x) :
    (∀ c, (s.finish pre con).2 = .const c → c = fin x) ∧
    (∀ v, (s.finish pre con).2 = .var v → DefsHold tr trp (s.finish pre con).1 val → val v = x) := by
  rw [finish_eq]
  split
  · next hc => exact ⟨fun c h => by cases h; exact C06_constant_sound pre x hx hc, fun v h => by cases h⟩
  · cases hm : s.mapFind con with
    | some v =>
      refine ⟨fun c h => (by cases h), fun v' h hd => ?_⟩
      cases h; rw [hd v con (by simpa using List.find?_some hm), hcon]
    | none =>
      refine ⟨fun c h => (by cases h), fun v h hd => ?_⟩
      have hnew : ∀ b, (s.pushDef b con).defs.getD s.vars.size none = some con := fun b => by
        rw [pushDef_defs s b con hwf, ← hwf]; exact getD_push_eq _ _ _
      cases h; rw [hd _ con (hnew _), hcon]

/-- **`AssignResultVar2Args`**: a constant outcome is turned into a variable fixed at it (reused from
`map_fixed_vars_` or new); the returned variable has the value `x` in every valuation feasible for the new state. -/
theorem C06_resultVar_sound (s : State) (r : Res) (val : Val) (x : Rat) (hfix : ∀ c, r = .const c → FixedOK s)
    (hc : ∀ c, r = .const c → c = fin x) (hv : ∀ v, r = .var v → val v = x) (v : Nat)
    (hf : Feasible (State.resultVar (s, r)).1.env val) (hr : (State.resultVar (s, r)).2 = some v) : val v = x := by
  cases r with
  | var v' => simp only [State.resultVar] at hr; injection hr with hr; subst hr; exact hv _ rfl
  | throw w => simp [State.resultVar] at hr
  | unsupported => simp [State.resultVar] at hr
  | const c =>
    have hcx := hc c rfl
    subst hcx
    simp only [State.resultVar, makeFixed_eq] at hr hf
    cases hfind : s.fixed.find? (fun kv => eq kv.1 (fin x)) with
    | some kv =>
      simp only [hfind] at hr hf
      injection hr with hr; subst hr
      have hmem := List.mem_of_find?_eq_some hfind
      have hk := List.find?_some hfind
      obtain ⟨h1, h2⟩ := hfix _ rfl kv hmem
      obtain ⟨hl, hu, _⟩ := hf kv.2
      have hkx : kv.1 = fin x := eq_fin_iff.mp hk
      rw [h1, hkx] at hl; rw [h2, hkx] at hu
      exact le_antisymm hu hl
    | none =>
      simp only [hfind] at hr hf
      injection hr with hr; subst hr
      obtain ⟨hl, hu, _⟩ := hf s.vars.size
      rw [env_push_eq (s' := s.pushFixed (fin x)) rfl] at hl hu
      exact le_antisymm hu hl

/-- **not, implication, alldiff**: `[0,1]` INTEGER contains the truth value. -/
theorem C06_logical (e : Env) (val : Val) (c : Con)
    (hc : (∃ a, c = .not a) ∨ (∃ a b d, c = .impl a b d) ∨ (∃ as, c = .alldiff as)) :
    prepro e c = .keep preBool c ∧ preBool.Contains (Con.eval tr trp val c) := by
  rcases hc with ⟨a, rfl⟩ | ⟨a, b, d, rfl⟩ | ⟨as, rfl⟩ <;>
    exact ⟨rfl, by simpa [Con.eval] using preBool_contains_b2r _⟩

/-- **count / numberof(const)**: `[0, n]` INTEGER contains the count. -/
theorem C06_count (e : Env) (val : Val) (as : List Nat) (k : Rat) :
    (∃ pre, prepro e (.count as) = .keep pre (.count as) ∧ pre.Contains (Con.eval tr trp val (.count as))) ∧
    (∃ pre, prepro e (.nconst k as) = .keep pre (.nconst k as) ∧ pre.Contains (Con.eval tr trp val (.nconst k as))) :=
  ⟨⟨_, rfl, count_contains (by exact_mod_cast List.length_filter_le _ as)⟩,
   ⟨_, rfl, count_contains (by exact_mod_cast List.length_filter_le _ as)⟩⟩

/-- **numberof(var)**: `[0, n−1]` (first argument is the reference) INTEGER contains the count. -/
theorem C06_nvar (e : Env) (val : Val) (r : Nat) (l : List Nat) :
    ∃ pre, prepro e (.nvar (r :: l)) = .keep pre (.nvar (r :: l)) ∧ pre.Contains (Con.eval tr trp val (.nvar (r :: l))) :=
  ⟨_, rfl, count_contains (by
    have := List.length_filter_le (fun v => decide (val v = val r)) l
    simp only [List.length_cons]; push_cast; rw [add_sub_cancel_right]; exact_mod_cast this)⟩


theorem isInt_of_commonType (e : Env) (val : Val) (h : Feasible e val) (vs : List Nat) (hc : commonType e vs = true) :
    ∀ v ∈ vs, IsInt (val v) := by
  intro v hv
  have := (List.all_eq_true.mp hc) v hv
  obtain ⟨hl, hu, hi⟩ := h v
  rcases Bool.or_eq_true _ _ ▸ this with h1 | h1
  · exact hi h1
  · rw [Bool.and_eq_true] at h1
    obtain ⟨hf, hint⟩ := h1
    rw [(eq_fin_of_eq hf hl hu).1, isInteger_fin] at hint
    exact isInt_of_ratIsInt hint

/-- **if-then-else**: `[min(lb₁,lb₂), max(ub₁,ub₂)]` with the common type of the two branches contains the value,
whatever the condition. -/
theorem C06_ifthen (e : Env) (val : Val) (h : Feasible e val) (c t f : Nat) :
    ∃ pre, prepro e (.ifthen c t f) = .keep pre (.ifthen c t f) ∧ pre.Contains (Con.eval tr trp val (.ifthen c t f)) := by
  obtain ⟨tl, tu, _⟩ := h t
  obtain ⟨fl, fu, _⟩ := h f
  refine ⟨_, rfl, ?_⟩
  simp only [preproIfThen, Con.eval]
  by_cases hc : truthy (val c) = true
  · simp only [hc, if_true]
    refine ((default_contains _).narrow (Or.inr (smin_lb_left _ _ _ tl)) (Or.inr (smax_ub_left _ _ _ tu))).setType fun hi => ?_
    exact isInt_of_commonType e val h [t, f] hi t (by simp)
  · simp only [hc]
    refine ((default_contains _).narrow (Or.inr (smin_lb_right _ _ _ fl (ne_nan_of_lbOK tl)))
      (Or.inr (smax_ub_right _ _ _ fu (ne_nan_of_ubOK tu)))).setType fun hi => ?_
    exact isInt_of_commonType e val h [t, f] hi f (by simp)

/-- **`FixEqualityResult`**: whenever it fixes the result of `body == rhs` to 0 or 1 from the body's bounds and type
(any sound, NaN-tolerant bounds: linear or quadratic body), the comparison has that truth value on the whole box. -/
theorem C06_fix_equality (b : Pre) (body rhs : Rat) (hb : b.ContainsW body) (p : Pre)
    (hfix : fixEqualityResult b rhs preBool = some p) :
    p.Contains (b2r (cmpKind 0 body rhs)) ∧ p.isConstant = true := by
  obtain ⟨hl, hu, hi⟩ := hb
  unfold fixEqualityResult at hfix
  have hne_of_lt : (lt (fin rhs) b.lb = true ∨ lt b.ub (fin rhs) = true) → body ≠ rhs := by
    rintro (h1 | h1)
    · exact (lt_fin_lb h1 hl).ne'
    · exact (lt_fin_ub h1 hu).ne
  split at hfix
  · next h1 =>
    rw [Bool.or_eq_true] at h1
    have hne := hne_of_lt h1
    injection hfix with hp; subst hp
    have : cmpKind 0 body rhs = false := by simp [cmpKind, hne]
    rw [this]; exact pre00
  · split at hfix
    · next h2 =>
      rw [Bool.and_eq_true] at h2
      have heq : body = rhs := by
        rw [eq_fin_iff, eq_fin_iff] at h2
        rw [h2.1] at hl; rw [h2.2] at hu
        exact le_antisymm (hu.resolve_left (by simp)) (hl.resolve_left (by simp))
      injection hfix with hp; subst hp
      have : cmpKind 0 body rhs = true := by simp [cmpKind, heq]
      rw [this]; exact pre11
    · split at hfix
      · next h3 =>
        rw [Bool.and_eq_true] at h3
        have hne : body ≠ rhs := by
          intro heq
          have := hi h3.1
          rw [heq] at this
          obtain ⟨z, hz⟩ := this
          have : ratIsInt rhs = true := by
            rw [hz]; simp [ratIsInt]
          simp [this] at h3
        injection hfix with hp; subst hp
        have : cmpKind 0 body rhs = false := by simp [cmpKind, hne]
        rw [this]; exact pre00
      · simp at hfix


/-- **Conditional quadratic / linear equality fixed from bounds**: `FixEqualityResult` applied to the real body bounds. -/
theorem C06_cond_eq_fix (e : Env) (val : Val) (h : Feasible e val) (rhs : Rat) (ts : LinT) (p : Pre)
    (hfix : fixEqualityResult (boundsLin e ts) rhs preBool = some p) :
    p.Contains (Con.eval tr trp val (.clin 0 rhs ts)) ∧ p.isConstant = true := by
  simpa [Con.eval] using C06_fix_equality (boundsLin e ts) (linVal val ts) rhs (boundsLin_sound e val h ts) p hfix

/-- **rounding of the right-hand side** of a conditional inequality whose body is integer-valued (`ceil` for `>=`/`<`,
`floor` for `<=`/`>`): the comparison is unchanged at every integer body value — for every fractional or integer `rhs`. -/
theorem C06_round_rhs (kind : Int) (hk : kind = -2 ∨ kind = -1 ∨ kind = 1 ∨ kind = 2) (bodyInt : Bool) (body rhs : Rat)
    (hb : bodyInt = true → IsInt body) :
    cmpKind kind body (roundRhs kind bodyInt rhs) = cmpKind kind body rhs := by
  unfold roundRhs
  split
  · next hcond =>
    rw [Bool.and_eq_true] at hcond
    obtain ⟨z, rfl⟩ := hb hcond.1
    rcases hk with rfl | rfl | rfl | rfl <;> simp only [cmpKind] <;> norm_num
    · exact Rat.lt_ceil_iff
    · exact Rat.le_floor_iff
    · exact Rat.ceil_le_iff
    · exact Rat.floor_lt_iff
  · rfl

/-! ## log / logA: narrowing of the *argument* -/

/-- **logA**: the argument is narrowed to `[0, ∞)`; no point where the logarithm is defined (`x > 0`) is lost. -/
theorem C06_loga_arg (e : Env) (a : Nat) (p x : Rat) (hx : 0 < x) :
    ∃ l u, argNarrowing e (.unp .loga a p) = some (a, l, u) ∧ lbOK l x ∧ ubOK u x :=
  ⟨fin 0, pinf, rfl, le_of_lt hx, trivial⟩

/-- **log (partial)**: the argument's lower bound is raised to the double `1e-6` when `lb ≤ 0`; points `x ≥ 1e-6` are kept.
The full statement (every `x > 0` is kept) is FALSE: see `C06_counterexample_log_arg`.

  theorem C06_log_arg (e a x) (hx : 0 < x) : argNarrowing e (.un .log a) = some (a, l, u) → lbOK l x
-/
theorem C06_log_arg_partial (e : Env) (a : Nat) (x : Rat) (hx : logLbLit ≤ x) :
    argNarrowing e (.un .log a) = none ∨
    ∃ l u, argNarrowing e (.un .log a) = some (a, l, u) ∧ lbOK l x ∧ ubOK u x := by
  by_cases h : le (e a).lb (fin 0) = true
  · right; exact ⟨fin logLbLit, pinf, by simp [argNarrowing, h], hx, trivial⟩
  · left; simp [argNarrowing, h]

/-- **Counterexample (open finding C06-log-arg-lb)**: `x ∈ [0, 1]`, `log(x)`: the point `x = 2⁻³⁰ > 0` lies in the box and in
the domain of `log`, but outside the narrowed bounds. -/
theorem C06_counterexample_log_arg :
    let e : Env := fun _ => { lb := fin 0, ub := fin 1, int := false }
    let x : Rat := 1 / 2 ^ 30
    InBox (e 0) x ∧ 0 < x ∧ ∃ l u, argNarrowing e (.un .log 0) = some (0, l, u) ∧ ¬ lbOK l x := by
  refine ⟨⟨by simp [lbOK], by simp [ubOK]; norm_num, by simp⟩, by positivity,
    fin logLbLit, pinf, by decide +kernel, ?_⟩
  simp only [lbOK, logLbLit]; norm_num

/-- **exp, sin, cos, cosh, tanh, acos (lower), asin (upper)**: the ranges the code assigns (`[0,∞)`, `[−1,1]`, `[−1,1]`,
`[1,∞)`, `[−1,1]`, `0 ≤`, `≤ Pi()`) hold for the real functions at every real argument. -/
theorem C06_transcendental_ranges (x : ℝ) :
    (0 ≤ Real.exp x) ∧ (-1 ≤ Real.sin x ∧ Real.sin x ≤ 1) ∧ (-1 ≤ Real.cos x ∧ Real.cos x ≤ 1) ∧ (1 ≤ Real.cosh x) ∧
    (-1 ≤ Real.tanh x ∧ Real.tanh x ≤ 1) ∧ (0 ≤ Real.arccos x) ∧ (Real.arcsin x ≤ ((piLit : ℚ) : ℝ)) :=
  ⟨(Real.exp_pos x).le, ⟨Real.neg_one_le_sin x, Real.sin_le_one x⟩, ⟨Real.neg_one_le_cos x, Real.cos_le_one x⟩, Real.one_le_cosh x,
    tanh_range x, Real.arccos_nonneg x, by
      -- asin x ≤ π/2 ≤ 2 < 3 < Pi()
      have h2 : (3 : ℝ) < ((piLit : ℚ) : ℝ) := by unfold piLit; push_cast; norm_num
      linarith [Real.arcsin_le_pi_div_two x, Real.pi_le_four]⟩

/-- **asin / acos / atan** (`Pi()` = the double nearest to π, ampl/mp from commit e4c42dd on).
(1) `Pi()` really is the nearest double: `0 < π − Pi() < 2⁻⁵²` (half the spacing of doubles in `[2,4)`).
(2) For the *double-rounded* values: for every monotone rounding `rn` with `rn 0 = 0` that sends `π/2, −π/2, π` to
`Pi()/2, −Pi()/2, Pi()` — which is what round-to-nearest does by (1) — the assigned bounds hold at every real `x`:
`−Pi()/2 ≤ rn(asin x) ≤ Pi()`, `0 ≤ rn(acos x) ≤ Pi()`, `−Pi()/2 ≤ rn(atan x) ≤ Pi()/2`.
What is NOT proved: that libm's `asin/acos/atan` are correctly rounded (they are not guaranteed to be); the actual
libm values are only checked by the sampling oracle (incl. `x = ±1`, `±2⁶⁰`), where they coincide with the bounds. -/
theorem C06_pi_rounded_ranges :
    (0 < Real.pi - ((piLit : ℚ) : ℝ) ∧ Real.pi - ((piLit : ℚ) : ℝ) < 1 / 2 ^ 52) ∧
    ∀ (rn : ℝ → ℝ), Monotone rn → rn 0 = 0 → rn (Real.pi / 2) = ((piLit : ℚ) : ℝ) / 2 →
      rn (-(Real.pi / 2)) = -((piLit : ℚ) : ℝ) / 2 → rn Real.pi = ((piLit : ℚ) : ℝ) → ∀ x : ℝ,
      (-((piLit : ℚ) : ℝ) / 2 ≤ rn (Real.arcsin x) ∧ rn (Real.arcsin x) ≤ ((piLit : ℚ) : ℝ)) ∧
      (0 ≤ rn (Real.arccos x) ∧ rn (Real.arccos x) ≤ ((piLit : ℚ) : ℝ)) ∧
      (-((piLit : ℚ) : ℝ) / 2 ≤ rn (Real.arctan x) ∧ rn (Real.arctan x) ≤ ((piLit : ℚ) : ℝ) / 2) := by
  refine ⟨piLit_nearest, fun rn hm h0 h1 h2 h3 x => ⟨⟨?_, ?_⟩, ⟨?_, ?_⟩, ⟨?_, ?_⟩⟩⟩
  · rw [← h2]; exact hm (Real.neg_pi_div_two_le_arcsin x)
  · have := hm (Real.arcsin_le_pi_div_two x); rw [h1] at this; linarith [piLit_pos]
  · rw [← h0]; exact hm (Real.arccos_nonneg x)
  · rw [← h3]; exact hm (Real.arccos_le_pi x)
  · rw [← h2]; exact hm (Real.neg_pi_div_two_lt_arctan x).le
  · rw [← h1]; exact hm (Real.arctan_lt_pi_div_two x).le

/-- Without rounding the three bounds are missed by less than `2⁻⁵²` (any double constant is ≠ π): the exact real values
`asin(−1) = −π/2`, `acos(−1) = π`, `atan(x)` for large `|x|` lie outside `[−Pi()/2, …]`, `[…, Pi()]`, `[−Pi()/2, Pi()/2]`.
This is why (2) above is stated for rounded values; it is not a defect of the code. -/
theorem C06_pi_exact_reals_outside :
    (Real.arcsin (-1) < -((piLit : ℚ) : ℝ) / 2) ∧ (((piLit : ℚ) : ℝ) < Real.arccos (-1)) ∧
    (∃ x : ℝ, ((piLit : ℚ) : ℝ) / 2 < Real.arctan x) ∧ (∃ x : ℝ, Real.arctan x < -((piLit : ℚ) : ℝ) / 2) := by
  have hp := piLit_lt_pi
  have hpos := piLit_pos
  -- arctan is onto (−π/2, π/2): take the tangent of a point between ±Pi()/2 and ±π/2
  refine ⟨by rw [Real.arcsin_neg_one]; linarith, by rw [Real.arccos_neg_one]; exact hp,
    ⟨Real.tan ((((piLit : ℚ) : ℝ) / 2 + Real.pi / 2) / 2), ?_⟩, ⟨Real.tan (-((((piLit : ℚ) : ℝ) / 2 + Real.pi / 2) / 2)), ?_⟩⟩
  · rw [Real.arctan_tan (by linarith) (by linarith)]; linarith
  · rw [Real.arctan_tan (by linarith) (by linarith)]; linarith

/-- the model's constants: the ranges of `C06_transcendental_ranges` / `C06_pi_rounded_ranges` for exp, sin, cos, cosh, tanh, acos,
asin, atan, and no range (`{}`) for tan, sinh, asinh, atanh, log (`acosh`, `[0, ∞)` in `preproUn`, is not listed) -/
theorem C06_transcendental_model_constants :
    preproUn .exp = ({} : Pre).narrow (fin 0) pinf ∧ preproUn .sin = ({} : Pre).narrow (fin (-1)) (fin 1) ∧
    preproUn .cos = ({} : Pre).narrow (fin (-1)) (fin 1) ∧ preproUn .cosh = ({} : Pre).narrow (fin 1) pinf ∧
    preproUn .tanh = ({} : Pre).narrow (fin (-1)) (fin 1) ∧ preproUn .acos = ({} : Pre).narrow (fin 0) (fin piLit) ∧
    preproUn .asin = ({} : Pre).narrow (fin (-piLit / 2)) (fin piLit) ∧
    preproUn .atan = ({} : Pre).narrow (fin (-piLit / 2)) (fin (piLit / 2)) ∧
    preproUn .tan = {} ∧ preproUn .sinh = {} ∧ preproUn .asinh = {} ∧ preproUn .atanh = {} ∧ preproUn .log = {} :=
  ⟨rfl, rfl, rfl, rfl, rfl, rfl, rfl, rfl, rfl, rfl, rfl, rfl, rfl⟩

/-- **min**: `[min lbᵢ, min ubᵢ]` with the common type contains `min xᵢ` (non-empty argument list). -/
theorem C06_min (e : Env) (val : Val) (h : Feasible e val) (as : List Nat) (hne : as ≠ []) :
    ∃ pre, prepro e (.min as) = .keep pre (.min as) ∧ pre.Contains (Con.eval tr trp val (.min as)) := by
  refine ⟨_, rfl, ?_⟩
  have hne' : as.map val ≠ [] := by simpa using hne
  obtain ⟨hmem, hle⟩ := listMin_mem_le (as.map val) hne'
  obtain ⟨v0, hv0, hv0e⟩ := List.mem_map.mp hmem
  have e1 : lbArray e as = minElem pinf (as.map fun v => (e v).lb) := foldl_smin_map _ _ _
  have e2 : ubMinArray e as = minElem pinf (as.map fun v => (e v).ub) := foldl_smin_map _ _ _
  simp only [Con.eval]
  refine ((default_contains _).narrow ?_ ?_).setType ?_
  · rw [e1, ← hv0e]
    exact minElem_lbW (Or.inr ⟨_, List.mem_map.mpr ⟨v0, hv0, rfl⟩, (h v0).1⟩)
  · rw [e2]
    rcases minElem_mem pinf (as.map fun v => (e v).ub) with u4 | u4
    · rw [u4]; exact Or.inr trivial
    · obtain ⟨v, hv, hvb⟩ := List.mem_map.mp u4
      rw [← hvb]
      exact Or.inr (ubOK_mono (h v).2.1 (hle _ (List.mem_map.mpr ⟨v, hv, rfl⟩)))
  · intro hi
    rw [← hv0e]
    exact isInt_of_commonType e val h as hi v0 hv0

/-- **max**: `[max lbᵢ, max ubᵢ]` with the common type contains `max xᵢ` (non-empty argument list). -/
theorem C06_max (e : Env) (val : Val) (h : Feasible e val) (as : List Nat) (hne : as ≠ []) :
    ∃ pre, prepro e (.max as) = .keep pre (.max as) ∧ pre.Contains (Con.eval tr trp val (.max as)) := by
  refine ⟨_, rfl, ?_⟩
  have hne' : as.map val ≠ [] := by simpa using hne
  obtain ⟨hmem, hle⟩ := listMax_mem_le (as.map val) hne'
  obtain ⟨v0, hv0, hv0e⟩ := List.mem_map.mp hmem
  have e1 : lbMaxArray e as = maxElem ninf (as.map fun v => (e v).lb) := foldl_smax_map _ _ _
  have e2 : ubArray e as = maxElem ninf (as.map fun v => (e v).ub) := foldl_smax_map _ _ _
  simp only [Con.eval]
  refine ((default_contains _).narrow ?_ ?_).setType ?_
  · rw [e1]
    rcases maxElem_mem ninf (as.map fun v => (e v).lb) with l4 | l4
    · rw [l4]; exact Or.inr trivial
    · obtain ⟨v, hv, hvb⟩ := List.mem_map.mp l4
      rw [← hvb]
      exact Or.inr (lbOK_mono (h v).1 (hle _ (List.mem_map.mpr ⟨v, hv, rfl⟩)))
  · rw [e2, ← hv0e]
    exact maxElem_ubW (Or.inr ⟨_, List.mem_map.mpr ⟨v0, hv0, rfl⟩, (h v0).2.1⟩)
  · intro hi
    rw [← hv0e]
    exact isInt_of_commonType e val h as hi v0 hv0

theorem binary_val (e : Env) (val : Val) (h : Feasible e val) (v : Nat) (hb : isBinaryVar e v = true) :
    val v = 0 ∨ val v = 1 := by
  obtain ⟨hl, hu, hi⟩ := h v
  simp only [isBinaryVar, Bool.or_eq_true, Bool.and_eq_true] at hb
  rcases hb with ⟨⟨h0, h1⟩, hint⟩ | ⟨hf, h01⟩
  · rw [fin_eq_iff.mp h0] at hl; rw [fin_eq_iff.mp h1] at hu
    obtain ⟨z, hz⟩ := hi hint
    rw [hz] at hl hu ⊢
    simp only [lbOK, ubOK] at hl hu
    have a0 : (0 : Int) ≤ z := by exact_mod_cast hl
    have a1 : z ≤ (1 : Int) := by exact_mod_cast hu
    rcases (by omega : z = 0 ∨ z = 1) with rfl | rfl <;> simp
  · rw [(eq_fin_of_eq hf hl hu).1] at h01
    exact h01.imp (fun h => ER.fin.inj (fin_eq_iff.mp h)) (fun h => ER.fin.inj (fin_eq_iff.mp h))

theorem countFixed01_fst_ne_zero {e : Env} {as : List Nat} :
    (countFixed01 e as).1 ≠ 0 ↔ ∃ x ∈ as, le (e x).ub (fin 0) = true := filter_length_ne_zero
theorem countFixed01_snd_ne_zero {e : Env} {as : List Nat} :
    (countFixed01 e as).2 ≠ 0 ↔ ∃ x ∈ as, le (fin 1) (e x).lb = true := filter_length_ne_zero
theorem countFixed01_fst_eq_length {e : Env} {as : List Nat} :
    as.length = (countFixed01 e as).1 ↔ ∀ x ∈ as, le (e x).ub (fin 0) = true := length_eq_filter_length
theorem countFixed01_snd_eq_length {e : Env} {as : List Nat} :
    as.length = (countFixed01 e as).2 ↔ ∀ x ∈ as, le (fin 1) (e x).lb = true := length_eq_filter_length

theorem truthy_of_ub0 {e : Env} {val : Val} (h : Feasible e val) {x : Nat} (hx : le (e x).ub (fin 0) = true) :
    truthy (val x) = false := by
  have := le_fin_ub hx (h x).2.1
  simp [truthy]; linarith
theorem truthy_of_lb1 {e : Env} {val : Val} (h : Feasible e val) {x : Nat} (hx : le (fin 1) (e x).lb = true) :
    truthy (val x) = true := by
  have := le_fin_lb hx (h x).1
  simp [truthy]; linarith

theorem truthy_of_binary_lb {e : Env} {val : Val} (h : Feasible e val) {x : Nat} (hb : isBinaryVar e x = true)
    (hx : le (e x).lb (fin 0) = false) : truthy (val x) = true := by
  have : (0 : Rat) < val x := lt_of_not_le_lb (by rw [hx]; exact Bool.false_ne_true) (h x).1
  rcases binary_val e val h x hb with h0 | h0
  · linarith
  · simp [truthy, h0]; norm_num
theorem truthy_of_binary_ub {e : Env} {val : Val} (h : Feasible e val) {x : Nat} (hb : isBinaryVar e x = true)
    (hx : le (fin 1) (e x).ub = false) : truthy (val x) = false := by
  have : val x < (1 : Rat) := lt_of_not_le_ub (by rw [hx]; exact Bool.false_ne_true) (h x).2.1
  rcases binary_val e val h x hb with h0 | h0
  · simp [truthy, h0]
  · linarith

/-- **and**: result fixed at 0 if some argument is fixed at 0, at 1 if all are fixed at 1; arguments fixed at 1 are
dropped; in every case the bounds `[0,1]`/INTEGER (or the fixed value) contain the truth value and the rewritten
constraint has the same value — for binary arguments (the C++ asserts `is_binary_var`). -/
theorem C06_and (e : Env) (val : Val) (h : Feasible e val) (as : List Nat)
    (hbin : ∀ v ∈ as, isBinaryVar e v = true) :
    (preproAnd0 e as).1.Contains (Con.eval tr trp val (.and as)) ∧
    Con.eval tr trp val (.and (preproAnd0 e as).2) = Con.eval tr trp val (.and as) := by
  unfold preproAnd0
  simp only []
  split_ifs with h1 h2 h3
  · obtain ⟨x, hx, hx0⟩ := countFixed01_fst_ne_zero.mp h1
    have : (as.all fun v => truthy (val v)) = false :=
      List.all_eq_false.mpr ⟨x, hx, by simp [truthy_of_ub0 h hx0]⟩
    exact ⟨by simp only [Con.eval, this]; exact pre00.1, rfl⟩
  · have : (as.all fun v => truthy (val v)) = true :=
      List.all_eq_true.mpr fun x hx => truthy_of_lb1 h (countFixed01_snd_eq_length.mp h2 x hx)
    exact ⟨by simp only [Con.eval, this]; exact pre11.1, rfl⟩
  · refine ⟨by simpa [Con.eval] using preBool_contains_b2r _, ?_⟩
    simp only [Con.eval]
    rw [all_filter_of_imp as _ _ fun x hx hq => truthy_of_binary_lb h (hbin x hx) hq]
  · exact ⟨by simpa [Con.eval] using preBool_contains_b2r _, rfl⟩

/-- **or**: result fixed at 1 if some argument is fixed at 1, at 0 if all are fixed at 0; arguments fixed at 0 are
dropped; bounds and rewritten constraint as for `C06_and`, again for binary arguments. -/
theorem C06_or (e : Env) (val : Val) (h : Feasible e val) (as : List Nat)
    (hbin : ∀ v ∈ as, isBinaryVar e v = true) :
    (preproOr0 e as).1.Contains (Con.eval tr trp val (.or as)) ∧
    Con.eval tr trp val (.or (preproOr0 e as).2) = Con.eval tr trp val (.or as) := by
  unfold preproOr0
  simp only []
  split_ifs with h1 h2 h3
  · obtain ⟨x, hx, hx1⟩ := countFixed01_snd_ne_zero.mp h1
    have : (as.any fun v => truthy (val v)) = true :=
      List.any_eq_true.mpr ⟨x, hx, truthy_of_lb1 h hx1⟩
    exact ⟨by simp only [Con.eval, this]; exact pre11.1, rfl⟩
  · have : (as.any fun v => truthy (val v)) = false :=
      List.any_eq_false.mpr fun x hx => by simp [truthy_of_ub0 h (countFixed01_fst_eq_length.mp h2 x hx)]
    exact ⟨by simp only [Con.eval, this]; exact pre00.1, rfl⟩
  · refine ⟨by simpa [Con.eval] using preBool_contains_b2r _, ?_⟩
    simp only [Con.eval]
    rw [any_filter_of_imp as _ _ fun x hx hq => truthy_of_binary_ub h (hbin x hx) hq]
  · exact ⟨by simpa [Con.eval] using preBool_contains_b2r _, rfl⟩

/-- **division**: when all four bounds are finite (within ±1e20) and the divisor's box excludes 0 (`l2·u2 > 0`) the result
is bounded by the four corner quotients (and by the `DBL_MAX` / `DBL_MIN` seeds of the C++ loop); otherwise nothing
is narrowed.  Sound at every point of the boxes; in the narrowing branch the divisor is nonzero (`C06_div_guard`), in the other the
default bounds contain every value, so the statement never depends on Lean's totalised `x / 0 = 0`. -/
theorem C06_div (e : Env) (val : Val) (h : Feasible e val) (a b : Nat) :
    (preproDiv e a b).Contains (Con.eval tr trp val (.div a b)) := by
  obtain ⟨hxl, hxu, _⟩ := h a
  obtain ⟨hyl, hyu, _⟩ := h b
  unfold preproDiv
  simp only []
  split
  · next hcond =>
    simp only [Bool.and_eq_true] at hcond
    obtain ⟨⟨⟨⟨c1, c2⟩, c3⟩, c4⟩, c5⟩ := hcond
    obtain ⟨a1, ha1⟩ := fin_of_lb_gt hxl c1
    obtain ⟨b1, hb1⟩ := fin_of_ub_lt hxu c2
    obtain ⟨c, hc⟩ := fin_of_lb_gt hyl c3
    obtain ⟨d, hd⟩ := fin_of_ub_lt hyu c4
    rw [ha1] at hxl; rw [hb1] at hxu; rw [hc] at hyl c5; rw [hd] at hyu c5
    simp only [lbOK, ubOK] at hxl hxu hyl hyu
    simp only [mul, ER.lt, decide_eq_true_eq] at c5
    have hc0 : c ≠ 0 := fun h0 => by rw [h0] at c5; simp at c5
    have hd0 : d ≠ 0 := fun h0 => by rw [h0] at c5; simp at c5
    simp only [ha1, hb1, hc, hd, ER.div, hc0, hd0, if_false, foldl_smin_eq_minElem, foldl_smax_eq_maxElem]
    -- `x / y = x · (1/y)` and, `c` and `d` having the same sign, `1/y ∈ [1/d, 1/c]`: the corner quotients are corner products
    have hrec : 1 / d ≤ 1 / val b ∧ 1 / val b ≤ 1 / c := by
      rcases pos_and_pos_or_neg_and_neg_of_mul_pos c5 with ⟨hcp, hdp⟩ | ⟨hcn, hdn⟩
      · have hy : 0 < val b := lt_of_lt_of_le hcp hyl
        exact ⟨one_div_le_one_div_of_le hy hyu, one_div_le_one_div_of_le hcp hyl⟩
      · have hy : val b < 0 := lt_of_le_of_lt hyu hdn
        exact ⟨(one_div_le_one_div_of_neg hdn hy).mpr hyu, (one_div_le_one_div_of_neg hy hcn).mpr hyl⟩
    have hlo := corner_lb (lx := fin a1) (ux := fin b1) (ly := fin (1 / d)) (uy := fin (1 / c)) hxl hxu hrec.1 hrec.2
    have hhi := corner_ub (lx := fin a1) (ux := fin b1) (ly := fin (1 / d)) (uy := fin (1 / c)) hxl hxu hrec.1 hrec.2
    simp only [mul, mul_one_div, reduceCtorEq, false_and, false_or] at hlo hhi
    refine (default_contains _).narrow (minElem_lbW (Or.inr ?_)) (maxElem_ubW (Or.inr ?_))
    · rcases hlo with h | h | h | h <;> refine ⟨_, ?_, h⟩ <;> simp
    · rcases hhi with h | h | h | h <;> refine ⟨_, ?_, h⟩ <;> simp
  · exact default_contains _

theorem powi_nat (b : ER) (k : Nat) (hk : 1 ≤ k) :
    powi b (k : Int) = match b with
      | fin q => fin (q ^ k)
      | pinf => pinf
      | ninf => if k % 2 = 0 then pinf else ninf
      | nan => nan := by
  have hk0 : k ≠ 0 := by omega
  have hnn : ¬ ((k : Int) < 0) := by omega
  cases b with
  | fin q => simp [powi, hnn, zpow_natCast]
  | pinf => simp [powi, hk0]
  | ninf =>
    have : ((k : Int) % 2 = 0) ↔ (k % 2 = 0) := by omega
    simp [powi, hk0, this]
  | nan => rfl

theorem powi_ne_nan {b : ER} {k : Nat} (hk : 1 ≤ k) (hb : b ≠ nan) : powi b (k : Int) ≠ nan := by
  rw [powi_nat b k hk]
  cases b with
  | fin q => simp
  | pinf => simp
  | ninf => by_cases h : k % 2 = 0 <;> simp [h]
  | nan => exact absurd rfl hb

theorem pow_odd_lb {b : ER} {x : Rat} {k : Nat} (hk : 1 ≤ k) (ho : Odd k) (h : lbOK b x) : lbOK (powi b k) (x ^ k) := by
  rw [powi_nat b k hk]
  have hm : ¬ k % 2 = 0 := by rcases ho with ⟨m, rfl⟩; omega
  cases b <;> simp_all [lbOK]
  exact (Odd.pow_le_pow ho).mpr h
theorem pow_odd_ub {b : ER} {x : Rat} {k : Nat} (hk : 1 ≤ k) (ho : Odd k) (h : ubOK b x) : ubOK (powi b k) (x ^ k) := by
  rw [powi_nat b k hk]
  cases b <;> simp_all [ubOK]
  exact (Odd.pow_le_pow ho).mpr h
theorem pow_nonneg_ub {b : ER} {x : Rat} {k : Nat} (hk : 1 ≤ k) (h0 : 0 ≤ x) (h : ubOK b x) : ubOK (powi b k) (x ^ k) := by
  rw [powi_nat b k hk]
  cases b <;> simp_all [ubOK]
  exact pow_le_pow_left₀ h0 h k
theorem pow_even_nonpos_ub {b : ER} {x : Rat} {k : Nat} (hk : 1 ≤ k) (he : Even k) (h0 : x ≤ 0) (h : lbOK b x) :
    ubOK (powi b k) (x ^ k) := by
  rw [powi_nat b k hk]
  have hm : k % 2 = 0 := by rcases he with ⟨m, rfl⟩; omega
  cases b <;> simp_all [ubOK, lbOK]
  next q =>
    have := pow_le_pow_left₀ (by linarith : (0 : Rat) ≤ -x) (by linarith : -x ≤ -q) k
    rwa [Even.neg_pow he, Even.neg_pow he] at this

theorem even_iff_ratIsInt_half (k : Nat) : ratIsInt ((k : Rat) / 2) = true ↔ Even k := by
  constructor
  · intro h
    obtain ⟨z, hz⟩ := isInt_of_ratIsInt h
    have h2 : (k : Rat) = 2 * z := by linarith
    have h3 : (k : Int) = 2 * z := by exact_mod_cast h2
    exact ⟨z.toNat, by omega⟩
  · rintro ⟨m, rfl⟩
    have : ((m + m : Nat) : Rat) / 2 = (m : Rat) := by push_cast; ring
    rw [this]; simp [ratIsInt]


/-- the pair of bounds `PreprocessConstraint(PowConstraint&)` computes for `x ^ k` from `l ≤ x ≤ u` encloses `x ^ k`, in
one order or the other: odd `k` is monotone; even `k` is increasing for `l ≥ 0`, decreasing for `u ≤ 0`, and on a
zero-crossing box lies in `[0, max(l^k, u^k)]`. -/
theorem pow_nat_pair {l u : ER} {x : Rat} {k : Nat} (hk : 1 ≤ k) (hl : lbOK l x) (hu : ubOK u x) :
    let pr := if (ratIsInt ((k : Rat) / 2) && lt l (fin 0) && lt (fin 0) u) = true
      then (fin 0, smax (powi l k) (powi u k)) else (powi l k, powi u k)
    (lbOK pr.1 (x ^ k) ∧ ubOK pr.2 (x ^ k)) ∨ (lbOK pr.2 (x ^ k) ∧ ubOK pr.1 (x ^ k)) := by
  dsimp only
  rcases Nat.even_or_odd k with he | ho
  · have hev := (even_iff_ratIsInt_half k).mpr he
    by_cases hneg : lt l (fin 0) = true
    · by_cases hpos : lt (fin 0) u = true
      · refine Or.inl ?_
        simp only [hev, hneg, hpos, Bool.and_self, if_true]
        refine ⟨by simpa [lbOK] using Even.pow_nonneg he x, ?_⟩
        rcases le_total 0 x with hx | hx
        · exact smax_ub_right _ _ _ (pow_nonneg_ub hk hx hu) (powi_ne_nan hk (ne_nan_of_lbOK hl))
        · exact smax_ub_left _ _ _ (pow_even_nonpos_ub hk he hx hl)
      · refine Or.inr ?_
        simp only [hpos, Bool.and_false, Bool.false_eq_true, if_false]
        obtain ⟨q, rfl, hq0⟩ := fin_of_not_lt_ub hpos hu
        have hxq : x ≤ q := hu
        refine ⟨?_, pow_even_nonpos_ub hk he (le_trans hxq hq0) hl⟩
        rw [powi_nat _ k hk]
        have := pow_le_pow_left₀ (by linarith : (0 : Rat) ≤ -q) (by linarith : -q ≤ -x) k
        rwa [Even.neg_pow he, Even.neg_pow he] at this
    · refine Or.inl ?_
      simp only [hneg, Bool.and_false, Bool.false_and, Bool.false_eq_true, if_false]
      obtain ⟨q, rfl, hq0⟩ := fin_of_not_lt_lb hneg hl
      have hqx : q ≤ x := hl
      refine ⟨?_, pow_nonneg_ub hk (le_trans hq0 hqx) hu⟩
      rw [powi_nat _ k hk]
      exact pow_le_pow_left₀ hq0 hqx k
  · have hev : ¬ ratIsInt ((k : Rat) / 2) = true := fun h =>
      Nat.not_even_iff_odd.mpr ho ((even_iff_ratIsInt_half k).mp h)
    refine Or.inl ?_
    simp only [hev, Bool.false_and, Bool.false_eq_true, if_false]
    exact ⟨pow_odd_lb hk ho hl, pow_odd_ub hk ho hu⟩

theorem pow_intCast (b : ER) (n : Int) : ER.pow b (n : Rat) = some (powi b n) := by simp [ER.pow]

theorem eval_pow_int (val : Val) (a : Nat) (n : Int) : Con.eval tr trp val (.pow a n) = val a ^ n := by simp [Con.eval]

theorem preproPow_int (e : Env) (a : Nat) {n : Int} (h0 : n ≠ 0) (h1 : n ≠ 1) :
    preproPow e a n =
      if n < 0 ∧ lt (e a).lb (fin 0) = true then .keep {} (.pow a n)
      else
        let pr := if (ratIsInt ((n : Rat) / 2) && lt (e a).lb (fin 0) && lt (fin 0) (e a).ub) = true
          then (fin 0, smax (powi (e a).lb n) (powi (e a).ub n)) else (powi (e a).lb n, powi (e a).ub n)
        .keep ((if 0 ≤ n then ({} : Pre).setType (e a).int else {}).narrow (smin pr.1 pr.2) (smax pr.1 pr.2)) (.pow a n) := by
  have h0' : ¬ (n : Rat) = 0 := by exact_mod_cast h0
  have h1' : ¬ (n : Rat) = 1 := by exact_mod_cast h1
  simp only [preproPow, h0', h1', if_false, pow_intCast, show ratIsInt (n : Rat) = true by simp [ratIsInt], Bool.not_true,
    Bool.false_and, Bool.false_or, Bool.true_and, Bool.and_eq_true, decide_eq_true_eq, Int.cast_lt_zero, Int.cast_nonneg_iff]

theorem pow_neg_pair {l u : ER} {x : Rat} {k : Nat} (hk : 1 ≤ k) (hl : lbOK l x) (hu : ubOK u x) (hl0 : ¬ lt l (fin 0) = true)
    (hx0 : x ≠ 0) : lbOK (powi u (-(k : Int))) (x ^ (-(k : Int))) ∧ ubOK (powi l (-(k : Int))) (x ^ (-(k : Int))) := by
  obtain ⟨q, rfl, hq0⟩ := fin_of_not_lt_lb hl0 hl
  have hqx : q ≤ x := hl
  have hx : 0 < x := lt_of_le_of_ne (le_trans hq0 hqx) (Ne.symm hx0)
  have hxk : 0 < x ^ k := pow_pos hx k
  have hknp : ¬ (0 < -(k : Int)) := by omega
  rw [zpow_neg, zpow_natCast]
  constructor
  · cases u with
    | pinf => simp only [powi, hknp, if_false, lbOK]; exact (inv_pos.mpr hxk).le
    | fin u =>
      have hxu : x ≤ u := hu
      have hu0 : u ≠ 0 := by linarith
      simp only [powi, hu0, false_and, if_false, lbOK, zpow_neg, zpow_natCast]
      exact inv_anti₀ hxk (pow_le_pow_left₀ hx.le hxu k)
    | ninf => exact hu.elim
    | nan => exact hu.elim
  · by_cases hq00 : q = 0
    · have hk0 : 0 < k := hk
      simp [powi, hq00, hk0, ubOK]
    · have hqpos : 0 < q := lt_of_le_of_ne hq0 (Ne.symm hq00)
      simp only [powi, hq00, false_and, if_false, ubOK, zpow_neg, zpow_natCast]
      exact inv_anti₀ (pow_pos hqpos k) (pow_le_pow_left₀ hq0 hqx k)

/-- every integer exponent other than 0 and 1; `hx`: for `n < 0` either the lower bound is negative and nothing is inferred, or the
expression is defined at the point -/
theorem pow_int_keep (e : Env) (val : Val) (h : Feasible e val) (a : Nat) {n : Int} (h0 : n ≠ 0) (h1 : n ≠ 1)
    (hx : n < 0 → lt (e a).lb (fin 0) = true ∨ val a ≠ 0) :
    ∃ pre, preproPow e a n = .keep pre (.pow a n) ∧ pre.Contains (Con.eval tr trp val (.pow a n)) := by
  obtain ⟨hl, hu, hi⟩ := h a
  rw [preproPow_int e a h0 h1, eval_pow_int]
  split
  · exact ⟨_, rfl, default_contains _⟩
  · next hc =>
    refine ⟨_, rfl, Pre.Contains.narrow_pair ?_ ?_⟩
    · split
      · next hn =>
        obtain ⟨k, rfl⟩ := Int.eq_ofNat_of_zero_le hn
        exact (default_contains _).setType fun hh => by rw [zpow_natCast]; exact (hi hh).pow k
      · exact default_contains _
    · rcases lt_or_gt_of_ne h0 with hn | hn
      · obtain ⟨k, rfl⟩ := Int.exists_eq_neg_ofNat hn.le
        have hl0 : ¬ lt (e a).lb (fin 0) = true := fun hlt => hc ⟨hn, hlt⟩
        simp only [hl0, Bool.and_false, Bool.false_and, Bool.false_eq_true, if_false]
        exact Or.inr (pow_neg_pair (by omega) hl hu hl0 ((hx hn).resolve_left hl0))
      · obtain ⟨k, rfl⟩ := Int.eq_ofNat_of_zero_le hn.le
        simp only [Int.cast_natCast, zpow_natCast]
        exact pow_nat_pair (by omega) hl hu

/-- **power with an integer exponent `k ≥ 2`** (`PreprocessConstraint(PowConstraint&)`): odd `k` — monotone, `[lb^k, ub^k]`;
even `k` — `[lb^k, ub^k]` for `lb ≥ 0`, `[ub^k, lb^k]` for `ub ≤ 0`, `[0, max(lb^k, ub^k)]` for a zero-crossing box; the type
of the argument is kept.  All boxes (infinite bounds included: `(±∞)^k`). -/
theorem C06_pow_nat (e : Env) (val : Val) (h : Feasible e val) (a k : Nat) (hk : 2 ≤ k) :
    ∃ pre, preproPow e a (k : Rat) = .keep pre (.pow a k) ∧ pre.Contains (Con.eval tr trp val (.pow a k)) := by
  simpa using pow_int_keep tr trp e val h a (n := k) (by omega) (by omega) (by omega)

/-- **power, exponents 0 and 1**: `x^0` is replaced by the constant 1, `x^1` by `x` itself — both exact. -/
theorem C06_pow_01 (e : Env) (val : Val) (a : Nat) :
    (∃ pre, preproPow e a 0 = .keep pre (.pow a 0) ∧ pre.Contains (Con.eval tr trp val (.pow a 0)) ∧ pre.isConstant = true) ∧
    (preproPow e a 1 = .alias a ∧ val a = Con.eval tr trp val (.pow a 1)) := by
  constructor
  · refine ⟨({} : Pre).narrow (fin 1) (fin 1), by simp [preproPow], ?_, by decide +kernel⟩
    have : Con.eval tr trp val (.pow a 0) = 1 := by simp [Con.eval]
    rw [this]; exact const_contains 1
  · exact ⟨by simp [preproPow], by simp [Con.eval]⟩

/-- **power with a negative integer exponent `−k`**: nothing is inferred when `lb < 0`; for `lb ≥ 0` the function is
decreasing on the positive reals: `[ub^(−k), lb^(−k)]` with `0^(−k) = +∞`, `(+∞)^(−k) = 0`.  Stated at the points where the
expression is defined (`x ≠ 0`). -/
theorem C06_pow_neg (e : Env) (val : Val) (h : Feasible e val) (a k : Nat) (hk : 1 ≤ k) (hx0 : val a ≠ 0) :
    ∃ pre, preproPow e a (-(k : Rat)) = .keep pre (.pow a (-(k : Rat))) ∧
      pre.Contains (Con.eval tr trp val (.pow a (-(k : Rat)))) := by
  simpa using pow_int_keep tr trp e val h a (n := -(k : Int)) (by omega) (by omega) (fun _ => Or.inr hx0)

/-- **narrowing from the result down to the arguments** (`constr_prop_down.h`): if the result of an
and / or / not / implication / if-then-else lies in `[lb, ub]` and the logical arguments are 0/1-valued, every bound
handed to an argument contains the argument's value — nothing consistent with the result is excluded. -/
theorem C06_prop_down (c : Con) (val : Val) (lb ub : Rat)
    (hbin : ∀ n ∈ propDownArgs c lb ub, val n.1 = 0 ∨ val n.1 = 1)
    (hl : lb ≤ Con.eval tr trp val c) (hu : Con.eval tr trp val c ≤ ub) :
    ∀ n ∈ propDownArgs c lb ub, n.2.1 ≤ val n.1 ∧ val n.1 ≤ n.2.2 := by
  intro n hn
  have hb := hbin n hn
  cases c with
  | and as =>
    simp only [propDownArgs, List.mem_map] at hn
    obtain ⟨a, ha, rfl⟩ := hn
    simp only [Con.eval] at hl
    exact ⟨le_trans hl (le_of_le_of_eq (b2r_all_le ha) (b2r_truthy_of_binary hb)), (binary_bounds hb).2⟩
  | or as =>
    simp only [propDownArgs, List.mem_map] at hn
    obtain ⟨a, ha, rfl⟩ := hn
    simp only [Con.eval] at hu
    exact ⟨(binary_bounds hb).1, le_trans (le_of_eq_of_le (b2r_truthy_of_binary hb).symm (b2r_le_any (f := fun v => truthy (val v)) ha)) hu⟩
  | not a =>
    simp only [propDownArgs, List.mem_singleton] at hn
    subst hn
    simp only [Con.eval] at hl hu
    rcases hb with h | h
    · simp only [h, truthy, b2r] at hl hu ⊢; norm_num at hl hu ⊢; constructor <;> linarith
    · simp only [h, truthy, b2r] at hl hu ⊢; norm_num at hl hu ⊢; constructor <;> linarith
  | impl a b d =>
    refine ⟨?_, ?_⟩ <;>
      (simp only [propDownArgs, List.mem_cons, List.not_mem_nil, or_false] at hn
       rcases hn with rfl | rfl | rfl <;> rcases hb with h | h <;> simp only [h] <;> norm_num)
  | ifthen a b d =>
    simp only [propDownArgs, List.mem_singleton] at hn
    subst hn
    rcases hb with h | h <;> simp only [h] <;> norm_num
  | _ => simp [propDownArgs] at hn

/-- handing `[lb, ub]` instead of `[lb, 1]` to the arguments of an `and` is NOT sound:
`and(a, b)` with `a = 1, b = 0` has result `0 ∈ [0, 0]`, yet `a = 1 ∉ [0, 0]`. -/
theorem C06_prop_down_and_ub_unsound :
    ∃ (val : Val), Con.eval tr trp val (.and [0, 1]) ≤ 0 ∧ (val 0 = 0 ∨ val 0 = 1) ∧ (val 1 = 0 ∨ val 1 = 1) ∧ ¬ (val 0 ≤ 0) := by
  refine ⟨fun i => if i = 0 then 1 else 0, ?_, Or.inr rfl, Or.inl rfl, by norm_num⟩
  simp [Con.eval, truthy, b2r]
  norm_num

/-! ## ties to the definitions generated from the source (`lean/MpVerif/Gen/C06Prepro.lean`, translators/gen_c06.py) -/

/-- decoding of a generated overload's effect into the model's `Decision` -/
def GOut.toDecision (g : GOut) (con : Con) : Decision :=
  match g.rv with
  | some (.v n) => .alias n
  | some (.lin (fin c) v (fin c0)) => .redirect (.lin c0 [(c, v)])
  | some _ => .unsupported
  | none => .keep g.pre con

theorem C06_gen_narrow (p : Pre) (l u : ER) : p.narrow l u = MpVerif.Gen.C06.narrow p l u := rfl
theorem C06_gen_isConstant (p : Pre) : p.isConstant = MpVerif.Gen.C06.isConstant p := rfl
theorem C06_gen_addBounds (a b : Pre) : addBounds a b = MpVerif.Gen.C06.addBounds a b := by
  cases a with | mk al au ai => cases b with | mk bl bu bi => cases ai <;> cases bi <;> rfl
theorem C06_gen_productBounds (e : Env) (x y : Nat) : productBounds e x y = MpVerif.Gen.C06.productBounds e x y := by
  unfold productBounds MpVerif.Gen.C06.productBounds
  by_cases h : x = y <;> simp [h, listMinElem, listMaxElem]

theorem C06_gen_abs (e : Env) (a : Nat) : preproAbs e a = (MpVerif.Gen.C06.prepro_Abs e [a] []).toDecision (.abs a) := by
  unfold preproAbs MpVerif.Gen.C06.prepro_Abs
  simp only [List.getD_cons_zero]
  by_cases h1 : le (fin 0) (e a).lb = true
  · simp [h1, GOut.toDecision]
  · by_cases h2 : le (e a).ub (fin 0) = true
    · simp [h1, h2, GOut.toDecision, ER.neg]
    · simp [h1, h2, GOut.toDecision]


theorem C06_gen_withConst (r : Pre) (c0 : Rat) : withConst r c0 = MpVerif.Gen.C06.withConst r c0 := by
  unfold withConst MpVerif.Gen.C06.withConst
  rw [isInteger_fin]
  cases r with | mk l u i => cases i <;> cases ratIsInt c0 <;> simp

theorem gen_linStep (e : Env) (c : Rat) (v : Nat) (r : Pre) :
    termStep r c (e v).lb (e v).ub ((e v).int && ratIsInt c) = MpVerif.Gen.C06.linStep e c v r := by
  unfold MpVerif.Gen.C06.linStep termStep
  rw [isInteger_fin, le_fin]
  cases r with | mk l u i =>
  by_cases hc : 0 ≤ c <;> cases i <;> cases (e v).int <;> cases ratIsInt c <;> simp [hc]

/-- **generated tie**: `ComputeBoundsAndType(const LinTerms&)` — the hand model equals the fold (last term first, as the
C++ loop) of the loop body translated from the source, started from the translated initialisation. -/
theorem C06_gen_boundsLin (e : Env) (ts : LinT) :
    boundsLin e ts = ts.foldr (fun t r => MpVerif.Gen.C06.linStep e t.1 t.2 r) MpVerif.Gen.C06.linInit := by
  induction ts with
  | nil => rfl
  | cons t ts ih =>
    rw [boundsLin_cons, List.foldr_cons, ← ih, gen_linStep]

theorem gen_quadStep (e : Env) (c : Rat) (v1 v2 : Nat) (r : Pre) :
    termStep r c (productBounds e v1 v2).1 (productBounds e v1 v2).2 ((e v1).int && (e v2).int && ratIsInt c) =
      MpVerif.Gen.C06.quadStep e c v1 v2 r := by
  unfold MpVerif.Gen.C06.quadStep termStep
  rw [isInteger_fin, le_fin, ← C06_gen_productBounds]
  cases r with | mk l u i =>
  by_cases hc : 0 ≤ c <;> cases i <;> cases (e v1).int <;> cases (e v2).int <;> cases ratIsInt c <;> simp [hc]

theorem C06_gen_boundsQuadT (e : Env) (qs : QuadT) :
    boundsQuadT e qs = qs.foldr (fun t r => MpVerif.Gen.C06.quadStep e t.1 t.2.1 t.2.2 r) MpVerif.Gen.C06.quadInit := by
  induction qs with
  | nil => rfl
  | cons t qs ih =>
    rw [boundsQuadT_cons, List.foldr_cons, ← ih, gen_quadStep]

theorem C06_gen_fixEqualityResult (b : Pre) (rhs : Rat) (p : Pre) :
    fixEqualityResult b rhs p = MpVerif.Gen.C06.fixEqualityResult b (fin rhs) p := by
  unfold fixEqualityResult MpVerif.Gen.C06.fixEqualityResult
  rw [isInteger_fin]
  cases b.int <;> simp

theorem C06_gen_roundRhs (kind : Int) (b : Pre) (rhs : Rat) :
    fin (roundRhs kind b.int rhs) = MpVerif.Gen.C06.roundRhs kind b (fin rhs) := by
  unfold roundRhs MpVerif.Gen.C06.roundRhs
  have hi : (!(ER.eq (ER.floor (fin rhs)) (ER.ceil (fin rhs)))) = !ratIsInt rhs := by
    rw [← isInteger_fin]; rfl
  rw [hi]
  -- the translated table tests `n = kind` where the model tests `kind = n`
  cases b.int <;> cases ratIsInt rhs <;>
    simp [ER.floor, ER.ceil, @eq_comm _ (1 : Int) kind, @eq_comm _ (-1 : Int) kind, @eq_comm _ (2 : Int) kind]
  split_ifs <;> rfl

/-- which generated overload a constraint of the model is preprocessed by (the kinds whose overloads are translated) -/
def genOverload (e : Env) : Con → Option GOut
  | .abs a => some (MpVerif.Gen.C06.prepro_Abs e [a] [])
  | .ifthen c t f => some (MpVerif.Gen.C06.prepro_IfThen e [c, t, f] [])
  | .div a b => some (MpVerif.Gen.C06.prepro_Div e [a, b] [])
  | .not a => some (MpVerif.Gen.C06.prepro_Not e [a] [])
  | .alldiff as => some (MpVerif.Gen.C06.prepro_AllDiff e as [])
  | .impl c t f => some (MpVerif.Gen.C06.prepro_Implication e [c, t, f] [])
  | .count as => some (MpVerif.Gen.C06.prepro_Count e as [])
  | .nconst k as => some (MpVerif.Gen.C06.prepro_NumberofConst e as [k])
  | .nvar as => some (MpVerif.Gen.C06.prepro_NumberofVar e as [])
  | .min as => some (MpVerif.Gen.C06.prepro_Min e as [])
  | .max as => some (MpVerif.Gen.C06.prepro_Max e as [])
  | .un .exp a => some (MpVerif.Gen.C06.prepro_Exp e [a] [])
  | .un .log a => some (MpVerif.Gen.C06.prepro_Log e [a] [])
  | .un .sin a => some (MpVerif.Gen.C06.prepro_Sin e [a] [])
  | .un .cos a => some (MpVerif.Gen.C06.prepro_Cos e [a] [])
  | .un .tan a => some (MpVerif.Gen.C06.prepro_Tan e [a] [])
  | .un .asin a => some (MpVerif.Gen.C06.prepro_Asin e [a] [])
  | .un .acos a => some (MpVerif.Gen.C06.prepro_Acos e [a] [])
  | .un .atan a => some (MpVerif.Gen.C06.prepro_Atan e [a] [])
  | .un .sinh a => some (MpVerif.Gen.C06.prepro_Sinh e [a] [])
  | .un .cosh a => some (MpVerif.Gen.C06.prepro_Cosh e [a] [])
  | .un .tanh a => some (MpVerif.Gen.C06.prepro_Tanh e [a] [])
  | .un .asinh a => some (MpVerif.Gen.C06.prepro_Asinh e [a] [])
  | .un .acosh a => some (MpVerif.Gen.C06.prepro_Acosh e [a] [])
  | .un .atanh a => some (MpVerif.Gen.C06.prepro_Atanh e [a] [])
  | .unp .expa a p => some (MpVerif.Gen.C06.prepro_ExpA e [a] [p])
  | .unp .loga a p => some (MpVerif.Gen.C06.prepro_LogA e [a] [p])
  | _ => none

/-- **generated tie for the `PreprocessConstraint` overloads** translated from the source (abs, if-then-else, div, not, alldiff,
implication, count, numberof-const/var, min, max, exp, a^x, log, log_a, sin … atanh): the hand model's decision and its
argument narrowing are exactly what the translated overload computes. -/
theorem C06_gen_prepro (e : Env) (c : Con) (g : GOut) (h : genOverload e c = some g) :
    prepro e c = g.toDecision c ∧ argNarrowing e c = g.narrow.head? := by
  cases c with
  | abs a => injection h with h; subst h; exact ⟨C06_gen_abs e a, by
      simp only [argNarrowing, MpVerif.Gen.C06.prepro_Abs]; split <;> [rfl; (split <;> rfl)]⟩
  | un f a =>
    cases f <;> injection h with h <;> subst h
    case log =>
      refine ⟨?_, ?_⟩
      · simp only [prepro, MpVerif.Gen.C06.prepro_Log, List.getD_cons_zero]
        split_ifs <;> rfl
      · simp only [argNarrowing, MpVerif.Gen.C06.prepro_Log, List.getD_cons_zero]
        split <;> simp [logLbLit]; norm_num
    all_goals exact ⟨rfl, rfl⟩
  | unp f a p => cases f <;> injection h with h <;> subst h <;> exact ⟨rfl, rfl⟩
  | ifthen c t f => injection h with h; subst h; exact ⟨rfl, rfl⟩
  | div a b =>
    injection h with h; subst h
    refine ⟨?_, ?_⟩
    · simp only [prepro, preproDiv, MpVerif.Gen.C06.prepro_Div, List.getD_cons_zero, List.getD_cons_succ,
        List.foldl_cons, List.foldl_nil]
      split_ifs <;> rfl
    · simp only [argNarrowing, MpVerif.Gen.C06.prepro_Div]
      split_ifs <;> rfl
  | not a => injection h with h; subst h; exact ⟨rfl, rfl⟩
  | alldiff as => injection h with h; subst h; exact ⟨rfl, rfl⟩
  | impl c t f => injection h with h; subst h; exact ⟨rfl, rfl⟩
  | count as => injection h with h; subst h; exact ⟨rfl, rfl⟩
  | nconst k as => injection h with h; subst h; exact ⟨rfl, rfl⟩
  | nvar as =>
    injection h with h; subst h
    refine ⟨?_, rfl⟩
    simp only [prepro, MpVerif.Gen.C06.prepro_NumberofVar, GOut.toDecision, ER.sub, ER.neg, ER.add]
    congr 3
    congr 1
    push_cast; ring
  | min as => injection h with h; subst h; exact ⟨rfl, rfl⟩
  | max as => injection h with h; subst h; exact ⟨rfl, rfl⟩
  | _ => simp [genOverload] at h


/-- **generated tie, `converter_model.h`**: `is_fixed`, `is_binary_var`, `common_type` (loop with early exit) and the four array helpers
`lb_array`, `lb_max_array`, `ub_array`, `ub_min_array` (range-for accumulations) translated from the source equal the hand model's functions
for all environments, variables and argument lists — so `C06_min`, `C06_max`, `C06_ifthen`, `C06_and/or`, the binary-variable reuse of
conditional equalities and the history theorem speak about the translated helpers. -/
theorem C06_gen_model_helpers (e : Env) (v : Nat) (va : List Nat) :
    isFixed e v = MpVerif.Gen.C06.CM.isFixed e v ∧ isBinaryVar e v = MpVerif.Gen.C06.CM.isBinaryVar e v ∧
    commonType e va = MpVerif.Gen.C06.CM.commonType e va ∧
    lbArray e va = MpVerif.Gen.C06.CM.lbArray e va ∧ lbMaxArray e va = MpVerif.Gen.C06.CM.lbMaxArray e va ∧
    ubArray e va = MpVerif.Gen.C06.CM.ubArray e va ∧ ubMinArray e va = MpVerif.Gen.C06.CM.ubMinArray e va := by
  refine ⟨rfl, ?_, ?_, rfl, rfl, rfl, rfl⟩
  · simp only [isBinaryVar, MpVerif.Gen.C06.CM.isBinaryVar, MpVerif.Gen.C06.CM.isIntegerVar, MpVerif.Gen.C06.CM.isFixed,
      MpVerif.Gen.C06.CM.fixedValue, isFixed]
    cases (e v).int <;> simp
  · simp only [commonType, MpVerif.Gen.C06.CM.commonType, MpVerif.Gen.C06.CM.isIntegerVar, MpVerif.Gen.C06.CM.isFixed,
      MpVerif.Gen.C06.CM.fixedValue, isFixed]
    have hq : ∀ v, ((!(true == (e v).int)) && ((!(ER.eq (e v).lb (e v).ub)) || (!(ER.isInteger (e v).lb)))) =
        !((e v).int || (ER.eq (e v).lb (e v).ub && ER.isInteger (e v).lb)) := by
      intro v
      cases (e v).int <;> cases ER.eq (e v).lb (e v).ub <;> cases ER.isInteger (e v).lb <;> rfl
    simp only [hq]
    -- the translated loop leaves at the first variable that fails the test: `!any (!·)`
    rw [List.all_eq_not_any_not]
    cases (va.any fun v => !((e v).int || (ER.eq (e v).lb (e v).ub && ER.isInteger (e v).lb))) <;> rfl

/-- constraint types the model has a preprocessing rule for (`prepro` arms; PL has no rule in the source either: empty overload) -/
def modelOverloadTypes : List String := ["ConditionalConstraint<AlgebraicConstraint<Body, AlgConRhs<kind>>>", "mp::AbsConstraint", "mp::AcosConstraint", "mp::AcoshConstraint", "mp::AllDiffConstraint", "mp::AndConstraint", "mp::AsinConstraint", "mp::AsinhConstraint", "mp::AtanConstraint", "mp::AtanhConstraint", "mp::CondLinConEQ", "mp::CondQuadConEQ", "mp::CosConstraint", "mp::CoshConstraint", "mp::CountConstraint", "mp::DivConstraint", "mp::ExpAConstraint", "mp::ExpConstraint", "mp::IfThenConstraint", "mp::ImplicationConstraint", "mp::LinearFunctionalConstraint", "mp::LogAConstraint", "mp::LogConstraint", "mp::MaxConstraint", "mp::MinConstraint", "mp::NotConstraint", "mp::NumberofConstConstraint", "mp::NumberofVarConstraint", "mp::OrConstraint", "mp::PLConstraint", "mp::PowConstraint", "mp::QuadraticFunctionalConstraint", "mp::SinConstraint", "mp::SinhConstraint", "mp::TanConstraint", "mp::TanhConstraint"]

/-- **structure tie**: the set of `PreprocessConstraint` overloads in the source (first-parameter types, extracted from the AST on
every run) is exactly the set of constraint types the model's `prepro` handles — an overload added to or removed from the
source makes this fail. -/
theorem C06_gen_overload_types : MpVerif.Gen.C06.overloadTypes = modelOverloadTypes := rfl


/-- constraint kinds for which the per-kind soundness theorems above exist (conditional (in)equalities, `log`/`log_a`
(argument narrowing) and fractional exponents are NOT covered; negative integer exponents are, under `Adm`) -/
def CoveredBase : Con → Prop
  | .pow _ p => p.den = 1
  | .min as => as ≠ []
  | .max as => as ≠ []
  | .nvar as => as ≠ []
  | .un f _ => f ≠ .log
  | .unp f _ _ => f = .expa
  | .clin _ _ _ => False
  | .cquad _ _ _ _ => False
  | _ => True

/-- the comparison kinds of `AlgConRhs<kind>`: `<`, `<=`, `==`, `>=`, `>` (`cmpKind` reads every other integer as `>`) -/
def KindOK (k : Int) : Prop := k = -2 ∨ k = -1 ∨ k = 0 ∨ k = 1 ∨ k = 2

/-- constraint kinds covered by the assign-level and history theorems: everything the model handles except `log` / `log_a` (argument
narrowing) and fractional exponents; a negative integer exponent is covered under `Adm` -/
def Covered : Con → Prop
  | .pow _ p => p.den = 1
  | .min as => as ≠ []
  | .max as => as ≠ []
  | .nvar as => as ≠ []
  | .un f _ => f ≠ .log
  | .unp f _ _ => f = .expa
  | .clin k _ _ => KindOK k
  | .cquad k _ _ _ => KindOK k
  | _ => True

/-- what the C++ asserts about the arguments: and/or take binary variables -/
def Adm (e : Env) : Con → Prop
  | .and as => ∀ a ∈ as, isBinaryVar e a = true
  | .or as => ∀ a ∈ as, isBinaryVar e a = true
  /- a negative exponent: either `lb < 0` (the code infers nothing) or `lb > 0` (the expression is defined on the whole box);
     `lb = 0` is excluded because `0^(−k)` has no value -/
  | .pow a p => p < 0 → (lt (e a).lb (fin 0) = true ∨ lt (fin 0) (e a).lb = true)
  | _ => True

/-- the interpretation of the transcendental functions respects the constant ranges the code assigns (proved for the real
functions in `C06_transcendental_ranges` / `C06_pi_rounded_ranges`, except `acosh ≥ 0` and `a^x ≥ 0`, which have no theorem
over ℝ; a hypothesis here because `Con.eval` is over `Rat`) -/
def TrRange (tr : UnFn → Rat → Rat) (trp : UnPFn → Rat → Rat → Rat) : Prop :=
  (∀ f x, f ≠ UnFn.log → (preproUn f).Contains (tr f x)) ∧
  (∀ p x, (({} : Pre).narrow (fin 0) pinf).Contains (trp UnPFn.expa p x))

theorem preproO_eq (o : Opts) (e : Env) (c : Con) (hcov : CoveredBase c) : preproO o e c = prepro e c := by
  cases c <;> first | rfl | exact hcov.elim
theorem CoveredBase.covered {c : Con} (h : CoveredBase c) : Covered c := by
  cases c <;> first | exact h | exact h.elim

theorem argNarrowing_none_of_covered (e : Env) (c : Con) (hcov : Covered c) : argNarrowing e c = none := by
  cases c with
  | un f a => cases f <;> first | rfl | exact absurd rfl hcov
  | unp f a p => cases hcov; rfl
  | _ => rfl

theorem argNarrowing_none (e : Env) (c : Con) (hcov : CoveredBase c) : argNarrowing e c = none :=
  argNarrowing_none_of_covered e c hcov.covered

theorem cmpKind_neg (kind : Int) (hk : KindOK kind) (b r : Rat) : cmpKind (-kind) (-b) (-r) = cmpKind kind b r := by
  rcases hk with rfl | rfl | rfl | rfl | rfl <;> simp [cmpKind]
theorem KindOK.neg {k : Int} (h : KindOK k) : KindOK (-k) := by
  rcases h with rfl | rfl | rfl | rfl | rfl <;> simp [KindOK]
theorem KindOK.ineq {k : Int} (h : KindOK k) (h0 : k ≠ 0) : k = -2 ∨ k = -1 ∨ k = 1 ∨ k = 2 := by
  rcases h with h | h | h | h | h <;> simp_all

/-- soundness of a decision that does not redirect; nothing is claimed when the model says `unsupported` / `raise` (the driver then
prints `unsupported` / `throw`, the state is unchanged) -/
def BaseSoundW (d : Decision) (c : Con) (val : Val) : Prop :=
  match d with
  | .keep pre c' => pre.Contains (c.eval tr trp val) ∧ c'.eval tr trp val = c.eval tr trp val
  | .alias v => val v = c.eval tr trp val
  | _ => True

/-- soundness of a decision, redirections included: the constraint converted instead has the same value and its own decision is sound -/
def DecSound (o : Opts) (e : Env) (d : Decision) (c : Con) (val : Val) : Prop :=
  match d with
  | .keep pre c' => pre.Contains (c.eval tr trp val) ∧ c'.eval tr trp val = c.eval tr trp val
  | .alias v => val v = c.eval tr trp val
  | .redirect c2 => c2.eval tr trp val = c.eval tr trp val ∧ BaseSoundW tr trp (preproO o e c2) c2 val
  | _ => True

theorem DecSound.of_keep {o : Opts} {e : Env} {c : Con} {val : Val} {d : Decision}
    (h : ∃ pre, d = .keep pre c ∧ pre.Contains (c.eval tr trp val)) : DecSound tr trp o e d c val := by
  obtain ⟨pre, rfl, hc⟩ := h; exact ⟨hc, rfl⟩

/-- a comparison with an empty body is its constant truth value -/
theorem BaseSoundW.const {c : Con} {val : Val} {r : Rat} (h : c.eval tr trp val = r) :
    BaseSoundW tr trp (.keep (({} : Pre).narrow (fin r) (fin r)) c) c val := ⟨h ▸ const_contains r, rfl⟩

/-- what `abs` and the complement of a binary variable are redirected to: a linear constraint, which is kept -/
theorem lin_base (o : Opts) (e : Env) (val : Val) (hf : Feasible e val) (c0 : Rat) (ts : LinT) :
    BaseSoundW tr trp (preproO o e (.lin c0 ts)) (.lin c0 ts) val := by
  obtain ⟨pre, hp, hc⟩ := C06_lin tr trp e val hf c0 ts
  rw [preproO_eq o e (.lin c0 ts) trivial, hp]; exact ⟨hc, rfl⟩

/-- conditional linear inequality, non-redirecting part: empty body → constant truth value; normalised body → `[0,1]` INTEGER and the
stored constraint (terms sorted/merged by `sort_terms`, right-hand side rounded for an integer body) has the same truth value -/
theorem ineq_base (e : Env) (val : Val) (hf : Feasible e val) (kind : Int) (hk : KindOK kind) (h0 : kind ≠ 0)
    (rhs : Rat) (ts : LinT) :
    BaseSoundW tr trp (preproCondLinIneq e kind rhs ts) (.clin kind rhs ts) val := by
  unfold preproCondLinIneq
  by_cases hemp : ts.isEmpty = true
  · obtain rfl := List.isEmpty_iff.mp hemp
    exact .const tr trp (by simp only [Con.eval, linVal, List.map_nil, List.sum_nil])
  · simp only [hemp, Bool.false_eq_true, if_false]
    cases hs : sortLin ts with
    | nil => simp [BaseSoundW]
    | cons t0 rest =>
      simp only []
      by_cases hpos : 0 < t0.1
      · simp only [hpos, if_true, BaseSoundW, Con.eval]
        refine ⟨preBool_contains_b2r _, ?_⟩
        have hsv : linVal val (t0 :: rest) = linVal val ts := by rw [← hs]; exact linVal_sortLin val ts
        rw [hsv]
        congr 1
        have hint : (boundsLin e (t0 :: rest)).int = true → IsInt (linVal val ts) := by
          intro hi; rw [← hsv]; exact (boundsLin_sound e val hf (t0 :: rest)).2.2 hi
        exact C06_round_rhs kind (hk.ineq h0) _ _ rhs hint
      · simp [hpos, BaseSoundW]

theorem DecSound.of_base {o : Opts} {e : Env} {d : Decision} {c : Con} {val : Val} (hb : BaseSoundW tr trp d c val)
    (hr : ∀ c2, d = .redirect c2 → c2.eval tr trp val = c.eval tr trp val ∧ BaseSoundW tr trp (preproO o e c2) c2 val) :
    DecSound tr trp o e d c val := by
  cases d <;> first | exact hb | exact hr _ rfl

theorem ineq_redirect {e : Env} {kind : Int} {rhs : Rat} {ts : LinT} {c2 : Con}
    (h : preproCondLinIneq e kind rhs ts = .redirect c2) : c2 = .clin (-kind) (-rhs) (negLin (sortLin ts)) := by
  unfold preproCondLinIneq at h
  split_ifs at h
  simp only [] at h
  split at h <;> first | (cases h; done) | (split_ifs at h; cases h; simp [*])

theorem ineq_dec (o : Opts) (e : Env) (val : Val) (hf : Feasible e val) (kind : Int) (hk : KindOK kind) (h0 : kind ≠ 0)
    (rhs : Rat) (ts : LinT) :
    DecSound tr trp o e (preproCondLinIneq e kind rhs ts) (.clin kind rhs ts) val := by
  refine .of_base tr trp (ineq_base tr trp e val hf kind hk h0 rhs ts) fun c2 h => ?_
  cases ineq_redirect h
  refine ⟨?_, ?_⟩
  · simp only [Con.eval, linVal_negLin, linVal_sortLin]
    congr 1
    exact cmpKind_neg kind hk _ _
  · simp only [preproO, neg_eq_zero, h0, if_false]
    exact ineq_base tr trp e val hf (-kind) hk.neg (neg_ne_zero.mpr h0) (-rhs) _


theorem eq_unify (c x r : Rat) (hc : c ≠ 0) : cmpKind 0 (c * x) r = cmpKind 0 x (if c = 1 then r else r / c) := by
  simp only [cmpKind]
  by_cases h1 : c = 1
  · simp [h1]
  · simp only [h1, if_false]
    have : (c * x = r) ↔ (x = r / c) := by
      constructor
      · intro h; rw [← h]; field_simp
      · intro h; rw [h]; field_simp
    simp [this]

theorem signNorm_spec (val : Val) {c : Rat} {ts ts2 : LinT} {rhs rhs2 : Rat}
    (hn : (if 0 < c then (ts, rhs) else (negLin ts, -rhs)) = (ts2, rhs2)) (hnz : ∀ t ∈ ts, t.1 ≠ 0) :
    cmpKind 0 (linVal val ts2) rhs2 = cmpKind 0 (linVal val ts) rhs ∧ ∀ t ∈ ts2, t.1 ≠ 0 := by
  split_ifs at hn <;> simp only [Prod.mk.injEq] at hn <;> obtain ⟨rfl, rfl⟩ := hn
  · exact ⟨rfl, hnz⟩
  · refine ⟨by rw [linVal_negLin]; exact cmpKind_neg 0 (by simp [KindOK]) _ _, fun t ht => ?_⟩
    simp only [negLin, List.mem_map] at ht; obtain ⟨t', ht', rfl⟩ := ht
    simpa using hnz t' ht'

/-- conditional linear equality (`PreprocessConstraint(CondLinConEQ&)`, any setting of the options `cvt:pre:eqresult`, `cvt:pre:eqbinary`):
normalisation (sort_terms, sign flip), `FixEqualityResult`, `coef·x == rhs` → `x == rhs/coef`, reuse of a binary variable / its complement /
constant false — each keeps the truth value -/
theorem eq_dec (o : Opts) (e : Env) (val : Val) (hf : Feasible e val) (rhs : Rat) (ts : LinT) :
    DecSound tr trp o e (preproCondLinEQO o e rhs ts) (.clin 0 rhs ts) val := by
  unfold preproCondLinEQO
  by_cases hemp : ts.isEmpty = true
  · obtain rfl := List.isEmpty_iff.mp hemp
    show BaseSoundW tr trp (.keep _ _) _ val
    exact BaseSoundW.const tr trp (by simp only [Con.eval, linVal, List.map_nil, List.sum_nil])
  · simp only [hemp, Bool.false_eq_true, if_false]
    cases hs : sortLin ts with
    | nil => simp [DecSound]
    | cons t0 rest =>
      simp only []
      have hsv : linVal val (t0 :: rest) = linVal val ts := by rw [← hs]; exact linVal_sortLin val ts
      have hnz : ∀ t ∈ (t0 :: rest), t.1 ≠ 0 := by rw [← hs]; exact sortLin_nonzero ts
      generalize hn : (if 0 < t0.1 then (t0 :: rest, rhs) else (negLin (t0 :: rest), -rhs)) = nrm
      obtain ⟨ts2, rhs2⟩ := nrm
      obtain ⟨hval, hnz2⟩ := signNorm_spec val hn hnz
      rw [hsv] at hval
      simp only []
      cases hfix : (if o.eqResult = true then fixEqualityResult (boundsLin e ts2) rhs2 preBool else none) with
      | some p =>
        simp only [DecSound, Con.eval]
        have hfx := (Option.ite_none_right_eq_some.mp hfix).2
        have := (C06_fix_equality (boundsLin e ts2) (linVal val ts2) rhs2 (boundsLin_sound e val hf ts2) p hfx).1
        rw [hval] at this
        exact ⟨this, by rw [hval]⟩
      | none =>
        simp only []
        match ts2, hval, hnz2 with
        | [(c, v)], hval, hnz2 =>
          have hc : c ≠ 0 := hnz2 (c, v) (by simp)
          have hlv : linVal val [(c, v)] = c * val v := by simp [linVal]
          have hu : cmpKind 0 (val v) (if c = 1 then rhs2 else rhs2 / c) = cmpKind 0 (linVal val ts) rhs := by
            rw [← hval, hlv]; exact (eq_unify c (val v) rhs2 hc).symm
          have hone : linVal val [((1 : Rat), v)] = val v := by simp [linVal]
          simp only []
          by_cases hbin : (o.eqBinVar && isBinaryVar e v) = true
          · simp only [hbin, if_true]
            rw [Bool.and_eq_true] at hbin
            have h01 := binary_val e val hf v hbin.2
            by_cases h1 : (if c = 1 then rhs2 else rhs2 / c) = 1
            · simp only [h1, if_true, DecSound, Con.eval]
              rw [← hu, h1]
              rcases h01 with h | h <;> simp [h, cmpKind, b2r]
            · simp only [h1, if_false]
              by_cases h0 : (if c = 1 then rhs2 else rhs2 / c) = 0
              · simp only [h0, if_true]
                by_cases hb01 : (ER.eq (e v).lb (fin 0) && ER.eq (e v).ub (fin 1)) = true
                · simp only [hb01, if_true, DecSound]
                  refine ⟨?_, ?_⟩
                  · have hl1 : linVal val [((-1 : Rat), v)] = -val v := by simp [linVal]
                    simp only [Con.eval, hl1]
                    rw [← hu, h0]
                    rcases h01 with h | h <;> simp [h, cmpKind, b2r]
                  · exact lin_base tr trp o e val hf 1 [(-1, v)]
                · simp [hb01, DecSound]
              · simp only [h0, if_false, DecSound, Con.eval, hone]
                have hfalse : cmpKind 0 (val v) (if c = 1 then rhs2 else rhs2 / c) = false := by
                  simp only [cmpKind]
                  rcases h01 with h | h
                  · rw [h]; simp; exact fun hh => h0 hh.symm
                  · rw [h]; simp; exact fun hh => h1 hh.symm
                rw [← hu, hfalse]
                exact ⟨pre00.1, rfl⟩
          · simp only [hbin, Bool.false_eq_true, if_false, DecSound, Con.eval, hone]
            rw [← hu]
            exact ⟨preBool_contains_b2r _, rfl⟩
        | [], hval, _ =>
          simp only [DecSound, Con.eval]; rw [hval]; exact ⟨preBool_contains_b2r _, rfl⟩
        | _ :: _ :: _, hval, _ =>
          simp only [DecSound, Con.eval]; rw [hval]; exact ⟨preBool_contains_b2r _, rfl⟩


theorem qeq_dec (o : Opts) (e : Env) (val : Val) (hf : Feasible e val) (rhs : Rat) (ts : LinT) (qs : QuadT) :
    DecSound tr trp o e (preproCondQuadEQO o e rhs ts qs) (.cquad 0 rhs ts qs) val := by
  unfold preproCondQuadEQO
  by_cases hemp : (ts.isEmpty && qs.isEmpty) = true
  · rw [Bool.and_eq_true, List.isEmpty_iff, List.isEmpty_iff] at hemp
    obtain ⟨rfl, rfl⟩ := hemp
    show BaseSoundW tr trp (.keep _ _) _ val
    exact BaseSoundW.const tr trp (by simp only [Con.eval, linVal, quadVal, List.map_nil, List.sum_nil, add_zero])
  · simp only [hemp, Bool.false_eq_true, if_false]
    cases hfix : (if o.eqResult = true then fixEqualityResult (boundsQL e ts qs) rhs preBool else none) with
    | some p =>
      have hfx := (Option.ite_none_right_eq_some.mp hfix).2
      simp only [DecSound, Con.eval]
      exact ⟨(C06_fix_equality (boundsQL e ts qs) _ rhs (boundsQL_sound e val hf ts qs) p hfx).1, trivial⟩
    | none => simp only [DecSound, Con.eval]; exact ⟨preBool_contains_b2r _, trivial⟩

theorem qineq_base (e : Env) (val : Val) (hf : Feasible e val) (kind : Int) (hk : KindOK kind) (h0 : kind ≠ 0)
    (rhs : Rat) (ts : LinT) (qs : QuadT) :
    BaseSoundW tr trp (preproCondQuadIneq e kind rhs ts qs) (.cquad kind rhs ts qs) val := by
  unfold preproCondQuadIneq
  by_cases hemp : (ts.isEmpty && qs.isEmpty) = true
  · rw [Bool.and_eq_true, List.isEmpty_iff, List.isEmpty_iff] at hemp
    obtain ⟨rfl, rfl⟩ := hemp
    exact .const tr trp (by simp only [Con.eval, linVal, quadVal, List.map_nil, List.sum_nil, add_zero])
  · simp only [hemp, Bool.false_eq_true, if_false]
    have hsv : linVal val (sortLin ts) + quadVal val (sortQuad qs) = linVal val ts + quadVal val qs := by
      rw [linVal_sortLin, quadVal_sortQuad]
    have hkeep : BaseSoundW tr trp (.keep preBool (.cquad kind (roundRhs kind (boundsQL e (sortLin ts) (sortQuad qs)).int rhs)
        (sortLin ts) (sortQuad qs))) (.cquad kind rhs ts qs) val := by
      simp only [BaseSoundW, Con.eval]
      refine ⟨preBool_contains_b2r _, ?_⟩
      rw [hsv]; congr 1
      exact C06_round_rhs kind (hk.ineq h0) _ _ rhs (fun hi => by
        rw [← hsv]; exact (boundsQL_sound e val hf (sortLin ts) (sortQuad qs)).2.2 hi)
    cases hs : sortLin ts with
    | nil =>
      cases hq : sortQuad qs with
      | nil => simp [BaseSoundW]
      | cons q0 qrest =>
        simp only []
        by_cases hpos : 0 < q0.1
        · simp only [hpos, decide_true]; rw [hs, hq] at hkeep; exact hkeep
        · simp [hpos, BaseSoundW]
    | cons t0 rest =>
      simp only []
      by_cases hpos : 0 < t0.1
      · simp only [hpos, decide_true]; rw [hs] at hkeep; exact hkeep
      · simp [hpos, BaseSoundW]

theorem qineq_redirect {e : Env} {kind : Int} {rhs : Rat} {ts : LinT} {qs : QuadT} {c2 : Con}
    (h : preproCondQuadIneq e kind rhs ts qs = .redirect c2) :
    c2 = .cquad (-kind) (-rhs) (negLin (sortLin ts)) (negQuad (sortQuad qs)) := by
  unfold preproCondQuadIneq at h
  split_ifs at h
  simp only [] at h
  split at h <;> first | (cases h; done) | (cases h; rfl)

theorem qineq_dec (o : Opts) (e : Env) (val : Val) (hf : Feasible e val) (kind : Int) (hk : KindOK kind) (h0 : kind ≠ 0)
    (rhs : Rat) (ts : LinT) (qs : QuadT) :
    DecSound tr trp o e (preproCondQuadIneq e kind rhs ts qs) (.cquad kind rhs ts qs) val := by
  refine .of_base tr trp (qineq_base tr trp e val hf kind hk h0 rhs ts qs) fun c2 h => ?_
  cases qineq_redirect h
  refine ⟨?_, ?_⟩
  · simp only [Con.eval, linVal_negLin, quadVal_negQuad, linVal_sortLin, quadVal_sortQuad, ← neg_add]
    congr 1
    exact cmpKind_neg kind hk _ _
  · simp only [preproO, neg_eq_zero, h0, if_false]
    exact qineq_base tr trp e val hf (-kind) hk.neg (neg_ne_zero.mpr h0) (-rhs) _ _


theorem abs_dec (o : Opts) (e : Env) (val : Val) (hf : Feasible e val) (a : Nat) :
    DecSound tr trp o e (preproAbs e a) (.abs a) val := by
  have := C06_abs tr trp e val hf a
  cases hd : preproAbs e a <;> rw [hd] at this
  · obtain ⟨rfl, hc⟩ := this; exact ⟨hc, rfl⟩
  · exact this
  · obtain ⟨rfl, hc⟩ := this; exact ⟨hc, lin_base tr trp o e val hf _ _⟩
  · trivial
  · trivial

theorem pow_dec (o : Opts) (e : Env) (val : Val) (hf : Feasible e val) (a : Nat) (p : Rat) (hden : p.den = 1)
    (hadm : Adm e (.pow a p)) : DecSound tr trp o e (preproPow e a p) (.pow a p) val := by
  obtain ⟨n, rfl⟩ : ∃ n : Int, p = n := ⟨p.num, (Rat.coe_int_num_of_den_eq_one hden).symm⟩
  by_cases h0 : n = 0
  · obtain ⟨⟨pre, hp, hc, _⟩, _⟩ := C06_pow_01 tr trp e val a
    subst h0; simp only [Int.cast_zero]; rw [hp]; exact ⟨hc, rfl⟩
  by_cases h1 : n = 1
  · obtain ⟨_, hp, hc⟩ := C06_pow_01 tr trp e val a
    subst h1; simp only [Int.cast_one]; rw [hp]; exact hc
  exact .of_keep tr trp (pow_int_keep tr trp e val hf a h0 h1 fun hn =>
    (hadm (by exact_mod_cast hn)).imp_right fun hlb => (lt_fin_lb hlb (Or.inr (hf a).1)).ne')

/-- **every covered kind, any option setting**: the decision `PreprocessConstraint` takes is sound at every feasible valuation
(off the conditional comparisons `preproO o e c` unfolds to `prepro e c`, so the per-kind theorems apply as stated) -/
theorem decision_sound (o : Opts) (e : Env) (c : Con) (val : Val) (hcov : Covered c) (hadm : Adm e c) (htr : TrRange tr trp)
    (hf : Feasible e val) : DecSound tr trp o e (preproO o e c) c val := by
  cases c with
  | lin c0 ts => exact .of_keep tr trp (C06_lin tr trp e val hf c0 ts)
  | quad c0 ts qs => exact .of_keep tr trp (C06_quad tr trp e val hf c0 ts qs)
  | pow a p => exact pow_dec tr trp o e val hf a p hcov hadm
  | min as => exact .of_keep tr trp (C06_min tr trp e val hf as hcov)
  | max as => exact .of_keep tr trp (C06_max tr trp e val hf as hcov)
  | and as => exact C06_and tr trp e val hf as hadm
  | or as => exact C06_or tr trp e val hf as hadm
  | alldiff as => exact .of_keep tr trp ⟨_, C06_logical tr trp e val _ (Or.inr (Or.inr ⟨as, rfl⟩))⟩
  | count as => exact .of_keep tr trp (C06_count tr trp e val as 0).1
  | nvar as =>
    cases as with
    | nil => exact absurd rfl hcov
    | cons r l => exact .of_keep tr trp (C06_nvar tr trp e val r l)
  | nconst k as => exact .of_keep tr trp (C06_count tr trp e val as k).2
  | abs a => exact abs_dec tr trp o e val hf a
  | not a => exact .of_keep tr trp ⟨_, C06_logical tr trp e val _ (Or.inl ⟨a, rfl⟩)⟩
  | div a b => exact ⟨C06_div tr trp e val hf a b, rfl⟩
  | ifthen a b d => exact .of_keep tr trp (C06_ifthen tr trp e val hf a b d)
  | impl a b d => exact .of_keep tr trp ⟨_, C06_logical tr trp e val _ (Or.inr (Or.inl ⟨a, b, d, rfl⟩))⟩
  | clin k rhs ts =>
    by_cases h0 : k = 0
    · subst h0; exact eq_dec tr trp o e val hf rhs ts
    · simp only [preproO, h0, if_false]; exact ineq_dec tr trp o e val hf k hcov h0 rhs ts
  | cquad k rhs ts qs =>
    by_cases h0 : k = 0
    · subst h0; exact qeq_dec tr trp o e val hf rhs ts qs
    · simp only [preproO, h0, if_false]; exact qineq_dec tr trp o e val hf k hcov h0 rhs ts qs
  | un f a => exact ⟨htr.1 f (val a) hcov, rfl⟩
  | unp f a p => cases hcov; exact ⟨htr.2 p (val a), rfl⟩


/-- `AssignResult2Args` on a covered kind: no argument narrowing, so only the decision of `PreprocessConstraint` matters — the constraint is
converted as it is, or an exception leaves the state as it was, or the constraint it is redirected to is converted and given a result variable -/
theorem assign_cases (s : State) (c : Con) (hcov : Covered c) :
    s.assign c = s.assignBase c ∨ (∃ w, s.assign c = (s, .throw w)) ∨
    ∃ c2, preproO s.opts s.env c = .redirect c2 ∧
      s.assign c = ((State.resultVar (s.assignBase c2)).1,
        match (State.resultVar (s.assignBase c2)).2 with | some v => .var v | none => .unsupported) := by
  simp only [State.assign, argNarrowing_none_of_covered s.env c hcov]
  cases hd : preproO s.opts s.env c with
  | raise w => exact .inr (.inl ⟨w, rfl⟩)
  | redirect c2 => refine .inr (.inr ⟨c2, rfl, ?_⟩); dsimp only; cases (State.resultVar (s.assignBase c2)).2 <;> rfl
  | unsupported => rw [assignBase_eq, hd]; exact .inl rfl
  | _ => exact .inl rfl

theorem base_sound_of {o : Opts} {e : Env} {c c1 : Con} {val : Val} (hdec : DecSound tr trp o e (preproO o e c) c val)
    (h1 : c1 = c ∨ preproO o e c = .redirect c1) : BaseSoundW tr trp (preproO o e c1) c1 val := by
  rcases h1 with rfl | h1
  · revert hdec; cases preproO o e c1 <;> first | exact id | exact fun _ => trivial
  · rw [h1] at hdec; exact hdec.2

theorem assign_preserves (I : State → Prop) (s : State) (c : Con) (hcov : Covered c) (h0 : I s)
    (hfin : ∀ c1 pre c', (c1 = c ∨ preproO s.opts s.env c = .redirect c1) → preproO s.opts s.env c1 = .keep pre c' →
      I (s.finish pre (s.nested pre c')).1)
    (hrv : ∀ sr : State × Res, I sr.1 → I (State.resultVar sr).1) : I (s.assign c).1 := by
  have hbase : ∀ c1, (c1 = c ∨ preproO s.opts s.env c = .redirect c1) → I (s.assignBase c1).1 := by
    intro c1 h1
    cases hd : preproO s.opts s.env c1 with
    | keep pre c' => simp only [assignBase_eq, hd]; exact hfin c1 pre c' h1 hd
    | _ => simp only [assignBase_eq, hd]; exact h0
  rcases assign_cases s c hcov with h | ⟨w, h⟩ | ⟨c2, hd, h⟩ <;> rw [h]
  · exact hbase c (Or.inl rfl)
  · exact h0
  · exact hrv _ (hbase c2 (Or.inr hd))

/-- **one conversion step keeps "no value is cut off"** — every covered kind, conditional comparisons included, any option setting -/
theorem assign_bounds (s : State) (c : Con) (hwf : s.WF) (hb : BoundsSound tr trp s) (hcov : Covered c) (hadm : Adm s.env c)
    (htr : TrRange tr trp) :
    BoundsSound tr trp (s.assign c).1 ∧ (s.assign c).1.WF ∧ (s.assign c).1.opts = s.opts := by
  refine assign_preserves (fun s' => BoundsSound tr trp s' ∧ s'.WF ∧ s'.opts = s.opts) s c hcov ⟨hb, hwf, rfl⟩ ?_ ?_
  · intro c1 pre c' h1 hd
    refine finish_bounds tr trp s pre _ hwf hb fun val hf hds => ?_
    have := base_sound_of tr trp (decision_sound tr trp s.opts s.env c val hcov hadm htr hf) h1
    rw [hd] at this
    rw [nested_eval tr trp s pre c' val hds, this.2]; exact this.1
  · rintro sr ⟨h1, h2, h3⟩
    have := resultVar_bounds tr trp sr.1 sr.2 h2 h1
    exact ⟨this.1, this.2.1, this.2.2.trans h3⟩

/-- `hn`: unnesting does not change the value of the stored constraint -/
theorem assignBase_outcome (s : State) (c1 : Con) (val : Val) (hwf : s.WF)
    (hbs : BaseSoundW tr trp (preproO s.opts s.env c1) c1 val)
    (hn : ∀ pre c', preproO s.opts s.env c1 = .keep pre c' → (s.nested pre c').eval tr trp val = c'.eval tr trp val) :
    (∀ k, (s.assignBase c1).2 = .const k → k = fin (c1.eval tr trp val) ∧ (s.assignBase c1).1 = s) ∧
    (∀ v, (s.assignBase c1).2 = .var v → DefsHold tr trp (s.assignBase c1).1 val → val v = c1.eval tr trp val) := by
  cases hd : preproO s.opts s.env c1 with
  | keep pre c' =>
    rw [hd] at hbs
    simp only [assignBase_eq, hd]
    obtain ⟨h1, h2⟩ := C06_finish_sound tr trp s pre (s.nested pre c') val _ hwf hbs.1 (by rw [hn pre c' hd, hbs.2])
    exact ⟨fun k h => ⟨h1 k h, finish_const_state s pre _ k h⟩, h2⟩
  | «alias» v =>
    rw [hd] at hbs
    simp only [assignBase_eq, hd]
    exact ⟨fun k h => (by cases h), fun v' h _ => by cases h; exact hbs⟩
  | _ => simp only [assignBase_eq, hd]; exact ⟨fun k h => (by cases h), fun v h => (by cases h)⟩

theorem assign_outcome (s : State) (c : Con) (val : Val) (hcov : Covered c) (hwf : s.WF) (hfix : FixedOK s)
    (hdec : DecSound tr trp s.opts s.env (preproO s.opts s.env c) c val)
    (hn : ∀ c1 pre c', (c1 = c ∨ preproO s.opts s.env c = .redirect c1) → preproO s.opts s.env c1 = .keep pre c' →
      (s.nested pre c').eval tr trp val = c'.eval tr trp val)
    (hf : Feasible (s.assign c).1.env val) (hd : DefsHold tr trp (s.assign c).1 val) :
    (∀ k, (s.assign c).2 = .const k → k = fin (c.eval tr trp val)) ∧
    (∀ v, (s.assign c).2 = .var v → val v = c.eval tr trp val) := by
  have hbase := fun c1 h1 =>
    assignBase_outcome tr trp s c1 val hwf (base_sound_of tr trp hdec h1) (fun pre c' => hn c1 pre c' h1)
  rcases assign_cases s c hcov with h | ⟨w, h⟩ | ⟨c2, hdc, h⟩ <;> rw [h] at hf hd ⊢
  · obtain ⟨h1, h2⟩ := hbase c (Or.inl rfl)
    exact ⟨fun k h => (h1 k h).1, fun v h => h2 v h hd⟩
  · exact ⟨fun k h => (by cases h), fun v h => (by cases h)⟩
  · cases hrv : (State.resultVar (s.assignBase c2)).2 with
    | none => exact ⟨fun k h => (by cases h), fun v h => (by cases h)⟩
    | some v' =>
      refine ⟨fun k h => (by cases h), fun v h => ?_⟩
      injection h with h; subst h
      rw [hdc] at hdec
      rw [← hdec.1]
      obtain ⟨h1, h2⟩ := hbase c2 (Or.inr hdc)
      refine C06_resultVar_sound (s.assignBase c2).1 (s.assignBase c2).2 val _ (fun k h => by rw [(h1 k h).2]; exact hfix) (fun k h => (h1 k h).1)
        (fun v h => h2 v h ?_) v' hf hrv
      -- on a variable outcome `resultVar` returns the state unchanged
      rwa [show (State.resultVar (s.assignBase c2)).1 = (s.assignBase c2).1 by simp [State.resultVar, h]] at hd

/-- **assign-level soundness, every covered kind** (conditional linear and quadratic (in)equalities included, any option setting) (`FlatConverter::AssignResult2Args` as the driver runs it): composition of the
per-kind preprocessing theorems with `C06_finish_sound` / `C06_resultVar_sound`.
(1) the converter state keeps the invariant "no value is cut off" (`BoundsSound`: every defined variable lies in its recorded
bounds and type whenever the undefined ones lie in theirs and all definitions hold), stays well-formed, options unchanged;
(2) whatever is returned — constant, existing variable (alias or map hit), new result variable — has the value of the expression
in every valuation feasible for the state before and after the call and satisfying the definitions. -/
theorem C06_assign_sound (s : State) (c : Con) (hwf : s.WF) (hfix : FixedOK s) (hb : BoundsSound tr trp s)
    (hcov : Covered c) (hadm : Adm s.env c) (htr : TrRange tr trp) :
    (BoundsSound tr trp (s.assign c).1 ∧ (s.assign c).1.WF ∧ (s.assign c).1.opts = s.opts) ∧
    ∀ val, Feasible s.env val → DefsHold tr trp s val → Feasible (s.assign c).1.env val → DefsHold tr trp (s.assign c).1 val →
      (∀ k, (s.assign c).2 = .const k → k = fin (Con.eval tr trp val c)) ∧
      (∀ v, (s.assign c).2 = .var v → val v = Con.eval tr trp val c) := by
  refine ⟨assign_bounds tr trp s c hwf hb hcov hadm htr, fun val hf0 hd0 hf hd => ?_⟩
  exact assign_outcome tr trp s c val hcov hwf hfix (decision_sound tr trp s.opts s.env c val hcov hadm htr hf0)
    (fun _ pre c' _ _ => nested_eval tr trp s pre c' val hd0) hf hd

/-- **abs, conversion level, full strength** (ampl/mp from commit 15ae342 on): whatever `AssignResult2Args(abs(x))`
returns — the argument itself, the (possibly constant, hence fixed) variable for `−x`, a variable found through the map,
or a new result variable — has the value `|x|` in every valuation that is feasible for the state before and after the
call and satisfies the definitions of the resulting state.  No hypothesis on the argument's box: an argument fixed at a
negative value, which ampl/mp converted wrongly before that commit, is covered. -/
theorem C06_abs_assign (s : State) (a : Nat) (val : Val) (hwf : s.WF) (hfix : FixedOK s)
    (hf0 : Feasible s.env val) (hf : Feasible (s.assign (.abs a)).1.env val)
    (hd : DefsHold tr trp (s.assign (.abs a)).1 val) :
    (∀ c, (s.assign (.abs a)).2 = .const c → c = fin (Con.eval tr trp val (.abs a))) ∧
    (∀ v, (s.assign (.abs a)).2 = .var v → val v = Con.eval tr trp val (.abs a)) := by
  have habs := C06_abs tr trp s.env val hf0 a
  refine assign_outcome tr trp s (.abs a) val trivial hwf hfix
    (abs_dec tr trp _ _ val hf0 a) ?_ hf hd
  -- neither `abs` nor the linear constraint it may be redirected to is subject to `IntegrateNested`
  rintro c1 pre c' (rfl | h1) hk
  · rw [show preproAbs s.env a = .keep pre c' from hk] at habs
    obtain ⟨rfl, -⟩ := habs; rfl
  · rw [show preproAbs s.env a = .redirect c1 from h1] at habs
    obtain ⟨rfl, -⟩ := habs
    cases hk; rfl

/-- **`sort_terms` (linear and quadratic) and negation preserve the value of a constraint body** — the normalisation steps of the
conditional comparisons (`src/std_constr.cc` `LinTerms::sort_terms`, `QuadTerms::sort_terms`; `negate()`), for all term lists
(duplicates, zero coefficients, unordered pairs) and all valuations. -/
theorem C06_sort_terms_preserve (val : Val) (ts : LinT) (qs : QuadT) :
    linVal val (sortLin ts) = linVal val ts ∧ quadVal val (sortQuad qs) = quadVal val qs ∧
    linVal val (negLin ts) = - linVal val ts ∧ quadVal val (negQuad qs) = - quadVal val qs ∧
    (∀ t ∈ sortLin ts, t.1 ≠ 0) :=
  ⟨linVal_sortLin val ts, quadVal_sortQuad val qs, linVal_negLin val ts, quadVal_negQuad val qs, sortLin_nonzero ts⟩

/-- **conditional comparisons** `body <cmp> rhs` with `<cmp>` ∈ {<, ≤, =, ≥, >}, linear or quadratic body, any option setting: whatever
`PreprocessConstraint` decides — constant truth value for an empty body, `[0,1]` INTEGER with the normalised constraint (sorted/merged
terms, sign flip of equalities, right-hand side rounded for integer bodies incl. strict comparisons, `coef·x == rhs` → `x == rhs/coef`),
`FixEqualityResult`, reuse of a binary variable or its complement, redirection to the negated (normalised) comparison — the bounds
contain the truth value and the constraint stored / converted instead has the same truth value at every feasible valuation. -/
theorem C06_cond (o : Opts) (e : Env) (val : Val) (hf : Feasible e val) (htr : TrRange tr trp) (k : Int) (hk : KindOK k)
    (rhs : Rat) (ts : LinT) (qs : QuadT) :
    DecSound tr trp o e (preproO o e (.clin k rhs ts)) (.clin k rhs ts) val ∧
    DecSound tr trp o e (preproO o e (.cquad k rhs ts qs)) (.cquad k rhs ts qs) val :=
  ⟨decision_sound tr trp o e (.clin k rhs ts) val hk trivial htr hf,
   decision_sound tr trp o e (.cquad k rhs ts qs) val hk trivial htr hf⟩

/-- one operation as the harness / driver run it: `AssignResult2Args`, then a constant result is turned into a fixed variable -/
def stepOp (s : State) (c : Con) : State := (State.resultVar (s.assign c)).1
def runOps (s : State) : List Con → State
  | [] => s
  | c :: cs => runOps (stepOp s c) cs
/-- every operation is of a covered kind and admissible in the state it is applied to -/
def AdmOps (s : State) : List Con → Prop
  | [] => True
  | c :: cs => Covered c ∧ Adm s.env c ∧ AdmOps (stepOp s c) cs

/-- a state without defining constraints (the original variables) satisfies the invariant -/
theorem C06_initial_sound (s : State) (h : ∀ i, s.defs.getD i none = none) : BoundsSound tr trp s :=
  fun _ hfree _ i hi => hfree i hi (h i)

/-- **history theorem**: every converter state reachable from a sound state by ANY sequence of covered operations keeps all
recorded bounds and types sound (no value of any defined variable is ever cut off) — induction over the operation list. -/
theorem C06_history_sound (htr : TrRange tr trp) (ops : List Con) :
    ∀ s : State, s.WF → BoundsSound tr trp s → AdmOps s ops →
      BoundsSound tr trp (runOps s ops) ∧ (runOps s ops).WF := by
  induction ops with
  | nil => intro s hwf hb _; exact ⟨hb, hwf⟩
  | cons c cs ih =>
    intro s hwf hb hadm
    obtain ⟨hcov, ha, hrest⟩ := hadm
    obtain ⟨h1, h2, _⟩ := assign_bounds tr trp s c hwf hb hcov ha htr
    obtain ⟨h3, h4, _⟩ := resultVar_bounds tr trp (s.assign c).1 (s.assign c).2 h2 h1
    exact ih (stepOp s c) h4 h3 hrest

/-- `AssignResult2Args` keeps the fixed-variable map consistent (every covered kind: no argument narrowing) -/
theorem assign_fixedInv (s : State) (c : Con) (hcov : Covered c) (h : FixedInv s) : FixedInv (s.assign c).1 :=
  assign_preserves FixedInv s c hcov h (fun _ pre _ _ _ => finish_fixedInv s pre _ h)
    (fun sr h => resultVar_fixedInv sr.1 sr.2 h)

theorem runOps_fixedInv (ops : List Con) : ∀ s : State, FixedInv s → AdmOps s ops → FixedInv (runOps s ops) := by
  induction ops with
  | nil => exact fun _ h _ => h
  | cons c cs ih =>
    exact fun s h hadm => ih _ (resultVar_fixedInv _ _ (assign_fixedInv s c hadm.1 h)) hadm.2.2

/-- **history theorem, complete invariant**: every converter state reachable from a state that is well-formed, sound (`BoundsSound`) and
has a consistent fixed-variable map (`FixedInv`; trivially true for the original variables: the map is empty) by ANY list of covered
operations is again well-formed, sound and consistent.  In particular the hypothesis `FixedOK` of `C06_assign_sound` holds in every
reachable state, so its outcome clause applies to every further operation without extra assumptions. -/
theorem C06_history_invariant (htr : TrRange tr trp) (ops : List Con) :
    ∀ s : State, s.WF → BoundsSound tr trp s → FixedInv s → AdmOps s ops →
      BoundsSound tr trp (runOps s ops) ∧ (runOps s ops).WF ∧ FixedInv (runOps s ops) ∧ FixedOK (runOps s ops) := by
  intro s hwf hb hfi hadm
  have hfi' := runOps_fixedInv ops s hfi hadm
  obtain ⟨h1, h2⟩ := C06_history_sound tr trp htr ops s hwf hb hadm
  exact ⟨h1, h2, hfi', fixedOK_of_inv _ hfi'⟩

/-- **every step of every history**: after any list of covered operations, a further covered operation keeps the invariant and what it
returns equals the expression — `C06_assign_sound` with all its state hypotheses discharged by `C06_history_invariant`. -/
theorem C06_history_step_sound (htr : TrRange tr trp) (ops : List Con) (s : State) (hwf : s.WF) (hb : BoundsSound tr trp s)
    (hfi : FixedInv s) (hadm : AdmOps s ops) (c : Con) (hcov : Covered c) (ha : Adm (runOps s ops).env c) :
    ∀ val, Feasible (runOps s ops).env val → DefsHold tr trp (runOps s ops) val →
      Feasible ((runOps s ops).assign c).1.env val → DefsHold tr trp ((runOps s ops).assign c).1 val →
      (∀ k, ((runOps s ops).assign c).2 = .const k → k = fin (Con.eval tr trp val c)) ∧
      (∀ v, ((runOps s ops).assign c).2 = .var v → val v = Con.eval tr trp val c) := by
  obtain ⟨h1, h2, _, h4⟩ := C06_history_invariant tr trp htr ops s hwf hb hfi hadm
  exact (C06_assign_sound tr trp (runOps s ops) c h2 h4 h1 hcov ha htr).2

/-- **division, guard**: whenever `PreprocessConstraint(DivConstraint&)` infers anything (its result differs from the default
`(−∞, +∞)`), the divisor's box excludes 0, so `val b ≠ 0` at every feasible valuation: `C06_div` never relies on Lean's
totalised `x / 0 = 0` (in the branch that infers nothing, the default bounds contain every value). -/
theorem C06_div_guard (e : Env) (val : Val) (h : Feasible e val) (a b : Nat) (hne : preproDiv e a b ≠ {}) : val b ≠ 0 := by
  obtain ⟨hyl, hyu, _⟩ := h b
  unfold preproDiv at hne
  simp only [] at hne
  split at hne
  · next hcond =>
    simp only [Bool.and_eq_true] at hcond
    obtain ⟨⟨⟨⟨_, _⟩, c3⟩, c4⟩, c5⟩ := hcond
    obtain ⟨c, hc⟩ := fin_of_lb_gt hyl c3
    obtain ⟨d, hd⟩ := fin_of_ub_lt hyu c4
    rw [hc] at hyl c5; rw [hd] at hyu c5
    simp only [lbOK, ubOK] at hyl hyu
    simp only [mul, ER.lt, decide_eq_true_eq] at c5
    rcases pos_and_pos_or_neg_and_neg_of_mul_pos c5 with ⟨hcp, _⟩ | ⟨_, hdn⟩
    · exact ne_of_gt (lt_of_lt_of_le hcp hyl)
    · exact ne_of_lt (lt_of_le_of_lt hyu hdn)
  · exact absurd rfl hne

/-- **piecewise-linear**: the `PreprocessConstraint(PLConstraint&)` overload translated from the source is empty — no bounds, no
type, no result variable are inferred, so the result variable keeps the default `(−∞, +∞)` CONTINUOUS, which contains every
value (nothing can be cut off; nothing tighter — e.g. the range of the breakpoints' y values — is computed by the code). -/
theorem C06_pl (e : Env) (args : List Nat) (prm : List Rat) (x : Rat) :
    (MpVerif.Gen.C06.prepro_PL e args prm).pre = {} ∧ (MpVerif.Gen.C06.prepro_PL e args prm).rv = none ∧
    (MpVerif.Gen.C06.prepro_PL e args prm).narrow = [] ∧ (MpVerif.Gen.C06.prepro_PL e args prm).pre.Contains x :=
  ⟨rfl, rfl, rfl, default_contains x⟩

/-- **fractional exponent, negative lower bound**: nothing is inferred (`(!pow_int && lbx_neg)` branch), so nothing is cut off.
(For `lb ≥ 0` the code takes `[pow(lb,p), pow(ub,p)]` by monotonicity; that case has NO theorem — irrational values are
outside the `Rat` semantics — and is checked by correspondence on exact cases and by the sampling oracle only.) -/
theorem C06_pow_frac_skip (e : Env) (a : Nat) (p : Rat) (hp : ratIsInt p = false) (hneg : lt (e a).lb (fin 0) = true) :
    preproPow e a p = .keep {} (.pow a p) := by
  have h0 : p ≠ 0 := by intro h; rw [h] at hp; simp [ratIsInt] at hp
  have h1 : p ≠ 1 := by intro h; rw [h] at hp; simp [ratIsInt] at hp
  simp [preproPow, h0, h1, hp, hneg]


/-! ## non-vacuity: concrete non-trivial instances of the hypotheses used by the theorems above -/

/-- a box environment with a zero-crossing integer variable, a half-infinite continuous one and a binary one -/
def exEnv : Env := fun i =>
  if i = 0 then { lb := fin (-3), ub := fin 5, int := true }
  else if i = 1 then { lb := fin (1 / 2), ub := pinf, int := false }
  else { lb := fin 0, ub := fin 1, int := true }
def exVal : Val := fun i => if i = 0 then -2 else if i = 1 then 7 / 2 else 1

/-- `Feasible` (hypothesis of C06_lin, C06_abs, C06_min/max, C06_ifthen, C06_div, C06_pow_*, C06_and/or, …) is satisfiable by a
non-trivial box (negative/positive/infinite bounds, mixed types) -/
example : Feasible exEnv exVal := by
  intro v
  by_cases h0 : v = 0
  · subst h0; refine ⟨by simp [exEnv, exVal, lbOK]; norm_num, by simp [exEnv, exVal, ubOK]; norm_num, fun _ => ⟨-2, by simp [exVal]⟩⟩
  · by_cases h1 : v = 1
    · subst h1; refine ⟨by simp [exEnv, exVal, lbOK]; norm_num, by simp [exEnv, ubOK], fun h => by simp [exEnv] at h⟩
    · refine ⟨by simp [exEnv, exVal, h0, h1, lbOK], by simp [exEnv, exVal, h0, h1, ubOK], fun _ => ⟨1, by simp [exVal, h0, h1]⟩⟩

/-- the binary-argument hypothesis of C06_and / C06_or / C06_prop_down holds for variable 2 and fails for variable 0 -/
example : isBinaryVar exEnv 2 = true ∧ isBinaryVar exEnv 0 = false := by
  constructor <;> simp [isBinaryVar, isFixed, exEnv, ER.eq]; norm_num

/-- `C06_quad` / `C06_product_bounds` need no finiteness: the box `exEnv` has an unbounded variable and a NaN corner (`0·∞`) -/
example : (productBounds exEnv 1 2).2 = pinf ∧ mul (fin 0) pinf = nan := by decide +kernel

/-- the instance that ampl/mp converted wrongly before commit 15ae342 satisfies every hypothesis of `C06_abs_assign`:
x0 ∈ [7,9], x1 fixed at −2. -/
def exAbsState : State :=
  { vars := #[{ lb := fin 7, ub := fin 9, int := false }, { lb := fin (-2), ub := fin (-2), int := false }],
    defs := #[none, none], fixed := [] }
def exAbsVal : Val := fun i => if i = 0 then 8 else if i = 1 then -2 else 2

example : exAbsState.WF ∧ FixedOK exAbsState ∧ (exAbsState.assign (.abs 1)).2 = .var 2 := by
  refine ⟨by simp [State.WF, exAbsState], fun kv h => by simp [exAbsState] at h, by decide +kernel⟩

example : Feasible exAbsState.env exAbsVal := by
  intro v
  by_cases h0 : v = 0
  · subst h0
    have : exAbsState.env 0 = { lb := fin 7, ub := fin 9, int := false } := by decide +kernel
    rw [this]; refine ⟨by simp [lbOK, exAbsVal]; norm_num, by simp [ubOK, exAbsVal]; norm_num, fun h => by simp at h⟩
  · by_cases h1 : v = 1
    · subst h1
      have : exAbsState.env 1 = { lb := fin (-2), ub := fin (-2), int := false } := by decide +kernel
      rw [this]; refine ⟨by simp [lbOK, exAbsVal], by simp [ubOK, exAbsVal], fun h => by simp at h⟩
    · rw [env_ge (s := exAbsState) (by simp [exAbsState]; omega)]; exact inBox_free _

/-- the result variable (x2, fixed at 2) has the value |x1| = 2, as `C06_abs_assign` states -/
example : exAbsVal 2 = Con.eval (fun _ x => x) (fun _ _ x => x) exAbsVal (.abs 1) := by
  simp [exAbsVal, Con.eval]

/-- hypotheses of `C06_fix_equality` / `C06_gen_fixEqualityResult`: an integer body in [0,4] compared with 5/2 is fixed to false -/
example : fixEqualityResult { lb := fin 0, ub := fin 4, int := true } (5 / 2) preBool = some (preBool.narrow (fin 0) (fin 0)) := by
  decide +kernel

/-- hypotheses of `C06_pow_neg` (x ≠ 0, lb ≥ 0) and the guard it encodes: at x = 0 the totalised `0 ^ (−1) = 0` of Lean would lie outside
the inferred `[1/4, +∞]` for x ∈ [0,4] — which is why the theorem carries `val a ≠ 0` -/
example : (0 : Rat) ^ (-1 : Int) = 0 ∧ ¬ ((1 : Rat) / 4 ≤ 0) := by norm_num

/-- `TrRange` (hypothesis of `C06_assign_sound` / `C06_history_sound`) is satisfiable: the constant interpretation 1 lies in
every range the code assigns (exp ≥ 0, sin/cos/tanh ∈ [−1,1], cosh ≥ 1, acosh ≥ 0, asin/acos/atan within the `Pi()` bounds) -/
theorem trRange_const_one : TrRange (fun _ _ => 1) (fun _ _ _ => 1) := by
  constructor
  · intro f x hf
    cases f with
    | log => exact absurd rfl hf
    | tan | sinh | asinh | atanh => exact default_contains _
    | _ => refine (default_contains _).narrow (Or.inr ?_) (Or.inr ?_) <;> simp [lbOK, ubOK, piLit] <;> norm_num
  · intro p x
    exact (default_contains _).narrow (Or.inr (by simp [lbOK])) (Or.inr (by simp [ubOK]))

/-- the history theorem applies to a non-trivial history: from x0 ∈ [7,9], x1 = −2 the operations `x0^(−2)` (negative exponent, lb > 0), `abs(x1)` (redirect to a constant →
fixed variable x3), `2·x0 + x3` (new variable x4), `max(x0, x4)`, `exp(x5)`, the strict comparison `−x0 > 17/2` (not normalised: redirected to
`x0 < −17/2`) and the equality `2·x1 == 4`: all recorded bounds of the reachable state are sound -/
example : BoundsSound (fun _ _ => 1) (fun _ _ _ => 1)
    (runOps exAbsState [.pow 0 (-2), .abs 1, .lin 0 [(2, 0), (1, 3)], .max [0, 4], .un .exp 5, .clin 2 (17 / 2) [(-1, 0)], .clin 0 4 [(2, 1)]]) := by
  have hinit : BoundsSound (fun _ _ => 1) (fun _ _ _ => 1) exAbsState :=
    C06_initial_sound _ _ exAbsState (fun i => by
      by_cases h : i < 2
      · have : i = 0 ∨ i = 1 := by omega
        rcases this with rfl | rfl <;> decide +kernel
      · exact getD_ge (by simp [exAbsState]; omega))
  have hwf : exAbsState.WF := by simp [State.WF, exAbsState]
  refine (C06_history_sound _ _ trRange_const_one _ exAbsState hwf hinit ?_).1
  exact ⟨by simp [Covered], fun _ => Or.inr (by decide +kernel), trivial, trivial, trivial, trivial, by simp [Covered], trivial,
    by simp [Covered], trivial, by simp [Covered, KindOK], trivial, by simp [Covered, KindOK], trivial, trivial⟩

/-- non-vacuity: the empty fixed-variable map of the original variables satisfies `FixedInv` -/
example : FixedInv exAbsState := fun kv h => by simp [exAbsState] at h

end MpVerif.C06
