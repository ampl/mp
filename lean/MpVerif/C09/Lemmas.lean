import MpVerif.C09.Spec
/-!
# C09 — lemmas on the decision model (core Lean only)

The catch clauses are brought to a normal form (`onRaise_eq`) in which every written or printed record goes through the one
function `deliver`; the decision table `conclude` is then a relation with one row per constructor (`Concl`, `conclude_rel`), and the
property theorems are read off its rows.
-/
namespace MpVerif.C09

theorem dimsKnown_imp_handler (st : Stage) : st.dimsKnown = true → st.handlerAvailable = true := by
  cases st <;> simp [Stage.dimsKnown, Stage.handlerAvailable]

theorem dimsKnown_of_handler_ne_options (st : Stage) :
    st.handlerAvailable = true → st ≠ .options → st ≠ .populate → st.dimsKnown = true := by
  cases st <;> simp [Stage.dimsKnown, Stage.handlerAvailable]

theorem options_handler : Stage.options.handlerAvailable = true ∧ Stage.options.dimsKnown = false ∧
    Stage.options.insideRun = true := by
  simp [Stage.dimsKnown, Stage.handlerAvailable, Stage.insideRun]

theorem insideRun_of_handler (st : Stage) : st.handlerAvailable = true → st.insideRun = true := by
  cases st <;> simp [Stage.handlerAvailable, Stage.insideRun]

theorem insideRun_false_iff (st : Stage) : st.insideRun = false ↔ st = .ctor := by
  cases st <;> simp [Stage.insideRun]

/-- `handleSolution` either raises, prints to stdout only, or writes exactly the given record. -/
theorem handleSolution_cases (a : Bool) (w : Nat) (out : OutPath) (f : SolFile) :
    (wantsFile a w = true ∧ out.writable = false ∧ handleSolution a w out f = none) ∨
    (wantsFile a w = true ∧ out.writable = true ∧
      handleSolution a w out f = some (.sol { f with complete := true } (!a && !suppressMsg w))) ∨
    (wantsFile a w = false ∧ handleSolution a w out f = some (.stdoutOnly f.code (!suppressMsg w))) := by
  unfold handleSolution handleSolutionW OutPath.writable
  cases hw : wantsFile a w <;> cases hco : out.canOpen <;> cases hcf : out.canFlush <;> simp [writerChecksClose]

/-- `reportError` on a non-foreign exception. -/
theorem reportError_cases {a : Bool} {w : Nat} {out : OutPath} {h : Bool} {d : Dims} {x : Exn}
    (hx : x ≠ .foreign) :
    reportError a w out h d x =
      if h then
        orStderr (handleSolution a w out
              { code := x.reportCode, ncons := d.ncons, nduals := 0, nvars := d.nvars, nprimals := 0, complete := true })
      else .stderrExit 1 := by
  simp [reportError, hx]

theorem toExn_foreign_iff (r : Raise) : r.toExn = .foreign ↔ r = .foreign := by
  cases r <;> simp [Raise.toExn]

theorem reportCode_of_raise (r : Raise) : r.toExn.reportCode = r.reportedCode := by
  cases r <;> simp [Raise.toExn, Exn.reportCode, Raise.reportedCode, solFAILURE, EXIT_FAILURE]

theorem expandOpts_append (a b : List OptItem) : expandOpts (a ++ b) = expandOpts a ++ expandOpts b := by
  induction a with
  | nil => rfl
  | cons x a ih => cases x <;> simp [expandOpts, ih]

theorem expandOpts_map_tok (l : List Opt) : expandOpts (l.map .tok) = l := by
  induction l with
  | nil => rfl
  | cons o l ih => simp [expandOpts, ih]

theorem parseOpts_clean {os : List Opt} {w : Nat} (h : os.all Opt.clean = true) :
    parseOpts os w = (lastWantsol os w, none) := by
  induction os generalizing w with
  | nil => rfl
  | cons o os ih =>
    simp only [List.all_cons, Bool.and_eq_true] at h
    cases o <;> simp_all [parseOpts, lastWantsol, Opt.clean]

theorem parseOpts_split (pre : List Opt) (x : Opt) (post : List Opt) (w : Nat)
    (hpre : pre.all Opt.clean = true) (hx : x.clean = false) :
    parseOpts (pre ++ x :: post) w = (lastWantsol pre w, some x.raise) := by
  induction pre generalizing w with
  | nil => cases x <;> simp_all [parseOpts, lastWantsol, Opt.clean, Opt.raise]
  | cons o os ih =>
    simp only [List.all_cons, Bool.and_eq_true] at hpre
    cases o <;> simp_all [parseOpts, lastWantsol, Opt.clean]

theorem all_or_first_failing {α : Type} (p : α → Bool) (l : List α) :
    l.all p = true ∨ ∃ pre x post, l = pre ++ x :: post ∧ pre.all p = true ∧ p x = false := by
  induction l with
  | nil => exact .inl rfl
  | cons a l ih =>
    cases ha : p a
    · exact .inr ⟨[], a, l, rfl, rfl, ha⟩
    · rcases ih with h | ⟨pre, x, post, rfl, h1, h2⟩
      · exact .inl (by simp [ha, h])
      · exact .inr ⟨a :: pre, x, post, rfl, by simp [ha, h1], h2⟩

/-- Conversely: whenever the option parser raises, the list splits at the first offending token. -/
theorem parseOpts_raises {os : List Opt} {w w' : Nat} {r : Raise} (h : parseOpts os w = (w', some r)) :
    ∃ pre x post, os = pre ++ x :: post ∧ pre.all Opt.clean = true ∧ x.clean = false ∧
      r = x.raise ∧ w' = lastWantsol pre w := by
  rcases all_or_first_failing Opt.clean os with hc | ⟨pre, x, post, rfl, h1, h2⟩
  · rw [parseOpts_clean hc] at h; cases h
  · rw [parseOpts_split pre x post w h1 h2] at h; cases h
    exact ⟨pre, x, post, rfl, h1, h2, rfl, rfl⟩

theorem parseFlags_passing {fs : List Flag} {w : Nat} (h : fs.all Flag.passes = true) :
    parseFlags fs w = .proceed (flagsWantsol fs w) := by
  induction fs generalizing w with
  | nil => rfl
  | cons f fs ih =>
    simp only [List.all_cons, Bool.and_eq_true] at h
    cases f <;> simp_all [parseFlags, Flag.passes, flagsWantsol]

theorem exitStatus_ne_zero {c : Int} (h : c % 256 ≠ 0) : exitStatus c ≠ 0 := by
  unfold exitStatus
  omega

theorem exitStatus_lt (c : Int) : exitStatus c < 256 := by
  unfold exitStatus
  omega

/-- the record written when an exception is reported -/
def errFile (sc : Scenario) (st : Stage) (r : Raise) : SolFile :=
  { code := r.toExn.reportCode,
    ncons := (errDims sc st).ncons, nduals := 0,
    nvars := (errDims sc st).nvars, nprimals := 0, complete := true }

/-- the record written on the no-exception path -/
def okFile (sc : Scenario) : SolFile :=
  { code := sc.answer.code, ncons := sc.dims.ncons,
    nduals := if sc.answer.haveDual then sc.dims.ncons else 0,
    nvars := sc.dims.nvars,
    nprimals := if sc.answer.havePrimal then sc.dims.nvars else 0, complete := true }

/-- what one call of the solution handler leaves behind; on an unwritable path the writer's `fmt::SystemError` ends on stderr -/
def deliver (out : OutPath) (a : Bool) (w : Nat) (f : SolFile) : Outcome :=
  if wantsFile a w then
    if out.writable then .sol f (!a && !suppressMsg w) else .stderrExit 1
  else .stdoutOnly f.code (!suppressMsg w)

theorem handleSolution_deliver {a : Bool} {w : Nat} {out : OutPath} {f : SolFile} (hf : f.complete = true) :
    orStderr (handleSolution a w out f) = deliver out a w f := by
  obtain ⟨c, nc, nd, nv, np, _⟩ := f
  cases hf
  rcases handleSolution_cases a w out ⟨c, nc, nd, nv, np, true⟩ with ⟨_, _, _⟩ | ⟨_, _, _⟩ | ⟨_, _⟩ <;>
    simp [deliver, orStderr, *]

theorem reportError_deliver {a : Bool} {w : Nat} {out : OutPath} {h : Bool} {d : Dims} {x : Exn} (hx : x ≠ .foreign) :
    reportError a w out h d x =
      if h then deliver out a w ⟨x.reportCode, d.ncons, 0, d.nvars, 0, true⟩ else .stderrExit 1 := by
  rw [reportError_cases hx, handleSolution_deliver rfl]

/-- the retry after a failed write fails the same way: `writeOrRetry` is one delivery -/
theorem writeOrRetry_deliver {a : Bool} {w : Nat} {out : OutPath} {h : Bool} {d : Dims} {f : SolFile}
    (hf : f.complete = true) : writeOrRetry a w out h d f = deliver out a w f := by
  rw [← handleSolution_deliver hf]
  unfold writeOrRetry
  rcases handleSolution_cases a w out f with ⟨hw, ho, h3⟩ | ⟨_, _, h3⟩ | ⟨_, h3⟩ <;> rw [h3]
  · rw [reportError_deliver (by simp)]
    cases h <;> simp [deliver, hw, ho, orStderr]
  · rfl
  · rfl

theorem onRaise_eq (sc : Scenario) (st : PState) (r : Raise) :
    onRaise sc st r =
      if r = .foreign then .crash
      else if st.inRun then
        if st.handler then deliver sc.out st.ampl st.wantsol ⟨r.toExn.reportCode, st.dims.ncons, 0, st.dims.nvars, 0, true⟩
        else .stderrExit 1
      else .stderrExit (match r.toExn with | .mpError c => exitStatus c | _ => 1) := by
  unfold onRaise
  by_cases hr : r = .foreign
  · subst hr; cases st.inRun <;> simp [reportError, rbaOutcome, Raise.toExn]
  · have hx : r.toExn ≠ .foreign := fun h => hr ((toExn_foreign_iff r).1 h)
    rw [if_neg hr, reportError_deliver hx]
    cases hx' : r.toExn <;> simp [rbaOutcome]
    exact absurd hx' hx

theorem onRaise_foreign (sc : Scenario) (st : PState) : onRaise sc st .foreign = .crash := by
  rw [onRaise_eq, if_pos rfl]

theorem conclude_raised_eq (sc : Scenario) (a : Bool) (w : Nat) (st : Stage) (r : Raise) :
    conclude sc (.raised a w st r) = onRaise sc ⟨st.insideRun, a, w, st.handlerAvailable, errDims sc st⟩ r := rfl

theorem conclude_foreign (sc : Scenario) (a : Bool) (w : Nat) (st : Stage) :
    conclude sc (.raised a w st .foreign) = .crash :=
  (conclude_raised_eq sc a w st .foreign).trans (onRaise_foreign sc _)

/-- the record a run that ends as `e` hands to the solution handler, and in which mode -/
inductive Handed (sc : Scenario) : Ending → Bool → Nat → SolFile → Prop
  | finished {a w} : Handed sc (.finished a w) a w (okFile sc)
  | raised {a w} (st r) (hr : r ≠ .foreign) (hh : st.handlerAvailable = true) :
      Handed sc (.raised a w st r) a w (errFile sc st r)

theorem conclude_handed {sc : Scenario} {e : Ending} {a : Bool} {w : Nat} {f : SolFile} (hd : Handed sc e a w f) :
    conclude sc e = deliver sc.out a w f := by
  cases hd with
  | finished => exact writeOrRetry_deliver rfl
  | raised st r hr hh =>
    rw [conclude_raised_eq, onRaise_eq, if_neg hr, if_pos (insideRun_of_handler st hh), if_pos hh]
    rfl

/-- the decision table, one row per constructor -/
inductive Concl (sc : Scenario) : Ending → Outcome → Prop
  | info : Concl sc .info .info
  | exported (a w) : Concl sc (.exported a w) .silent
  | foreign (a w st) : Concl sc (.raised a w st .foreign) .crash
  | noHandler (a w st r) (hr : r ≠ .foreign) (hi : st.insideRun = true) (hh : st.handlerAvailable = false) :
      Concl sc (.raised a w st r) (.stderrExit 1)
  | escaped (a w r) (hr : r ≠ .foreign) :
      Concl sc (.raised a w .ctor r) (.stderrExit (match r.toExn with | .mpError c => exitStatus c | _ => 1))
  | sol (a w) {e f} (hd : Handed sc e a w f) (hw : wantsFile a w = true) (ho : sc.out.writable = true) :
      Concl sc e (.sol f (!a && !suppressMsg w))
  | unwritable (a w) {e f} (hd : Handed sc e a w f) (hw : wantsFile a w = true) (ho : sc.out.writable = false) :
      Concl sc e (.stderrExit 1)
  | stdout (a w) {e f} (hd : Handed sc e a w f) (hw : wantsFile a w = false) :
      Concl sc e (.stdoutOnly f.code (!suppressMsg w))

/-- from `h : conclude sc e = o`, `cases h ▸ conclude_rel sc e` leaves the rows whose outcome has the shape of `o` -/
theorem conclude_rel (sc : Scenario) (e : Ending) : Concl sc e (conclude sc e) := by
  have delivered {a w f} (hd : Handed sc e a w f) : Concl sc e (conclude sc e) := by
    rw [conclude_handed hd]
    unfold deliver
    cases hw : wantsFile a w
    · exact .stdout a w hd hw
    · cases ho : sc.out.writable
      · exact .unwritable a w hd hw ho
      · exact .sol a w hd hw ho
  cases e with
  | info => exact .info
  | exported a w => exact .exported a w
  | finished a w => exact delivered .finished
  | raised a w st r =>
    by_cases hr : r = .foreign
    · subst hr; rw [conclude_foreign]; exact .foreign a w st
    · cases hh : st.handlerAvailable
      · rw [conclude_raised_eq, onRaise_eq, if_neg hr]
        cases hi : st.insideRun
        · obtain rfl := (insideRun_false_iff st).1 hi
          exact .escaped a w r hr
        · simp only [hh]; exact .noHandler a w st r hr hi hh
      · exact delivered (.raised st r hr hh)

theorem conclude_raised_sol {sc : Scenario} {a : Bool} {w : Nat} {st : Stage} {r : Raise} {f : SolFile} {ech : Bool}
    (h : conclude sc (.raised a w st r) = .sol f ech) : f = errFile sc st r := by
  cases h ▸ conclude_rel sc (.raised a w st r) with | sol _ _ hd _ _ => cases hd; rfl

theorem codeOK_reportCode {ans : Answer} {r : Raise} (hr : r ≠ .foreign) : codeOK ans r.cause r.toExn.reportCode := by
  rw [reportCode_of_raise]
  cases r <;> simp [Raise.cause, codeOK, Raise.reportedCode] at hr ⊢
  rename_i c
  by_cases hc : 100 ≤ c <;> simp [hc]

theorem errDims_regular {sc : Scenario} {a : Bool} {w : Nat} {st : Stage} {r : Raise}
    (hreg : Regular sc (.raised a w st r)) (hh : st.handlerAvailable = true) : errDims sc st = sc.dims := by
  obtain ⟨_, hopt, hpop, _, _⟩ := hreg
  by_cases hso : st = .options
  · subst hso; rw [hopt rfl]; rfl
  · by_cases hsp : st = .populate
    · subst hsp; rw [← hpop rfl]; rfl
    · simp [errDims, dimsKnown_of_handler_ne_options st hh hso hsp]

theorem Concl.good {sc : Scenario} {e : Ending} {o : Outcome} (h : Concl sc e o) (hreg : Regular sc e) :
    GoodEnd sc e o := by
  cases h with
  | info => trivial
  | exported a w => exact hreg
  | foreign a w st => exact absurd rfl hreg.1
  | noHandler a w st r hr hi hh => exact ⟨by simp [cannotWrite, hh], by decide⟩
  | escaped a w r hr =>
    refine ⟨rfl, ?_⟩
    cases hx : r.toExn with
    | mpError c => exact exitStatus_ne_zero (hreg.2.2.2.2 rfl c hx)
    | _ => decide
  | sol a w hd hw ho =>
    cases hd with
    | finished =>
      cases hd : sc.answer.haveDual <;> cases hp : sc.answer.havePrimal <;>
        simp [GoodEnd, Ending.cause, codeOK, okFile, hd, hp]
    | raised st r hr hh =>
      simp [GoodEnd, Ending.cause, errFile, errDims_regular hreg hh, codeOK_reportCode hr]
  | unwritable a w hd hw ho => cases hd <;> simp [GoodEnd, Ending.cause, cannotWrite, ho]
  | stdout a w hd hw =>
    cases hd with
    | finished => simp [GoodEnd, Ending.cause, okFile, hreg.resolve_left (by simp [hw])]
    | raised st r hr hh => rw [hreg.2.2.2.1 hh] at hw; cases hw

end MpVerif.C09
