import MpVerif.C09.Pipeline
/-!
# C09 — the vocabulary of the theorem statements (definitions only; the line driver evaluates `Regular` and `withFaults`)
-/
namespace MpVerif.C09

/-- raise kinds whose object is built by a ctor that leaves `exit_code_` at its in-class
initialiser `EXIT_FAILURE` (= 1); being below 100, that code is replaced by `sol::FAILURE` (500) when reported. -/
def Raise.exitFailureCtor : Raise → Bool
  | .unsupported | .readError | .fmtError => true
  | _ => false

/-- **The code written, exactly**: for every way of raising, the solve code in a written failure
`.sol` — the causes the property names: proven infeasible during conversion (`infeas`, `wrappedInfeas`) → 200;
unsupported construct, missing bounds (`plain` from `ConstraintConversionFailure`), invalid input / options
(`readError`, `optionError`, `plain`), any other exception → 500; `Abort(c)` → `c` if `c ≥ 100`, else 500;
solution check → 150. -/
def Raise.reportedCode : Raise → Int
  | .withCode c => if c ≥ 100 then c else 500
  | .infeas => 200
  | .wrappedInfeas => 200
  | .solCheck => 150
  | _ => 500

/-- an option token that does not throw -/
def Opt.clean : Opt → Bool
  | .wantsol _ => true
  | .ok => true
  | .bad => false
  | .invalidValue => false

/-- what a throwing token raises -/
def Opt.raise : Opt → Raise
  | .invalidValue => .optionError
  | .bad => .plain
  | .ok => .plain
  | .wantsol _ => .plain

/-- the stored wantsol after a clean prefix -/
def lastWantsol : List Opt → Nat → Nat
  | [], w => w
  | .wantsol n :: os, _ => lastWantsol os n
  | .ok :: os, w => lastWantsol os w
  | .bad :: os, w => lastWantsol os w
  | .invalidValue :: os, w => lastWantsol os w

/-- a flag that lets `mp::ParseOptions` continue with the next argument -/
def Flag.passes : Flag → Bool
  | .wantsol => true
  | .noecho => true
  | .dashdash => false
  | .info => false
  | .invalid => false

/-- the stored wantsol after a prefix of passing flags -/
def flagsWantsol : List Flag → Nat → Nat
  | [], w => w
  | .wantsol :: fs, _ => flagsWantsol fs 1
  | .noecho :: fs, w => flagsWantsol fs w
  | .dashdash :: fs, w => flagsWantsol fs w
  | .info :: fs, w => flagsWantsol fs w
  | .invalid :: fs, w => flagsWantsol fs w

/-- what `builder.num_algebraic_cons()/num_vars()` return when an exception raised at `st` is handled (the `Dims` argument
`fail` gives to `reportError`) -/
def errDims (sc : Scenario) (st : Stage) : Dims :=
  if st.dimsKnown then sc.dims else if st = .populate then sc.partialDims else ⟨0, 0⟩

/-- An ending outside the deviation classes (named in the trailing comments, described at the head of `Props.lean`). -/
def Regular (sc : Scenario) (e : Ending) : Prop :=
  match e with
  | .info => True
  | .exported _ _ => False                                                  -- exportonly
  -- standalone: a finished run either writes the file, or (default stand-alone run) shows the result on stdout;
  -- excluded is only `wantsol=8` without bit 1: nothing at all is reported
  | .finished a w => wantsFile a w = true ∨ suppressMsg w = false
  | .raised a w st r =>
      r ≠ .foreign ∧                                                          -- foreign
      (st = .options → sc.dims = ⟨0, 0⟩) ∧                                    -- optdims
      (st = .populate → sc.partialDims = sc.dims) ∧                               -- hdrdims
      (st.handlerAvailable = true → wantsFile a w = true) ∧                   -- standalone
      (st = .ctor → ∀ c, r.toExn = .mpError c → c % 256 ≠ 0)                  -- ctorcode

instance (sc : Scenario) (e : Ending) : Decidable (Regular sc e) := by
  unfold Regular
  cases e with
  | info => exact inferInstance
  | exported a w => exact inferInstance
  | finished a w => exact inferInstance
  | raised a w st r =>
    -- the last conjunct quantifies over `c`, but `r.toExn` determines it
    have : Decidable (st = .ctor → ∀ c, r.toExn = .mpError c → c % 256 ≠ 0) :=
      match hx : r.toExn with
      | .mpError c0 =>
        if hst : st = .ctor then
          if hc : c0 % 256 ≠ 0 then isTrue (fun _ c h => by cases h; exact hc)
          else isFalse (fun h => hc (h hst c0 rfl))
        else isTrue (fun h => absurd h hst)
      | .stdExn => isTrue (fun _ c h => by cases h)
      | .foreign => isTrue (fun _ c h => by cases h)
    exact inferInstance

/-- the scenario the table is consulted with -/
def Scenario.withFaults (sc : Scenario) (bs : Behaviours) : Scenario := { sc with fault := firstFault bs }

end MpVerif.C09
