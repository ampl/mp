import MpVerif.C09.Lemmas
/-!
# C09 — the pipeline fold: it is the table, which behaviours it consults, how a step can end the run (core Lean only)
-/
namespace MpVerif.C09

local macro "c09_psimp" : tactic =>
  `(tactic| simp_all [foldSteps, step, look, onRaise, duringStage, afterStage, PState.init, conclude, fail,
      Stage.insideRun, Stage.handlerAvailable, Stage.dimsKnown, run, ending, faultBefore, Stage.idx, runP, pipeline])

theorem runP_single (sc : Scenario) (f : Option (Stage × Raise)) :
    runP sc (Behaviours.ofRaises f.toList) = run { sc with fault := f } := by
  -- split on everything `step` and `ending` branch on (flags, stub, options, `objno`, export, the faulty stage, foreign or
  -- not): with those decided, fold and table are two closed computations with the same result
  rcases f with _ | ⟨s, r⟩
  · simp only [Option.toList, Behaviours.ofRaises, List.map]
    cases hf : parseFlags sc.flags 0 with
    | stop => c09_psimp
    | throwOptionError => c09_psimp
    | proceed w0 =>
      cases hs : sc.hasStub with
      | false => c09_psimp
      | true =>
        rcases hp : parseOpts (expandOpts sc.opts) (if sc.ampl then 1 else w0) with ⟨w, _ | r'⟩
        · cases ho : sc.objnoTooBig <;> cases he : sc.justExport <;> c09_psimp
        · c09_psimp
  · simp only [Option.toList, Behaviours.ofRaises, List.map]
    cases hf : parseFlags sc.flags 0 with
    | stop => cases s <;> c09_psimp
    | throwOptionError => cases s <;> c09_psimp
    | proceed w0 =>
      cases hs : sc.hasStub with
      | false => cases s <;> c09_psimp
      | true =>
        rcases hp : parseOpts (expandOpts sc.opts) (if sc.ampl then 1 else w0) with ⟨w, _ | r'⟩
        · cases ho : sc.objnoTooBig <;> cases he : sc.justExport <;> cases s <;> try c09_psimp
          all_goals (by_cases hr : r = .foreign <;> c09_psimp)
        · cases s <;> c09_psimp

def envStages : List Step → List Stage
  | [] => []
  | .env s :: ps => s :: envStages ps
  | _ :: ps => envStages ps

/-- `suffixes`, the one stage whose exceptions are swallowed, is followed by no other abstract stage -/
def suffixesLast : List Step → Bool
  | [] => true
  | .env s :: ps => (s != .suffixes || (envStages ps).isEmpty) && suffixesLast ps
  | _ :: ps => suffixesLast ps

/-- `firstBeh` over any list of stages -/
def firstOf (bs : Behaviours) (ss : List Stage) : Option (Stage × Beh) :=
  ss.findSome? (fun s => (look bs s).map (fun b => (s, b)))

theorem firstBeh_eq_firstOf (bs : Behaviours) : firstBeh bs = firstOf bs (envStages pipeline) := rfl

theorem step_congr (sc : Scenario) (bs bs' : Behaviours) (p : Step) (st : PState)
    (h : ∀ s, p = .env s → look bs s = look bs' s) : step sc bs p st = step sc bs' p st := by
  cases p with
  | env s => simp only [step, h s rfl]
  | _ => rfl

theorem foldSteps_cons_congr {sc : Scenario} {bs bs' : Behaviours} {p : Step} {ps : List Step} {st : PState}
    (hp : step sc bs p st = step sc bs' p st)
    (h : ∀ st', step sc bs' p st = .next st' → foldSteps sc bs ps st' = foldSteps sc bs' ps st') :
    foldSteps sc bs (p :: ps) st = foldSteps sc bs' (p :: ps) st := by
  simp only [foldSteps, hp]
  cases hs : step sc bs' p st with
  | done o => rfl
  | next st' => exact h st' hs

theorem firstOf_some {bs : Behaviours} {ss : List Stage} {s : Stage} {b : Beh} (h : firstOf bs ss = some (s, b)) :
    look bs s = some b := by
  obtain ⟨s', _, hs'⟩ := List.exists_of_findSome?_eq_some h
  obtain ⟨b', hl, he⟩ := Option.map_eq_some_iff.1 hs'
  cases he; exact hl

theorem look_firstOf_of_none {bs : Behaviours} {ss : List Stage} {s : Stage} (h : look bs s = none) :
    look (firstOf bs ss).toList s = none := by
  cases hf : firstOf bs ss with
  | none => rfl
  | some p =>
    have := firstOf_some hf
    simp [look, show p.1 ≠ s from fun e => by simp [e, h] at this]

/-- the fold only depends on the first stage, in execution order, that does not complete -/
theorem foldSteps_first (sc : Scenario) (bs : Behaviours) (ps : List Step)
    (hsuf : suffixesLast ps = true) (st : PState) :
    foldSteps sc bs ps st = foldSteps sc (firstOf bs (envStages ps)).toList ps st := by
  induction ps generalizing st bs with
  | nil => rfl
  | cons p ps ih =>
    cases p with
    | env s =>
      simp only [suffixesLast, Bool.and_eq_true, Bool.or_eq_true, bne_iff_ne, List.isEmpty_iff] at hsuf
      cases hl : look bs s with
      | none =>
        have h1 : firstOf bs (envStages (.env s :: ps)) = firstOf bs (envStages ps) := by
          simp [envStages, firstOf, hl]
        rw [h1]
        refine foldSteps_cons_congr ?_ fun st' _ => ih bs hsuf.2 st'
        simp only [step, hl, look_firstOf_of_none hl]
      | some b =>
        have h1 : firstOf bs (envStages (.env s :: ps)) = some (s, b) := by simp [envStages, firstOf, hl]
        rw [h1]
        refine foldSteps_cons_congr (by simp [step, hl, look]) fun st' hst => ?_
        -- the run goes on only after a swallowed exception: `s` is `suffixes`, no abstract stage follows it, and by `ih`
        -- both environments then count for nothing
        by_cases hs : s = .suffixes
        · rw [ih bs hsuf.2, ih (some (s, b)).toList hsuf.2, hsuf.1.resolve_left (fun h => h hs)]; rfl
        · cases b <;> simp [step, look, hs] at hst
    | _ => exact foldSteps_cons_congr rfl fun st' _ => ih bs hsuf st'

theorem runP_first (sc : Scenario) (bs : Behaviours) : runP sc bs = runP sc (firstBeh bs).toList :=
  firstBeh_eq_firstOf bs ▸ foldSteps_first sc bs pipeline rfl PState.init

theorem look_mem {bs : Behaviours} {s : Stage} {b : Beh} (hl : look bs s = some b) : (s, b) ∈ bs := by
  induction bs with
  | nil => cases hl
  | cons p bs ih =>
    simp only [look] at hl
    split at hl
    · cases hl; subst_vars; exact List.mem_cons_self
    · exact List.mem_cons_of_mem _ (ih hl)

/-- a stage that kills the process ends the run exactly where a foreign exception at that stage would -/
theorem foldSteps_abort_as_foreign (sc : Scenario) (s : Stage) (ps : List Step) (st : PState) :
    foldSteps sc [(s, .aborts)] ps st = foldSteps sc [(s, .raises .foreign)] ps st := by
  induction ps generalizing st with
  | nil => rfl
  | cons p ps ih =>
    by_cases hp : p = .env s
    · subst hp; simp [foldSteps, step, look, onRaise_foreign]
    · exact foldSteps_cons_congr
        (step_congr sc _ _ p st fun s' hs' => by simp [look, show s ≠ s' from fun e => hp (e ▸ hs')]) fun st' _ => ih st'

theorem foldSteps_reached_or_not (sc : Scenario) (s : Stage) (b : Beh) (o : Outcome)
    (hb : ∀ st, step sc [(s, b)] (.env s) st = .done o) (ps : List Step) (st : PState) :
    foldSteps sc [(s, b)] ps st = o ∨ foldSteps sc [(s, b)] ps st = foldSteps sc [] ps st := by
  induction ps generalizing st with
  | nil => exact .inr rfl
  | cons p ps ih =>
    by_cases hp : p = .env s
    · subst hp; exact .inl (by simp only [foldSteps, hb])
    · simp only [foldSteps, step_congr sc [(s, b)] [] p st fun s' hs' => by
        simp [look, show s ≠ s' from fun e => hp (e ▸ hs')]]
      cases step sc [] p st with
      | done o => exact .inr rfl
      | next st' => exact ih st'

theorem parseOpts_raise_ne_foreign {os : List Opt} {w w' : Nat} {r : Raise} (h : parseOpts os w = (w', some r)) :
    r ≠ .foreign := by
  obtain ⟨_, x, _, _, _, _, rfl, _⟩ := parseOpts_raises h
  cases x <;> simp [Opt.raise]

/-- what holds of the outcome of every fold: a written file is complete and the path was writable; the process dies only if a
stage kills it or throws what no clause catches -/
def Sound (sc : Scenario) (bs : Behaviours) : Outcome → Prop
  | .crash => ∃ s, look bs s = some .aborts ∨ look bs s = some (.raises .foreign)
  | .sol f _ => f.complete = true ∧ sc.out.writable = true
  | _ => True

theorem deliver_sound {sc : Scenario} {bs : Behaviours} {a : Bool} {w : Nat} {f : SolFile} (hf : f.complete = true) :
    Sound sc bs (deliver sc.out a w f) := by
  unfold deliver
  cases wantsFile a w <;> cases ho : sc.out.writable <;> simp [Sound, hf, ho]

theorem onRaise_sound {sc : Scenario} {bs : Behaviours} {st : PState} {r : Raise} (hr : r ≠ .foreign) :
    Sound sc bs (onRaise sc st r) := by
  rw [onRaise_eq, if_neg hr]
  split
  · split
    · exact deliver_sound rfl
    · trivial
  · trivial

theorem step_sound {sc : Scenario} {bs : Behaviours} {p : Step} {st : PState} {o : Outcome}
    (h : step sc bs p st = .done o) : Sound sc bs o := by
  cases p with
  | env s =>
    simp only [step] at h
    cases hl : look bs s with
    | none => rw [hl] at h; cases h
    | some b =>
      rw [hl] at h
      cases b with
      | aborts => cases h; exact ⟨s, .inl hl⟩
      | hangs => cases h; trivial
      | raises r =>
        simp only at h
        split at h <;> cases h
        by_cases hr : r = .foreign
        · subst hr; rw [onRaise_foreign]; exact ⟨s, .inr hl⟩
        · exact onRaise_sound hr
  | flags =>
    simp only [step] at h
    split at h
    · cases h; trivial
    · cases h; exact onRaise_sound (by simp)
    · split at h <;> cases h
      trivial
  | parseOpts =>
    simp only [step] at h
    split at h <;> cases h
    rename_i hp
    exact onRaise_sound (parseOpts_raise_ne_foreign hp)
  | objno =>
    simp only [step] at h
    split at h <;> cases h
    exact onRaise_sound (by simp)
  | exportOnly =>
    simp only [step] at h
    split at h <;> cases h
    trivial
  | write =>
    cases h
    rw [writeOrRetry_deliver rfl]
    exact deliver_sound rfl
  | enterRun => cases h
  | mkHandler => cases h

theorem foldSteps_sound (sc : Scenario) (bs : Behaviours) (ps : List Step) (st : PState) :
    Sound sc bs (foldSteps sc bs ps st) := by
  induction ps generalizing st with
  | nil => trivial
  | cons p ps ih =>
    simp only [foldSteps]
    cases hs : step sc bs p st with
    | done o => exact step_sound hs
    | next st' => exact ih st'

end MpVerif.C09
