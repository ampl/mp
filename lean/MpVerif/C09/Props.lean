import MpVerif.C09.PipelineLemmas
import MpVerif.C09.Skeleton
/-!
# C09 — a driver run always ends in a well-formed result or a diagnosed failure

The property theorems about the decision model `MpVerif.C09.run` (`Model.lean`), the ties of the model's pieces to the
definitions generated from the source (`C09_gen_*`, with the specification `appParseSpec` of
`SolverAppOptionParser::Parse`), the theorems about the pipeline fold `runP` / `foldSteps` (`Pipeline.lean`), and the
scenarios of the counterexamples and instances.  The theorems of the first group are about *what the process leaves
behind as a function of where the first exception is raised, how it was constructed, the invocation mode and the output
path*.  They quantify over every `Scenario` / `Ending`: all stages × all raise kinds × all
solve codes (`Int`) × all header dimensions (`Nat`) × all `wantsol` values × all flag / option
lists (unbounded lists) × all output-path states.

**What is NOT a theorem**: that the C++ terminates and never crashes for every NL file.  The
model is a total function, so "terminates" is vacuous here; crash/hang freedom of the real code
is observed only (ASan/UBSan build + per-run timeout on the generated inputs).  The property is
therefore decided **partially**.

**The full-strength statement is false on the code as it exists**:

    theorem C09_outcome : ∀ sc, Good sc (run sc)            -- FALSE, see the counterexamples

The **code class** and **completeness** parts hold at full strength (`C09_code_class`, `C09_complete`,
`C09_write_error_is_diagnosed`): codes < 100 are replaced by `sol::FAILURE`, the infeasibility code is kept when
`ConstraintKeeper` re-raises, `WriteSolFile` closes the file and throws on write errors (instances:
`C09_fixed_code1`, `C09_fixed_infeas500`, `C09_fixed_writeerr`).  The classes that deviate:

* `optdims`     an exception inside the option-parsing window of `OnHeader` (unknown option,
                ill-typed value, `objno` too large) is reported in a `.sol` whose four count lines
                are `0 0 0 0` instead of the header's: the solution handler exists, but
                `NLProblemBuilder::OnHeader` has not populated the problem yet.
* `hdrdims`     the same mechanism one step later: `NLProblemBuilder::OnHeader` itself throws on an
                inconsistent header with the problem partially populated.
* `standalone`  without `-AMPL` and with `wantsol&1 = 0` an error is only printed on stdout (not at
                all with `wantsol&8`), exit status 0.
* `exportonly`  `tech:writemodelonly=<file>`: `RunFromNLFile` skips `Solve()` and `Report()`; the run ends
                with exit status 0, no `.sol`, no message (`C09_exportonly_general`).
* `ctorcode`    (latent) an `mp::Error` escaping to `RunBackendApp` is turned into the exit status
                `exit_code() mod 256`, which is 0 for codes 0, 256, 512, 768.
* `foreign`     (latent) an exception not derived from `std::exception` → `std::terminate`.

`C09_outcome_partial` proves the property for every scenario outside these classes (`Regular`), and
the `C09_*_general` theorems prove that *every* scenario inside a class behaves as described.
-/
namespace MpVerif.C09

/-- `ParseOptionString` over any token list: no token throws iff all are clean (the stored `wantsol` is then the last
one given: `parseOpts_clean`). -/
theorem C09_parseOpts_ok_iff (os : List Opt) (w : Nat) :
    (parseOpts os w).2 = none ↔ os.all Opt.clean = true := by
  rcases all_or_first_failing Opt.clean os with hc | ⟨pre, x, post, rfl, h1, h2⟩
  · simp [parseOpts_clean hc, hc]
  · simp [parseOpts_split pre x post w h1 h2, h2]

/-- …and if a token throws, it is the *first* offending one, with the `wantsol` stored by the
tokens before it (so `wantsol=1 foo=1` and `foo=1 wantsol=1` end differently). -/
theorem C09_parseOpts_first_error (os : List Opt) (w w' : Nat) (r : Raise) :
    parseOpts os w = (w', some r) ↔
      ∃ pre x post, os = pre ++ x :: post ∧ pre.all Opt.clean = true ∧ x.clean = false ∧
        r = x.raise ∧ w' = lastWantsol pre w := by
  constructor
  · exact parseOpts_raises
  · rintro ⟨pre, x, post, rfl, h1, h2, rfl, rfl⟩
    exact parseOpts_split pre x post w h1 h2

/-- `mp::ParseOptions` over any flag list. -/
theorem C09_parseFlags (pre : List Flag) (x : Flag) (post : List Flag) (w : Nat)
    (hpre : pre.all Flag.passes = true) :
    parseFlags pre w = .proceed (flagsWantsol pre w) ∧
    (x.passes = false →
      parseFlags (pre ++ x :: post) w =
        match x with
        | .info => .stop
        | .invalid => .throwOptionError
        | _ => .proceed (flagsWantsol pre w)) := by
  refine ⟨parseFlags_passing hpre, fun hx => ?_⟩
  induction pre generalizing w with
  | nil => cases x <;> first | exact absurd hx (by decide) | rfl
  | cons f fs ih =>
    simp only [List.all_cons, Bool.and_eq_true] at hpre
    cases f <;> simp_all [parseFlags, Flag.passes, flagsWantsol]

/-- **Dimensions.** Whenever a `.sol` is written — for whatever reason — its count lines are the
NL header's and the value blocks are empty or full, *unless* the run ended inside the
option-parsing window or while `NLProblemBuilder::OnHeader` populates the problem. -/
theorem C09_dims_partial (sc : Scenario) (e : Ending) (f : SolFile) (ech : Bool)
    (h : conclude sc e = .sol f ech)
    (hwin : ∀ a w r, e ≠ .raised a w .options r)
    (hpop : ∀ a w r, e ≠ .raised a w .populate r) :
    f.ncons = sc.dims.ncons ∧ f.nvars = sc.dims.nvars ∧
    (f.nduals = 0 ∨ f.nduals = f.ncons) ∧ (f.nprimals = 0 ∨ f.nprimals = f.nvars) := by
  cases h ▸ conclude_rel sc e with | sol a w hd _ _ => ?_
  cases hd with
  | finished => cases hd : sc.answer.haveDual <;> cases hp : sc.answer.havePrimal <;> simp [okFile, hd, hp]
  | raised st r _ hh =>
    have hd := dimsKnown_of_handler_ne_options st hh (fun hh => hwin a w r (by rw [hh])) (fun hh => hpop a w r (by rw [hh]))
    simp [errFile, errDims, hd]

/-- **`optdims`, exactly.** Every `.sol` written for an exception raised inside the option window
has the count lines `0 0 0 0` — whatever the header says. -/
theorem C09_optdims_general (sc : Scenario) (a : Bool) (w : Nat) (r : Raise) (f : SolFile) (ech : Bool)
    (h : conclude sc (.raised a w .options r) = .sol f ech) :
    f.ncons = 0 ∧ f.nduals = 0 ∧ f.nvars = 0 ∧ f.nprimals = 0 := by
  obtain rfl := conclude_raised_sol h
  simp [errFile, errDims, Stage.dimsKnown]

/-- **`hdrdims`, exactly.** Every `.sol` written for an exception thrown while the problem is being
populated from the header carries the partially populated dimensions. -/
theorem C09_hdrdims_general (sc : Scenario) (a : Bool) (w : Nat) (r : Raise) (f : SolFile) (ech : Bool)
    (h : conclude sc (.raised a w .populate r) = .sol f ech) :
    f.ncons = sc.partialDims.ncons ∧ f.nduals = 0 ∧ f.nvars = sc.partialDims.nvars ∧ f.nprimals = 0 := by
  obtain rfl := conclude_raised_sol h
  simp [errFile, errDims, Stage.dimsKnown]

/-- **Code class — full strength.**  Whenever a `.sol` is written its code is in the class of the cause: the solver's own code if nothing
went wrong; 200–299 for infeasibility (also when `MP_INFEAS` is re-raised by `ConstraintKeeper`);
500–999 for every failure — in particular for `ReadError`, `UnsupportedError`, `Error("fmt", …)`, whose
`exit_code()` is `EXIT_FAILURE`; the raiser's code (≥ 100) for `Abort(c)` / sol-check. -/
theorem C09_code_class (sc : Scenario) (e : Ending) (k : Cause) (f : SolFile) (ech : Bool)
    (h : conclude sc e = .sol f ech) (hk : e.cause = some k) :
    codeOK sc.answer k f.code := by
  cases h ▸ conclude_rel sc e with | sol a w hd _ _ => ?_
  cases hd <;> simp only [Ending.cause, Option.some.injEq] at hk <;> subst hk
  · simp [codeOK, okFile]
  · exact codeOK_reportCode ‹_›

theorem C09_reported_code_exact (sc : Scenario) (a : Bool) (w : Nat) (st : Stage) (r : Raise) (f : SolFile) (ech : Bool)
    (h : conclude sc (.raised a w st r) = .sol f ech) :
    f.code = r.reportedCode := by
  obtain rfl := conclude_raised_sol h
  exact reportCode_of_raise r

/-- Exceptions whose object keeps `exit_code_ = EXIT_FAILURE` (1) are reported with `sol::FAILURE`. -/
theorem C09_exit_failure_ctor_reports_500 (sc : Scenario) (a : Bool) (w : Nat) (st : Stage) (r : Raise) (f : SolFile) (ech : Bool)
    (hr : r.exitFailureCtor = true)
    (h : conclude sc (.raised a w st r) = .sol f ech) : f.code = 500 := by
  rw [C09_reported_code_exact sc a w st r f ech h]
  cases r <;> simp [Raise.exitFailureCtor, Raise.reportedCode] at hr ⊢

/-- An infeasibility re-raised by `ConstraintKeeper` keeps code 200. -/
theorem C09_wrapped_infeas_keeps_200 (sc : Scenario) (a : Bool) (w : Nat) (st : Stage) (f : SolFile) (ech : Bool)
    (h : conclude sc (.raised a w st .wrappedInfeas) = .sol f ech) :
    f.code = 200 ∧ (Ending.raised a w st .wrappedInfeas).cause = some .infeasible :=
  ⟨C09_reported_code_exact sc a w st _ f ech h, rfl⟩

/-- **Completeness — full strength**: a run that ends
with exit status 0 and a `.sol` has written it completely, and the path was writable; a write error
(`ENOSPC`, `EIO`) ends on stderr instead (`C09_write_error_is_diagnosed`). -/
theorem C09_complete (sc : Scenario) (e : Ending) (f : SolFile) (ech : Bool)
    (h : conclude sc e = .sol f ech) : f.complete = true ∧ sc.out.canOpen = true ∧ sc.out.canFlush = true := by
  cases h ▸ conclude_rel sc e with | sol a w hd _ ho => ?_
  simp only [OutPath.writable, Bool.and_eq_true] at ho
  exact ⟨by cases hd <;> rfl, ho⟩

/-- If a file is wanted, a handler exists and the path opens but the
data cannot be written, the run ends with `Error: …` on stderr and exit status 1. -/
theorem C09_write_error_is_diagnosed (sc : Scenario) (e : Ending)
    (hwant : ∀ a w, (e = .finished a w ∨ ∃ st r, e = .raised a w st r) → wantsFile a w = true)
    (hmodel : e ≠ .info) (hne : ∀ a w, e ≠ .exported a w)
    (hh : ∀ a w st r, e = .raised a w st r → st.handlerAvailable = true)
    (hnf : ∀ a w st, e ≠ .raised a w st .foreign)
    (hflush : sc.out.canFlush = false) :
    conclude sc e = .stderrExit 1 := by
  have ho : sc.out.writable = false := by simp [OutPath.writable, hflush]
  cases e with
  | info => exact absurd rfl hmodel
  | exported a w => exact absurd rfl (hne a w)
  | raised a w st r =>
    rw [conclude_handed (.raised st r (fun h => hnf a w st (by rw [h])) (hh a w st r rfl))]
    simp [deliver, hwant a w (Or.inr ⟨st, r, rfl⟩), ho]
  | finished a w =>
    rw [conclude_handed .finished]
    simp [deliver, hwant a w (Or.inl rfl), ho]

/-- **stderr only if no file can be written, and then with a non-zero status** — except for an
`mp::Error` escaping from the constructor stage whose code is a multiple of 256 (`ctorcode`). -/
theorem C09_stderr_partial (sc : Scenario) (e : Ending) (status : Nat)
    (h : conclude sc e = .stderrExit status)
    (hctor : ∀ a w r c, e = .raised a w .ctor r → r.toExn = .mpError c → c % 256 ≠ 0) :
    cannotWrite sc e = true ∧ status ≠ 0 ∧ status < 256 := by
  cases h ▸ conclude_rel sc e with
  | noHandler a w st r hr hi hh => exact ⟨by simp [cannotWrite, hh], by decide⟩
  | escaped a w r hr =>
    refine ⟨rfl, ?_⟩
    cases hx : r.toExn with
    | mpError c => exact ⟨exitStatus_ne_zero (hctor a w r c rfl hx), exitStatus_lt c⟩
    | _ => decide
  | unwritable a w hd hw ho => cases hd <;> simp [cannotWrite, ho]

/-- **`ctorcode`, exactly**: an `mp::Error` from the constructor stage exits with `code mod 256`. -/
theorem C09_ctorcode_general (sc : Scenario) (a : Bool) (w : Nat) (r : Raise) (c : Int)
    (hx : r.toExn = .mpError c) :
    conclude sc (.raised a w .ctor r) = .stderrExit (c % 256).toNat := by
  simp [conclude, fail, Stage.insideRun, hx, exitStatus, rbaOutcome]

/-- **No crash** unless the exception is not a `std::exception` (`foreign`, exactly). -/
theorem C09_crash_iff_foreign (sc : Scenario) (e : Ending) :
    conclude sc e = .crash ↔ ∃ a w st, e = .raised a w st .foreign := by
  constructor
  · intro h
    cases h ▸ conclude_rel sc e with | foreign a w st => exact ⟨a, w, st, rfl⟩
  · rintro ⟨a, w, st, rfl⟩
    exact conclude_foreign sc a w st

/-- **`standalone`, exactly**: the result goes to stdout only iff a model run (not `info`) ends,
without a foreign exception, at a point where a handler exists and no file is wanted. -/
theorem C09_stdout_only_iff (sc : Scenario) (e : Ending) :
    (∃ c s, conclude sc e = .stdoutOnly c s) ↔
      (∃ a w, wantsFile a w = false ∧
        (e = .finished a w ∨ ∃ st r, e = .raised a w st r ∧ st.handlerAvailable = true ∧ r ≠ .foreign)) := by
  constructor
  · rintro ⟨c, s, h⟩
    cases h ▸ conclude_rel sc e with | stdout a w hd hw => ?_
    cases hd with
    | finished => exact ⟨a, w, hw, .inl rfl⟩
    | raised st r hr hh => exact ⟨a, w, hw, .inr ⟨st, r, rfl, hh, hr⟩⟩
  · rintro ⟨a, w, hw, rfl | ⟨st, r, rfl, hh, hr⟩⟩
    · rw [conclude_handed .finished]; simp [deliver, hw]
    · rw [conclude_handed (.raised st r hr hh)]; simp [deliver, hw]

/-- **A file whenever one is wanted and can be written**: in `-AMPL` mode (or with `wantsol&1`),
if the header has been read and the path opens, the run ends with a `.sol` and exit 0 —
whatever happens. -/
theorem C09_file_whenever_possible (sc : Scenario) (e : Ending)
    (hwant : ∀ a w, (e = .finished a w ∨ ∃ st r, e = .raised a w st r) → wantsFile a w = true)
    (hmodel : e ≠ .info) (hne : ∀ a w, e ≠ .exported a w) (hcan : cannotWrite sc e = false)
    (hnf : ∀ a w st, e ≠ .raised a w st .foreign) :
    ∃ f ech, conclude sc e = .sol f ech := by
  cases e with
  | info => exact absurd rfl hmodel
  | exported a w => exact absurd rfl (hne a w)
  | raised a w st r =>
    simp only [cannotWrite, Bool.or_eq_false_iff, Bool.not_eq_false'] at hcan
    rw [conclude_handed (.raised st r (fun h => hnf a w st (by rw [h])) hcan.1)]
    simp [deliver, hwant a w (Or.inr ⟨st, r, rfl⟩), hcan.2]
  | finished a w =>
    simp only [cannotWrite, Bool.not_eq_false'] at hcan
    rw [conclude_handed .finished]
    simp [deliver, hwant a w (Or.inl rfl), hcan]

/-! ## The property, for every scenario outside the deviation classes -/

/-- **C09 (partial).** Every run that ends outside the deviation classes ends in one of the two
allowed outcomes: a complete `.sol` with the header's dimensions and a code of the cause's class,
or — only when no file can be written — `Error: …` on stderr with a non-zero exit status. -/
theorem C09_outcome_partial_end (sc : Scenario) (e : Ending) (hreg : Regular sc e) :
    GoodEnd sc e (conclude sc e) :=
  (conclude_rel sc e).good hreg

/-- **C09 (partial), stated on scenarios.** -/
theorem C09_outcome_partial (sc : Scenario) (hreg : Regular sc (ending sc)) : Good sc (run sc) :=
  C09_outcome_partial_end sc (ending sc) hreg

/-- `C09_dims_partial` for whole runs: a written `.sol` has the header's dimensions unless the run ended
in the option window or while the problem was being populated. -/
theorem C09_dims_run_partial (sc : Scenario) (f : SolFile) (ech : Bool) (h : run sc = .sol f ech)
    (hwin : ∀ a w r, ending sc ≠ .raised a w .options r)
    (hpop : ∀ a w r, ending sc ≠ .raised a w .populate r) :
    f.ncons = sc.dims.ncons ∧ f.nvars = sc.dims.nvars :=
  let t := C09_dims_partial sc (ending sc) f ech h hwin hpop
  ⟨t.1, t.2.1⟩

/-- The happy path at full strength: no fault, clean flags and options, a stub, `-AMPL`, a
usable output path ⟹ a complete `.sol` with exactly the solver's code and the header's
dimensions. -/
theorem C09_success (sc : Scenario)
    (hfault : sc.fault = none) (hflags : sc.flags.all Flag.passes = true) (hstub : sc.hasStub = true)
    (hopts : (expandOpts sc.opts).all Opt.clean = true) (hobj : sc.objnoTooBig = false)
    (hexp : sc.justExport = false) (hampl : sc.ampl = true) (hopen : sc.out.canOpen = true) (hflush : sc.out.canFlush = true) :
    run sc = .sol { code := sc.answer.code, ncons := sc.dims.ncons,
                    nduals := if sc.answer.haveDual then sc.dims.ncons else 0,
                    nvars := sc.dims.nvars,
                    nprimals := if sc.answer.havePrimal then sc.dims.nvars else 0,
                    complete := true } false := by
  simp [run, ending, faultBefore, hfault, parseFlags_passing hflags, hstub, hampl,
    parseOpts_clean hopts, hobj, hexp, conclude, writeOrRetry, handleSolution, handleSolutionW, writerChecksClose, wantsFile, hopen, hflush]

/-- The first offending option token (after any clean prefix) ends every run that got as
far as the header in the option window — with the `wantsol` stored so far. -/
theorem C09_bad_option_ending (sc : Scenario) (pre : List Opt) (x : Opt) (post : List Opt)
    (hfault : sc.fault = none) (hflags : sc.flags.all Flag.passes = true) (hstub : sc.hasStub = true)
    (hopts : expandOpts sc.opts = pre ++ x :: post) (hpre : pre.all Opt.clean = true) (hx : x.clean = false) :
    ending sc = .raised sc.ampl
      (lastWantsol pre (if sc.ampl then 1 else flagsWantsol sc.flags 0)) .options x.raise := by
  simp [ending, faultBefore, hfault, parseFlags_passing hflags, hstub, hopts,
    parseOpts_split pre x post _ hpre hx]

/-- Exceptions while reporting suffixes are swallowed (`StdBackend::ReportSuffixes`): the run ends
as if there had been none. -/
theorem C09_suffix_exceptions_swallowed (sc : Scenario) (r : Raise) (hr : r ≠ .foreign) :
    run { sc with fault := some (.suffixes, r) } = run { sc with fault := none } := by
  simp only [run, ending, faultBefore, Stage.idx]
  simp [hr]
  -- the two endings are now the same term, and `conclude` does not read `fault`
  rfl

/-! ## Translator ties: the model's decision functions equal the definitions generated from the source

`MpVerif.Gen.C09` (file `Gen/C09Driver.lean`) is regenerated on every check run by
`translators/gen_c09.py` from clang's typed AST of the current tree.  The theorems below state that the
hand model's pieces are *equal* to the generated ones (two are tripwires instead: `C09_gen_structure` compares generated
lists with literals, `C09_gen_pipeline` their hand-written reading `expand` with `pipeline`), so every theorem of this
file speaks about what the source says now; a change of the C++ in one of these places changes the generated definition
and the corresponding `C09_gen_*` proof stops checking. -/

/-- **Exit codes.** What the catch clauses see for each way of raising = `exit_code()` of the thrown object
as determined from `mp::Error`'s constructors, the derived classes' base initialisers and clang's overload
resolution for `MP_RAISE`, `MP_RAISE_WITH_CODE`, `MP_INFEAS`, `MP_UNSUPPORTED`, `OptionError(m)`,
`ReadError(…)`, `Error("fmt", s)`. -/
theorem C09_gen_exit_codes (r : Raise) :
    r.toExn = match r with
      | .plain => .mpError Gen.C09.exitCode_plain
      | .withCode c => .mpError (Gen.C09.exitCode_withCode c)
      | .infeas => .mpError Gen.C09.exitCode_infeas
      | .wrappedInfeas => .mpError Gen.C09.exitCode_infeas
      | .solCheck => .mpError Gen.C09.MP_SOLUTION_CHECK
      | .unsupported => .mpError Gen.C09.exitCode_unsupported
      | .optionError => .mpError Gen.C09.exitCode_optionError
      | .readError => .mpError Gen.C09.exitCode_readError
      | .fmtError => .mpError Gen.C09.exitCode_fmtError
      | .systemError => .stdExn
      | .stdExn => .stdExn
      | .foreign => .foreign := by
  cases r <;> rfl

/-- `BinaryReadError` (binary NL) is built like `MP_RAISE`: it is the `.plain` row of the table; both ways
the library constructs a `ReadError` (with an `ArgList`: reader errors; with a plain message: names files)
give the `.readError` row;
`EXIT_FAILURE` is the in-class initialiser. -/
theorem C09_gen_exit_code_facts :
    Gen.C09.exitCode_binaryReadError = Gen.C09.exitCode_plain ∧
    Gen.C09.exitCode_readErrorMsg = Gen.C09.exitCode_readError ∧
    Gen.C09.errorInClassExitCode = EXIT_FAILURE ∧ Gen.C09.EXIT_FAILURE = EXIT_FAILURE ∧
    Gen.C09.errorCtors = [("void ()", "in-class"), ("void (fmt::CStringRef, const Args &...)", "in-class"),
                          ("void (fmt::CStringRef, int)", "param 2")] := by decide

/-- **`BackendApp::Run`'s catch ladder**: `mp::Error` first, then `std::exception` (the order matters: `Error`
derives from it), nothing else; the try block is `Init; RunFromNLFile`; after a handler `Run` returns 0.
The solve code each handler passes to `ReportError` is the model's `Exn.reportCode`. -/
theorem C09_gen_run_ladder (c : Int) :
    Gen.C09.runHandlers = ["mp::Error", "std::exception"] ∧
    Gen.C09.runTryCalls = ["Init", "RunFromNLFile"] ∧ Gen.C09.runReturn = 0 ∧
    Exn.reportCode (.mpError c) = Gen.C09.runReportCode_mpError c ∧
    Exn.reportCode .stdExn = Gen.C09.runReportCode_stdException ∧
    solFAILURE = Gen.C09.FAILURE := by
  refine ⟨by decide, by decide, by decide, ?_, by decide, by decide⟩
  simp only [Exn.reportCode, Gen.C09.runReportCode_mpError, Gen.C09.UNCERTAIN, Gen.C09.FAILURE, solFAILURE]
  by_cases h : c ≥ 100 <;> simp [h]

/-- **`RunBackendApp`'s catch ladder**: an exception from the constructor stage ends as the generated
handlers say (`return e.exit_code()` / `return EXIT_FAILURE`), anything else has no handler. -/
theorem C09_gen_rba_ladder (sc : Scenario) (a : Bool) (w : Nat) (r : Raise) :
    Gen.C09.rbaHandlers = ["mp::Error", "std::exception"] ∧
    conclude sc (.raised a w .ctor r) =
      match r.toExn with
      | .mpError c => .stderrExit (exitStatus (Gen.C09.rbaReturn_mpError c))
      | .stdExn => .stderrExit Gen.C09.rbaReturn_stdException.toNat
      | .foreign => .crash := by
  refine ⟨by decide, ?_⟩
  cases hx : r.toExn <;> simp [conclude, fail, Stage.insideRun, hx, rbaOutcome, Gen.C09.rbaReturn_mpError, Gen.C09.rbaReturn_stdException]

/-- **wantsol bit tests** of `AppSolutionHandlerImpl::HandleSolution`: when the `.sol` is written, and
when the message is echoed on stdout. -/
theorem C09_gen_handle_solution_guards (ampl : Bool) (w : Nat) :
    wantsFile ampl w = Gen.C09.hsWritesFile ampl w ∧
    (!ampl && !suppressMsg w) = (!Gen.C09.hsReturnsEarly ampl w && Gen.C09.hsPrintsMessage ampl w) := by
  constructor
  · rfl
  · simp only [suppressMsg, Gen.C09.hsReturnsEarly, Gen.C09.hsPrintsMessage, Gen.C09.SUPPRESS_SOLVER_MSG]
    cases ampl <;> cases h : (w &&& 8) == 0 <;> simp_all [bne]

/-- **Code classes**: the bounds used by the property predicate are the enumerators of `mp::sol`; the
threshold below which `Run` replaces a code is `sol::UNCERTAIN`. -/
theorem C09_gen_code_classes (a : Answer) (c : Int) :
    (codeOK a .infeasible c ↔ Gen.C09.INFEASIBLE ≤ c ∧ c ≤ Gen.C09.INFEASIBLE_LAST) ∧
    (codeOK a .failure c ↔ Gen.C09.FAILURE ≤ c ∧ c ≤ Gen.C09.FAILURE_LAST) ∧
    (Raise.withCode c).cause = (if c ≥ Gen.C09.UNCERTAIN then .asRaised c else .failure) ∧
    Raise.solCheck.cause = .asRaised Gen.C09.MP_SOLUTION_CHECK ∧
    Gen.C09.SOLVED_LAST < Gen.C09.UNCERTAIN := by
  simp [codeOK, Raise.cause, Gen.C09.INFEASIBLE, Gen.C09.INFEASIBLE_LAST, Gen.C09.FAILURE, Gen.C09.FAILURE_LAST,
    Gen.C09.UNCERTAIN, Gen.C09.MP_SOLUTION_CHECK, Gen.C09.SOLVED_LAST]

/-- **Structure** the model's stages rest on:
* the after-header lambda of `ReadNLModel` creates the solution handler *before* it calls the option
  parser (`Stage.options.handlerAvailable`), and `ReadNLModel` then reads names and converts;
* `SolverNLHandlerImpl::OnHeader` parses the options and checks `objno` (throwing) *before*
  `NLProblemBuilder::OnHeader` populates the problem (`Stage.options.dimsKnown = false`);
* `RunFromNLFile`'s sequence (`extras` before `solve` before `report`; export in `extras`);
* `WriteSolFile` prints the four count lines as constraints, duals, variables, primals. -/
theorem C09_gen_structure :
    Gen.C09.readNLModelAfterHeader = ["MakeProperSolutionHandler", "if(after_header):after_header"] ∧
    Gen.C09.readNLModelCalls = ["ReadNLFile", "ReadNames", "ConvertModelAndUpdateBackend"] ∧
    Gen.C09.onHeaderCalls = ["notify_start_opts", "operator()", "notify_end_opts", "OnHeader"] ∧
    Gen.C09.onHeaderThrowBeforeBase = true ∧
    Gen.C09.runFromNLFileCalls = ["ReadNL", "InputExtras", "SetupTimerAndInterrupter", "ExportModel", "Solve",
                                   "RecordSolveTime", "Report"] ∧
    Gen.C09.solCountLines = ["num_algebraic_cons", "num_dual_values", "num_vars", "num_values"] ∧
    Stage.options.handlerAvailable = true ∧ Stage.options.dimsKnown = false ∧
    Stage.header.handlerAvailable = false ∧ Stage.populate.dimsKnown = false ∧ Stage.body.dimsKnown = true :=
  ⟨rfl, rfl, rfl, rfl, rfl, rfl, rfl, rfl, rfl, rfl, rfl⟩

/-- **The stage sequence, read off the function bodies** (a *tripwire with structure*, not a proof about
C++).  The generated skeletons list every call / construction / condition / throw / return of `RunBackendApp`,
`BackendApp::Run`, `Init`, `RunFromNLFile`, `ReadNL`, `ReadNLModel`, `ReadNLFile`, `OnHeader` and the two
after-header lambdas, unfiltered.  Reading each token with the hand-written table `itemOf` and inlining the
translated bodies gives exactly `pipeline`, and no token is unknown.  A **new call** in any of these bodies, a
changed branch condition, a new `throw`, or a reordering that moves a step fails this theorem (the translator
has no list of names it looks for).  The meaning given to each known token, the data flow of the lambdas and the
resolution of virtual calls are by hand. -/
theorem C09_gen_pipeline :
    expand Gen.C09.skeletonTable 400 "skRunBackendApp" = some pipeline ∧
    firstUnknown Gen.C09.skeletonTable = none := ⟨rfl, rfl⟩

/-- The writer of the current tree ends with `file.close()` on the `fmt::BufferedFile` the data went to
(generated from `WriteSolFile`'s last statement). -/
theorem C09_gen_writer_closes_file : writerChecksClose = Gen.C09.solWriterClosesFile := by decide

/-- **Completeness is a consequence of the writer, not a literal.**  `complete` of a written file is computed by
`handleSolutionW`: it is `out.canFlush`.  A `.sol` outcome with an incomplete file is *representable* — it is
exactly what a writer that does not check the stream produces on a path that cannot be flushed — and it is
excluded for every path **iff** the writer checks. -/
theorem C09_writer_complete_iff_checked (checks : Bool) :
    (∀ a w out f g shown, handleSolutionW checks a w out f = some (.sol g shown) → g.complete = true) ↔ checks = true := by
  constructor
  · intro h
    cases checks with
    | true => rfl
    | false =>
      have := h true 0 ⟨true, false⟩ ⟨0, 0, 0, 0, 0, true⟩ _ _ rfl
      simp at this
  · intro hc a w out f g shown h
    subst hc
    unfold handleSolutionW at h
    cases hw : wantsFile a w <;> cases hco : out.canOpen <;> cases hcf : out.canFlush <;> simp [hw, hco, hcf] at h
    rw [← h.1]

/-! ## The catch ladders and `fmt::BufferedFile::close` tied to the source -/

/-- **Which exceptions the three catch ladders take** (generated handler types, in source order; C++ matching rule
`handlerCatches`).  `BackendApp::Run`, `RunBackendApp` and `StdBackend::ReportSuffixes` take every `std::exception`
and nothing else: an exception leaves them iff it is foreign — the condition the model uses (`reportError`,
`rbaOutcome`, the `suffixes` arm of `step`).  `mp::Error` objects take the first clause of the two outer ladders.
`ReportSuffixes` has exactly the two reporting calls in its try block and no handler rethrows (the translator refuses
otherwise). -/
theorem C09_gen_ladders_catch (x : Exn) :
    (caughtBy Gen.C09.runHandlers x = none ↔ x = .foreign) ∧
    (caughtBy Gen.C09.rbaHandlers x = none ↔ x = .foreign) ∧
    (caughtBy Gen.C09.suffixesHandlers x = none ↔ x = .foreign) ∧
    (∀ c, caughtBy Gen.C09.runHandlers (.mpError c) = some "mp::Error" ∧ caughtBy Gen.C09.rbaHandlers (.mpError c) = some "mp::Error") ∧
    caughtBy Gen.C09.runHandlers .stdExn = some "std::exception" ∧ caughtBy Gen.C09.rbaHandlers .stdExn = some "std::exception" ∧
    Gen.C09.suffixesTryCalls = ["ReportStandardSuffixes", "ReportCustomSuffixes"] := by
  have e : ∀ c, handlerCatches "mp::Error" (.mpError c) = true := fun _ => rfl
  refine ⟨?_, ?_, ?_, fun c => ?_, by decide, by decide, by decide⟩
  case refine_4 => simp [caughtBy, Gen.C09.runHandlers, Gen.C09.rbaHandlers, e]
  all_goals cases x <;> simp [caughtBy, Gen.C09.runHandlers, Gen.C09.rbaHandlers, Gen.C09.suffixesHandlers, List.find?, handlerCatches]

/-- The `suffixes` arm of the pipeline, stated through the generated ladder: an exception raised while suffixes are
reported is swallowed (the run goes on in the same state) exactly when `ReportSuffixes`' ladder takes it; otherwise the
run ends as `onRaise` says. -/
theorem C09_suffix_step_follows_ladder (sc : Scenario) (bs : Behaviours) (st : PState) (r : Raise)
    (h : look bs .suffixes = some (.raises r)) :
    step sc bs (.env .suffixes) st =
      (if (caughtBy Gen.C09.suffixesHandlers r.toExn).isSome then .next st else .done (onRaise sc st r)) := by
  have hc : (caughtBy Gen.C09.suffixesHandlers r.toExn).isSome = true ↔ r ≠ .foreign := by
    rw [Option.isSome_iff_ne_none, Ne, (C09_gen_ladders_catch r.toExn).2.2.1, toExn_foreign_iff]
  simp [step, h, hc, duringStage]

/-- **`fmt::BufferedFile::close()`** (generated from src/posix.cc statement by statement, `fclose`'s return value a
parameter), for every state and every return value:
* afterwards the object owns no stream (also when it throws) — so the destructor that runs next does not call `fclose`
  a second time on the same stream;
* it throws iff it owned a stream and `fclose` failed (returned non-zero: buffered data could not be written);
* it calls `fclose` exactly once if it owned a stream, never otherwise, and never on a dead stream if the stream it
  owned was live. -/
theorem C09_gen_buffered_file_close (s : Gen.C09.FileState) (res res' : Int) :
    (Gen.C09.bufferedFileClose s res).fileSet = false ∧
    (Gen.C09.bufferedFileClose s res).threw = (s.threw || (s.fileSet && res != 0)) ∧
    (Gen.C09.bufferedFileClose s res).fcloses = s.fcloses + (if s.fileSet then 1 else 0) ∧
    ((s.fileSet = true → s.live = true) → (Gen.C09.bufferedFileClose s res).doubleClose = s.doubleClose) ∧
    -- close, then the destructor: nothing more happens
    Gen.C09.bufferedFileDtor (Gen.C09.bufferedFileClose s res) res' = Gen.C09.bufferedFileClose s res := by
  cases hs : s.fileSet <;> by_cases hr : res = 0 <;>
    simp [Gen.C09.bufferedFileClose, Gen.C09.bufferedFileDtor, Gen.C09.fcloseCall, hs, hr]
  all_goals (intro hl; simp [hl])

/-- **The destructor alone never throws** (it only reports): a writer that lets the `BufferedFile` go out of scope
without `close()` returns normally whatever `fclose` says.  The writer checks: its last statement is `file.close()` (generated) and `close()` on an open file throws when `fclose` fails. -/
theorem C09_gen_writer_checks_close :
    (∀ s res, (Gen.C09.bufferedFileDtor s res).threw = s.threw) ∧
    (∀ res, (Gen.C09.bufferedFileClose ⟨true, true, 0, false, false, false⟩ res).threw = (res != 0)) ∧
    writerChecksClose = (Gen.C09.solWriterClosesFile &&
      (Gen.C09.bufferedFileClose ⟨true, true, 0, false, false, false⟩ 1).threw) := by
  refine ⟨fun s res => ?_, fun res => (C09_gen_buffered_file_close _ res 0).2.1, by decide⟩
  cases hs : s.fileSet <;> by_cases hr : res = 0 <;>
    simp [Gen.C09.bufferedFileDtor, Gen.C09.fcloseCall, hs, hr]

/-! ## `SolverAppOptionParser::Parse` tied to the source -/

/-- What the model's `.flags` step assumes `Parse` does after `ParseOptions`, as a function of the same arguments as
the generated `solverAppParse`: a flag other than `--` that ends option processing ends the run (null is returned);
no stub: usage, null; otherwise the stub is returned and an immediately following `-AMPL` sets the flag and
`wantsol = 1` (and is consumed). -/
def appParseSpec (argv : List String) (optIn consumed : Nat) (s : Gen.C09.AppParse) : Option String × Gen.C09.AppParse :=
  let j := s.i + 1 + consumed
  if optIn ≠ 0 ∧ optIn ≠ 45 then (none, { s with i := j })
  else match argv[j]? with
    | none => (none, { s with i := j, usage := true })
    | some stub =>
      if argv[j + 1]? = some "-AMPL" then (some stub, { s with i := j + 1 + 1, ampl := true, wantsol := 1 })
      else (some stub, { s with i := j + 1 })

/-- **`SolverAppOptionParser::Parse`** (generated from src/solver.cc statement by statement) equals the specification
for every command line, every return value / advance of `ParseOptions` and every state. -/
theorem C09_gen_app_parse (argv : List String) (optIn consumed : Nat) (s : Gen.C09.AppParse) :
    Gen.C09.solverAppParse argv optIn consumed s = appParseSpec argv optIn consumed s := by
  unfold Gen.C09.solverAppParse appParseSpec
  by_cases hopt : optIn ≠ 0 ∧ optIn ≠ 45
  · simp [hopt]
  · simp only [bne_iff_ne, Bool.and_eq_true, hopt, if_false]
    cases argv[s.i + 1 + consumed]? with
    | none => simp
    | some stub =>
      by_cases h2 : argv[s.i + 1 + consumed + 1]? = some "-AMPL" <;> simp [h2]

/-- **The `.flags` step of the pipeline is `Parse`**: for any command line that realises the scenario (after the
`consumed` flag arguments comes the stub iff `hasStub`, and `-AMPL` right after it iff `ampl`), with `ParseOptions`
having processed all flags (`0`) or met `--` (`45`) and left `wantsol = w0`: the step ends the run with `info` iff the
generated `Parse` returns null, and otherwise continues with exactly the `-AMPL` flag and `wantsol` that `Parse` set.
(`parseFlags`, the loop of `ParseOptions` over the flag arguments, stays hand-written and sampled.) -/
theorem C09_flags_step_follows_parse (sc : Scenario) (bs : Behaviours) (st : PState) (w0 : Nat)
    (argv : List String) (optIn consumed : Nat)
    (hp : parseFlags sc.flags 0 = .proceed w0) (hopt : optIn = 0 ∨ optIn = 45)
    (hstub : (argv[1 + consumed]?).isSome = sc.hasStub)
    (hampl : (argv[1 + consumed + 1]? = some "-AMPL") ↔ sc.ampl = true) :
    step sc bs .flags st =
      match Gen.C09.solverAppParse argv optIn consumed ⟨0, false, w0, false⟩ with
      | (none, _) => .done .info
      | (some _, s') => .next { st with ampl := s'.ampl, wantsol := s'.wantsol } := by
  rw [C09_gen_app_parse]
  have hopt' : ¬ (optIn ≠ 0 ∧ optIn ≠ 45) := by
    rcases hopt with h | h <;> simp [h]
  simp only [step, hp, appParseSpec, hopt', if_false, Nat.zero_add, ← hstub, hampl]
  cases argv[1 + consumed]? <;> cases sc.ampl <;> simp

/-- a flag that ends option processing (`-v`, `-?`, `-=`…: `ParseOptions` returns its letter): `Parse` returns null
whatever follows — the `.stop` arm of `parseFlags` / the `info` outcome -/
theorem C09_app_parse_stop (argv : List String) (optIn consumed : Nat) (s : Gen.C09.AppParse)
    (h0 : optIn ≠ 0) (h45 : optIn ≠ 45) :
    (Gen.C09.solverAppParse argv optIn consumed s).1 = none ∧ (Gen.C09.solverAppParse argv optIn consumed s).2.usage = s.usage := by
  rw [C09_gen_app_parse]; simp [appParseSpec, h0, h45]

/-! ## The driver as a pipeline — the ending is computed, not given

`runP sc bs` (`Pipeline.lean`) folds the driver's real stage sequence over a state (inside `Run`? handler
created? what is populated? `wantsol` so far), the environment `bs` saying per abstract stage whether it
completes, raises, aborts or hangs.  The theorems below hold for **every** scenario; those that compare the fold with
the table assume an environment of exceptions only (`exceptionsOnly`). -/

/-- **The table is the fold.**  What the pipeline leaves behind is what the decision table says for the first
stage, in execution order, at which the environment raises — so every theorem about `run`/`conclude` in this
file is a theorem about the pipeline, for all behaviour lists of exceptions only. -/
theorem C09_pipeline_is_table (sc : Scenario) (bs : Behaviours) (hex : bs.exceptionsOnly = true) :
    runP sc bs = run (sc.withFaults bs) := by
  rw [runP_first]
  have : (firstBeh bs).toList = Behaviours.ofRaises (firstFault bs).toList := by
    unfold firstFault
    cases hfb : firstBeh bs with
    | none => rfl
    | some p =>
      have := List.all_eq_true.1 hex _ (look_mem (firstOf_some (firstBeh_eq_firstOf bs ▸ hfb)))
      obtain ⟨s, _ | _ | _⟩ := p <;> first | rfl | cases this
  rw [this, runP_single]; rfl

/-- What the environment would do at stages after the first raise (or at stages never reached) is irrelevant. -/
theorem C09_pipeline_first_raise_decides (sc : Scenario) (bs bs' : Behaviours) (h : firstBeh bs = firstBeh bs') :
    runP sc bs = runP sc bs' := by
  rw [runP_first sc bs, runP_first sc bs', h]

/-- **The property on the pipeline (partial).** -/
theorem C09_pipeline_outcome_partial (sc : Scenario) (bs : Behaviours) (hex : bs.exceptionsOnly = true)
    (hreg : Regular (sc.withFaults bs) (ending (sc.withFaults bs))) :
    Good (sc.withFaults bs) (runP sc bs) := by
  rw [C09_pipeline_is_table _ _ hex]; exact C09_outcome_partial _ hreg

/-- **Abort / hang are representable, and where they lead.**  If the first thing the environment does
is to kill the process (SIGSEGV, sanitizer abort, OOM kill) or not to return at stage `s`, the run ends in
`crash` / `hang` exactly when that stage is reached — the same condition under which a foreign exception at `s`
would terminate the process — and otherwise it ends as if the environment had done nothing.  No theorem of this
file excludes these behaviours: whether the real stages abort or hang on a given NL file is **observed**
(sanitizer build, timeout), it is a hypothesis (`exceptionsOnly`) wherever the property is stated. -/
theorem C09_pipeline_abort_hang (sc : Scenario) (bs : Behaviours) (s : Stage) (b : Beh)
    (h : firstBeh bs = some (s, b)) :
    (b = .aborts → (runP sc bs = .crash ∨ runP sc bs = runP sc [])) ∧
    (b = .hangs → (runP sc bs = .hang ∨ runP sc bs = runP sc [])) ∧
    (b = .aborts → runP sc bs = runP sc [(s, .raises .foreign)]) := by
  rw [runP_first sc bs, h]
  refine ⟨?_, ?_, ?_⟩ <;> rintro rfl
  · exact foldSteps_reached_or_not sc s _ _ (fun _ => by simp [step, look]) pipeline PState.init
  · exact foldSteps_reached_or_not sc s _ _ (fun _ => by simp [step, look]) pipeline PState.init
  · exact foldSteps_abort_as_foreign sc s pipeline PState.init

/-- **Completeness, as an invariant of the fold** — for *any* sequence of steps (not only the driver's), any
state and any behaviours: whenever the fold ends with a `.sol` and exit status 0, the file is complete and the
path was writable.  `SolFile.complete` is *computed* by the writer model (`handleSolution`: what reaches the file
is complete iff the path can be flushed); the theorem holds because the writer ends with `file.close()`, which
throws on a failed write (`writerChecksClose`, tied to the source by `C09_gen_writer_closes_file`) — a writer that
does not check leaves a truncated file with exit status 0 (`C09_history_writeerr`). -/
theorem C09_fold_sol_complete (sc : Scenario) (bs : Behaviours) (ps : List Step) (st : PState) (f : SolFile) (e : Bool)
    (h : foldSteps sc bs ps st = .sol f e) : f.complete = true ∧ sc.out.writable = true :=
  (h ▸ foldSteps_sound sc bs ps st : Sound sc bs (.sol f e))

/-- **The driver's own logic never crashes**: for any step sequence and state, if the fold ends in `crash`, some
abstract stage either kills the process or raises something that is not a `std::exception` (no catch clause).
(This is a statement about the catch ladders; that the *stages* do not abort is observed only.) -/
theorem C09_fold_crash_needs_abort_or_foreign (sc : Scenario) (bs : Behaviours) (ps : List Step) (st : PState)
    (h : foldSteps sc bs ps st = .crash) : ∃ s, look bs s = some .aborts ∨ look bs s = some (.raises .foreign) :=
  (h ▸ foldSteps_sound sc bs ps st : Sound sc bs .crash)

/-- **Dimensions, exactly and without hypothesis.**  Whatever ends the run, the count lines of a written `.sol` are what the problem builder holds *at that point*:
the header's dimensions once `NLProblemBuilder::OnHeader` has run, `0 0` before (option window), the partial
values if that step itself throws.  So the clause "dimensions equal those of the NL header" holds exactly for
the endings outside `optdims` / `hdrdims`, and fails for every ending inside them unless the values coincide. -/
theorem C09_dims_exact (sc : Scenario) (e : Ending) (f : SolFile) (ech : Bool)
    (h : conclude sc e = .sol f ech) :
    (f.ncons, f.nvars) = match e with
      | .raised _ _ st _ => ((errDims sc st).ncons, (errDims sc st).nvars)
      | _ => (sc.dims.ncons, sc.dims.nvars) := by
  cases h ▸ conclude_rel sc e with | sol a w hd _ _ => cases hd <;> rfl

/-! ## `tech:writemodelonly` -/

/-- **`exportonly`, exactly.** With `tech:writemodelonly=<file>` a run that survives everything up to and
including the export ends without `Solve()`/`Report()`: no `.sol`, no message, exit status 0 — whatever
the mode. -/
theorem C09_exportonly_general (sc : Scenario) (a : Bool) (w : Nat) :
    conclude sc (.exported a w) = .silent ∧ ¬ GoodEnd sc (.exported a w) (conclude sc (.exported a w)) := by
  simp [conclude, GoodEnd, Ending.cause]

/-- A clean `-AMPL` run with `tech:writemodelonly` ends that way. -/
theorem C09_exportonly_run (sc : Scenario)
    (hfault : sc.fault = none) (hflags : sc.flags.all Flag.passes = true) (hstub : sc.hasStub = true)
    (hopts : (expandOpts sc.opts).all Opt.clean = true) (hobj : sc.objnoTooBig = false)
    (hexp : sc.justExport = true) : run sc = .silent := by
  simp [run, ending, faultBefore, hfault, parseFlags_passing hflags, hstub,
    parseOpts_clean hopts, hobj, hexp, conclude]

/-- An option file whose tokens are all clean and which is read to the end behaves exactly like its
tokens given on the command line at that place. -/
theorem C09_optfile_spliced (pre post : List OptItem) (inner : List Opt) (w : Nat) :
    parseOpts (expandOpts (pre ++ .optfile inner false :: post)) w =
    parseOpts (expandOpts (pre ++ inner.map OptItem.tok ++ post)) w := by
  simp [expandOpts_append, expandOpts_map_tok, expandOpts]

/-- **Unreadable option file** (missing path, a directory, `/proc/self/mem`, I/O error): if
everything before it and the tokens that could be read are clean, the run — provided it gets as far as
the header — ends in the option window with an `MP_RAISE`-kind exception, with the `wantsol` stored so
far (including by the file's own readable tokens).  In particular it *ends*: the model has no row in
which option-file processing does not terminate. -/
theorem C09_optfile_unreadable_ending (sc : Scenario) (pre post : List OptItem) (inner : List Opt)
    (hfault : sc.fault = none) (hflags : sc.flags.all Flag.passes = true) (hstub : sc.hasStub = true)
    (hopts : sc.opts = pre ++ .optfile inner true :: post)
    (hpre : (expandOpts pre).all Opt.clean = true) (hinner : inner.all Opt.clean = true) :
    ending sc = .raised sc.ampl
      (lastWantsol (expandOpts pre ++ inner) (if sc.ampl then 1 else flagsWantsol sc.flags 0)) .options .plain :=
  -- the failed read is the token `.bad` after the clean tokens `expandOpts pre ++ inner`
  C09_bad_option_ending sc _ .bad (expandOpts post) hfault hflags hstub
    (by rw [hopts, expandOpts_append]; simp [expandOpts]) (by simp [hpre, hinner]) rfl

/-- …and with `-AMPL` and a writable path that run leaves a complete failure `.sol` (code 500), exit 0. -/
theorem C09_optfile_unreadable_outcome (sc : Scenario) (pre post : List OptItem) (inner : List Opt)
    (hfault : sc.fault = none) (hflags : sc.flags.all Flag.passes = true) (hstub : sc.hasStub = true)
    (hampl : sc.ampl = true) (hout : sc.out.writable = true)
    (hopts : sc.opts = pre ++ .optfile inner true :: post)
    (hpre : (expandOpts pre).all Opt.clean = true) (hinner : inner.all Opt.clean = true) :
    run sc = .sol ⟨500, 0, 0, 0, 0, true⟩ false := by
  rw [run, C09_optfile_unreadable_ending sc pre post inner hfault hflags hstub hopts hpre hinner,
    conclude_handed (.raised _ _ (by simp) rfl)]
  simp [deliver, wantsFile, hampl, hout, errFile, errDims, Stage.dimsKnown,
    Raise.toExn, Exn.reportCode, solFAILURE]

/-! ## Counterexamples to the full-strength statement (`optdims`, `hdrdims`, `standalone`, `exportonly` are reproduced on
the real driver on every run; `ctorcode` and `foreign` are latent), the regression instances of the repaired classes
(`C09_fixed_*`) and the two `C09_history_*` theorems -/

/-- a small valid model: 1 constraint, 2 variables, solver answers 0 with a primal and a dual vector -/
def scBase : Scenario :=
  { flags := [], hasStub := true, ampl := true, opts := [], objnoTooBig := false, justExport := false,
    dims := ⟨1, 2⟩, partialDims := ⟨0, 0⟩, out := ⟨true, true⟩, fault := none, answer := ⟨0, true, true⟩ }

/-- `recsolver stub -AMPL foo=1`: `.sol` with count lines 0 0 0 0 for a 1×2 model. -/
theorem C09_counterexample_optdims :
    run { scBase with opts := [.tok .bad] } = .sol ⟨500, 0, 0, 0, 0, true⟩ false ∧
    ¬ Good { scBase with opts := [.tok .bad] } (run { scBase with opts := [.tok .bad] }) := by decide

/-- truncated NL body / unsupported operator (objects whose `exit_code()` is `EXIT_FAILURE`):
solve code 500 and the property holds. -/
theorem C09_fixed_code1 :
    run { scBase with fault := some (.body, .readError) } = .sol ⟨500, 1, 0, 2, 0, true⟩ false ∧
    Good { scBase with fault := some (.body, .readError) } (run { scBase with fault := some (.body, .readError) }) ∧
    Good { scBase with fault := some (.convert, .unsupported) } (run { scBase with fault := some (.convert, .unsupported) }) := by
  decide

/-- a header whose counts are inconsistent (`MP_ASSERT_ALWAYS … num_vars mismatch` after
`AddVariables`): variables populated, constraints not yet. -/
theorem C09_counterexample_hdrdims :
    run { scBase with partialDims := ⟨0, 2⟩, fault := some (.populate, .plain) } = .sol ⟨500, 0, 0, 2, 0, true⟩ false ∧
    ¬ Good { scBase with partialDims := ⟨0, 2⟩, fault := some (.populate, .plain) }
        (run { scBase with partialDims := ⟨0, 2⟩, fault := some (.populate, .plain) }) := by decide

/-- binary `b` fixed to 1 and `not (b = 1)` (`ConstraintKeeper` re-raises `MP_INFEAS`):
"Model infeasible: empty variable domain" with solve code 200. -/
theorem C09_fixed_infeas500 :
    run { scBase with fault := some (.convert, .wrappedInfeas) } = .sol ⟨200, 1, 0, 2, 0, true⟩ false ∧
    Good { scBase with fault := some (.convert, .wrappedInfeas) } (run { scBase with fault := some (.convert, .wrappedInfeas) }) := by
  decide

/-- `<stub>.sol` → `/dev/full`: stderr, exit 1. -/
theorem C09_fixed_writeerr :
    run { scBase with out := ⟨true, false⟩ } = .stderrExit 1 ∧
    Good { scBase with out := ⟨true, false⟩ } (run { scBase with out := ⟨true, false⟩ }) := by decide

/-- **The writer before 87b3b50**: without the final `file.close()` it
returned normally on `/dev/full`: a truncated `.sol` (`complete = false`) and — the run going on to `return 0` —
exit status 0, which `GoodEnd` rejects. -/
theorem C09_history_writeerr :
    handleSolutionW false true 0 ⟨true, false⟩ ⟨0, 1, 1, 2, 2, true⟩ = some (.sol ⟨0, 1, 1, 2, 2, false⟩ false) ∧
    ¬ Good scBase (.sol ⟨0, 1, 1, 2, 2, false⟩ false) := by decide

/-- `recsolver stub foo=1` (no `-AMPL`): the error is printed on stdout, exit 0;
with `wantsol=8` before it, nothing is printed at all. -/
theorem C09_counterexample_standalone :
    run { scBase with ampl := false, opts := [.tok .bad] } = .stdoutOnly 500 true ∧
    run { scBase with ampl := false, opts := [.tok (.wantsol 8), .tok .bad] } = .stdoutOnly 500 false ∧
    ¬ Good { scBase with ampl := false, opts := [.tok .bad] } (run { scBase with ampl := false, opts := [.tok .bad] }) := by decide

/-- **The overload hazard in `mp::Error`**: a throw of the shape `Error("… {} …", n)` with a single `int` argument selects `Error(CStringRef, int)` (clang's
overload resolution, `exitCode_fmtIntArg`), and `Run` would pass `n ≥ 100` on as the solve code.  The two throw sites
that report a number (`NLProblemBuilder::BeginCall`, `BasicExprFactory::DefineFunction`) format their message
first: their objects are built like `MP_RAISE` (generated from the current tree), i.e. they are `.plain` rows and
are reported with 500. -/
theorem C09_history_fmtintcode (n : Int) :
    Gen.C09.exitCode_fmtIntArg n = n ∧
    Exn.reportCode (.mpError (Gen.C09.exitCode_fmtIntArg n)) = (if n ≥ 100 then n else 500) ∧
    Gen.C09.exitCode_undefinedFunction = Gen.C09.exitCode_plain ∧
    Gen.C09.exitCode_redefinedFunction = Gen.C09.exitCode_plain ∧
    Exn.reportCode (.mpError Gen.C09.exitCode_undefinedFunction) = 500 := by
  refine ⟨rfl, ?_, by decide, by decide, by decide⟩
  simp only [Gen.C09.exitCode_fmtIntArg, Exn.reportCode, solFAILURE]
  by_cases h : n ≥ 100 <;> simp [h]

/-- `recsolver stub -AMPL tech:writemodelonly=m.lp`: nothing is reported at all. -/
theorem C09_counterexample_exportonly :
    run { scBase with justExport := true } = .silent ∧
    ¬ Good { scBase with justExport := true } (run { scBase with justExport := true }) := by decide

/-- an `mp::Error(msg, 512)` from the backend's constructor: `Error: …` on stderr, exit status 0. -/
theorem C09_counterexample_ctorcode :
    run { scBase with fault := some (.ctor, .withCode 512) } = .stderrExit 0 ∧
    ¬ Good { scBase with fault := some (.ctor, .withCode 512) } (run { scBase with fault := some (.ctor, .withCode 512) }) := by
  decide

/-- a non-`std::exception` anywhere: `std::terminate`. -/
theorem C09_counterexample_foreign :
    run { scBase with fault := some (.solve, .foreign) } = .crash ∧
    ¬ Good { scBase with fault := some (.solve, .foreign) } (run { scBase with fault := some (.solve, .foreign) }) := by
  decide

/-! ## Non-vacuity: concrete, non-trivial instances of the theorems with hypotheses
(an `example` either applies the theorem, the hypotheses being discharged on the instance, or evaluates the model on
an instance; `C09_ctorcode_general` and `C09_app_parse_stop` are applied by none: their situations are
`C09_counterexample_ctorcode` and the `-v` line of the `Parse` instances) -/

example : Regular scBase (ending scBase) := by decide
example : Good scBase (run scBase) := C09_outcome_partial scBase (by decide)
example : run { scBase with fault := some (.convert, .infeas) } = .sol ⟨200, 1, 0, 2, 0, true⟩ false := by decide
example : run { scBase with fault := some (.header, .readError) } = .stderrExit 1 := by decide
example : run { scBase with out := ⟨false, false⟩ } = .stderrExit 1 := by decide
example : run { scBase with flags := [.info] } = .info := by decide
example : Regular { scBase with fault := some (.convert, .plain), ampl := false, flags := [.wantsol] }
    (ending { scBase with fault := some (.convert, .plain), ampl := false, flags := [.wantsol] }) := by decide

/-- a scenario with several things at once: `-e -s`, `wantsol=3`, an option file read completely that stores `wantsol=5`,
a later clean token, a truncated body; the unwritable output path is added where it is wanted
(`{ scMessy with out := ⟨false, true⟩ }`) -/
def scMessy : Scenario :=
  { scBase with flags := [.noecho, .wantsol], ampl := false,
                opts := [.tok (.wantsol 3), .optfile [.ok, .wantsol 5] false, .tok .ok],
                fault := some (.body, .readError), dims := ⟨7, 9⟩ }

-- C09_outcome_partial on it: the body error is reported in a complete 7×9 `.sol` with code 500
example : run scMessy = .sol ⟨500, 7, 0, 9, 0, true⟩ true := by decide
example : Good scMessy (run scMessy) := C09_outcome_partial scMessy (by decide)
-- …and with an unwritable path on stderr
example : Good { scMessy with out := ⟨false, true⟩ } (run { scMessy with out := ⟨false, true⟩ }) :=
  C09_outcome_partial _ (by decide)
example : run { scMessy with out := ⟨false, true⟩ } = .stderrExit 1 := by decide

-- C09_dims_partial / C09_dims_run_partial / C09_code_class / C09_reported_code_exact / C09_complete
example : ending scMessy = .raised false 5 .body .readError := by decide
example := C09_dims_partial scMessy (.raised false 5 .body .readError) ⟨500, 7, 0, 9, 0, true⟩ true (by decide) (by simp) (by simp)
example := C09_dims_run_partial scMessy ⟨500, 7, 0, 9, 0, true⟩ true (by decide)
  (by rw [show ending scMessy = .raised false 5 .body .readError by decide]; simp)
  (by rw [show ending scMessy = .raised false 5 .body .readError by decide]; simp)
example : codeOK scMessy.answer .failure 500 :=
  C09_code_class scMessy (.raised false 5 .body .readError) .failure ⟨500, 7, 0, 9, 0, true⟩ true (by decide) (by decide)
example : codeOK scBase.answer .infeasible 200 :=
  C09_code_class scBase (.raised true 1 .convert .wrappedInfeas) .infeasible ⟨200, 1, 0, 2, 0, true⟩ false (by decide) (by decide)
example : codeOK scBase.answer (.asRaised 567) 567 :=
  C09_code_class scBase (.raised true 1 .solve (.withCode 567)) _ ⟨567, 1, 0, 2, 0, true⟩ false (by decide) (by decide)
example : codeOK scBase.answer .none 0 :=
  C09_code_class scBase (.finished true 1) .none ⟨0, 1, 1, 2, 2, true⟩ false (by decide) (by decide)
example := C09_reported_code_exact scBase true 1 .solve (.withCode 42) ⟨500, 1, 0, 2, 0, true⟩ false (by decide)
example := C09_complete scMessy (.raised false 5 .body .readError) ⟨500, 7, 0, 9, 0, true⟩ true (by decide)
-- C09_optdims_general / C09_hdrdims_general
example := C09_optdims_general { scBase with dims := ⟨7, 9⟩ } true 1 .plain ⟨500, 0, 0, 0, 0, true⟩ false (by decide)
example := C09_hdrdims_general { scBase with dims := ⟨7, 9⟩, partialDims := ⟨0, 9⟩ } true 1 .stdExn ⟨500, 0, 0, 9, 0, true⟩ false (by decide)
-- C09_exit_failure_ctor_reports_500 / C09_wrapped_infeas_keeps_200
example := C09_exit_failure_ctor_reports_500 scBase true 1 .names .readError ⟨500, 1, 0, 2, 0, true⟩ false (by decide) (by decide)
example := C09_wrapped_infeas_keeps_200 scBase true 1 .convert ⟨200, 1, 0, 2, 0, true⟩ false (by decide)
-- C09_write_error_is_diagnosed: finished run and failed run, path opens but cannot be flushed
example : conclude { scBase with out := ⟨true, false⟩ } (.finished true 1) = .stderrExit 1 :=
  C09_write_error_is_diagnosed { scBase with out := ⟨true, false⟩ } (.finished true 1)
    (by simp; decide) (by simp) (by simp) (by simp) (by simp) (by decide)
example : conclude { scBase with out := ⟨true, false⟩ } (.raised false 9 .convert .infeas) = .stderrExit 1 :=
  C09_write_error_is_diagnosed { scBase with out := ⟨true, false⟩ } (.raised false 9 .convert .infeas)
    (by simp; decide) (by simp) (by simp) (by simp; decide) (by simp) (by decide)
-- C09_stderr_partial: before the header; at the constructor with exit code 200
example := C09_stderr_partial scBase (.raised true 1 .header .readError) 1 (by decide) (by simp)
example := C09_stderr_partial scBase (.raised false 0 .ctor .infeas) 200 (by decide)
  (by intro a w r c h hx; cases h; cases hx; decide)
-- C09_crash_iff_foreign, both directions
example : conclude scBase (.raised true 1 .solve .foreign) = .crash := (C09_crash_iff_foreign _ _).2 ⟨_, _, _, rfl⟩
example : ∃ a w st, Ending.raised true 1 .report .foreign = .raised a w st .foreign :=
  (C09_crash_iff_foreign scBase _).1 (by decide)
-- C09_stdout_only_iff, both directions
example : ∃ c s, conclude scBase (.raised false 8 .convert .infeas) = .stdoutOnly c s :=
  (C09_stdout_only_iff _ _).2 ⟨false, 8, by decide, Or.inr ⟨_, _, rfl, by decide, by decide⟩⟩
example := (C09_stdout_only_iff scBase (.finished false 2)).1 ⟨0, true, by decide⟩
-- C09_file_whenever_possible
example : ∃ f ech, conclude scMessy (.raised false 5 .report .stdExn) = .sol f ech :=
  C09_file_whenever_possible _ _ (by simp; decide) (by simp) (by simp) (by decide) (by simp)
-- C09_success / C09_bad_option_ending / C09_suffix_exceptions_swallowed / option files / export only
def scOK : Scenario :=
  { flags := [.noecho], hasStub := true, ampl := true, opts := [.optfile [.ok, .wantsol 0] false, .tok .ok],
    objnoTooBig := false, justExport := false, dims := ⟨3, 4⟩, partialDims := ⟨0, 0⟩, out := ⟨true, true⟩,
    fault := none, answer := ⟨421, false, true⟩ }
example := C09_success scOK
  (by decide) (by decide) (by decide) (by decide) (by decide) (by decide) (by decide) (by decide) (by decide)
example := C09_bad_option_ending { scBase with ampl := false, opts := [.tok (.wantsol 1), .optfile [.ok, .invalidValue, .ok] false] }
  [.wantsol 1, .ok] .invalidValue [.ok] (by decide) (by decide) (by decide) (by decide) (by decide) (by decide)
example := C09_suffix_exceptions_swallowed scMessy .readError (by decide)
example := C09_optfile_unreadable_outcome { scBase with opts := [.tok .ok, .optfile [.wantsol 8] true, .tok .bad], dims := ⟨7, 9⟩ }
  [.tok .ok] [.tok .bad] [.wantsol 8] (by decide) (by decide) (by decide) (by decide) (by decide) (by decide) (by decide) (by decide)
example := C09_exportonly_run { scBase with justExport := true, opts := [.tok .ok] } (by decide) (by decide) (by decide) (by decide) (by decide) (by decide)
-- instances of `Parse` (recsolver -s stub -AMPL foo=1;  recsolver;  recsolver stub foo=1 -AMPL;  recsolver -v stub)
example : Gen.C09.solverAppParse ["recsolver", "-s", "stub", "-AMPL", "foo=1"] 0 1 ⟨0, false, 1, false⟩ = (some "stub", ⟨4, true, 1, false⟩) := by decide
example : Gen.C09.solverAppParse ["recsolver"] 0 0 ⟨0, false, 0, false⟩ = (none, ⟨1, false, 0, true⟩) := by decide
example : Gen.C09.solverAppParse ["recsolver", "stub", "foo=1", "-AMPL"] 0 0 ⟨0, false, 0, false⟩ = (some "stub", ⟨2, false, 0, false⟩) := by decide
example : Gen.C09.solverAppParse ["recsolver", "-v", "stub"] 118 0 ⟨0, false, 0, false⟩ = (none, ⟨1, false, 0, false⟩) := by decide
example := C09_flags_step_follows_parse scBase [] PState.init 0 ["recsolver", "stub", "-AMPL"] 0 0 (by decide) (by decide) (by decide) (by decide)

example : (Gen.C09.bufferedFileClose ⟨true, true, 0, false, false, false⟩ (-1)) = ⟨false, false, 1, false, true, false⟩ := by decide
example : (Gen.C09.bufferedFileClose ⟨true, true, 0, false, false, false⟩ 0) = ⟨false, false, 1, false, false, false⟩ := by decide
example : (Gen.C09.bufferedFileDtor ⟨true, true, 0, false, false, false⟩ (-1)) = ⟨true, false, 1, false, false, true⟩ := by decide
example := C09_gen_buffered_file_close ⟨true, true, 0, false, false, false⟩ (-1) 0
example := C09_suffix_step_follows_ladder scBase [(.suffixes, .raises .stdExn)] PState.init .stdExn (by decide)
example : runP scBase [(.suffixes, .raises .foreign)] = .crash := by decide
example : caughtBy ["mp::Error"] .stdExn = none := by decide      -- a narrower ladder would let it through

-- the pipeline: several stages would raise, abort or hang; the first in execution order (`body`) decides
def bsMessy : Behaviours :=
  [(.solve, .aborts), (.convert, .raises .infeas), (.body, .raises .readError), (.convert, .raises .plain), (.report, .hangs)]
example : runP scMessy bsMessy = .sol ⟨500, 7, 0, 9, 0, true⟩ true := by decide
example : firstBeh bsMessy = some (.body, .raises .readError) := by decide
example := C09_pipeline_outcome_partial scMessy [(.solve, .raises .foreign), (.convert, .raises .infeas), (.body, .raises .readError)] (by decide) (by decide)
example := C09_pipeline_first_raise_decides scMessy [(.report, .raises .stdExn), (.names, .raises .readError)]
  [(.names, .raises .readError), (.solve, .aborts)] (by decide)
example := C09_fold_sol_complete scMessy bsMessy pipeline PState.init ⟨500, 7, 0, 9, 0, true⟩ true (by decide)
example : ∃ s, look [(Stage.names, Beh.raises .foreign), (.report, .raises .plain)] s = some .aborts ∨
    look [(Stage.names, Beh.raises .foreign), (.report, .raises .plain)] s = some (.raises .foreign) :=
  C09_fold_crash_needs_abort_or_foreign scBase _ pipeline PState.init (by decide)
-- abort / hang: reached (the run dies / hangs) and not reached (a bad option ends the run before)
example : runP scBase [(.convert, .aborts)] = .crash ∧ runP scBase [(.convert, .hangs)] = .hang := by decide
example : runP { scBase with opts := [.tok .bad] } [(.convert, .aborts)] = runP { scBase with opts := [.tok .bad] } [] := by decide
example := (C09_pipeline_abort_hang scBase [(.solve, .raises .plain), (.convert, .hangs)] .convert .hangs (by decide)).2.1 rfl
example := C09_dims_exact { scBase with dims := ⟨7, 9⟩ } (.raised true 1 .options .plain) ⟨500, 0, 0, 0, 0, true⟩ false (by decide)
-- parsing loops
example : (parseOpts [.ok, .wantsol 3, .ok] 0).2 = none := (C09_parseOpts_ok_iff _ _).2 (by decide)
example : parseOpts [.wantsol 3, .ok, .bad, .wantsol 1] 0 = (3, some .plain) :=
  (C09_parseOpts_first_error _ _ _ _).2 ⟨[.wantsol 3, .ok], .bad, [.wantsol 1], rfl, by decide, by decide, by decide, by decide⟩
example := (C09_parseFlags [.noecho, .wantsol] .invalid [.info] 0 (by decide)).2 (by decide)

end MpVerif.C09
