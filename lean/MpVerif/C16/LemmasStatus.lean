import MpVerif.C16.LemmasChk
/-!
# C16 — every GSL status is looked at: a non-success status of an `_e` routine always ends in `Errmsg`

`Cond.gsl k` is the translation of a call of a GSL `_e` routine (its truth value: status ≠ GSL_SUCCESS,
remembered in local k).  `guarded` accepts a skeleton only if every such call occurs in one of the three
shapes the file uses, with the status compared **against GSL_SUCCESS and nothing else**:

* `status = gsl_…_e(…); if (status != GSL_SUCCESS) { eval_error(al); return 0; }`            (CHECK_CALL)
* `if (gsl_…_e(…)) { eval_error(al); return 0; }`                                              (coulomb_CL)
* `return check_result(al, gsl_…_e(…) ? GSL_NAN : result.val);`                                (mathieu_*)

A weakened test (`status == GSL_EDOM || …`) is translated to an opaque comparison and no longer matches.
-/
namespace MpVerif.C16

def Cond.noGsl : Cond → Bool
  | .gsl _ => false
  | .not c => c.noGsl
  | .and a b => a.noGsl && b.noGsl
  | .or a b => a.noGsl && b.noGsl
  | _ => true

/-- the guard `{ eval_error(al); return 0; }` -/
def isFail (s : Stmt) : Bool := s == .seq .errEval .ret0

def guarded : Stmt → Bool
  | .seq a b =>
    (match a, b with
     | .eval (.gsl k), .seq (.ite (.lb k') t .skip) rest => k == k' && isFail t && guarded rest
     | _, _ => false) || (guarded a && guarded b)
  | .ite c t f =>
    (match c with
     | .gsl _ => (isFail t && f == .skip) || (t == .retCheckNaN && f == .retCheck)
     | _ => false) || (c.noGsl && guarded t && guarded f)
  | .for_ _ _ body => guarded body
  | .setb _ c => c.noGsl
  | .eval c => c.noGsl
  | _ => true

/-- the invariant: a reported GSL failure is always accompanied by an error message -/
def StatusOk (c : St) : Prop := c.gf = true → c.err.isSome = true

theorem statusOk_mono {c c' : St} (h : StatusOk c) (m : ErrMono c c') : StatusOk c' := by
  intro hg; rw [m.gf] at hg; exact m.err (h hg)

theorem cond_noGsl_mono (o : Oracle) (a : Args) (m : Mode) (e : Env) (cnd : Cond) :
    cnd.noGsl = true → ∀ c, ErrMono c (evalCond o a m e cnd c).2 := by
  induction cnd with
  | gsl k => intro h; cases h
  | not c1 ih => intro h c; exact ih h c
  | and c1 c2 ih1 ih2 =>
    intro h c
    simp only [Cond.noGsl, Bool.and_eq_true] at h
    simp only [evalCond]
    split
    · exact (ih1 h.1 c).trans (ih2 h.2 _)
    · exact ih1 h.1 c
  | or c1 c2 ih1 ih2 =>
    intro h c
    simp only [Cond.noGsl, Bool.and_eq_true] at h
    simp only [evalCond]
    split
    · exact ih1 h.1 c
    · exact (ih1 h.1 c).trans (ih2 h.2 _)
  | opq => intro _ c; exact tick_mono c
  | chk ck => intro _ c; exact (evalChk_ok o a m e ck c).mono
  | derivs => intro _ c; exact ErrMono.refl c
  | hes => intro _ c; exact ErrMono.refl c
  | digp => intro _ c; exact ErrMono.refl c
  | dig i => intro _ c; exact ErrMono.refl c
  | lb x => intro _ c; exact ErrMono.refl c
  | lit b => intro _ c; exact ErrMono.refl c

theorem checkResult_statusOk (a : Args) (m : Mode) (rn : Bool) (c : St) (h : StatusOk c) : StatusOk (checkResult a m rn c) := by
  rcases checkResult_cases a m rn c with ⟨k, e⟩ | ⟨e, _⟩ <;> rw [e]
  · exact fun _ => rfl
  · exact h

theorem statusOk_ite {P : Prop} [Decidable P] {x y : St} (hx : P → StatusOk x) (hy : ¬P → StatusOk y) :
    StatusOk (if P then x else y) := by
  by_cases h : P
  · rw [if_pos h]; exact hx h
  · rw [if_neg h]; exact hy h

theorem statusOk_thenSt {c1 : St} {k : St → St} (h1 : StatusOk c1) (h2 : c1.ret = none → StatusOk (k c1)) :
    StatusOk (thenSt c1 k) := by
  rcases thenSt_cases c1 k with ⟨_, h⟩ | ⟨hn, h⟩ <;> rw [h]
  · exact h1
  · exact h2 hn

/-- the state right after `status_k = gsl_…_e(…)` -/
def afterGsl (o : Oracle) (k : Nat) (c : St) : St :=
  { c with lb := upd c.lb k (o.cond c.tc), gf := c.gf || o.cond c.tc, tc := c.tc + 1 }

theorem afterGsl_ok (o : Oracle) (k : Nat) (c : St) (h : StatusOk c) (hb : o.cond c.tc = false) : StatusOk (afterGsl o k c) := by
  intro hg
  have hg' : (c.gf || o.cond c.tc) = true := hg
  rw [hb, Bool.or_false] at hg'
  exact h hg'

theorem guard_fires (o : Oracle) (a : Args) (m : Mode) (e : Env) (k : Nat) (rest : Stmt) (c1 : St)
    (h1 : c1.lb k = true) (h2 : c1.ret = none) :
    exec o a m (.seq (.ite (.lb k) (.seq .errEval .ret0) .skip) rest) e c1 = { c1.evalError with ret := some .zero } := by
  show thenSt (if (c1.lb k) = true then thenSt c1.evalError (fun s' => { s' with ret := some .zero }) else c1) _ = _
  rw [if_pos h1, thenSt_none (c1 := c1.evalError) h2]
  exact if_pos rfl

theorem guarded_sound (o : Oracle) (a : Args) (m : Mode) (s : Stmt) :
    guarded s = true → ∀ (e : Env) (c : St), c.ret = none → StatusOk c → StatusOk (exec o a m s e c) := by
  induction s with
  | skip => intro _ e c _ h; exact h
  | num => intro _ e c _ h; exact h
  | wd i => intro _ e c _ h; exact fun hg => h hg
  | wh i => intro _ e c _ h; exact fun hg => h hg
  | errEval => intro _ e c _ _; exact fun _ => rfl
  | errDeriv => intro _ e c _ h; exact statusOk_mono h (derivError_mono c)
  | errArg => intro _ e c _ _; exact fun _ => rfl
  | ret0 => intro _ e c _ h; exact fun hg => h hg
  | retRaw => intro _ e c _ h; exact fun hg => h hg
  | retCheck => intro _ e c _ h; exact checkResult_statusOk a m _ _ (fun hg => h hg)
  | retCheckNaN => intro _ e c _ h; exact checkResult_statusOk a m _ _ h
  | setb v cnd =>
    intro hgd e c _ h
    have hn : cnd.noGsl = true := hgd
    have mono := cond_noGsl_mono o a m e cnd hn c
    intro hg
    have hg' : (evalCond o a m e cnd c).2.gf = true := hg
    rw [mono.gf] at hg'
    exact mono.err (h hg')
  | eval cnd =>
    intro hgd e c _ h
    have hn : cnd.noGsl = true := hgd
    exact statusOk_mono h (cond_noGsl_mono o a m e cnd hn c)
  | for_ v start body ih =>
    intro hgd e c hr h
    have hb : guarded body = true := hgd
    simp only [exec]
    have loop : ∀ (fuel i : Nat) (c : St), c.ret = none → StatusOk c →
        StatusOk (loopFrom (exec o a m body) e v a.n fuel i c) := by
      intro fuel
      induction fuel with
      | zero => intro i c _ h; exact h
      | succ f ihf =>
        intro i c hr h
        unfold loopFrom
        split
        · have h1 := ih hb ((v, i) :: e) c hr h
          exact statusOk_thenSt h1 fun hnone => ihf (i + 1) _ hnone h1
        · exact h
    exact loop a.n start c hr h
  | ite cnd t f iht ihf =>
    intro hgd e c hr h
    unfold guarded at hgd
    rw [Bool.or_eq_true] at hgd
    cases hgd with
    | inl hshape =>
      -- the condition is a GSL call in one of the two accepted shapes
      cases cnd with
      | gsl k =>
        -- after a bad status both accepted true-arms leave an error behind; the false-arms are ordinary guarded statements
        simp only [Bool.or_eq_true, Bool.and_eq_true, beq_iff_eq, isFail] at hshape
        have ht (c' : St) : (exec o a m t e c').err.isSome = true := by
          rcases hshape with ⟨rfl, _⟩ | ⟨rfl, _⟩
          · show (thenSt c'.evalError _).err.isSome = true
            unfold thenSt; split <;> rfl
          · rfl
        have hf : guarded f = true := by rcases hshape with ⟨_, rfl⟩ | ⟨_, rfl⟩ <;> rfl
        show StatusOk (if (o.cond c.tc) = true then exec o a m t e (afterGsl o k c) else exec o a m f e (afterGsl o k c))
        exact statusOk_ite (fun _ _ => ht _) fun hbad => ihf hf e _ hr (afterGsl_ok o k c h (by simpa using hbad))
      | _ => simp at hshape
    | inr hplain =>
      simp only [Bool.and_eq_true] at hplain
      have mono := cond_noGsl_mono o a m e cnd hplain.1.1 c
      have h1 := statusOk_mono h mono
      have hr1 : (evalCond o a m e cnd c).2.ret = none := by rw [mono.ret]; exact hr
      simp only [exec]
      split
      · exact iht hplain.1.2 e _ hr1 h1
      · exact ihf hplain.2 e _ hr1 h1
  | seq s1 s2 ih1 ih2 =>
    intro hgd e c hr h
    unfold guarded at hgd
    rw [Bool.or_eq_true] at hgd
    cases hgd with
    | inr hplain =>
      rw [Bool.and_eq_true] at hplain
      simp only [exec]
      have h1 := ih1 hplain.1 e c hr h
      exact statusOk_thenSt h1 fun hnone => ih2 hplain.2 e _ hnone h1
    | inl hshape =>
      -- status = gsl_…_e(…); if (status != GSL_SUCCESS) { eval_error; return 0; } rest
      split at hshape
      · rename_i k k' t rest
        simp only [Bool.and_eq_true, beq_iff_eq] at hshape
        obtain ⟨⟨hk, ht⟩, hrest⟩ := hshape
        subst hk
        have ht' : t = .seq .errEval .ret0 := by simpa [isFail] using ht
        subst ht'
        -- ih2 is about `seq (ite …) rest`; unfold everything by hand
        have hg2 : guarded rest = true := hrest
        show StatusOk (thenSt (afterGsl o k c) (fun s' => exec o a m (.seq (.ite (.lb k) (.seq .errEval .ret0) .skip) rest) e s'))
        have hr1 : (afterGsl o k c).ret = none := hr
        rw [thenSt_none hr1]
        by_cases hbad : o.cond c.tc = true
        · have hlb : (afterGsl o k c).lb k = true := by
            show upd c.lb k (o.cond c.tc) k = true
            rw [hbad]; simp [upd]
          rw [guard_fires o a m e k rest _ hlb hr1]
          exact fun _ => rfl
        · have hb : o.cond c.tc = false := by simpa using hbad
          exact ih2 (by
            show guarded (.seq (.ite (.lb k) (.seq .errEval .ret0) .skip) rest) = true
            unfold guarded
            simp [guarded, Cond.noGsl, hg2]) e _ hr1 (afterGsl_ok o k c h hb)
      · simp at hshape

end MpVerif.C16
