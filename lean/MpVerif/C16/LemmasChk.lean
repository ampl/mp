import MpVerif.C16.Lemmas
/-!
# C16 — the checkers: one statement for all of them (`ChkOk`, `evalChk_ok`); `checkResult` by cases
-/
namespace MpVerif.C16

theorem evalError_mono (c : St) : ErrMono c c.evalError := ⟨rfl, rfl, rfl, rfl, rfl, fun _ => rfl⟩
theorem argError_mono (c : St) : ErrMono c c.argError := ⟨rfl, rfl, rfl, rfl, rfl, fun _ => rfl⟩
theorem evalError_some (c : St) : c.evalError.err.isSome = true := rfl
theorem argError_some (c : St) : c.argError.err.isSome = true := rfl
theorem tick_mono (c : St) : ErrMono c { c with tc := c.tc + 1 } := ⟨rfl, rfl, rfl, rfl, rfl, id⟩

theorem derivError_mono (c : St) : ErrMono c c.derivError := by
  unfold St.derivError
  cases h : c.err with
  | none => exact ⟨rfl, rfl, rfl, rfl, rfl, fun _ => rfl⟩
  | some k => exact ⟨rfl, rfl, rfl, rfl, rfl, fun h' => h'⟩

theorem derivError_some (c : St) : c.derivError.err.isSome = true := by
  unfold St.derivError
  cases h : c.err with
  | none => rfl
  | some k => simp [h]

/-- what every checker satisfies; `D`: derivatives are requested with respect to an argument the checker wants constant (`demanded`),
and then even a passing check leaves an error -/
structure ChkOk (D : Prop) (c : St) (r : Bool × St) : Prop where
  mono : ErrMono c r.2
  fail : r.1 = false → r.2.err.isSome = true
  pass : D → r.1 = true → r.2.err.isSome = true

theorem ChkOk.imp {D D' : Prop} {c : St} {r : Bool × St} (h : ChkOk D c r) (hd : D' → D) : ChkOk D' c r :=
  ⟨h.mono, h.fail, fun d => h.pass (hd d)⟩

theorem chkOk_pass (c : St) : ChkOk False c (true, c) := ⟨ErrMono.refl c, fun h => (nomatch h), fun h => h.elim⟩

theorem chkOk_fail {c c' : St} (m : ErrMono c c') (he : c'.err.isSome = true) (D : Prop) : ChkOk D c (false, c') :=
  ⟨m, fun _ => he, fun _ _ => he⟩

theorem thenChk_ok {D1 D2 : Prop} {c : St} {r : Bool × St} {k : St → Bool × St} (h1 : ChkOk D1 c r) (h2 : ChkOk D2 r.2 (k r.2)) :
    ChkOk (D1 ∨ D2) c (thenChk r k) := by
  unfold thenChk
  split
  · rename_i hr
    exact ⟨h1.mono.trans h2.mono, h2.fail, fun d hk => d.elim (fun d1 => h2.mono.err (h1.pass d1 hr)) (fun d2 => h2.pass d2 hk)⟩
  · rename_i hr
    exact chkOk_fail h1.mono (h1.fail (by simpa using hr)) _

theorem checkArgs_ok (a : Args) (c : St) : ChkOk False c (checkArgs a c) := by
  unfold checkArgs
  split
  · exact chkOk_fail (evalError_mono c) (evalError_some c) _
  · exact chkOk_pass c

theorem checkConstArg_ok (a : Args) (i : Nat) (c : St) : ChkOk (a.const i = false) c (checkConstArg a i c) := by
  unfold checkConstArg
  split
  · rename_i h; exact (chkOk_pass c).imp fun h' => by rw [h] at h'; cases h'
  · exact chkOk_fail (derivError_mono c) (derivError_some c) _

theorem checkConstArg_fst (a : Args) (i : Nat) (c : St) : (checkConstArg a i c).1 = a.const i := by
  unfold checkConstArg
  split <;> simp [*]

theorem checkIntArg_ok (a : Args) (m : Mode) (i : Nat) (c : St) :
    ChkOk (m.derivs = true ∧ a.const i = false) c (checkIntArg a m i c) := by
  unfold checkIntArg
  split
  · exact chkOk_fail (argError_mono c) (argError_some c) _
  · split
    · have h := checkConstArg_ok a i c
      exact ⟨h.mono, fun h' => (nomatch h'), fun d _ => h.fail (by rw [checkConstArg_fst]; exact d.2)⟩
    · rename_i hd; exact (chkOk_pass c).imp fun d => hd d.1

/-- `checkUintArg` is `checkIntArg` with `uintOk` in the place of `intOk` -/
theorem checkUintArg_ok (a : Args) (m : Mode) (i : Nat) (c : St) :
    ChkOk (m.derivs = true ∧ a.const i = false) c (checkUintArg a m i c) :=
  checkIntArg_ok { a with intOk := a.uintOk } m i c

theorem checkZeroFuncArgs_ok (a : Args) (m : Mode) (i : Nat) (c : St) : ChkOk (m.derivs = true) c (checkZeroFuncArgs a m i c) := by
  unfold checkZeroFuncArgs
  split
  · exact chkOk_fail (argError_mono c) (argError_some c) _
  · split
    · have h := checkConstArg_ok a i c
      show ChkOk _ c (true, if (checkConstArg a i c).1 = true then (checkConstArg a i c).2.derivError else (checkConstArg a i c).2)
      split
      · exact ⟨h.mono.trans (derivError_mono _), fun h' => (nomatch h'), fun _ _ => derivError_some _⟩
      · rename_i hf; exact ⟨h.mono, fun h' => (nomatch h'), fun _ _ => h.fail (by simpa using hf)⟩
    · rename_i hd; exact (chkOk_pass c).imp hd

theorem checkDerivArg_ok (arg lo hi : Int) (c : St) : ChkOk False c (checkDerivArg arg lo hi c) := by
  unfold checkDerivArg
  split
  · exact chkOk_fail (derivError_mono c) (derivError_some c) _
  · split
    · exact chkOk_fail (derivError_mono c) (derivError_some c) _
    · exact chkOk_pass c

theorem checkBesselArgs_ok (a : Args) (m : Mode) (flag : Bool) (c : St) :
    ChkOk (m.derivs = true ∧ a.const 0 = false) c (checkBesselArgs a m flag c) := by
  unfold checkBesselArgs
  refine (thenChk_ok (D2 := False) (checkIntArg_ok a m 0 c) ?_).imp Or.inl
  split
  · split
    · exact (thenChk_ok (checkDerivArg_ok ..) (thenChk_ok (checkDerivArg_ok ..) (chkOk_pass _))).imp fun h => h.elim
    · exact (thenChk_ok (checkDerivArg_ok ..) (chkOk_pass _)).imp fun h => h.elim
  · exact chkOk_pass _

theorem checkCouplingFrom_ok (a : Args) (m : Mode) (fuel : Nat) : ∀ i c,
    ChkOk (m.derivs = true ∧ ∃ j, i ≤ j ∧ j < i + fuel ∧ a.const j = false) c (checkCouplingFrom a m fuel i c) := by
  induction fuel with
  | zero => intro i c; exact (chkOk_pass c).imp fun ⟨_, j, h1, h2, _⟩ => by omega
  | succ f ih =>
    intro i c
    unfold checkCouplingFrom
    refine (thenChk_ok (checkIntArg_ok a m i c) (ih (i + 1) _)).imp fun ⟨hd, j, h1, h2, hc⟩ => ?_
    by_cases hji : j = i
    · subst hji; exact Or.inl ⟨hd, hc⟩
    · exact Or.inr ⟨hd, j, by omega, by omega, hc⟩

theorem checkDerivArg_fst (x lo hi : Int) (s : St) : (checkDerivArg x lo hi s).1 = decide (lo ≤ x ∧ x ≤ hi) := by
  unfold checkDerivArg
  split
  · simp; omega
  · split
    · simp; omega
    · simp; omega

theorem thenChk_fst (r : Bool × St) (k : St → Bool × St) : (thenChk r k).1 = (r.1 && (k r.2).1) := by
  unfold thenChk; cases r.1 <;> rfl

/-- derivatives are requested with respect to an argument that the checker requires to be constant -/
def demanded (a : Args) (m : Mode) (e : Env) : Chk → Bool
  | .args => false
  | .constArg i => !a.const (i.val e)
  | .intArg i | .uintArg i => m.derivs && !a.const (i.val e)
  | .zeroFunc _ => m.derivs
  | .bessel _ => m.derivs && !a.const 0
  | .coupling => m.derivs && anyBelow a.n (fun i => !a.const i)

theorem evalChk_ok (o : Oracle) (a : Args) (m : Mode) (e : Env) (ck : Chk) (c : St) :
    ChkOk (demanded a m e ck = true) c (evalChk o a m e ck c) := by
  cases ck with
  | args => exact (checkArgs_ok a c).imp fun h => nomatch h
  | constArg i => exact (checkConstArg_ok a _ c).imp fun h => by simpa [demanded] using h
  | intArg i => exact (checkIntArg_ok a m _ c).imp fun h => ⟨and_left h, and_not_right h⟩
  | uintArg i => exact (checkUintArg_ok a m _ c).imp fun h => ⟨and_left h, and_not_right h⟩
  | zeroFunc i => exact (checkZeroFuncArgs_ok a m _ c).imp id
  | bessel f => exact (checkBesselArgs_ok a m f c).imp fun h => ⟨and_left h, and_not_right h⟩
  | coupling =>
    refine (checkCouplingFrom_ok a m a.n 0 c).imp fun h => ⟨and_left h, ?_⟩
    obtain ⟨j, hj, hc⟩ := anyBelow_iff.mp (and_right h)
    exact ⟨j, by omega, by omega, by simpa using hc⟩

theorem checkResult_cases (a : Args) (m : Mode) (rn : Bool) (c : St) :
    (∃ k, checkResult a m rn c = { c with err := some k, ret := some .zero }) ∨
    (checkResult a m rn c = { c with ret := some (.val false) } ∧
      (m.derivs = true → c.err = none → anyBelow a.n c.d = false ∧ (m.hes = true → anyBelow (hesLen a.n) c.h = false))) := by
  unfold checkResult
  cases rn with
  | true => exact Or.inl ⟨_, rfl⟩
  | false =>
    simp only [Bool.false_eq_true, if_false]
    split
    · exact Or.inl ⟨_, rfl⟩
    · split
      · split
        · exact Or.inl ⟨_, rfl⟩
        · split
          · exact Or.inl ⟨_, rfl⟩
          · rename_i hd hh
            exact Or.inr ⟨rfl, fun _ _ => ⟨by simpa using hd, fun h => by simpa [h] using hh⟩⟩
      · rename_i hc
        exact Or.inr ⟨rfl, fun hd he => absurd (by rw [hd, he]; rfl) hc⟩

theorem checkResult_ret_some {a : Args} {m : Mode} {rn : Bool} {c : St} : (checkResult a m rn c).ret ≠ none := by
  rcases checkResult_cases a m rn c with ⟨k, h⟩ | ⟨h, _⟩ <;> rw [h] <;> nofun

end MpVerif.C16
