import Mathlib.Analysis.SpecialFunctions.Sqrt
import Mathlib.Analysis.SpecialFunctions.Log.Deriv
import Mathlib.Analysis.SpecialFunctions.ExpDeriv
import Mathlib.Analysis.SpecialFunctions.Trigonometric.Deriv
import MpVerif.C16.RExpr
import MpVerif.C16.RAttr
/-!
# C16 — meaning of the translated formulas over ℝ and a verified symbolic differentiator (proof-only, Mathlib)

* `specE f` : what the GSL functions occurring in the elementary bindings compute, as expressions (from the GSL
  manual; amplgsl.cc does not contain it).  `dsym f` : the derivative identity of a GSL function that stays a symbol.
  These two tables are the hand-written mathematical input.
* `inline`  : replaces calls by the bodies of `specE`;  `eval I` : meaning of an inlined expression under an interpretation `I` of
  the symbols;  `evalT = eval ∘ inline`.
* `diff i`  : symbolic partial derivative;  `Ok I env e` : the side conditions (non-zero denominators, arguments of
  log / sqrt, a strict `!=` test, and for a symbol `Ident`: its identity holds at the point where it is applied);
  `hasDerivAt_diff` : soundness, by induction on the expression.  `≠ 0` is enough for sqrt and log because `Real.sqrt` is 0
  and `Real.log` is log |x| left of 0; the C functions return NaN there, so left of 0 the theorems are not about the binding.
-/
namespace MpVerif.C16
open RExpr

def RExpr.subst (σ : List RExpr) : RExpr → RExpr
  | .arg i => σ.getD i (.lit 0 1)
  | .lit n d => .lit n d
  | .neg a => .neg (a.subst σ)
  | .add a b => .add (a.subst σ) (b.subst σ)
  | .sub a b => .sub (a.subst σ) (b.subst σ)
  | .mul a b => .mul (a.subst σ) (b.subst σ)
  | .div a b => .div (a.subst σ) (b.subst σ)
  | .sqrt a => .sqrt (a.subst σ)
  | .exp a => .exp (a.subst σ)
  | .log a => .log (a.subst σ)
  | .sin a => .sin (a.subst σ)
  | .cos a => .cos (a.subst σ)
  | .ifNe a b t e => .ifNe (a.subst σ) (b.subst σ) (t.subst σ) (e.subst σ)
  | .call1 f a => .call1 f (a.subst σ)
  | .call2 f a b => .call2 f (a.subst σ) (b.subst σ)
  | .call3 f a b c => .call3 f (a.subst σ) (b.subst σ) (c.subst σ)

abbrev X : RExpr := .arg 0
abbrev Y : RExpr := .arg 1
abbrev Z : RExpr := .arg 2
abbrev q (n : Int) (d : Nat := 1) : RExpr := .lit n d
abbrev sq (a : RExpr) : RExpr := .mul a a

/-- the GSL functions of the elementary bindings as expressions in their own arguments (GSL reference manual) -/
def specE : String → Option RExpr
  | "gsl_pow_2" => some (sq X)
  | "gsl_pow_3" => some (.mul (sq X) X)
  | "gsl_pow_4" => some (sq (sq X))
  | "gsl_pow_5" => some (.mul (sq (sq X)) X)
  | "gsl_log1p" => some (.log (.add (q 1) X))
  | "gsl_expm1" => some (.sub (.exp X) (q 1))
  | "gsl_hypot" => some (.sqrt (.add (sq X) (sq Y)))
  | "gsl_hypot3" => some (.sqrt (.add (.add (sq X) (sq Y)) (sq Z)))
  | "gsl_sf_log" => some (.log X)
  | "gsl_sf_log_abs" => some (.log X)                       -- Mathlib's Real.log is log |x|
  | "gsl_sf_log_1plusx" => some (.log (.add (q 1) X))
  | "gsl_sf_log_1plusx_mx" => some (.sub (.log (.add (q 1) X)) X)
  | "gsl_sf_legendre_P1" => some X
  | "gsl_sf_legendre_P2" => some (.div (.sub (.mul (q 3) (sq X)) (q 1)) (q 2))
  | "gsl_sf_legendre_P3" => some (.div (.sub (.mul (q 5) (.mul (sq X) X)) (.mul (q 3) X)) (q 2))
  -- Gegenbauer C_n^λ(x), arguments (λ, x)
  | "gsl_sf_gegenpoly_1" => some (.mul (.mul (q 2) X) Y)
  | "gsl_sf_gegenpoly_2" => some (.sub (.mul (.mul (.mul (q 2) X) (.add (q 1) X)) (sq Y)) X)
  | "gsl_sf_gegenpoly_3" =>
      some (.mul Y (.add (.mul (.mul (q (-2)) X) (.add (q 1) X))
                         (.mul (.mul (.mul (.mul (q 4 3) X) (.add (q 1) X)) (.add (q 2) X)) (sq Y))))
  -- generalized Laguerre L_n^a(x), arguments (a, x)
  | "gsl_sf_laguerre_1" => some (.sub (.add (q 1) X) Y)
  | "gsl_sf_laguerre_2" =>
      some (.add (.sub (.div (.mul (.add X (q 1)) (.add X (q 2))) (q 2)) (.mul (.add X (q 2)) Y)) (.div (sq Y) (q 2)))
  | "gsl_sf_laguerre_3" =>
      some (.sub (.add (.sub (.div (.mul (.mul (.add X (q 1)) (.add X (q 2))) (.add X (q 3))) (q 6))
                             (.div (.mul (.mul (.add X (q 2)) (.add X (q 3))) Y) (q 2)))
                       (.div (.mul (.add X (q 3)) (sq Y)) (q 2)))
                 (.div (.mul (sq Y) Y) (q 6)))
  | "gsl_sf_fermi_dirac_m1" => some (.div (.exp X) (.add (q 1) (.exp X)))
  | "gsl_sf_fermi_dirac_0" => some (.log (.add (q 1) (.exp X)))
  | "gsl_sf_bessel_j0" => some (.div (.sin X) X)
  | "gsl_sf_bessel_y0" => some (.neg (.div (.cos X) X))
  | _ => none

set_option linter.auxLemma false in
/-- The matcher is unfolded to its chain of string tests by hand: `simp [specE]` would first generate one equation lemma per key
and the splitter of the match, which is slow for a long table and is redone by every proof that asks for them. -/
@[rexpr]
theorem specE_table :
    specE "gsl_pow_2" = some (sq X) ∧
    specE "gsl_pow_3" = some (.mul (sq X) X) ∧
    specE "gsl_pow_4" = some (sq (sq X)) ∧
    specE "gsl_pow_5" = some (.mul (sq (sq X)) X) ∧
    specE "gsl_log1p" = some (.log (.add (q 1) X)) ∧
    specE "gsl_expm1" = some (.sub (.exp X) (q 1)) ∧
    specE "gsl_hypot" = some (.sqrt (.add (sq X) (sq Y))) ∧
    specE "gsl_hypot3" = some (.sqrt (.add (.add (sq X) (sq Y)) (sq Z))) ∧
    specE "gsl_sf_log" = some (.log X) ∧
    specE "gsl_sf_log_abs" = some (.log X) ∧
    specE "gsl_sf_log_1plusx" = some (.log (.add (q 1) X)) ∧
    specE "gsl_sf_log_1plusx_mx" = some (.sub (.log (.add (q 1) X)) X) ∧
    specE "gsl_sf_legendre_P1" = some X ∧
    specE "gsl_sf_legendre_P2" = some (.div (.sub (.mul (q 3) (sq X)) (q 1)) (q 2)) ∧
    specE "gsl_sf_legendre_P3" = some (.div (.sub (.mul (q 5) (.mul (sq X) X)) (.mul (q 3) X)) (q 2)) ∧
    specE "gsl_sf_gegenpoly_1" = some (.mul (.mul (q 2) X) Y) ∧
    specE "gsl_sf_gegenpoly_2" = some (.sub (.mul (.mul (.mul (q 2) X) (.add (q 1) X)) (sq Y)) X) ∧
    specE "gsl_sf_gegenpoly_3" = some (.mul Y (.add (.mul (.mul (q (-2)) X) (.add (q 1) X)) (.mul (.mul (.mul (.mul (q 4 3) X) (.add (q 1) X)) (.add (q 2) X)) (sq Y)))) ∧
    specE "gsl_sf_laguerre_1" = some (.sub (.add (q 1) X) Y) ∧
    specE "gsl_sf_laguerre_2" = some (.add (.sub (.div (.mul (.add X (q 1)) (.add X (q 2))) (q 2)) (.mul (.add X (q 2)) Y)) (.div (sq Y) (q 2))) ∧
    specE "gsl_sf_laguerre_3" = some (.sub (.add (.sub (.div (.mul (.mul (.add X (q 1)) (.add X (q 2))) (.add X (q 3))) (q 6)) (.div (.mul (.mul (.add X (q 2)) (.add X (q 3))) Y) (q 2))) (.div (.mul (.add X (q 3)) (sq Y)) (q 2))) (.div (.mul (sq Y) Y) (q 6))) ∧
    specE "gsl_sf_fermi_dirac_m1" = some (.div (.exp X) (.add (q 1) (.exp X))) ∧
    specE "gsl_sf_fermi_dirac_0" = some (.log (.add (q 1) (.exp X))) ∧
    specE "gsl_sf_bessel_j0" = some (.div (.sin X) X) ∧
    specE "gsl_sf_bessel_y0" = some (.neg (.div (.cos X) X)) := by
  delta specE specE.match_1
  simp only [String.reduceEq, ↓reduceDIte, and_self]

set_option linter.auxLemma false in
/-- One clause for every call name in `Gen/GslFormulas.lean` that `specE` does not define: `inline_call1` needs `specE f` decided
either way, and a name missing here leaves `(specE f).elim …` standing in the `Ok` goal of its theorem in DerivGen.lean. -/
@[rexpr]
theorem specE_symbol :
    specE "gsl_cdf_ugaussian_P" = none ∧
    specE "gsl_ran_ugaussian_pdf" = none ∧
    specE "gsl_sf_Ci" = none ∧
    specE "gsl_sf_Si" = none ∧
    specE "gsl_sf_airy_Ai" = none ∧
    specE "gsl_sf_airy_Ai_deriv" = none ∧
    specE "gsl_sf_airy_Bi" = none ∧
    specE "gsl_sf_airy_Bi_deriv" = none ∧
    specE "gsl_sf_bessel_I0" = none ∧
    specE "gsl_sf_bessel_I1" = none ∧
    specE "gsl_sf_bessel_In#2" = none ∧
    specE "gsl_sf_bessel_In#3" = none ∧
    specE "gsl_sf_bessel_In@-1" = none ∧
    specE "gsl_sf_bessel_In@-2" = none ∧
    specE "gsl_sf_bessel_In@0" = none ∧
    specE "gsl_sf_bessel_In@1" = none ∧
    specE "gsl_sf_bessel_In@2" = none ∧
    specE "gsl_sf_bessel_Inu@-1" = none ∧
    specE "gsl_sf_bessel_Inu@-2" = none ∧
    specE "gsl_sf_bessel_Inu@0" = none ∧
    specE "gsl_sf_bessel_Inu@1" = none ∧
    specE "gsl_sf_bessel_Inu@2" = none ∧
    specE "gsl_sf_bessel_J0" = none ∧
    specE "gsl_sf_bessel_J1" = none ∧
    specE "gsl_sf_bessel_Jn#2" = none ∧
    specE "gsl_sf_bessel_Jn#3" = none ∧
    specE "gsl_sf_bessel_Jn@-1" = none ∧
    specE "gsl_sf_bessel_Jn@-2" = none ∧
    specE "gsl_sf_bessel_Jn@0" = none ∧
    specE "gsl_sf_bessel_Jn@1" = none ∧
    specE "gsl_sf_bessel_Jn@2" = none ∧
    specE "gsl_sf_bessel_Jnu@-1" = none ∧
    specE "gsl_sf_bessel_Jnu@-2" = none ∧
    specE "gsl_sf_bessel_Jnu@0" = none ∧
    specE "gsl_sf_bessel_Jnu@1" = none ∧
    specE "gsl_sf_bessel_Jnu@2" = none ∧
    specE "gsl_sf_bessel_K0" = none ∧
    specE "gsl_sf_bessel_K0_scaled" = none ∧
    specE "gsl_sf_bessel_K1" = none ∧
    specE "gsl_sf_bessel_K1_scaled" = none ∧
    specE "gsl_sf_bessel_Kn#2" = none ∧
    specE "gsl_sf_bessel_Kn#3" = none ∧
    specE "gsl_sf_bessel_Kn@-1" = none ∧
    specE "gsl_sf_bessel_Kn@-2" = none ∧
    specE "gsl_sf_bessel_Kn@0" = none ∧
    specE "gsl_sf_bessel_Kn@1" = none ∧
    specE "gsl_sf_bessel_Kn@2" = none ∧
    specE "gsl_sf_bessel_Kn_scaled#2" = none ∧
    specE "gsl_sf_bessel_Kn_scaled#3" = none ∧
    specE "gsl_sf_bessel_Kn_scaled@-1" = none ∧
    specE "gsl_sf_bessel_Kn_scaled@-2" = none ∧
    specE "gsl_sf_bessel_Kn_scaled@0" = none ∧
    specE "gsl_sf_bessel_Kn_scaled@1" = none ∧
    specE "gsl_sf_bessel_Kn_scaled@2" = none ∧
    specE "gsl_sf_bessel_Knu@-1" = none ∧
    specE "gsl_sf_bessel_Knu@-2" = none ∧
    specE "gsl_sf_bessel_Knu@0" = none ∧
    specE "gsl_sf_bessel_Knu@1" = none ∧
    specE "gsl_sf_bessel_Knu@2" = none ∧
    specE "gsl_sf_bessel_Knu_scaled@-1" = none ∧
    specE "gsl_sf_bessel_Knu_scaled@-2" = none ∧
    specE "gsl_sf_bessel_Knu_scaled@0" = none ∧
    specE "gsl_sf_bessel_Knu_scaled@1" = none ∧
    specE "gsl_sf_bessel_Knu_scaled@2" = none ∧
    specE "gsl_sf_bessel_Y0" = none ∧
    specE "gsl_sf_bessel_Y1" = none ∧
    specE "gsl_sf_bessel_Yn#2" = none ∧
    specE "gsl_sf_bessel_Yn#3" = none ∧
    specE "gsl_sf_bessel_Yn@-1" = none ∧
    specE "gsl_sf_bessel_Yn@-2" = none ∧
    specE "gsl_sf_bessel_Yn@0" = none ∧
    specE "gsl_sf_bessel_Yn@1" = none ∧
    specE "gsl_sf_bessel_Yn@2" = none ∧
    specE "gsl_sf_bessel_Ynu@-1" = none ∧
    specE "gsl_sf_bessel_Ynu@-2" = none ∧
    specE "gsl_sf_bessel_Ynu@0" = none ∧
    specE "gsl_sf_bessel_Ynu@1" = none ∧
    specE "gsl_sf_bessel_Ynu@2" = none ∧
    specE "gsl_sf_dawson" = none ∧
    specE "gsl_sf_erf_Q" = none ∧
    specE "gsl_sf_erf_Z" = none ∧
    specE "gsl_sf_expint_3" = none ∧
    specE "gsl_sf_expint_E1" = none ∧
    specE "gsl_sf_expint_E2" = none ∧
    specE "gsl_sf_expint_Ei" = none ∧
    specE "gsl_sf_fermi_dirac_1" = none ∧
    specE "gsl_sf_fermi_dirac_2" = none ∧
    specE "gsl_sf_fermi_dirac_3half" = none ∧
    specE "gsl_sf_fermi_dirac_half" = none ∧
    specE "gsl_sf_fermi_dirac_int@-1" = none ∧
    specE "gsl_sf_fermi_dirac_int@-2" = none ∧
    specE "gsl_sf_fermi_dirac_int@0" = none ∧
    specE "gsl_sf_fermi_dirac_mhalf" = none ∧
    specE "gsl_sf_gamma" = none ∧
    specE "gsl_sf_hazard" = none ∧
    specE "gsl_sf_psi" = none ∧
    specE "gsl_sf_psi_1" = none ∧
    specE "gsl_sf_psi_n#2" = none ∧
    specE "gsl_sf_psi_n#3" = none := by
  delta specE specE.match_1
  simp only [String.reduceEq, ↓reduceDIte, and_self]

/-- replace calls of known GSL functions by their bodies (unknown ones stay and make `Ok` false) -/
def RExpr.inline : RExpr → RExpr
  | .arg i => .arg i
  | .lit n d => .lit n d
  | .neg a => .neg a.inline
  | .add a b => .add a.inline b.inline
  | .sub a b => .sub a.inline b.inline
  | .mul a b => .mul a.inline b.inline
  | .div a b => .div a.inline b.inline
  | .sqrt a => .sqrt a.inline
  | .exp a => .exp a.inline
  | .log a => .log a.inline
  | .sin a => .sin a.inline
  | .cos a => .cos a.inline
  | .ifNe a b t e => .ifNe a.inline b.inline t.inline e.inline
  | .call1 f a => match specE f with
    | some body => body.subst [a.inline]
    | none => .call1 f a.inline
  | .call2 f a b => match specE f with
    | some body => body.subst [a.inline, b.inline]
    | none => .call2 f a.inline b.inline
  | .call3 f a b c => match specE f with
    | some body => body.subst [a.inline, b.inline, c.inline]
    | none => .call3 f a.inline b.inline c.inline

/-! `inline` constructor by constructor.  These are used as rewrite rules with proofs (hence `by rw`, not `rfl`): a step closed by
unfolding alone makes the kernel compare `(call1 f a).inline` with its unfolded form by evaluating `specE f`, string test by string test. -/
section
variable (f : String) (i : Nat) (n : Int) (d : Nat) (a b c t e : RExpr)
@[rexpr] theorem inline_arg : (arg i).inline = .arg i := by rw [RExpr.inline]
@[rexpr] theorem inline_lit : (lit n d).inline = .lit n d := by rw [RExpr.inline]
@[rexpr] theorem inline_neg : (neg a).inline = .neg a.inline := by rw [RExpr.inline]
@[rexpr] theorem inline_add : (add a b).inline = .add a.inline b.inline := by rw [RExpr.inline]
@[rexpr] theorem inline_sub : (sub a b).inline = .sub a.inline b.inline := by rw [RExpr.inline]
@[rexpr] theorem inline_mul : (mul a b).inline = .mul a.inline b.inline := by rw [RExpr.inline]
@[rexpr] theorem inline_div : (div a b).inline = .div a.inline b.inline := by rw [RExpr.inline]
@[rexpr] theorem inline_sqrt : (sqrt a).inline = .sqrt a.inline := by rw [RExpr.inline]
@[rexpr] theorem inline_exp : (exp a).inline = .exp a.inline := by rw [RExpr.inline]
@[rexpr] theorem inline_log : (log a).inline = .log a.inline := by rw [RExpr.inline]
@[rexpr] theorem inline_sin : (sin a).inline = .sin a.inline := by rw [RExpr.inline]
@[rexpr] theorem inline_cos : (cos a).inline = .cos a.inline := by rw [RExpr.inline]
@[rexpr] theorem inline_ifNe : (ifNe a b t e).inline = .ifNe a.inline b.inline t.inline e.inline := by rw [RExpr.inline]
@[rexpr] theorem inline_call1 : (call1 f a).inline = (specE f).elim (.call1 f a.inline) (·.subst [a.inline]) := by
  rw [RExpr.inline]; cases specE f <;> rfl
@[rexpr] theorem inline_call2 : (call2 f a b).inline = (specE f).elim (.call2 f a.inline b.inline) (·.subst [a.inline, b.inline]) := by
  rw [RExpr.inline]; cases specE f <;> rfl
@[rexpr] theorem inline_call3 :
    (call3 f a b c).inline = (specE f).elim (.call3 f a.inline b.inline c.inline) (·.subst [a.inline, b.inline, c.inline]) := by
  rw [RExpr.inline]; cases specE f <;> rfl
end

/-- the classical derivative identities of the GSL special functions that stay SYMBOLS (one real argument `X`; a literal
order is part of the name: `gsl_sf_bessel_Jn#2` is J₂).  `dsym f = some e` reads "f′(X) = e".  These are the NAMED HYPOTHESES
(`Ident`) of the conditional theorems in DerivGen.lean; nothing here is proved about GSL or about Bessel functions. -/
def dsym : String → Option RExpr
  | "gsl_sf_bessel_J0" => some (.neg (.call1 "gsl_sf_bessel_J1" X))
  | "gsl_sf_bessel_J1" => some (.div (.sub (.call1 "gsl_sf_bessel_J0" X) (.call1 "gsl_sf_bessel_Jn#2" X)) (q 2))
  | "gsl_sf_bessel_Jn#2" => some (.div (.sub (.call1 "gsl_sf_bessel_J1" X) (.call1 "gsl_sf_bessel_Jn#3" X)) (q 2))
  | "gsl_sf_bessel_Y0" => some (.neg (.call1 "gsl_sf_bessel_Y1" X))
  | "gsl_sf_bessel_Y1" => some (.div (.sub (.call1 "gsl_sf_bessel_Y0" X) (.call1 "gsl_sf_bessel_Yn#2" X)) (q 2))
  | "gsl_sf_bessel_Yn#2" => some (.div (.sub (.call1 "gsl_sf_bessel_Y1" X) (.call1 "gsl_sf_bessel_Yn#3" X)) (q 2))
  | "gsl_sf_bessel_I0" => some (.call1 "gsl_sf_bessel_I1" X)
  | "gsl_sf_bessel_I1" => some (.div (.add (.call1 "gsl_sf_bessel_I0" X) (.call1 "gsl_sf_bessel_In#2" X)) (q 2))
  | "gsl_sf_bessel_In#2" => some (.div (.add (.call1 "gsl_sf_bessel_I1" X) (.call1 "gsl_sf_bessel_In#3" X)) (q 2))
  | "gsl_sf_bessel_K0" => some (.neg (.call1 "gsl_sf_bessel_K1" X))
  | "gsl_sf_bessel_K1" => some (.neg (.div (.add (.call1 "gsl_sf_bessel_K0" X) (.call1 "gsl_sf_bessel_Kn#2" X)) (q 2)))
  | "gsl_sf_bessel_Kn#2" => some (.neg (.div (.add (.call1 "gsl_sf_bessel_K1" X) (.call1 "gsl_sf_bessel_Kn#3" X)) (q 2)))
  -- scaled: e^x K_n(x)
  | "gsl_sf_bessel_K0_scaled" => some (.sub (.call1 "gsl_sf_bessel_K0_scaled" X) (.call1 "gsl_sf_bessel_K1_scaled" X))
  | "gsl_sf_bessel_K1_scaled" =>
      some (.sub (.call1 "gsl_sf_bessel_K1_scaled" X) (.div (.add (.call1 "gsl_sf_bessel_K0_scaled" X) (.call1 "gsl_sf_bessel_Kn_scaled#2" X)) (q 2)))
  | "gsl_sf_bessel_Kn_scaled#2" =>
      some (.sub (.call1 "gsl_sf_bessel_Kn_scaled#2" X) (.div (.add (.call1 "gsl_sf_bessel_K1_scaled" X) (.call1 "gsl_sf_bessel_Kn_scaled#3" X)) (q 2)))
  | "gsl_sf_airy_Ai" => some (.call1 "gsl_sf_airy_Ai_deriv" X)
  | "gsl_sf_airy_Ai_deriv" => some (.mul X (.call1 "gsl_sf_airy_Ai" X))          -- Ai″ = x Ai
  | "gsl_sf_airy_Bi" => some (.call1 "gsl_sf_airy_Bi_deriv" X)
  | "gsl_sf_airy_Bi_deriv" => some (.mul X (.call1 "gsl_sf_airy_Bi" X))
  | "gsl_sf_dawson" => some (.sub (q 1) (.mul (.mul (q 2) X) (.call1 "gsl_sf_dawson" X)))   -- F′ = 1 − 2xF
  | "gsl_sf_erf_Z" => some (.neg (.mul X (.call1 "gsl_sf_erf_Z" X)))                          -- Z′ = −xZ
  | "gsl_sf_erf_Q" => some (.neg (.call1 "gsl_sf_erf_Z" X))                                   -- Q′ = −Z
  | "gsl_sf_hazard" => some (.mul (.sub (.call1 "gsl_sf_hazard" X) X) (.call1 "gsl_sf_hazard" X))   -- h′ = (h − x)h
  | "gsl_sf_expint_E1" => some (.neg (.div (.exp (.neg X)) X))
  | "gsl_sf_expint_E2" => some (.neg (.call1 "gsl_sf_expint_E1" X))
  | "gsl_sf_expint_Ei" => some (.div (.exp X) X)
  | "gsl_sf_Si" => some (.div (.sin X) X)
  | "gsl_sf_Ci" => some (.div (.cos X) X)
  | "gsl_sf_expint_3" => some (.exp (.neg (.mul (sq X) X)))
  | "gsl_sf_fermi_dirac_1" => some (.log (.add (q 1) (.exp X)))                                -- F₁′ = F₀
  | "gsl_sf_fermi_dirac_2" => some (.call1 "gsl_sf_fermi_dirac_1" X)
  | "gsl_sf_fermi_dirac_3half" => some (.call1 "gsl_sf_fermi_dirac_half" X)
  | "gsl_sf_fermi_dirac_half" => some (.call1 "gsl_sf_fermi_dirac_mhalf" X)
  | "gsl_sf_gamma" => some (.mul (.call1 "gsl_sf_gamma" X) (.call1 "gsl_sf_psi" X))          -- Γ′ = Γψ
  | "gsl_sf_psi" => some (.call1 "gsl_sf_psi_1" X)
  | "gsl_sf_psi_1" => some (.call1 "gsl_sf_psi_n#2" X)
  | "gsl_sf_psi_n#2" => some (.call1 "gsl_sf_psi_n#3" X)
  -- order-parameter families: `f@k` is f of order (order + k); C_ν′ = (C_{ν−1} − C_{ν+1})/2 for J, Y; I_ν′ = (I_{ν−1} + I_{ν+1})/2;
  -- K_ν′ = −(K_{ν−1} + K_{ν+1})/2; scaled e^x K_ν: f′ = f − (f_{ν−1} + f_{ν+1})/2; Fermi–Dirac F_j′ = F_{j−1}
  | "gsl_sf_bessel_Jn@-1" => some (.div (.sub (.call1 "gsl_sf_bessel_Jn@-2" X) (.call1 "gsl_sf_bessel_Jn@0" X)) (q 2))
  | "gsl_sf_bessel_Jn@0" => some (.div (.sub (.call1 "gsl_sf_bessel_Jn@-1" X) (.call1 "gsl_sf_bessel_Jn@1" X)) (q 2))
  | "gsl_sf_bessel_Jn@1" => some (.div (.sub (.call1 "gsl_sf_bessel_Jn@0" X) (.call1 "gsl_sf_bessel_Jn@2" X)) (q 2))
  | "gsl_sf_bessel_Yn@-1" => some (.div (.sub (.call1 "gsl_sf_bessel_Yn@-2" X) (.call1 "gsl_sf_bessel_Yn@0" X)) (q 2))
  | "gsl_sf_bessel_Yn@0" => some (.div (.sub (.call1 "gsl_sf_bessel_Yn@-1" X) (.call1 "gsl_sf_bessel_Yn@1" X)) (q 2))
  | "gsl_sf_bessel_Yn@1" => some (.div (.sub (.call1 "gsl_sf_bessel_Yn@0" X) (.call1 "gsl_sf_bessel_Yn@2" X)) (q 2))
  | "gsl_sf_bessel_Jnu@-1" => some (.div (.sub (.call1 "gsl_sf_bessel_Jnu@-2" X) (.call1 "gsl_sf_bessel_Jnu@0" X)) (q 2))
  | "gsl_sf_bessel_Jnu@0" => some (.div (.sub (.call1 "gsl_sf_bessel_Jnu@-1" X) (.call1 "gsl_sf_bessel_Jnu@1" X)) (q 2))
  | "gsl_sf_bessel_Jnu@1" => some (.div (.sub (.call1 "gsl_sf_bessel_Jnu@0" X) (.call1 "gsl_sf_bessel_Jnu@2" X)) (q 2))
  | "gsl_sf_bessel_Ynu@-1" => some (.div (.sub (.call1 "gsl_sf_bessel_Ynu@-2" X) (.call1 "gsl_sf_bessel_Ynu@0" X)) (q 2))
  | "gsl_sf_bessel_Ynu@0" => some (.div (.sub (.call1 "gsl_sf_bessel_Ynu@-1" X) (.call1 "gsl_sf_bessel_Ynu@1" X)) (q 2))
  | "gsl_sf_bessel_Ynu@1" => some (.div (.sub (.call1 "gsl_sf_bessel_Ynu@0" X) (.call1 "gsl_sf_bessel_Ynu@2" X)) (q 2))
  | "gsl_sf_bessel_In@-1" => some (.div (.add (.call1 "gsl_sf_bessel_In@-2" X) (.call1 "gsl_sf_bessel_In@0" X)) (q 2))
  | "gsl_sf_bessel_In@0" => some (.div (.add (.call1 "gsl_sf_bessel_In@-1" X) (.call1 "gsl_sf_bessel_In@1" X)) (q 2))
  | "gsl_sf_bessel_In@1" => some (.div (.add (.call1 "gsl_sf_bessel_In@0" X) (.call1 "gsl_sf_bessel_In@2" X)) (q 2))
  | "gsl_sf_bessel_Inu@-1" => some (.div (.add (.call1 "gsl_sf_bessel_Inu@-2" X) (.call1 "gsl_sf_bessel_Inu@0" X)) (q 2))
  | "gsl_sf_bessel_Inu@0" => some (.div (.add (.call1 "gsl_sf_bessel_Inu@-1" X) (.call1 "gsl_sf_bessel_Inu@1" X)) (q 2))
  | "gsl_sf_bessel_Inu@1" => some (.div (.add (.call1 "gsl_sf_bessel_Inu@0" X) (.call1 "gsl_sf_bessel_Inu@2" X)) (q 2))
  | "gsl_sf_bessel_Kn@-1" => some (.neg (.div (.add (.call1 "gsl_sf_bessel_Kn@-2" X) (.call1 "gsl_sf_bessel_Kn@0" X)) (q 2)))
  | "gsl_sf_bessel_Kn@0" => some (.neg (.div (.add (.call1 "gsl_sf_bessel_Kn@-1" X) (.call1 "gsl_sf_bessel_Kn@1" X)) (q 2)))
  | "gsl_sf_bessel_Kn@1" => some (.neg (.div (.add (.call1 "gsl_sf_bessel_Kn@0" X) (.call1 "gsl_sf_bessel_Kn@2" X)) (q 2)))
  | "gsl_sf_bessel_Knu@-1" => some (.neg (.div (.add (.call1 "gsl_sf_bessel_Knu@-2" X) (.call1 "gsl_sf_bessel_Knu@0" X)) (q 2)))
  | "gsl_sf_bessel_Knu@0" => some (.neg (.div (.add (.call1 "gsl_sf_bessel_Knu@-1" X) (.call1 "gsl_sf_bessel_Knu@1" X)) (q 2)))
  | "gsl_sf_bessel_Knu@1" => some (.neg (.div (.add (.call1 "gsl_sf_bessel_Knu@0" X) (.call1 "gsl_sf_bessel_Knu@2" X)) (q 2)))
  | "gsl_sf_bessel_Kn_scaled@-1" => some (.sub (.call1 "gsl_sf_bessel_Kn_scaled@-1" X) (.div (.add (.call1 "gsl_sf_bessel_Kn_scaled@-2" X) (.call1 "gsl_sf_bessel_Kn_scaled@0" X)) (q 2)))
  | "gsl_sf_bessel_Kn_scaled@0" => some (.sub (.call1 "gsl_sf_bessel_Kn_scaled@0" X) (.div (.add (.call1 "gsl_sf_bessel_Kn_scaled@-1" X) (.call1 "gsl_sf_bessel_Kn_scaled@1" X)) (q 2)))
  | "gsl_sf_bessel_Kn_scaled@1" => some (.sub (.call1 "gsl_sf_bessel_Kn_scaled@1" X) (.div (.add (.call1 "gsl_sf_bessel_Kn_scaled@0" X) (.call1 "gsl_sf_bessel_Kn_scaled@2" X)) (q 2)))
  | "gsl_sf_bessel_Knu_scaled@-1" => some (.sub (.call1 "gsl_sf_bessel_Knu_scaled@-1" X) (.div (.add (.call1 "gsl_sf_bessel_Knu_scaled@-2" X) (.call1 "gsl_sf_bessel_Knu_scaled@0" X)) (q 2)))
  | "gsl_sf_bessel_Knu_scaled@0" => some (.sub (.call1 "gsl_sf_bessel_Knu_scaled@0" X) (.div (.add (.call1 "gsl_sf_bessel_Knu_scaled@-1" X) (.call1 "gsl_sf_bessel_Knu_scaled@1" X)) (q 2)))
  | "gsl_sf_bessel_Knu_scaled@1" => some (.sub (.call1 "gsl_sf_bessel_Knu_scaled@1" X) (.div (.add (.call1 "gsl_sf_bessel_Knu_scaled@0" X) (.call1 "gsl_sf_bessel_Knu_scaled@2" X)) (q 2)))
  | "gsl_sf_fermi_dirac_int@0" => some (.call1 "gsl_sf_fermi_dirac_int@-1" X)
  | "gsl_sf_fermi_dirac_int@-1" => some (.call1 "gsl_sf_fermi_dirac_int@-2" X)
  | "gsl_cdf_ugaussian_P" => some (.call1 "gsl_ran_ugaussian_pdf" X)
  | "gsl_ran_ugaussian_pdf" => some (.neg (.mul X (.call1 "gsl_ran_ugaussian_pdf" X)))       -- φ′ = −xφ
  | _ => none

def dsymE (f : String) : RExpr := (dsym f).getD (.lit 0 1)

set_option linter.auxLemma false in
@[rexpr]
theorem dsym_table :
    dsym "gsl_sf_bessel_J0" = some (.neg (.call1 "gsl_sf_bessel_J1" X)) ∧
    dsym "gsl_sf_bessel_J1" = some (.div (.sub (.call1 "gsl_sf_bessel_J0" X) (.call1 "gsl_sf_bessel_Jn#2" X)) (q 2)) ∧
    dsym "gsl_sf_bessel_Jn#2" = some (.div (.sub (.call1 "gsl_sf_bessel_J1" X) (.call1 "gsl_sf_bessel_Jn#3" X)) (q 2)) ∧
    dsym "gsl_sf_bessel_Y0" = some (.neg (.call1 "gsl_sf_bessel_Y1" X)) ∧
    dsym "gsl_sf_bessel_Y1" = some (.div (.sub (.call1 "gsl_sf_bessel_Y0" X) (.call1 "gsl_sf_bessel_Yn#2" X)) (q 2)) ∧
    dsym "gsl_sf_bessel_Yn#2" = some (.div (.sub (.call1 "gsl_sf_bessel_Y1" X) (.call1 "gsl_sf_bessel_Yn#3" X)) (q 2)) ∧
    dsym "gsl_sf_bessel_I0" = some (.call1 "gsl_sf_bessel_I1" X) ∧
    dsym "gsl_sf_bessel_I1" = some (.div (.add (.call1 "gsl_sf_bessel_I0" X) (.call1 "gsl_sf_bessel_In#2" X)) (q 2)) ∧
    dsym "gsl_sf_bessel_In#2" = some (.div (.add (.call1 "gsl_sf_bessel_I1" X) (.call1 "gsl_sf_bessel_In#3" X)) (q 2)) ∧
    dsym "gsl_sf_bessel_K0" = some (.neg (.call1 "gsl_sf_bessel_K1" X)) ∧
    dsym "gsl_sf_bessel_K1" = some (.neg (.div (.add (.call1 "gsl_sf_bessel_K0" X) (.call1 "gsl_sf_bessel_Kn#2" X)) (q 2))) ∧
    dsym "gsl_sf_bessel_Kn#2" = some (.neg (.div (.add (.call1 "gsl_sf_bessel_K1" X) (.call1 "gsl_sf_bessel_Kn#3" X)) (q 2))) ∧
    dsym "gsl_sf_bessel_K0_scaled" = some (.sub (.call1 "gsl_sf_bessel_K0_scaled" X) (.call1 "gsl_sf_bessel_K1_scaled" X)) ∧
    dsym "gsl_sf_bessel_K1_scaled" = some (.sub (.call1 "gsl_sf_bessel_K1_scaled" X) (.div (.add (.call1 "gsl_sf_bessel_K0_scaled" X) (.call1 "gsl_sf_bessel_Kn_scaled#2" X)) (q 2))) ∧
    dsym "gsl_sf_bessel_Kn_scaled#2" = some (.sub (.call1 "gsl_sf_bessel_Kn_scaled#2" X) (.div (.add (.call1 "gsl_sf_bessel_K1_scaled" X) (.call1 "gsl_sf_bessel_Kn_scaled#3" X)) (q 2))) ∧
    dsym "gsl_sf_airy_Ai" = some (.call1 "gsl_sf_airy_Ai_deriv" X) ∧
    dsym "gsl_sf_airy_Ai_deriv" = some (.mul X (.call1 "gsl_sf_airy_Ai" X)) ∧
    dsym "gsl_sf_airy_Bi" = some (.call1 "gsl_sf_airy_Bi_deriv" X) ∧
    dsym "gsl_sf_airy_Bi_deriv" = some (.mul X (.call1 "gsl_sf_airy_Bi" X)) ∧
    dsym "gsl_sf_dawson" = some (.sub (q 1) (.mul (.mul (q 2) X) (.call1 "gsl_sf_dawson" X))) ∧
    dsym "gsl_sf_erf_Z" = some (.neg (.mul X (.call1 "gsl_sf_erf_Z" X))) ∧
    dsym "gsl_sf_erf_Q" = some (.neg (.call1 "gsl_sf_erf_Z" X)) ∧
    dsym "gsl_sf_hazard" = some (.mul (.sub (.call1 "gsl_sf_hazard" X) X) (.call1 "gsl_sf_hazard" X)) ∧
    dsym "gsl_sf_expint_E1" = some (.neg (.div (.exp (.neg X)) X)) ∧
    dsym "gsl_sf_expint_E2" = some (.neg (.call1 "gsl_sf_expint_E1" X)) ∧
    dsym "gsl_sf_expint_Ei" = some (.div (.exp X) X) ∧
    dsym "gsl_sf_Si" = some (.div (.sin X) X) ∧
    dsym "gsl_sf_Ci" = some (.div (.cos X) X) ∧
    dsym "gsl_sf_expint_3" = some (.exp (.neg (.mul (sq X) X))) ∧
    dsym "gsl_sf_fermi_dirac_1" = some (.log (.add (q 1) (.exp X))) ∧
    dsym "gsl_sf_fermi_dirac_2" = some (.call1 "gsl_sf_fermi_dirac_1" X) ∧
    dsym "gsl_sf_fermi_dirac_3half" = some (.call1 "gsl_sf_fermi_dirac_half" X) ∧
    dsym "gsl_sf_fermi_dirac_half" = some (.call1 "gsl_sf_fermi_dirac_mhalf" X) ∧
    dsym "gsl_sf_gamma" = some (.mul (.call1 "gsl_sf_gamma" X) (.call1 "gsl_sf_psi" X)) ∧
    dsym "gsl_sf_psi" = some (.call1 "gsl_sf_psi_1" X) ∧
    dsym "gsl_sf_psi_1" = some (.call1 "gsl_sf_psi_n#2" X) ∧
    dsym "gsl_sf_psi_n#2" = some (.call1 "gsl_sf_psi_n#3" X) ∧
    dsym "gsl_sf_bessel_Jn@-1" = some (.div (.sub (.call1 "gsl_sf_bessel_Jn@-2" X) (.call1 "gsl_sf_bessel_Jn@0" X)) (q 2)) ∧
    dsym "gsl_sf_bessel_Jn@0" = some (.div (.sub (.call1 "gsl_sf_bessel_Jn@-1" X) (.call1 "gsl_sf_bessel_Jn@1" X)) (q 2)) ∧
    dsym "gsl_sf_bessel_Jn@1" = some (.div (.sub (.call1 "gsl_sf_bessel_Jn@0" X) (.call1 "gsl_sf_bessel_Jn@2" X)) (q 2)) ∧
    dsym "gsl_sf_bessel_Yn@-1" = some (.div (.sub (.call1 "gsl_sf_bessel_Yn@-2" X) (.call1 "gsl_sf_bessel_Yn@0" X)) (q 2)) ∧
    dsym "gsl_sf_bessel_Yn@0" = some (.div (.sub (.call1 "gsl_sf_bessel_Yn@-1" X) (.call1 "gsl_sf_bessel_Yn@1" X)) (q 2)) ∧
    dsym "gsl_sf_bessel_Yn@1" = some (.div (.sub (.call1 "gsl_sf_bessel_Yn@0" X) (.call1 "gsl_sf_bessel_Yn@2" X)) (q 2)) ∧
    dsym "gsl_sf_bessel_Jnu@-1" = some (.div (.sub (.call1 "gsl_sf_bessel_Jnu@-2" X) (.call1 "gsl_sf_bessel_Jnu@0" X)) (q 2)) ∧
    dsym "gsl_sf_bessel_Jnu@0" = some (.div (.sub (.call1 "gsl_sf_bessel_Jnu@-1" X) (.call1 "gsl_sf_bessel_Jnu@1" X)) (q 2)) ∧
    dsym "gsl_sf_bessel_Jnu@1" = some (.div (.sub (.call1 "gsl_sf_bessel_Jnu@0" X) (.call1 "gsl_sf_bessel_Jnu@2" X)) (q 2)) ∧
    dsym "gsl_sf_bessel_Ynu@-1" = some (.div (.sub (.call1 "gsl_sf_bessel_Ynu@-2" X) (.call1 "gsl_sf_bessel_Ynu@0" X)) (q 2)) ∧
    dsym "gsl_sf_bessel_Ynu@0" = some (.div (.sub (.call1 "gsl_sf_bessel_Ynu@-1" X) (.call1 "gsl_sf_bessel_Ynu@1" X)) (q 2)) ∧
    dsym "gsl_sf_bessel_Ynu@1" = some (.div (.sub (.call1 "gsl_sf_bessel_Ynu@0" X) (.call1 "gsl_sf_bessel_Ynu@2" X)) (q 2)) ∧
    dsym "gsl_sf_bessel_In@-1" = some (.div (.add (.call1 "gsl_sf_bessel_In@-2" X) (.call1 "gsl_sf_bessel_In@0" X)) (q 2)) ∧
    dsym "gsl_sf_bessel_In@0" = some (.div (.add (.call1 "gsl_sf_bessel_In@-1" X) (.call1 "gsl_sf_bessel_In@1" X)) (q 2)) ∧
    dsym "gsl_sf_bessel_In@1" = some (.div (.add (.call1 "gsl_sf_bessel_In@0" X) (.call1 "gsl_sf_bessel_In@2" X)) (q 2)) ∧
    dsym "gsl_sf_bessel_Inu@-1" = some (.div (.add (.call1 "gsl_sf_bessel_Inu@-2" X) (.call1 "gsl_sf_bessel_Inu@0" X)) (q 2)) ∧
    dsym "gsl_sf_bessel_Inu@0" = some (.div (.add (.call1 "gsl_sf_bessel_Inu@-1" X) (.call1 "gsl_sf_bessel_Inu@1" X)) (q 2)) ∧
    dsym "gsl_sf_bessel_Inu@1" = some (.div (.add (.call1 "gsl_sf_bessel_Inu@0" X) (.call1 "gsl_sf_bessel_Inu@2" X)) (q 2)) ∧
    dsym "gsl_sf_bessel_Kn@-1" = some (.neg (.div (.add (.call1 "gsl_sf_bessel_Kn@-2" X) (.call1 "gsl_sf_bessel_Kn@0" X)) (q 2))) ∧
    dsym "gsl_sf_bessel_Kn@0" = some (.neg (.div (.add (.call1 "gsl_sf_bessel_Kn@-1" X) (.call1 "gsl_sf_bessel_Kn@1" X)) (q 2))) ∧
    dsym "gsl_sf_bessel_Kn@1" = some (.neg (.div (.add (.call1 "gsl_sf_bessel_Kn@0" X) (.call1 "gsl_sf_bessel_Kn@2" X)) (q 2))) ∧
    dsym "gsl_sf_bessel_Knu@-1" = some (.neg (.div (.add (.call1 "gsl_sf_bessel_Knu@-2" X) (.call1 "gsl_sf_bessel_Knu@0" X)) (q 2))) ∧
    dsym "gsl_sf_bessel_Knu@0" = some (.neg (.div (.add (.call1 "gsl_sf_bessel_Knu@-1" X) (.call1 "gsl_sf_bessel_Knu@1" X)) (q 2))) ∧
    dsym "gsl_sf_bessel_Knu@1" = some (.neg (.div (.add (.call1 "gsl_sf_bessel_Knu@0" X) (.call1 "gsl_sf_bessel_Knu@2" X)) (q 2))) ∧
    dsym "gsl_sf_bessel_Kn_scaled@-1" = some (.sub (.call1 "gsl_sf_bessel_Kn_scaled@-1" X) (.div (.add (.call1 "gsl_sf_bessel_Kn_scaled@-2" X) (.call1 "gsl_sf_bessel_Kn_scaled@0" X)) (q 2))) ∧
    dsym "gsl_sf_bessel_Kn_scaled@0" = some (.sub (.call1 "gsl_sf_bessel_Kn_scaled@0" X) (.div (.add (.call1 "gsl_sf_bessel_Kn_scaled@-1" X) (.call1 "gsl_sf_bessel_Kn_scaled@1" X)) (q 2))) ∧
    dsym "gsl_sf_bessel_Kn_scaled@1" = some (.sub (.call1 "gsl_sf_bessel_Kn_scaled@1" X) (.div (.add (.call1 "gsl_sf_bessel_Kn_scaled@0" X) (.call1 "gsl_sf_bessel_Kn_scaled@2" X)) (q 2))) ∧
    dsym "gsl_sf_bessel_Knu_scaled@-1" = some (.sub (.call1 "gsl_sf_bessel_Knu_scaled@-1" X) (.div (.add (.call1 "gsl_sf_bessel_Knu_scaled@-2" X) (.call1 "gsl_sf_bessel_Knu_scaled@0" X)) (q 2))) ∧
    dsym "gsl_sf_bessel_Knu_scaled@0" = some (.sub (.call1 "gsl_sf_bessel_Knu_scaled@0" X) (.div (.add (.call1 "gsl_sf_bessel_Knu_scaled@-1" X) (.call1 "gsl_sf_bessel_Knu_scaled@1" X)) (q 2))) ∧
    dsym "gsl_sf_bessel_Knu_scaled@1" = some (.sub (.call1 "gsl_sf_bessel_Knu_scaled@1" X) (.div (.add (.call1 "gsl_sf_bessel_Knu_scaled@0" X) (.call1 "gsl_sf_bessel_Knu_scaled@2" X)) (q 2))) ∧
    dsym "gsl_sf_fermi_dirac_int@0" = some (.call1 "gsl_sf_fermi_dirac_int@-1" X) ∧
    dsym "gsl_sf_fermi_dirac_int@-1" = some (.call1 "gsl_sf_fermi_dirac_int@-2" X) ∧
    dsym "gsl_cdf_ugaussian_P" = some (.call1 "gsl_ran_ugaussian_pdf" X) ∧
    dsym "gsl_ran_ugaussian_pdf" = some (.neg (.mul X (.call1 "gsl_ran_ugaussian_pdf" X))) := by
  delta dsym dsym.match_1
  simp only [String.reduceEq, ↓reduceDIte, and_self]


/-- meaning over ℝ under an interpretation `I` of the symbols (calls of two / three arguments that survived `inline`
have no meaning: 0, and `Ok` rejects them) -/
noncomputable def eval (I : String → ℝ → ℝ) (env : Nat → ℝ) : RExpr → ℝ
  | .arg i => env i
  | .lit n d => (n : ℝ) / (d : ℝ)
  | .neg a => - eval I env a
  | .add a b => eval I env a + eval I env b
  | .sub a b => eval I env a - eval I env b
  | .mul a b => eval I env a * eval I env b
  | .div a b => eval I env a / eval I env b
  | .sqrt a => Real.sqrt (eval I env a)
  | .exp a => Real.exp (eval I env a)
  | .log a => Real.log (eval I env a)
  | .sin a => Real.sin (eval I env a)
  | .cos a => Real.cos (eval I env a)
  | .ifNe a b t e => if eval I env a ≠ eval I env b then eval I env t else eval I env e
  | .call1 f a => I f (eval I env a)
  | .call2 _ _ _ => 0
  | .call3 _ _ _ _ => 0

noncomputable def evalT (I : String → ℝ → ℝ) (env : Nat → ℝ) (e : RExpr) : ℝ := eval I env e.inline

def diff (i : Nat) : RExpr → RExpr
  | .arg j => if j = i then .lit 1 1 else .lit 0 1
  | .lit _ _ => .lit 0 1
  | .neg a => .neg (diff i a)
  | .add a b => .add (diff i a) (diff i b)
  | .sub a b => .sub (diff i a) (diff i b)
  | .mul a b => .add (.mul (diff i a) b) (.mul a (diff i b))
  | .div a b => .div (.sub (.mul (diff i a) b) (.mul a (diff i b))) (.mul b b)
  | .sqrt a => .div (diff i a) (.mul (.lit 2 1) (.sqrt a))
  | .exp a => .mul (.exp a) (diff i a)
  | .log a => .div (diff i a) a
  | .sin a => .mul (.cos a) (diff i a)
  | .cos a => .neg (.mul (.sin a) (diff i a))
  | .ifNe a b t e => .ifNe a b (diff i t) (diff i e)
  | .call1 f a => .mul ((dsymE f).subst [a]) (diff i a)      -- chain rule with the identity of f
  | .call2 _ _ _ => .lit 0 1
  | .call3 _ _ _ _ => .lit 0 1

/-- the argument vector with first component x (the symbols have one argument) -/
def env1 (x : ℝ) : Nat → ℝ := fun k => if k = 0 then x else 0

/-- **named hypothesis**: the derivative identity `dsym f` of the symbol f holds at x under the interpretation I -/
def Ident (I : String → ℝ → ℝ) (f : String) (x : ℝ) : Prop := HasDerivAt (I f) (eval I (env1 x) (dsymE f)) x

/-- side conditions under which `diff` is the derivative at `env`.  For a symbol, `(dsym f).isSome` is not needed by
`hasDerivAt_diff`; it keeps `Ident` from being read against the default `0` of `dsymE` for a symbol that has no identity. -/
def Ok (I : String → ℝ → ℝ) (env : Nat → ℝ) : RExpr → Prop
  | .arg _ => True
  | .lit _ _ => True
  | .neg a => Ok I env a
  | .add a b => Ok I env a ∧ Ok I env b
  | .sub a b => Ok I env a ∧ Ok I env b
  | .mul a b => Ok I env a ∧ Ok I env b
  | .div a b => Ok I env a ∧ Ok I env b ∧ eval I env b ≠ 0
  | .sqrt a => Ok I env a ∧ eval I env a ≠ 0
  | .exp a => Ok I env a
  | .log a => Ok I env a ∧ eval I env a ≠ 0
  | .sin a => Ok I env a
  | .cos a => Ok I env a
  | .ifNe a b t _ => Ok I env a ∧ Ok I env b ∧ eval I env a ≠ eval I env b ∧ Ok I env t
  | .call1 f a => Ok I env a ∧ (dsym f).isSome = true ∧ Ident I f (eval I env a)
  | .call2 _ _ _ => False
  | .call3 _ _ _ _ => False

theorem eval_subst (I : String → ℝ → ℝ) (env : Nat → ℝ) (σ : List RExpr) (e : RExpr) :
    eval I env (e.subst σ) = eval I (fun k => eval I env (σ.getD k (.lit 0 1))) e := by
  induction e <;> simp only [RExpr.subst, eval, *]

theorem env_subst1 (I : String → ℝ → ℝ) (env : Nat → ℝ) (a : RExpr) :
    (fun k => eval I env ([a].getD k (.lit 0 1))) = env1 (eval I env a) := by
  funext k
  cases k with
  | zero => simp [env1]
  | succ j => simp [env1, eval]

/-- **soundness of the differentiator** -/
theorem hasDerivAt_diff (I : String → ℝ → ℝ) (i : Nat) (env : Nat → ℝ) (x0 : ℝ) (e : RExpr) :
    Ok I (Function.update env i x0) e →
      HasDerivAt (fun t => eval I (Function.update env i t) e) (eval I (Function.update env i x0) (diff i e)) x0 := by
  induction e with
  | arg j =>
    intro _
    by_cases h : j = i
    · subst h
      simp only [eval, diff, if_true, Function.update_self]
      have := hasDerivAt_id' x0
      refine this.congr_deriv ?_
      simp
    · simp only [eval, diff, if_neg h, Function.update_of_ne h]
      simpa using hasDerivAt_const x0 (env j)
  | lit n d => intro _; simpa [eval, diff] using hasDerivAt_const x0 ((n : ℝ) / (d : ℝ))
  | neg a iha => intro h; exact (iha h).neg
  | add a b iha ihb => intro h; exact (iha h.1).add (ihb h.2)
  | sub a b iha ihb => intro h; exact (iha h.1).sub (ihb h.2)
  | mul a b iha ihb => intro h; exact (iha h.1).mul (ihb h.2)
  | div a b iha ihb =>
    intro h
    have := (iha h.1).div (ihb h.2.1) h.2.2
    refine this.congr_deriv ?_
    simp only [eval, diff, pow_two]
  | sqrt a iha =>
    intro h
    have := (iha h.1).sqrt h.2
    refine this.congr_deriv ?_
    simp only [eval, diff]; norm_num
  | exp a iha => intro h; exact (iha h).exp
  | log a iha => intro h; exact (iha h.1).log h.2
  | sin a iha => intro h; exact (iha h).sin
  | cos a iha =>
    intro h
    have := (iha h).cos
    refine this.congr_deriv ?_
    simp only [eval, diff]; ring
  | ifNe a b tE eE iha ihb iht _ =>
    intro h
    obtain ⟨ha, hb, hne, ht⟩ := h
    have hc : ContinuousAt (fun t => eval I (Function.update env i t) a - eval I (Function.update env i t) b) x0 :=
      ((iha ha).continuousAt).sub ((ihb hb).continuousAt)
    have hne0 : (fun t => eval I (Function.update env i t) a - eval I (Function.update env i t) b) x0 ≠ 0 := sub_ne_zero.mpr hne
    have hev := hc.eventually_ne hne0
    have heq : (fun t => eval I (Function.update env i t) (.ifNe a b tE eE)) =ᶠ[nhds x0] (fun t => eval I (Function.update env i t) tE) := by
      filter_upwards [hev] with t ht'
      have : eval I (Function.update env i t) a ≠ eval I (Function.update env i t) b := sub_ne_zero.mp ht'
      simp only [eval, this, ne_eq, not_false_eq_true, if_true]
    have hd := (iht ht).congr_of_eventuallyEq heq
    simpa only [eval, diff, hne, ne_eq, not_false_eq_true, if_true] using hd
  | call1 f a iha =>
    intro h
    obtain ⟨ha, _, hid⟩ := h
    have hA := iha ha
    have hf : HasDerivAt (I f) (eval I (Function.update env i x0) ((dsymE f).subst [a])) (eval I (Function.update env i x0) a) := by
      rw [eval_subst, env_subst1]; exact hid
    have := HasDerivAt.comp x0 hf hA
    refine this.congr_deriv ?_
    simp only [eval, diff]
  | call2 f a b _ _ => intro h; exact h.elim
  | call3 f a b c _ _ _ => intro h; exact h.elim

attribute [rexpr] RExpr.subst dsymE eval diff Ok Option.elim_none Option.elim_some

end MpVerif.C16
