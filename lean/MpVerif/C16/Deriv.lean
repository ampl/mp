import Mathlib.Analysis.SpecialFunctions.Sqrt
import Mathlib.Analysis.SpecialFunctions.Log.Deriv
import Mathlib.Analysis.SpecialFunctions.ExpDeriv
/-!
# C16 — derivative formulas of the elementary bindings, over ℝ (proof-only; not imported by the driver)

For bindings of `src/gsl/amplgsl.cc` whose value is an elementary closed form (`amplgsl_log1p`, `amplgsl_expm1`,
`amplgsl_sf_log`, `amplgsl_sf_log_1plusx_mx`, `amplgsl_sf_legendre_P2/P3`, `amplgsl_hypot`, `amplgsl_hypot3`) the
expressions the C code stores into `al->derivs` / `al->hes` are transcribed by hand below (`…D`, `…H`) and proved to be
the first / second partial derivatives of the value, as real functions (`HasDerivAt`), on the whole open domain.
This is about the formulas over ℝ, not about IEEE rounding.  The formulas as the translator extracts them from the
source, and the bindings whose value is a special function, are the subject of `DerivGen.lean`, which takes the
hypot / hypot3 facts from here.

**Hessian layout of `amplgsl_hypot3`.**  ASL documents `hes[i + j(j+1)/2]` (i ≤ j): for n = 3 the order
is xx, xy, yy, xz, yz, zz.  The binding stores xx, xy, **xz, yy**, yz, zz — the upper triangle by rows:
`hypot3_hes_xx` … `hypot3_hes_zz` prove that its six entries are the second partials in *row* order (`rowIdx`, whose
values on the six pairs are `hypot3_hes_is_row_packed`), and `hypot3_hes_not_asl_packed` exhibits a point where `hes[2]` (ASL: ∂²/∂y²) holds 0 while ∂²/∂y² = 1.
-/
namespace MpVerif.C16.Deriv
open Real

/-- d/dt [1 / u(t)] = −(1/u)·(1/u) when u′ = 1: the shape in which the bindings store the second derivative of a logarithm -/
theorem one_div_deriv {u : ℝ → ℝ} {x : ℝ} (hu : HasDerivAt u 1 x) (h : u x ≠ 0) :
    HasDerivAt (fun t => 1 / u t) (-(1 / u x) * (1 / u x)) x := by
  refine ((hasDerivAt_const x (1 : ℝ)).div hu h).congr_deriv ?_
  field_simp
  ring

/-! ### log1p:  `deriv = 1 / (x + 1)`, `hes = -deriv * deriv` -/
noncomputable def log1pD (x : ℝ) : ℝ := 1 / (x + 1)
noncomputable def log1pH (x : ℝ) : ℝ := -log1pD x * log1pD x

theorem log1p_deriv (x : ℝ) (hx : x + 1 ≠ 0) : HasDerivAt (fun t => Real.log (1 + t)) (log1pD x) x := by
  have h1 : HasDerivAt (fun t : ℝ => 1 + t) 1 x := by simpa using (hasDerivAt_id x).const_add 1
  have h2 := h1.log (by rw [add_comm]; exact hx)
  unfold log1pD
  rw [add_comm x 1]
  exact h2

theorem log1p_hes (x : ℝ) (hx : x + 1 ≠ 0) : HasDerivAt log1pD (log1pH x) x :=
  one_div_deriv ((hasDerivAt_id x).add_const 1) hx

/-! ### expm1:  `deriv = exp(x)`, `hes = deriv` -/
noncomputable def expm1D (x : ℝ) : ℝ := Real.exp x
noncomputable def expm1H (x : ℝ) : ℝ := expm1D x

theorem expm1_deriv (x : ℝ) : HasDerivAt (fun t => Real.exp t - 1) (expm1D x) x :=
  (Real.hasDerivAt_exp x).sub_const 1

theorem expm1_hes (x : ℝ) : HasDerivAt expm1D (expm1H x) x := Real.hasDerivAt_exp x

/-- `amplgsl_sf_log` / `amplgsl_sf_log_abs`: value log|x| (Mathlib's `Real.log` is log|x|), `deriv = 1 / x`, `hes = -deriv * deriv` -/
noncomputable def sfLogD (x : ℝ) : ℝ := 1 / x
noncomputable def sfLogH (x : ℝ) : ℝ := -sfLogD x * sfLogD x
theorem sf_log_deriv (x : ℝ) (hx : x ≠ 0) : HasDerivAt Real.log (sfLogD x) x := by
  unfold sfLogD; rw [one_div]; exact Real.hasDerivAt_log hx
theorem sf_log_hes (x : ℝ) (hx : x ≠ 0) : HasDerivAt sfLogD (sfLogH x) x :=
  one_div_deriv (hasDerivAt_id x) hx

/-- `amplgsl_sf_log_1plusx_mx`: value log(1+x) − x, `sub = 1/(1+x)`, `deriv = sub - 1`, `hes = -sub * sub` -/
noncomputable def l1pmxD (x : ℝ) : ℝ := 1 / (1 + x) - 1
noncomputable def l1pmxH (x : ℝ) : ℝ := -(1 / (1 + x)) * (1 / (1 + x))
theorem log_1plusx_mx_deriv (x : ℝ) (hx : x + 1 ≠ 0) : HasDerivAt (fun t => Real.log (1 + t) - t) (l1pmxD x) x := by
  have h := (log1p_deriv x hx).sub (hasDerivAt_id x)
  unfold l1pmxD
  refine h.congr_deriv ?_
  unfold log1pD
  rw [add_comm x 1]
theorem log_1plusx_mx_hes (x : ℝ) (hx : x + 1 ≠ 0) : HasDerivAt l1pmxD (l1pmxH x) x :=
  (one_div_deriv ((hasDerivAt_id x).const_add 1) (by rwa [add_comm])).sub_const 1

/-- `amplgsl_sf_legendre_P2`: value (3x² − 1)/2, `deriv = 3x`, `hes = 3`;  `amplgsl_sf_legendre_P3`: (5x³ − 3x)/2, `7.5x² − 1.5`, `15x` -/
theorem legendre_P2_deriv (x : ℝ) : HasDerivAt (fun t : ℝ => (3 * t ^ 2 - 1) / 2) (3 * x) x := by
  have h := (((hasDerivAt_pow 2 x).const_mul 3).sub_const 1).div_const 2
  refine h.congr_deriv ?_
  simp; ring
theorem legendre_P2_hes (x : ℝ) : HasDerivAt (fun t : ℝ => 3 * t) 3 x := by
  simpa using (hasDerivAt_id x).const_mul 3
theorem legendre_P3_deriv (x : ℝ) : HasDerivAt (fun t : ℝ => (5 * t ^ 3 - 3 * t) / 2) (7.5 * x * x - 1.5) x := by
  have h := (((hasDerivAt_pow 3 x).const_mul 5).sub ((hasDerivAt_id x).const_mul 3)).div_const 2
  refine h.congr_deriv ?_
  simp; ring
theorem legendre_P3_hes (x : ℝ) : HasDerivAt (fun t : ℝ => 7.5 * t * t - 1.5) (15 * x) x := by
  have h := (((hasDerivAt_id x).const_mul 7.5).mul (hasDerivAt_id x)).sub_const 1.5
  refine h.congr_deriv ?_
  simp; ring

/-! ### the three one-variable facts behind hypot and hypot3

The bindings write the sum of squares in argument order (`x² + t²`, `x² + t² + z²`, …): `q` is that expression as a function
of the variable `t`, and `hq` says it is `t² + c`. -/

section
variable (q : ℝ → ℝ) (c : ℝ) (hq : ∀ t, q t = t ^ 2 + c) (t : ℝ) (hpos : 0 < q t)
include hq hpos

/-- d/dt √(t² + c) = t / √(t² + c) -/
theorem sqrt_sq_add_deriv : HasDerivAt (fun t => Real.sqrt (q t)) (t / Real.sqrt (q t)) t := by
  obtain rfl : q = fun t => t ^ 2 + c := funext hq
  have h1 : HasDerivAt (fun t : ℝ => t ^ 2 + c) (2 * t) t := by
    simpa using (hasDerivAt_pow 2 t).add_const c
  refine (h1.sqrt (ne_of_gt hpos)).congr_deriv ?_
  have := Real.sqrt_ne_zero'.mpr hpos
  field_simp

/-- d/dt [t / √(t² + c)] = (c / (√(t² + c))²) / √(t² + c), the denominator in the shape the bindings use -/
theorem self_div_sqrt_deriv :
    HasDerivAt (fun t => t / Real.sqrt (q t)) (c / Real.sqrt (q t) ^ 2 / Real.sqrt (q t)) t := by
  have hs := Real.sqrt_ne_zero'.mpr hpos
  have hsq : Real.sqrt (q t) ^ 2 = q t := Real.sq_sqrt (le_of_lt hpos)
  refine ((hasDerivAt_id t).div (sqrt_sq_add_deriv q c hq t hpos) hs).congr_deriv ?_
  simp only [id]
  field_simp
  rw [hsq, hq]
  ring

/-- d/ds [a / √(s² + c)] = -(a s / (√(s² + c))²) / √(s² + c) -/
theorem const_div_sqrt_deriv (a : ℝ) :
    HasDerivAt (fun t => a / Real.sqrt (q t)) (-(a * t / Real.sqrt (q t) ^ 2) / Real.sqrt (q t)) t := by
  have hs := Real.sqrt_ne_zero'.mpr hpos
  refine ((hasDerivAt_const t a).div (sqrt_sq_add_deriv q c hq t hpos) hs).congr_deriv ?_
  field_simp
  ring

end

/-! ### hypot:  `derivs = {x/h, y/h}`, `hes = {d1*d1/h, -d0*d1/h, d0*d0/h}` with h = √(x²+y²) -/
noncomputable def hyp (x y : ℝ) : ℝ := Real.sqrt (x ^ 2 + y ^ 2)
noncomputable def hypotD0 (x y : ℝ) : ℝ := x / hyp x y
noncomputable def hypotD1 (x y : ℝ) : ℝ := y / hyp x y
noncomputable def hypotH0 (x y : ℝ) : ℝ := hypotD1 x y * hypotD1 x y / hyp x y
noncomputable def hypotH1 (x y : ℝ) : ℝ := -hypotD0 x y * hypotD1 x y / hyp x y
noncomputable def hypotH2 (x y : ℝ) : ℝ := hypotD0 x y * hypotD0 x y / hyp x y

section
variable (x y : ℝ) (hpos : 0 < x ^ 2 + y ^ 2)
include hpos

theorem hypot_dx : HasDerivAt (fun t => hyp t y) (hypotD0 x y) x :=
  sqrt_sq_add_deriv (fun t => t ^ 2 + y ^ 2) (y ^ 2) (fun _ => rfl) x hpos

theorem hypot_dy : HasDerivAt (fun s => hyp x s) (hypotD1 x y) y :=
  sqrt_sq_add_deriv (fun s => x ^ 2 + s ^ 2) (x ^ 2) (fun _ => add_comm _ _) y hpos

/-- hes[0] = ∂²/∂x² -/
theorem hypot_hes0 : HasDerivAt (fun t => hypotD0 t y) (hypotH0 x y) x := by
  have hs := Real.sqrt_ne_zero'.mpr hpos
  refine (self_div_sqrt_deriv (fun t => t ^ 2 + y ^ 2) (y ^ 2) (fun _ => rfl) x hpos).congr_deriv ?_
  unfold hypotH0 hypotD1 hyp
  field_simp

/-- hes[1] = ∂²/∂y∂x (derivative of derivs[0] w.r.t. y) -/
theorem hypot_hes1 : HasDerivAt (fun s => hypotD0 x s) (hypotH1 x y) y := by
  have hs := Real.sqrt_ne_zero'.mpr hpos
  refine (const_div_sqrt_deriv (fun s => x ^ 2 + s ^ 2) (x ^ 2) (fun _ => add_comm _ _) y hpos x).congr_deriv ?_
  unfold hypotH1 hypotD0 hypotD1 hyp
  field_simp

/-- … and it is also the derivative of derivs[1] w.r.t. x (symmetry) -/
theorem hypot_hes1' : HasDerivAt (fun t => hypotD1 t y) (hypotH1 x y) x := by
  have hs := Real.sqrt_ne_zero'.mpr hpos
  refine (const_div_sqrt_deriv (fun t => t ^ 2 + y ^ 2) (y ^ 2) (fun _ => rfl) x hpos y).congr_deriv ?_
  unfold hypotH1 hypotD0 hypotD1 hyp
  field_simp

/-- hes[2] = ∂²/∂y² -/
theorem hypot_hes2 : HasDerivAt (fun s => hypotD1 x s) (hypotH2 x y) y := by
  have hs := Real.sqrt_ne_zero'.mpr hpos
  refine (self_div_sqrt_deriv (fun s => x ^ 2 + s ^ 2) (x ^ 2) (fun _ => add_comm _ _) y hpos).congr_deriv ?_
  unfold hypotH2 hypotD0 hyp
  field_simp
end

/-! ### hypot3:  h = √(x²+y²+z²), `derivs = {x/h, y/h, z/h}`,
`hes[0..5] = {(dy²+dz²)/h, -dx·dy/h, -dx·dz/h, (dx²+dz²)/h, -dy·dz/h, (dx²+dy²)/h}` (as written in the C code) -/
noncomputable def hyp3 (x y z : ℝ) : ℝ := Real.sqrt (x ^ 2 + y ^ 2 + z ^ 2)
noncomputable def h3Dx (x y z : ℝ) : ℝ := x / hyp3 x y z
noncomputable def h3Dy (x y z : ℝ) : ℝ := y / hyp3 x y z
noncomputable def h3Dz (x y z : ℝ) : ℝ := z / hyp3 x y z
/-- the six numbers `amplgsl_hypot3` stores into `al->hes[0..5]`, in that order -/
noncomputable def hypot3Hes (x y z : ℝ) : Fin 6 → ℝ
  | 0 => (h3Dy x y z * h3Dy x y z + h3Dz x y z * h3Dz x y z) / hyp3 x y z
  | 1 => -h3Dx x y z * h3Dy x y z / hyp3 x y z
  | 2 => -h3Dx x y z * h3Dz x y z / hyp3 x y z
  | 3 => (h3Dx x y z * h3Dx x y z + h3Dz x y z * h3Dz x y z) / hyp3 x y z
  | 4 => -h3Dy x y z * h3Dz x y z / hyp3 x y z
  | 5 => (h3Dx x y z * h3Dx x y z + h3Dy x y z * h3Dy x y z) / hyp3 x y z

section
variable (x y z : ℝ) (hpos : 0 < x ^ 2 + y ^ 2 + z ^ 2)
include hpos

theorem hypot3_dx : HasDerivAt (fun t => hyp3 t y z) (h3Dx x y z) x :=
  sqrt_sq_add_deriv (fun t => t ^ 2 + y ^ 2 + z ^ 2) (y ^ 2 + z ^ 2) (fun _ => add_assoc _ _ _) x hpos
theorem hypot3_dy : HasDerivAt (fun s => hyp3 x s z) (h3Dy x y z) y :=
  sqrt_sq_add_deriv (fun s => x ^ 2 + s ^ 2 + z ^ 2) (x ^ 2 + z ^ 2) (fun _ => by ring) y hpos
theorem hypot3_dz : HasDerivAt (fun u => hyp3 x y u) (h3Dz x y z) z :=
  sqrt_sq_add_deriv (fun u => x ^ 2 + y ^ 2 + u ^ 2) (x ^ 2 + y ^ 2) (fun _ => add_comm _ _) z hpos

/-- hes[0] = ∂²/∂x² -/
theorem hypot3_hes_xx : HasDerivAt (fun t => h3Dx t y z) (hypot3Hes x y z 0) x := by
  have hs := Real.sqrt_ne_zero'.mpr hpos
  refine (self_div_sqrt_deriv (fun t => t ^ 2 + y ^ 2 + z ^ 2) (y ^ 2 + z ^ 2) (fun _ => add_assoc _ _ _) x hpos).congr_deriv ?_
  simp only [hypot3Hes, h3Dy, h3Dz, hyp3]
  field_simp
/-- hes[1] = ∂²/∂x∂y -/
theorem hypot3_hes_xy : HasDerivAt (fun s => h3Dx x s z) (hypot3Hes x y z 1) y := by
  have hs := Real.sqrt_ne_zero'.mpr hpos
  refine (const_div_sqrt_deriv (fun s => x ^ 2 + s ^ 2 + z ^ 2) (x ^ 2 + z ^ 2) (fun _ => by ring) y hpos x).congr_deriv ?_
  simp only [hypot3Hes, h3Dx, h3Dy, hyp3]
  field_simp
/-- hes[2] = ∂²/∂x∂z  (ASL's slot for ∂²/∂y²) -/
theorem hypot3_hes_xz : HasDerivAt (fun u => h3Dx x y u) (hypot3Hes x y z 2) z := by
  have hs := Real.sqrt_ne_zero'.mpr hpos
  refine (const_div_sqrt_deriv (fun u => x ^ 2 + y ^ 2 + u ^ 2) (x ^ 2 + y ^ 2) (fun _ => add_comm _ _) z hpos x).congr_deriv ?_
  simp only [hypot3Hes, h3Dx, h3Dz, hyp3]
  field_simp
/-- hes[3] = ∂²/∂y²  (ASL's slot for ∂²/∂x∂z) -/
theorem hypot3_hes_yy : HasDerivAt (fun s => h3Dy x s z) (hypot3Hes x y z 3) y := by
  have hs := Real.sqrt_ne_zero'.mpr hpos
  refine (self_div_sqrt_deriv (fun s => x ^ 2 + s ^ 2 + z ^ 2) (x ^ 2 + z ^ 2) (fun _ => by ring) y hpos).congr_deriv ?_
  simp only [hypot3Hes, h3Dx, h3Dz, hyp3]
  field_simp
/-- hes[4] = ∂²/∂y∂z -/
theorem hypot3_hes_yz : HasDerivAt (fun u => h3Dy x y u) (hypot3Hes x y z 4) z := by
  have hs := Real.sqrt_ne_zero'.mpr hpos
  refine (const_div_sqrt_deriv (fun u => x ^ 2 + y ^ 2 + u ^ 2) (x ^ 2 + y ^ 2) (fun _ => add_comm _ _) z hpos y).congr_deriv ?_
  simp only [hypot3Hes, h3Dy, h3Dz, hyp3]
  field_simp
/-- hes[5] = ∂²/∂z² -/
theorem hypot3_hes_zz : HasDerivAt (fun u => h3Dz x y u) (hypot3Hes x y z 5) z := by
  have hs := Real.sqrt_ne_zero'.mpr hpos
  refine (self_div_sqrt_deriv (fun u => x ^ 2 + y ^ 2 + u ^ 2) (x ^ 2 + y ^ 2) (fun _ => add_comm _ _) z hpos).congr_deriv ?_
  simp only [hypot3Hes, h3Dx, h3Dy, hyp3]
  field_simp
end

/-! ### which packing is that? -/
/-- ASL (funcadd.h): entry (i, j), i ≤ j, lives in `hes[i + j(j+1)/2]` (`hesIdx` of Model.lean, which this file does not import) -/
def aslIdx (i j : Nat) : Nat := i + j * (j + 1) / 2
/-- upper triangle by rows, n = 3 (the formula `test/gsl-test.cc` uses: i(2n−i−1)/2 + j) -/
def rowIdx (i j : Nat) : Nat := i * (2 * 3 - i - 1) / 2 + j

/-- the index arithmetic of **`amplgsl_hypot3` packs by rows**: `rowIdx` sends xx→0, xy→1, xz→2, yy→3, yz→4, zz→5, and
`hypot3_hes_xx` … `hypot3_hes_zz` above say that slot k of `hypot3Hes` holds the k-th of these second partials. -/
theorem hypot3_hes_is_row_packed :
    rowIdx 0 0 = 0 ∧ rowIdx 0 1 = 1 ∧ rowIdx 0 2 = 2 ∧ rowIdx 1 1 = 3 ∧ rowIdx 1 2 = 4 ∧ rowIdx 2 2 = 5 := by decide

/-- the ASL packing differs exactly on (1,1) and (0,2): yy→2, xz→3 -/
theorem asl_packing_n3 :
    aslIdx 0 0 = 0 ∧ aslIdx 0 1 = 1 ∧ aslIdx 1 1 = 2 ∧ aslIdx 0 2 = 3 ∧ aslIdx 1 2 = 4 ∧ aslIdx 2 2 = 5 := by decide

/-- **not the ASL packing**: at (1, 0, 0) the true ∂²/∂y² is 1 (it is `hes[3]`), but the slot ASL reads for it,
`hes[aslIdx 1 1] = hes[2]`, holds ∂²/∂x∂z = 0. -/
theorem hypot3_hes_not_asl_packed :
    hypot3Hes 1 0 0 ⟨aslIdx 1 1, by decide⟩ = 0 ∧ hypot3Hes 1 0 0 3 = 1 ∧
    HasDerivAt (fun s => h3Dy 1 s 0) 1 0 := by
  have h1 : hyp3 1 0 0 = 1 := by simp [hyp3]
  have e2 : hypot3Hes 1 0 0 ⟨aslIdx 1 1, by decide⟩ = hypot3Hes 1 0 0 2 := rfl
  have v3 : hypot3Hes 1 0 0 3 = 1 := by simp [hypot3Hes, h3Dx, h3Dz, h1]
  refine ⟨?_, v3, ?_⟩
  · rw [e2]; simp [hypot3Hes, h3Dx, h3Dz, h1]
  · have := hypot3_hes_yy 1 0 0 (by norm_num)
    rwa [v3] at this

end MpVerif.C16.Deriv
