import MpVerif.C16.Analysis
/-!
# C16 — soundness of the discipline analysis: the relation between abstract points and concrete states

`Rel p c` is what an abstract point `p` of `Analysis.lean` promises about a concrete state `c` that has not returned; it survives
steps that touch nothing but the error (`ErrMono`) and joins.
-/
namespace MpVerif.C16

theorem anyBelow_iff {n : Nat} {p : Nat → Bool} : anyBelow n p = true ↔ ∃ i, i < n ∧ p i = true := by
  induction n with
  | zero => simp [anyBelow]
  | succ k ih =>
    simp only [anyBelow, Bool.or_eq_true, ih, Nat.lt_succ_iff_lt_or_eq]
    constructor
    · rintro (h | ⟨i, hi, hp⟩)
      · exact ⟨k, .inr rfl, h⟩
      · exact ⟨i, .inl hi, hp⟩
    · rintro ⟨i, hi | rfl, hp⟩
      · exact .inr ⟨i, hi, hp⟩
      · exact .inl hp

theorem anyBelow_true {n : Nat} {p : Nat → Bool} {i : Nat} (hi : i < n) (hp : p i = true) : anyBelow n p = true :=
  anyBelow_iff.mpr ⟨i, hi, hp⟩

theorem anyBelow_false {n : Nat} {p : Nat → Bool} (h : anyBelow n p = false) : ∀ i, i < n → p i = false := by
  intro i hi
  cases hp : p i with
  | false => rfl
  | true => rw [anyBelow_true hi hp] at h; cases h

theorem allBelow_true {n : Nat} {p : Nat → Bool} (h : allBelow n p = true) : ∀ i, i < n → p i = true := by
  intro i hi
  unfold allBelow at h
  have h' : anyBelow n (fun i => !p i) = false := by simpa using h
  have := anyBelow_false h' i hi
  simpa using this

theorem hesLen_succ (k : Nat) : hesLen (k + 1) = hesLen k + (k + 1) := by
  unfold hesLen
  have h : (k + 1) * (k + 1 + 1) = k * (k + 1) + 2 * (k + 1) := by
    simp only [Nat.add_mul, Nat.mul_add]; omega
  rw [h, Nat.add_mul_div_left _ _ (by decide : 0 < 2)]

theorem hesIdx_lt {i j n : Nat} (hij : i ≤ j) (hj : j < n) : hesIdx i j < hesLen n := by
  have h3 : hesLen (j + 1) ≤ hesLen n := Nat.div_le_div_right (Nat.mul_le_mul hj (Nat.succ_le_succ hj))
  rw [hesLen_succ] at h3
  exact show i + hesLen j < hesLen n by omega

theorem thenSt_none {c1 : St} {k : St → St} (h : c1.ret = none) : thenSt c1 k = k c1 := by
  unfold thenSt; rw [h]; rfl

/-- sequencing by cases: the first part has returned and the rest is skipped, or it has not and the rest runs -/
theorem thenSt_cases (c1 : St) (k : St → St) :
    (c1.ret.isSome = true ∧ thenSt c1 k = c1) ∨ (c1.ret = none ∧ thenSt c1 k = k c1) := by
  unfold thenSt
  cases c1.ret <;> simp

/-- what an abstract point promises about a concrete state that is still running; `wd`/`wh` mean "assigned unless an error is set" -/
structure Rel (p : APt) (c : St) : Prop where
  ret : c.ret = none
  err : p.errDef = true → c.err.isSome = true
  lb : ∀ x b, p.lb x = some b → c.lb x = b
  wd : c.err = none → ∀ i, p.wd i = true → c.wd i = true
  wh : c.err = none → ∀ i, p.wh i = true → c.wh i = true

/-- a step that can only set/keep the error and advance oracle counters -/
structure ErrMono (c c' : St) : Prop where
  wd : c'.wd = c.wd
  wh : c'.wh = c.wh
  lb : c'.lb = c.lb
  ret : c'.ret = c.ret
  gf : c'.gf = c.gf
  err : c.err.isSome = true → c'.err.isSome = true

theorem ErrMono.refl (c : St) : ErrMono c c := ⟨rfl, rfl, rfl, rfl, rfl, id⟩

theorem ErrMono.trans {a b c : St} (h1 : ErrMono a b) (h2 : ErrMono b c) : ErrMono a c :=
  ⟨h2.wd.trans h1.wd, h2.wh.trans h1.wh, h2.lb.trans h1.lb, h2.ret.trans h1.ret, h2.gf.trans h1.gf, fun h => h2.err (h1.err h)⟩

theorem ErrMono.none {c c' : St} (m : ErrMono c c') (h : c'.err = none) : c.err = none := by
  cases hc : c.err with
  | none => rfl
  | some k => have := m.err (by rw [hc]; rfl); rw [h] at this; cases this

theorem Rel.errDef_false {p : APt} {c : St} (r : Rel p c) (h : c.err = none) : p.errDef = false := by
  cases hp : p.errDef with
  | false => rfl
  | true => have := r.err hp; rw [h] at this; cases this

theorem Rel.mono {p : APt} {c c' : St} (r : Rel p c) (m : ErrMono c c') : Rel p c' :=
  ⟨m.ret.trans r.ret, fun h => m.err (r.err h), m.lb ▸ r.lb, fun h => m.wd ▸ r.wd (m.none h), fun h => m.wh ▸ r.wh (m.none h)⟩

theorem Rel.setErr {p : APt} {c c' : St} (r : Rel p c) (m : ErrMono c c') (he : c'.err.isSome = true) : Rel p.setErr c' :=
  ⟨m.ret.trans r.ret, fun _ => he, m.lb ▸ r.lb, fun h => (by rw [h] at he; cases he), fun h => (by rw [h] at he; cases he)⟩

theorem Rel.weaken {p q : APt} {c : St} (r : Rel p c) (he : q.errDef = true → p.errDef = true)
    (hlb : ∀ x b, q.lb x = some b → p.lb x = some b)
    (hwd : ∀ i, q.wd i = true → (p.errDef || p.wd i) = true) (hwh : ∀ i, q.wh i = true → (p.errDef || p.wh i) = true) :
    Rel q c := by
  refine ⟨r.ret, fun h => r.err (he h), fun x b hx => r.lb x b (hlb x b hx), fun hn i hi => r.wd hn i ?_, fun hn i hi => r.wh hn i ?_⟩
  · have := hwd i hi; rwa [r.errDef_false hn, Bool.false_or] at this
  · have := hwh i hi; rwa [r.errDef_false hn, Bool.false_or] at this

theorem lb_join_left {p q : APt} {x : Nat} {b : Bool} (h : (joinPt p q).lb x = some b) : p.lb x = some b := by
  have h' : (if p.lb x = q.lb x then p.lb x else none) = some b := h
  split at h'
  · exact h'
  · cases h'

theorem lb_join_right {p q : APt} {x : Nat} {b : Bool} (h : (joinPt p q).lb x = some b) : q.lb x = some b := by
  have h' : (if p.lb x = q.lb x then p.lb x else none) = some b := h
  split at h'
  · rename_i heq; rwa [heq] at h'
  · cases h'

theorem and_left {x y : Bool} (h : (x && y) = true) : x = true := ((Bool.and_eq_true _ _).mp h).1
theorem and_right {x y : Bool} (h : (x && y) = true) : y = true := ((Bool.and_eq_true _ _).mp h).2
theorem and_not_right {x y : Bool} (h : (x && !y) = true) : y = false := by simpa using and_right h

/-- `none` is the impossible point (`Br`, `ARes.cur`): it describes no state -/
def RelO (o : Option APt) (c : St) : Prop := ∃ p, o = some p ∧ Rel p c

theorem Rel.toO {p : APt} {c : St} (r : Rel p c) : RelO (some p) c := ⟨p, rfl, r⟩

theorem RelO.joinL {a : Option APt} {c : St} (h : RelO a c) (b : Option APt) : RelO (joinO a b) c := by
  obtain ⟨p, rfl, r⟩ := h
  cases b with
  | none => exact r.toO
  | some q => exact (r.weaken and_left (fun _ _ => lb_join_left) (fun _ => and_left) (fun _ => and_left)).toO

theorem RelO.joinR {b : Option APt} {c : St} (h : RelO b c) (a : Option APt) : RelO (joinO a b) c := by
  obtain ⟨p, rfl, r⟩ := h
  cases a with
  | none => exact r.toO
  | some q => exact (r.weaken and_right (fun _ _ => lb_join_right) (fun _ => and_right) (fun _ => and_right)).toO

end MpVerif.C16
