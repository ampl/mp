import MpVerif.C16.Helper
import MpVerif.C16.Lemmas
import MpVerif.Gen.GslHelpers
/-!
# C16 — the generated helper bodies compute exactly what the hand models say

One `gen_<helper>` per translated body of `MpVerif.Gen.GslHelpers`: `hrun h_<helper> = <hand model of Model.lean>`, for all
arguments and states.  A running helper state is written `⟨s, iv, none⟩`, so that single steps reduce by `rfl`; the loops of `check_args`
and `check_result` are guards `if (test at i) { set the error; return }` (`for_guard`).
-/
namespace MpVerif.C16
open MpVerif.Gen.GslHelpers

theorem thenH_none {h : HS} {k : HS → HS} (ho : h.out = none) : thenH h k = k h := by
  unfold thenH; rw [ho]; rfl
theorem thenH_some {h : HS} {k : HS → HS} (ho : h.out.isSome = true) : thenH h k = h := by
  unfold thenH; rw [if_pos ho]
theorem thenH_ite (c : Prop) [Decidable c] (x y : HS) (k : HS → HS) :
    thenH (if c then x else y) k = if c then thenH x k else thenH y k := by split <;> rfl

theorem hloop_search (step : Env → HS → HS) (e : Env) (x B : Nat) (p : Nat → Bool) (G h : HS)
    (hstep : ∀ j, step ((x, j) :: e) h = if p j then G else h) (hG : G.out.isSome = true) (hout : h.out = none) :
    ∀ fuel i, i + fuel = B → anyBelow i p = false → hloop step e x B fuel i h = if anyBelow B p then G else h := by
  intro fuel
  induction fuel with
  | zero => intro i hi h0; rw [← hi, Nat.add_zero, h0]; rfl
  | succ f ih =>
    intro i hi h0
    unfold hloop
    rw [if_pos (by omega), hstep i]
    cases hp : p i with
    | true => rw [anyBelow_true (by omega) hp]; exact thenH_some hG
    | false => rw [if_neg Bool.false_ne_true, thenH_none hout]; exact ih (i + 1) (by omega) (by rw [anyBelow, hp, h0]; rfl)

theorem for_guard (a : Args) (m : Mode) (pr : HPar) {c : HCond} {F : HStmt} (x : Nat) (bound : IExp) (B : Nat)
    (p : Nat → Bool) (G : HS) (s : St) {iv : Nat → Int}
    (hB : (bound.eval a pr [] iv).toNat = B)
    (hc : ∀ j, hcond a m pr [(x, j)] iv c s = (p j, s))
    (hF : ∀ j, hexec a m pr F [(x, j)] ⟨s, iv, none⟩ = G) (hG : G.out.isSome = true) :
    hexec a m pr (.for_ x (.lit 0) bound (.ite c F .skip)) [] ⟨s, iv, none⟩ = if anyBelow B p then G else ⟨s, iv, none⟩ := by
  show hloop (hexec a m pr (.ite c F .skip)) [] x (bound.eval a pr [] iv).toNat ((bound.eval a pr [] iv).toNat - 0) 0 ⟨s, iv, none⟩ = _
  rw [hB, hloop_search _ [] x B p G ⟨s, iv, none⟩ (fun j => ?_) hG rfl (B - 0) 0 (by omega) rfl]
  show (if (hcond a m pr [(x, j)] iv c s).1 = true then hexec a m pr F [(x, j)] ⟨(hcond a m pr [(x, j)] iv c s).2, iv, none⟩
    else ⟨(hcond a m pr [(x, j)] iv c s).2, iv, none⟩) = _
  rw [hc j, hF j]

theorem gen_error (a : Args) (m : Mode) (pr : HPar) (s : St) : hrun h_error a m pr s = (true, s.argError) := rfl
theorem gen_eval_error (a : Args) (m : Mode) (pr : HPar) (s : St) : hrun h_eval_error a m pr s = (true, s.evalError) := rfl

theorem gen_deriv_error (a : Args) (m : Mode) (pr : HPar) (s : St) : hrun h_deriv_error a m pr s = (true, s.derivError) := by
  unfold St.derivError
  cases h : s.err with
  | none => simp [hrun, h_deriv_error, hexec, hcond, thenH, h]
  | some k => simp [hrun, h_deriv_error, hexec, hcond, thenH, h]

/-- parameters (arg, min, max) of check_deriv_arg -/
def parDeriv (arg lo hi : Int) : HPar := { ip := fun p => if p = 0 then arg else if p = 1 then lo else hi }

theorem gen_check_deriv_arg (a : Args) (m : Mode) (arg lo hi : Int) (s : St) :
    hrun h_check_deriv_arg a m (parDeriv arg lo hi) s = checkDerivArg arg lo hi s := by
  unfold checkDerivArg
  by_cases h1 : arg < lo
  · simp [hrun, h_check_deriv_arg, hexec, hcond, thenH, IExp.eval, parDeriv, h1]
  · by_cases h2 : arg > hi
    · simp [hrun, h_check_deriv_arg, hexec, hcond, thenH, IExp.eval, parDeriv, h1, h2]
    · simp [hrun, h_check_deriv_arg, hexec, hcond, thenH, IExp.eval, parDeriv, h1, h2]

/-- the unsigned `index` parameter -/
def parIdx (i : Nat) : HPar := { xp := fun _ => i }

theorem gen_check_const_arg (a : Args) (m : Mode) (i : Nat) (hi : i < a.n) (s : St) :
    hrun h_check_const_arg a m (parIdx i) s = checkConstArg a i s := by
  unfold checkConstArg Args.const
  cases hp : a.digp <;> cases hd : a.dig i <;>
    simp [hrun, h_check_const_arg, hexec, hcond, thenH, HIdx.val, parIdx, hp, hd, hi]

theorem gen_check_int_arg (a : Args) (m : Mode) (i : Nat) (s : St) :
    hrun h_check_int_arg a m (parIdx i) s = checkIntArg a m i s := by
  unfold checkIntArg
  cases ho : a.intOk i <;> cases hd : m.derivs <;>
    simp [hrun, h_check_int_arg, hexec, hcond, hcall, thenH, HIdx.val, parIdx, ho, hd]

theorem gen_check_uint_arg (a : Args) (m : Mode) (i : Nat) (s : St) :
    hrun h_check_uint_arg a m (parIdx i) s = checkUintArg a m i s := by
  unfold checkUintArg
  cases ho : a.uintOk i <;> cases hd : m.derivs <;>
    simp [hrun, h_check_uint_arg, hexec, hcond, hcall, thenH, HIdx.val, parIdx, ho, hd]

theorem gen_check_zero_func_args (a : Args) (m : Mode) (i : Nat) (s : St) :
    hrun h_check_zero_func_args a m (parIdx i) s = checkZeroFuncArgs a m i s := by
  unfold checkZeroFuncArgs
  cases ho : a.uintOk i <;> cases hd : m.derivs <;> cases hc : (checkConstArg a i s).1 <;>
    simp [hrun, h_check_zero_func_args, hexec, hcond, hcall, thenH, HIdx.val, parIdx, ho, hd, hc]

/-- the `flags` parameter of check_bessel_args -/
def parFlag (flag : Bool) : HPar := { fp := fun _ => flag }

theorem gen_check_bessel_args (a : Args) (m : Mode) (flag : Bool) (s : St) :
    hrun h_check_bessel_args a m (parFlag flag) s = checkBesselArgs a m flag s := by
  unfold checkBesselArgs thenChk derivMin intMin intMax
  cases h1 : (checkIntArg a m 0 s).1 <;> cases hd : m.derivs <;> cases hh : m.hes <;> cases flag <;>
    simp [hrun, h_check_bessel_args, hexec, hcond, hcall, thenH_none, thenH_some, thenH_ite, HIdx.val, IExp.eval, updI, parFlag,
      h1, hd, hh] <;>
    -- what is left are the Boolean results of the two `checkDerivArg` calls, tested in the same order on both sides
    (repeat' split) <;> simp_all

/-- (return value, state) of a finished helper run -/
def hres (h : HS) : Bool × St := (h.out.getD true, h.st)

theorem thenH_guard {b : Bool} {G : HS} (hG : G.out.isSome = true) (s : St) (iv : Nat → Int) (k : HS → HS) :
    thenH (if b = true then G else ⟨s, iv, none⟩) k = if b = true then G else k ⟨s, iv, none⟩ := by
  split
  · exact thenH_some hG
  · rfl

theorem gen_check_args (a : Args) (m : Mode) (pr : HPar) (s : St) : hrun h_check_args a m pr s = checkArgs a s := by
  show hres (thenH (hexec a m pr (.for_ 0 (.lit 0) .n (.ite (.raNaN (.var 0)) (.seq (.callErr .eval) (.retB false)) .skip)) []
    ⟨s, fun _ => 0, none⟩) fun h' => { h' with out := some true }) = _
  rw [for_guard a m pr 0 .n a.n a.raNaN ⟨s.evalError, _, some false⟩ s rfl (fun _ => rfl) (fun _ => rfl) rfl,
    thenH_guard rfl]
  unfold checkArgs
  split <;> rfl

/-! The parts of the generated `h_check_result` (`h_check_result_eq`): the test of `result`, the guards inside the loops over `ra`,
`derivs` and `hes`, and the block `if (al->derivs && !al->Errmsg) …` around the last two. -/
def crS1 : HStmt := .ite .resNaN (.seq (.callErr .eval) .retZero) .skip
def crRa : HStmt := .ite (.raNaN (.var 0)) (.seq (.callErr .eval) .retZero) .skip
def crD : HStmt := .ite (.dNaN (.var 0)) (.seq (.setErr .dnan) .retZero) .skip
def crH : HStmt := .ite (.hNaN (.var 0)) (.seq (.setErr .hnan) .retZero) .skip
def crS3 : HStmt :=
  .ite (.and .derivs (.not .errSet))
    (.seq (.for_ 0 (.lit 0) .n crD)
      (.ite .hes (.seq (.setI 0 (.div (.mul .n (.add .n (.lit 1))) (.lit 2))) (.for_ 0 (.lit 0) (.loc 0) crH)) .skip))
    .skip

theorem h_check_result_eq : h_check_result =
    .seq (.setI 0 (.lit 0)) (.seq crS1 (.seq (.for_ 0 (.lit 0) .n crRa) (.seq crS3 .retRes))) := rfl

/-- `check_result` has set an error of kind `k` and returned 0 -/
def failK (k : ErrK) (s : St) (iv : Nat → Int) : HS := ⟨{ s with err := some k, ret := some .zero }, iv, some true⟩

theorem hesLen_cast (n : Nat) : (((n : Int) * ((n : Int) + 1)) / 2).toNat = hesLen n := by
  unfold hesLen
  have : ((n : Int) * ((n : Int) + 1)) / 2 = ((n * (n + 1) / 2 : Nat) : Int) := by
    rw [Int.natCast_ediv]; simp
  rw [this, Int.toNat_natCast]

theorem crS3_eq (a : Args) (m : Mode) (pr : HPar) (s : St) (iv : Nat → Int) :
    hexec a m pr crS3 [] ⟨s, iv, none⟩ =
      if (m.derivs && s.err.isNone) = true then
        if anyBelow a.n s.d = true then failK .dnan s iv
        else if m.hes = true then
          if anyBelow (hesLen a.n) s.h = true then failK .hnan s (updI iv 0 ((a.n : Int) * ((a.n : Int) + 1) / 2))
          else ⟨s, updI iv 0 ((a.n : Int) * ((a.n : Int) + 1) / 2), none⟩
        else ⟨s, iv, none⟩
      else ⟨s, iv, none⟩ := by
  have hc : hcond a m pr [] iv (.and .derivs (.not .errSet)) s = ((m.derivs && s.err.isNone), s) := by
    cases hd : m.derivs <;> cases he : s.err <;> simp [hcond, hd, he]
  rw [crS3, hexec, hc]
  refine ite_congr rfl (fun _ => ?_) (fun _ => rfl)
  rw [hexec, crD, for_guard a m pr 0 .n a.n s.d (failK .dnan s iv) s rfl (fun _ => rfl) (fun _ => rfl) rfl, thenH_guard rfl]
  refine ite_congr rfl (fun _ => rfl) (fun _ => ?_)
  rw [hexec]
  refine ite_congr rfl (fun _ => ?_) (fun _ => rfl)
  rw [hexec, hexec, thenH_none rfl, crH]
  exact for_guard a m pr 0 (.loc 0) (hesLen a.n) s.h (failK .hnan s _) s (hesLen_cast a.n) (fun _ => rfl) (fun _ => rfl) rfl

def parRes (rnan : Bool) : HPar := { rnan := rnan }

theorem gen_check_result (a : Args) (m : Mode) (rnan : Bool) (s : St) :
    hrun h_check_result a m (parRes rnan) s = (true, checkResult a m rnan s) := by
  cases rnan with
  | true => rfl
  | false =>
    -- the body is `int i = 0, n = 0;` (no effect on the outcome), a test of `result` that does not fire, then three guards
    show hres (thenH (hexec a m (parRes false) (.for_ 0 (.lit 0) .n crRa) [] ⟨s, updI (fun _ => 0) 0 0, none⟩) fun h2 =>
        thenH (hexec a m (parRes false) crS3 [] h2) fun h3 => hexec a m (parRes false) .retRes [] h3) = _
    rw [crRa, for_guard a m _ 0 .n a.n a.raNaN (failK .eval s _) s rfl (fun _ => rfl) (fun _ => rfl) rfl, thenH_guard rfl,
      crS3_eq]
    unfold checkResult
    rw [if_neg Bool.false_ne_true]
    split
    · rfl
    · split
      · split
        · rfl
        · cases m.hes with
          | false => rfl
          | true => simp only [Bool.true_and, if_true]; split <;> rfl
      · rfl

/-- the loop body of the generated `h_check_coupling_args` -/
def couplingBody : HStmt := .ite (.not (.call (.intArg (.var 0)))) (.retB false) .skip

theorem coupling_loop (a : Args) (m : Mode) (pr : HPar) (B : Nat) (iv : Nat → Int) :
    ∀ fuel i (s : St), i + fuel = B →
      hloop (hexec a m pr couplingBody) [] 0 B fuel i ⟨s, iv, none⟩ =
        ⟨(checkCouplingFrom a m fuel i s).2, iv, if (checkCouplingFrom a m fuel i s).1 then none else some false⟩ := by
  intro fuel
  induction fuel with
  | zero => intro i s _; rfl
  | succ f ih =>
    intro i s hi
    unfold hloop checkCouplingFrom thenChk
    rw [if_pos (by omega)]
    show thenH (if (!(checkIntArg a m i s).1) = true then ⟨(checkIntArg a m i s).2, iv, some false⟩
      else ⟨(checkIntArg a m i s).2, iv, none⟩) _ = _
    cases (checkIntArg a m i s).1 with
    | false => rfl
    | true => exact ih (i + 1) _ (by omega)

theorem gen_check_coupling_args (a : Args) (m : Mode) (pr : HPar) (s : St) :
    hrun h_check_coupling_args a m pr s = checkCouplingArgs a m s := by
  show hres (thenH (hloop (hexec a m pr couplingBody) [] 0 a.n (a.n - 0) 0 ⟨s, updI (fun _ => 0) 0 a.n, none⟩)
    fun h' => { h' with out := some true }) = _
  rw [coupling_loop a m pr a.n _ (a.n - 0) 0 s (by omega), Nat.sub_zero]
  unfold checkCouplingArgs
  generalize checkCouplingFrom a m a.n 0 s = r
  obtain ⟨b, s'⟩ := r
  cases b <;> rfl

end MpVerif.C16
