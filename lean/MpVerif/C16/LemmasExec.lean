import MpVerif.C16.LemmasSim
/-!
# C16 — statements: abstract execution simulates concrete execution (`exec_sim`)
-/
namespace MpVerif.C16

/-- the conclusion of the discipline theorem for one finished call -/
def NoSilentNaN (a : Args) (m : Mode) (s : St) : Prop :=
  s.ret ≠ none ∧
  (s.err = none →
    s.ret = some (.val false) ∧
    (m.derivs = true → ∀ i, i < a.n → a.const i = false → s.wd i = true ∧ s.d i = false) ∧
    (m.derivs = true → m.hes = true → ∀ i j, i ≤ j → j < a.n → a.const i = false → a.const j = false →
      s.wh (hesIdx i j) = true ∧ s.h (hesIdx i j) = false))

theorem noSilentNaN_checkResult (a : Args) (m : Mode) (p : APt) (c : St) (rn : Bool) (rel : Rel p c)
    (ok : (p.errDef || !m.derivs || covered (ctxOf a m) p) = true) : NoSilentNaN a m (checkResult a m rn c) := by
  refine ⟨checkResult_ret_some, ?_⟩
  rcases checkResult_cases a m rn c with ⟨k, h⟩ | ⟨h, hnan⟩ <;> rw [h] <;> intro hce
  · cases hce
  have hce : c.err = none := hce
  -- no error: `p.errDef` is false, so with derivatives requested `ok` says `covered`, and `rel` turns "certainly assigned" into "assigned"
  have hpe : p.errDef = false := rel.errDef_false hce
  refine ⟨rfl, fun hd => ?_, fun hd hh => ?_⟩ <;>
    (have hcov : covered (ctxOf a m) p = true := by rw [hpe, hd] at ok; simpa using ok) <;>
    unfold covered at hcov
  · intro i hi hci
    have h2 : (a.const i || p.wd i) = true := allBelow_true (and_left hcov) i hi
    rw [hci, Bool.false_or] at h2
    exact ⟨rel.wd hce i h2, anyBelow_false (hnan hd hce).1 i hi⟩
  · intro i j hij hj hci hcj
    have h3 : (!m.hes || allBelow a.n (fun j => allBelow (j + 1) (fun i => a.const i || a.const j || p.wh (hesIdx i j)))) = true :=
      and_right hcov
    rw [hh] at h3
    have h7 : (a.const i || a.const j || p.wh (hesIdx i j)) = true := allBelow_true (allBelow_true h3 j hj) i (by omega)
    rw [hci, hcj] at h7
    exact ⟨rel.wh hce _ h7, anyBelow_false ((hnan hd hce).2 hh) _ (hesIdx_lt hij hj)⟩

/-- the abstract result of a statement covers the concrete one, if the analysis accepted every `return` on the way (`r.ok`) -/
def Sim (a : Args) (m : Mode) (r : ARes) (c' : St) : Prop :=
  r.ok = true → (c'.ret = none → RelO r.cur c') ∧ (c'.ret.isSome = true → NoSilentNaN a m c')

theorem Rel.sim {a : Args} {m : Mode} {p : APt} {c : St} (rel : Rel p c) : Sim a m ⟨true, some p⟩ c :=
  fun _ => ⟨fun _ => rel.toO, fun h => by rw [rel.ret] at h; cases h⟩

theorem RelO.sim {a : Args} {m : Mode} {o : Option APt} {c : St} (rel : RelO o c) : Sim a m ⟨true, o⟩ c := by
  obtain ⟨p, rfl, r⟩ := rel; exact r.sim

theorem Sim.of_returned {a : Args} {m : Mode} {c : St} {b : Bool} (h : b = true → NoSilentNaN a m c) : Sim a m ⟨b, none⟩ c :=
  fun hb => ⟨fun hn => absurd hn (h hb).1, fun _ => h hb⟩

theorem thenRes_ok {r : ARes} {k : APt → ARes} (h : (thenRes r k).ok = true) : r.ok = true := by
  unfold thenRes at h
  split at h
  · exact h
  · exact and_left h

theorem thenRes_sim {a : Args} {m : Mode} {r1 : ARes} {k : APt → ARes} {c1 : St} {kc : St → St}
    (s1 : Sim a m r1 c1) (s2 : ∀ p1, Rel p1 c1 → Sim a m (k p1) (kc c1)) : Sim a m (thenRes r1 k) (thenSt c1 kc) := by
  intro hok
  have h1 := s1 (thenRes_ok hok)
  rcases thenSt_cases c1 kc with ⟨hdone, h⟩ | ⟨hret, h⟩ <;> rw [h]
  · exact ⟨fun h => (by rw [h] at hdone; cases hdone), h1.2⟩
  · obtain ⟨p1, hp, rp⟩ := h1.1 hret
    simp only [thenRes, hp] at hok ⊢
    exact s2 p1 rp (and_right hok)

theorem upd_mono {f g : Nat → Bool} (h : ∀ k, f k = true → g k = true) (i k : Nat) (hk : upd f i true k = true) :
    upd g i true k = true := by
  unfold upd at hk ⊢
  split
  · rfl
  · rename_i hne; rw [if_neg hne] at hk; exact h k hk

theorem exec_sim (o : Oracle) (a : Args) (m : Mode) (s : Stmt) :
    ∀ (e : Env) (p : APt) (c : St), Rel p c → Sim a m (aExec (ctxOf a m) s e p) (exec o a m s e c) := by
  induction s with
  | skip | num => intro e p c rel; exact rel.sim
  | setb v cnd => intro e p c rel; exact ((cond_sim o a m e cnd p c rel).setLb v).join.sim
  | wd i => intro e p c rel; exact Rel.sim ⟨rel.ret, rel.err, rel.lb, fun hn => upd_mono (rel.wd hn) _, rel.wh⟩
  | wh i => intro e p c rel; exact Rel.sim ⟨rel.ret, rel.err, rel.lb, rel.wd, fun hn => upd_mono (rel.wh hn) _⟩
  | eval cnd => intro e p c rel; exact (cond_sim o a m e cnd p c rel).join.sim
  | errEval => intro e p c rel; exact (rel.setErr (evalError_mono c) rfl).sim
  | errDeriv => intro e p c rel; exact (rel.setErr (derivError_mono c) (derivError_some c)).sim
  | errArg => intro e p c rel; exact (rel.setErr (argError_mono c) rfl).sim
  | ite cnd t f iht ihf =>
    intro e p c rel
    have cv := cond_sim o a m e cnd p c rel
    simp only [aExec, exec]
    intro hok
    cases hb : (evalCond o a m e cnd c).1 with
    | true =>
      simp only [if_true]
      obtain ⟨pt, hpt, rpt⟩ := cv.tt hb
      rw [hpt] at hok ⊢
      have := iht e pt _ rpt (and_left hok)
      exact ⟨fun h => (this.1 h).joinL _, this.2⟩
    | false =>
      simp only [Bool.false_eq_true, if_false]
      obtain ⟨pf, hpf, rpf⟩ := cv.ff hb
      rw [hpf] at hok ⊢
      have := ihf e pf _ rpf (and_right hok)
      exact ⟨fun h => (this.1 h).joinR _, this.2⟩
  | seq s1 s2 ih1 ih2 => intro e p c rel; exact thenRes_sim (ih1 e p c rel) (fun p1 rq => ih2 e p1 _ rq)
  | for_ v start body ih =>
    intro e p c rel
    have loop : ∀ (fuel i : Nat) (p : APt) (c : St), Rel p c →
        Sim a m (aLoop (aExec (ctxOf a m) body) e v a.n fuel i p) (loopFrom (exec o a m body) e v a.n fuel i c) := by
      intro fuel
      induction fuel with
      | zero => intro i p c rel; exact rel.sim
      | succ f ihf =>
        intro i p c rel
        unfold aLoop loopFrom
        split
        · exact thenRes_sim (ih ((v, i) :: e) p c rel) (fun p1 rq => ihf (i + 1) p1 _ rq)
        · exact rel.sim
    exact loop a.n start p c rel
  | retCheck =>
    intro e p c rel
    exact Sim.of_returned (noSilentNaN_checkResult a m p _ _ (rel.mono ⟨rfl, rfl, rfl, rfl, rfl, id⟩))
  | retCheckNaN => intro e p c rel; exact Sim.of_returned fun _ => ⟨checkResult_ret_some, fun herr => nomatch herr⟩
  | ret0 =>
    intro e p c rel
    exact Sim.of_returned fun hok => ⟨nofun, fun herr => by rw [rel.errDef_false herr] at hok; cases hok⟩
  | retRaw => intro e p c _; exact Sim.of_returned fun h => nomatch h

end MpVerif.C16
