import MpVerif.C16.LemmasFinal
import MpVerif.C16.LemmasStatus
import MpVerif.C16.LemmasGen
import MpVerif.Gen.GslSkel
/-!
# C16 — GSL bindings return consistent derivatives or an explicit error

`MpVerif.Gen.GslSkel` is *generated on every run* from
`src/gsl/amplgsl.cc` (clang AST): one control skeleton per function registered by
`funcadd_ASL`, and the registration table.  `run` (Model.lean) is the semantics of a
skeleton: doubles are abstracted to their NaN bit, every numeric sub-expression and
comparison is supplied by an oracle, the file's checkers are modelled one to one.

## Full statement of the property (NOT proved in full; see `…_partial`)

    for every registered f, every argument vector and request mode, the call returns,
    deterministically, and when Errmsg is not set: the value is not NaN, every requested
    first/second partial is not NaN **and agrees with the derivative of the function the
    binding computes**; whenever the value or a requested derivative does not exist an
    error is set.

What is proved, for all 342 real-valued registered functions, all oracles (so whatever GSL
and libm return), all argument vectors of the registered length, all modes and all `dig`:

* the function returns (`ret ≠ none`), and `return 0` only after an error has been set (the analysis
  accepts no skeleton in which a raw `return v` can be reached);
* no error ⇒ the value is not NaN, every requested `derivs[i]` / `hes[i,j]` **has been
  assigned by the function** (not left as whatever the caller had there) and is not NaN.

What is missing from the full statement: agreement of the assigned numbers with the true
derivatives.  `DerivGen.lean` proves it over ℝ for the translated formulas of 61 bindings (21 with an
elementary closed form; 40 special functions under named classical identities, which are not
available in Mathlib); for the rest it is explored numerically by `harness/h_gsl.cc` only.
Termination/safety of GSL itself is outside the model.
-/
namespace MpVerif.C16
open MpVerif.Gen.GslSkel MpVerif.Gen.GslHelpers

/-- **Soundness of the analysis**, for every skeleton: if `disciplined body n` then every call with n
arguments — any oracle, any arguments, any mode — ends without a silent NaN or an unassigned
requested partial. -/
theorem C16_discipline_sound (body : Stmt) (n : Nat) (h : disciplined body n = true)
    (o : Oracle) (a : Args) (m : Mode) (hn : a.n = n) : NoSilentNaN a m (run body o a m) :=
  aRun_sound o a m (disciplined_aRun h a m hn)

theorem all_of_take_drop {α} (f : α → Bool) (l : List α) (n : Nat)
    (h1 : (l.take n).all f = true) (h2 : (l.drop n).all f = true) : l.all f = true := by
  rw [← List.take_append_drop n l, List.all_append, h1, h2]; rfl

/-- every function `funcadd_ASL` registers passes the analysis (the whole generated table is evaluated
by the kernel: a finite table, so this is a proof, re-done whenever amplgsl.cc changes) -/
theorem C16_all_registered_disciplined :
    registered.all (fun e => disciplined e.body e.nargs) = true := by
  -- twenty rows at a time (17 × 20, the rest by the last `decide`): one evaluation of the whole table needs three times the memory
  iterate 17 refine all_of_take_drop _ _ 20 (by decide +kernel) ?_
  decide +kernel

/-- **The discipline part of C16** for the code as it is now (partial: see the header). -/
theorem C16_registered_no_silent_nan_partial (e : Entry) (he : e ∈ registered)
    (o : Oracle) (a : Args) (m : Mode) (hn : a.n = e.nargs) : NoSilentNaN a m (run e.body o a m) :=
  C16_discipline_sound e.body e.nargs (List.all_eq_true.mp C16_all_registered_disciplined e he) o a m hn

/-- `funcadd_ASL` switches the GSL error handler off before anything else, so GSL errors surface as
status codes / NaN (which `check_result` turns into `Errmsg`) instead of `abort()` -/
theorem C16_error_handler_off_first : errorHandlerOffFirst = true := by decide

/-- a derivative w.r.t. an integer-valued argument is an error: when `check_int_arg` accepts the
argument and derivatives are requested although the caller did not declare it constant, `Errmsg` is set -/
theorem C16_int_arg_derivative_is_error (a : Args) (m : Mode) (i : Nat) (s : St)
    (hd : m.derivs = true) (hc : a.const i = false) :
    ((checkIntArg a m i s).1 = true → (checkIntArg a m i s).2.err.isSome = true) ∧
    ((checkUintArg a m i s).1 = true → (checkUintArg a m i s).2.err.isSome = true) :=
  ⟨(checkIntArg_ok a m i s).pass ⟨hd, hc⟩, (checkUintArg_ok a m i s).pass ⟨hd, hc⟩⟩

/-- the zero functions (`gsl_sf_airy_zero_*`, `gsl_sf_bessel_zero_*`) never provide derivatives silently -/
theorem C16_zero_func_derivative_is_error (a : Args) (m : Mode) (i : Nat) (s : St) (hd : m.derivs = true)
    (h : (checkZeroFuncArgs a m i s).1 = true) : (checkZeroFuncArgs a m i s).2.err.isSome = true :=
  (checkZeroFuncArgs_ok a m i s).pass hd h

/-- every checker that fails leaves an error behind (so `if (!check…) return 0;` is never silent) -/
theorem C16_failed_check_sets_error (o : Oracle) (a : Args) (m : Mode) (e : Env) (ck : Chk) (s : St)
    (h : (evalChk o a m e ck s).1 = false) : (evalChk o a m e ck s).2.err.isSome = true :=
  (evalChk_ok o a m e ck s).fail h


/-- **Soundness of the status-guard analysis**, for every skeleton: if `guarded body`, then in every run in which
some GSL `_e` routine reported a status other than GSL_SUCCESS, `Errmsg` is set when the binding returns. -/
theorem C16_status_guard_sound (body : Stmt) (h : guarded body = true) (o : Oracle) (a : Args) (m : Mode) :
    (run body o a m).gf = true → (run body o a m).err ≠ none := by
  intro hg herr
  have : (run body o a m).err.isSome = true := guarded_sound o a m body h [] (St.init a) rfl (fun hgf => (nomatch hgf)) hg
  rw [herr] at this
  cases this

/-- every registered binding tests every GSL status in one of the three accepted shapes, i.e. against GSL_SUCCESS
(a weakened test such as `status == GSL_EDOM || …` is translated to an opaque comparison and fails this) -/
theorem C16_all_registered_status_guarded : registered.all (fun e => guarded e.body) = true := by decide +kernel

/-- for every registered binding that calls a `_e` GSL routine, a non-success status sets an error -/
theorem C16_status_checked (e : Entry) (he : e ∈ registered) (o : Oracle) (a : Args) (m : Mode) :
    (run e.body o a m).gf = true → (run e.body o a m).err ≠ none :=
  C16_status_guard_sound e.body (List.all_eq_true.mp C16_all_registered_status_guarded e he) o a m


/-! ### the helper bodies, translated from the source, are the hand models (`C16_gen_*`)

`MpVerif.Gen.GslHelpers.h_*` are regenerated on every run from the C bodies of the twelve helpers.  Each theorem says:
running the translated body (`hrun`) gives exactly (return value, resulting arglist state) of the hand model used by
`run`, the analysis and every theorem above — so those theorems are about the helpers as they are in the source now. -/

theorem C16_gen_error (a : Args) (m : Mode) (pr : HPar) (s : St) : hrun h_error a m pr s = (true, s.argError) := gen_error a m pr s
theorem C16_gen_eval_error (a : Args) (m : Mode) (pr : HPar) (s : St) : hrun h_eval_error a m pr s = (true, s.evalError) := gen_eval_error a m pr s
theorem C16_gen_deriv_error (a : Args) (m : Mode) (pr : HPar) (s : St) : hrun h_deriv_error a m pr s = (true, s.derivError) := gen_deriv_error a m pr s
theorem C16_gen_check_deriv_arg (a : Args) (m : Mode) (arg lo hi : Int) (s : St) :
    hrun h_check_deriv_arg a m (parDeriv arg lo hi) s = checkDerivArg arg lo hi s := gen_check_deriv_arg a m arg lo hi s
theorem C16_gen_check_args (a : Args) (m : Mode) (pr : HPar) (s : St) : hrun h_check_args a m pr s = checkArgs a s := gen_check_args a m pr s
/-- (the C code indexes `al->dig[index]` without a bound; the equality is for indices of existing arguments) -/
theorem C16_gen_check_const_arg (a : Args) (m : Mode) (i : Nat) (hi : i < a.n) (s : St) :
    hrun h_check_const_arg a m (parIdx i) s = checkConstArg a i s := gen_check_const_arg a m i hi s
theorem C16_gen_check_int_arg (a : Args) (m : Mode) (i : Nat) (s : St) :
    hrun h_check_int_arg a m (parIdx i) s = checkIntArg a m i s := gen_check_int_arg a m i s
theorem C16_gen_check_uint_arg (a : Args) (m : Mode) (i : Nat) (s : St) :
    hrun h_check_uint_arg a m (parIdx i) s = checkUintArg a m i s := gen_check_uint_arg a m i s
theorem C16_gen_check_zero_func_args (a : Args) (m : Mode) (i : Nat) (s : St) :
    hrun h_check_zero_func_args a m (parIdx i) s = checkZeroFuncArgs a m i s := gen_check_zero_func_args a m i s
theorem C16_gen_check_bessel_args (a : Args) (m : Mode) (flag : Bool) (s : St) :
    hrun h_check_bessel_args a m (parFlag flag) s = checkBesselArgs a m flag s := gen_check_bessel_args a m flag s
theorem C16_gen_check_coupling_args (a : Args) (m : Mode) (pr : HPar) (s : St) :
    hrun h_check_coupling_args a m pr s = checkCouplingArgs a m s := gen_check_coupling_args a m pr s
theorem C16_gen_check_result (a : Args) (m : Mode) (rnan : Bool) (s : St) :
    hrun h_check_result a m (parRes rnan) s = (true, checkResult a m rnan s) := gen_check_result a m rnan s

/-- **Integer range logic of `check_bessel_args`**: when it accepts and derivatives are requested, the order n = (int)ra[0]
satisfies deriv_min ≤ n ≤ INT_MAX − 1 (so n + 1, and n − 1 unless DERIV_INT_MIN was given, are ints), and with the
Hessian requested INT_MIN + 2 ≤ n ≤ INT_MAX − 2 (so n ± 2 are ints): the Bessel derivative formulas cannot overflow. -/
theorem C16_bessel_order_in_range (a : Args) (m : Mode) (flag : Bool) (s : St)
    (h : (checkBesselArgs a m flag s).1 = true) (hd : m.derivs = true) :
    derivMin flag ≤ a.raInt 0 ∧ a.raInt 0 ≤ intMax - 1 ∧ (m.hes = true → intMin + 2 ≤ a.raInt 0 ∧ a.raInt 0 ≤ intMax - 2) := by
  unfold checkBesselArgs at h
  rw [thenChk_fst, hd, if_pos rfl] at h
  cases hh : m.hes <;> rw [hh] at h <;>
    simp only [Bool.false_eq_true, if_false, if_true, thenChk_fst, checkDerivArg_fst, Bool.and_eq_true, decide_eq_true_eq] at h
  · exact ⟨h.2.1.1, h.2.1.2, fun hc => nomatch hc⟩
  · exact ⟨h.2.2.1.1, h.2.2.1.2, fun _ => h.2.1⟩

/-! `scoped`: loop variables used as indices are always bound by an enclosing `for`.  A syntactic test of the generated table, meant to
show that `Env.get`'s default is never what decides (no theorem relates it to `Env.get`). -/

def Idx.scoped (bound : List Nat) : Idx → Bool
  | .k _ => true
  | .v x => bound.contains x
def Chk.scoped (bound : List Nat) : Chk → Bool
  | .constArg i | .intArg i | .uintArg i | .zeroFunc i => i.scoped bound
  | _ => true
def Cond.scoped (bound : List Nat) : Cond → Bool
  | .dig i => i.scoped bound
  | .not c => c.scoped bound
  | .and a b | .or a b => a.scoped bound && b.scoped bound
  | .chk c => c.scoped bound
  | _ => true
def Stmt.scoped (bound : List Nat) : Stmt → Bool
  | .wd i | .wh i => i.scoped bound
  | .setb _ c | .eval c => c.scoped bound
  | .ite c t f => c.scoped bound && t.scoped bound && f.scoped bound
  | .seq a b => a.scoped bound && b.scoped bound
  | .for_ x _ body => body.scoped (x :: bound)
  | _ => true
theorem C16_all_registered_well_scoped : registered.all (fun e => e.body.scoped []) = true := by decide +kernel

private def argsN (n : Nat) : Args :=
  { n := n, raNaN := fun _ => false, intOk := fun _ => true, uintOk := fun _ => true, digp := false,
    dig := fun _ => false, d0 := fun _ => false, h0 := fun _ => false, raInt := fun _ => 2 }
private def quiet : Oracle := { dval := fun _ _ => false, hval := fun _ _ => false, rval := fun _ => false, cond := fun _ => false }
private def nanHes : Oracle := { quiet with hval := fun _ _ => true }
private def gslFails : Oracle := { quiet with cond := fun _ => true }

/-- the hypotheses are satisfiable: a real skeleton run that ends without error, with all partials assigned -/
example : (run sk_amplgsl_hypot quiet (argsN 2) ⟨true, true⟩).err = none ∧
          (run sk_amplgsl_hypot quiet (argsN 2) ⟨true, true⟩).wd 1 = true ∧
          (run sk_amplgsl_hypot quiet (argsN 2) ⟨true, true⟩).wh 2 = true := by decide
/-- … and a NaN second partial is reported through `check_result` -/
example : (run sk_amplgsl_hypot nanHes (argsN 2) ⟨true, true⟩).err = some .hnan := by decide
/-- Bessel J_n: derivative requested w.r.t. the integer order ⇒ error, although the value is fine -/
example : (run sk_amplgsl_sf_bessel_Jn { quiet with cond := fun _ => true } (argsN 2) ⟨true, false⟩).err = some .deriv := by decide

/-- a GSL failure really is observable in the model (Bessel Y_n through CHECK_CALL) and ends in an evaluation error -/
example : (run sk_amplgsl_sf_bessel_Yn gslFails (argsN 2) ⟨false, false⟩).gf = true ∧
          (run sk_amplgsl_sf_bessel_Yn gslFails (argsN 2) ⟨false, false⟩).err = some .eval := by decide
/-- the weakened CHECK_CALL (`status == GSL_EDOM || (status != GSL_SUCCESS && !gsl_finite(result.val))`) as the translator renders it -/
private def weakened : Stmt :=
  .seq (.eval (.gsl 0)) (.seq (.ite (.or .opq (.and (.lb 0) (.not .opq))) (.seq .errEval .ret0) .skip) .retCheck)
/-- it is rejected, and there is a run where GSL failed and no error is set -/
example : guarded weakened = false := by decide
example : (run weakened { quiet with cond := fun k => k == 0 || k == 2 } (argsN 1) ⟨false, false⟩).gf = true ∧
          (run weakened { quiet with cond := fun k => k == 0 || k == 2 } (argsN 1) ⟨false, false⟩).err = none := by decide
/-- a status that is dropped on the floor is rejected -/
example : guarded (.seq (.eval (.gsl 0)) .retCheck) = false := by decide

/-- the analysis is not trivially true: a binding that forgets `derivs[1]` … -/
private def forgetful : Stmt :=
  .seq (.ite .derivs (.wd (.k 0)) .skip) .retCheck
example : disciplined forgetful 2 = false := by decide
/-- … really does return without error and with `derivs[1]` untouched -/
example : (run forgetful quiet (argsN 2) ⟨true, false⟩).err = none ∧
          (run forgetful quiet (argsN 2) ⟨true, false⟩).wd 1 = false := by decide
/-- a binding that bypasses `check_result` is rejected, and really returns NaN silently -/
example : disciplined (.seq (.ite (.not (.chk .args)) .ret0 .skip) .retRaw) 1 = false := by decide
example : (run (.seq (.ite (.not (.chk .args)) .ret0 .skip) .retRaw) { quiet with rval := fun _ => true } (argsN 1) ⟨false, false⟩).ret
            = some (.val true) := by decide
/-- a binding that returns 0 without having set an error is rejected -/
example : disciplined (.seq (.ite .opq .ret0 .skip) .retCheck) 1 = false := by decide
/-- a binding that drops `check_const_arg` (writes only d/dx of f(nu, x)) is rejected -/
example : disciplined (.seq (.ite .derivs (.wd (.k 1)) .skip) .retCheck) 2 = false := by decide
example : disciplined (.seq (.ite (.and .derivs (.chk (.constArg (.k 0)))) (.seq (.wd (.k 1)) (.ite .hes (.wh (.k 2)) .skip)) .skip) .retCheck) 2 = true := by decide

/-! #### one concrete, non-trivial instance of the hypotheses of every theorem above -/
-- C16_discipline_sound / C16_registered_no_silent_nan_partial: a registered entry, disciplined, a.n = nargs, and a run without error
example : disciplined sk_amplgsl_hypot 2 = true := by decide
example : (⟨"gsl_hypot", 2, false, sk_amplgsl_hypot⟩ : Entry) ∈ registered := by decide
example : (argsN 2).n = 2 ∧ (run sk_amplgsl_hypot quiet (argsN 2) ⟨true, true⟩).err = none ∧ (argsN 2).const 0 = false := by decide
-- … and one with a constant argument declared through dig (Bessel J_n: order constant, derivative w.r.t. x delivered)
private def argsDig : Args := { argsN 2 with digp := true, dig := fun i => i == 0 }
example : argsDig.const 0 = true ∧ argsDig.const 1 = false ∧
    (run sk_amplgsl_sf_bessel_Jn { quiet with cond := fun _ => true } argsDig ⟨true, true⟩).err = none ∧
    (run sk_amplgsl_sf_bessel_Jn { quiet with cond := fun _ => true } argsDig ⟨true, true⟩).wd 1 = true ∧
    (run sk_amplgsl_sf_bessel_Jn { quiet with cond := fun _ => true } argsDig ⟨true, true⟩).wh (hesIdx 1 1) = true := by decide
-- C16_int_arg_derivative_is_error: accepted integer argument, derivatives requested, not constant
example : (checkIntArg (argsN 2) ⟨true, false⟩ 0 (St.init (argsN 2))).1 = true ∧
          (checkIntArg (argsN 2) ⟨true, false⟩ 0 (St.init (argsN 2))).2.err = some .deriv := by decide
-- C16_zero_func_derivative_is_error
example : (checkZeroFuncArgs argsDig ⟨true, false⟩ 0 (St.init argsDig)).1 = true ∧
          (checkZeroFuncArgs argsDig ⟨true, false⟩ 0 (St.init argsDig)).2.err = some .deriv := by decide
-- C16_failed_check_sets_error: a failing check (NaN argument)
example : (evalChk quiet { argsN 2 with raNaN := fun i => i == 1 } ⟨false, false⟩ [] .args (St.init (argsN 2))).1 = false := by decide
-- C16_status_checked: a registered binding that calls a `_e` routine
example : (⟨"gsl_sf_bessel_Yn", 2, false, sk_amplgsl_sf_bessel_Yn⟩ : Entry) ∈ registered := by decide
-- C16_gen_check_const_arg: the index hypothesis; C16_bessel_order_in_range: an accepted order with the Hessian requested, and rejected extremes
example : (1 : Nat) < (argsN 2).n := by decide
example : (checkBesselArgs argsDig ⟨true, true⟩ false (St.init argsDig)).1 = true := by decide
example : (checkBesselArgs { argsDig with raInt := fun _ => intMax } ⟨true, false⟩ false (St.init argsDig)).1 = false ∧
          (checkBesselArgs { argsDig with raInt := fun _ => intMax - 1 } ⟨true, true⟩ false (St.init argsDig)).1 = false ∧
          (checkBesselArgs { argsDig with raInt := fun _ => intMin } ⟨true, false⟩ true (St.init argsDig)).1 = true ∧
          (checkBesselArgs { argsDig with raInt := fun _ => intMin } ⟨true, false⟩ false (St.init argsDig)).1 = false := by decide
-- the generated helper bodies really run: check_result on a state with a NaN Hessian entry, check_args on a NaN argument
example : (hrun h_check_result (argsN 2) ⟨true, true⟩ (parRes false) { St.init (argsN 2) with h := fun i => i == 2 }).2.err = some .hnan := by decide
example : (hrun h_check_args { argsN 3 with raNaN := fun i => i == 2 } ⟨false, false⟩ {} (St.init (argsN 3))).1 = false ∧
          (hrun h_check_args { argsN 3 with raNaN := fun i => i == 2 } ⟨false, false⟩ {} (St.init (argsN 3))).2.err = some .eval := by decide

end MpVerif.C16
