import MpVerif.C16.RDiff
import MpVerif.C16.Deriv
import MpVerif.Gen.GslFormulas
/-!
# C16 — the derivative and Hessian formulas of the bindings, as translated from amplgsl.cc, are correct over ℝ

For each binding in `MpVerif.Gen.GslFormulas.formulas` (regenerated from the clang AST on every run):
* `…_d<i>` : the expression stored into `derivs[i]` is ∂/∂xᵢ of the value;
* `…_h<k>` : the expression stored into `hes[k]` is the partial derivative, w.r.t. the second index of the pair the slot
  stands for, of the expression stored into `derivs[first index]`.  Which pair slot k stands for is written into each statement
  (ASL's `hes[i + j(j+1)/2]`; for hypot3 the row order the binding uses, see `Deriv.lean`).
The value is the GSL function: for the 21 elementary bindings (the first two parts) by its definition `specE`, without further
hypotheses; for the special functions (the last two parts) a symbol under an interpretation `I`, and the theorems are conditional on
the identities `Ident` of `dsym`.  All on the stated open domain.  A changed formula in amplgsl.cc changes the generated term and the
proof no longer goes through.  The theorems themselves are written by hand, one per stored formula: a new entry of `formulas` gets
none until its `_d`/`_h` theorems are added here.
-/
namespace MpVerif.C16
open MpVerif.Gen.GslFormulas

def envOf (l : List ℝ) : Nat → ℝ := fun k => l.getD k 0

variable (I : String → ℝ → ℝ)

theorem hasDerivAt_evalT {g : ℝ → ℝ} {g' x : ℝ} (h : HasDerivAt g g' x) {i : Nat} {env : Nat → ℝ} {v d : RExpr}
    (hv : ∀ t, evalT I (Function.update env i t) v = g t) (hd : evalT I env d = g') :
    HasDerivAt (fun t => evalT I (Function.update env i t) v) (evalT I env d) x := by
  rw [funext hv, hd]; exact h

/-- Every theorem below applies this, except those of hypot and hypot3, which apply `hasDerivAt_evalT` to the facts of
`Deriv.lean`: the simp set `rexpr` closes the side conditions `Ok` from the hypotheses and unfolds both
sides of `heq` to real arithmetic, where `ring` (after `field_simp` when the denominators differ) ends. -/
theorem deriv_of_formula {i : Nat} {env : Nat → ℝ} {v d : RExpr}
    (hok : Ok I env v.inline) (heq : eval I env (diff i v.inline) = eval I env d.inline) :
    HasDerivAt (fun t => evalT I (Function.update env i t) v) (evalT I env d) (env i) := by
  have h := hasDerivAt_diff I i env (env i) v.inline (by rwa [Function.update_eq_self])
  rw [Function.update_eq_self] at h
  exact hasDerivAt_evalT I h (fun _ => rfl) heq.symm

def Formulas.d (f : Formulas) (i : Nat) : RExpr := f.derivs.getD i (.lit 0 1)
def Formulas.h (f : Formulas) (k : Nat) : RExpr := f.hes.getD k (.lit 0 1)

attribute [rexpr] Formulas.d Formulas.h envOf List.getD_cons_zero List.getD_cons_succ List.getD_nil
  Option.getD_some Option.getD_none Option.isSome_some
  Int.cast_ofNat Nat.cast_ofNat Int.cast_one Nat.cast_one Int.cast_zero Int.cast_neg
  div_one ne_eq not_false_eq_true OfNat.ofNat_ne_zero one_ne_zero and_self and_true true_and if_true if_false not_true_eq_false mul_self_eq_zero
attribute [rexpr_proc] reduceIte Nat.reduceEqDiff

theorem log1p_d0 (x : ℝ) (hx : x + 1 ≠ 0) :
    HasDerivAt (fun t => evalT I (Function.update (envOf [x]) 0 t) f_gsl_log1p.value) (evalT I (envOf [x]) (f_gsl_log1p.d 0)) x := by
  have h1 : 1 + x ≠ 0 := by rwa [add_comm]
  refine deriv_of_formula I ?_ ?_ <;> simp only [rexpr, f_gsl_log1p, *]
  ring

theorem log1p_h0 (x : ℝ) (hx : x + 1 ≠ 0) :
    HasDerivAt (fun t => evalT I (Function.update (envOf [x]) 0 t) (f_gsl_log1p.d 0)) (evalT I (envOf [x]) (f_gsl_log1p.h 0)) x := by
  refine deriv_of_formula I ?_ ?_ <;> simp only [rexpr, f_gsl_log1p, *]
  field_simp
  ring

theorem expm1_d0 (x : ℝ)  :
    HasDerivAt (fun t => evalT I (Function.update (envOf [x]) 0 t) f_gsl_expm1.value) (evalT I (envOf [x]) (f_gsl_expm1.d 0)) x := by
  refine deriv_of_formula I ?_ ?_ <;> simp only [rexpr, f_gsl_expm1, *]
  ring

theorem expm1_h0 (x : ℝ)  :
    HasDerivAt (fun t => evalT I (Function.update (envOf [x]) 0 t) (f_gsl_expm1.d 0)) (evalT I (envOf [x]) (f_gsl_expm1.h 0)) x := by
  refine deriv_of_formula I ?_ ?_ <;> simp only [rexpr, f_gsl_expm1, *]
  ring

theorem log_d0 (x : ℝ) (hx : x ≠ 0) :
    HasDerivAt (fun t => evalT I (Function.update (envOf [x]) 0 t) f_gsl_sf_log.value) (evalT I (envOf [x]) (f_gsl_sf_log.d 0)) x := by
  refine deriv_of_formula I ?_ ?_ <;> simp only [rexpr, f_gsl_sf_log, *]

theorem log_h0 (x : ℝ) (hx : x ≠ 0) :
    HasDerivAt (fun t => evalT I (Function.update (envOf [x]) 0 t) (f_gsl_sf_log.d 0)) (evalT I (envOf [x]) (f_gsl_sf_log.h 0)) x := by
  refine deriv_of_formula I ?_ ?_ <;> simp only [rexpr, f_gsl_sf_log, *]
  ring

theorem log_abs_d0 (x : ℝ) (hx : x ≠ 0) :
    HasDerivAt (fun t => evalT I (Function.update (envOf [x]) 0 t) f_gsl_sf_log_abs.value) (evalT I (envOf [x]) (f_gsl_sf_log_abs.d 0)) x := by
  refine deriv_of_formula I ?_ ?_ <;> simp only [rexpr, f_gsl_sf_log_abs, *]

theorem log_abs_h0 (x : ℝ) (hx : x ≠ 0) :
    HasDerivAt (fun t => evalT I (Function.update (envOf [x]) 0 t) (f_gsl_sf_log_abs.d 0)) (evalT I (envOf [x]) (f_gsl_sf_log_abs.h 0)) x := by
  refine deriv_of_formula I ?_ ?_ <;> simp only [rexpr, f_gsl_sf_log_abs, *]
  ring

theorem log_1plusx_d0 (x : ℝ) (hx : 1 + x ≠ 0) :
    HasDerivAt (fun t => evalT I (Function.update (envOf [x]) 0 t) f_gsl_sf_log_1plusx.value) (evalT I (envOf [x]) (f_gsl_sf_log_1plusx.d 0)) x := by
  refine deriv_of_formula I ?_ ?_ <;> simp only [rexpr, f_gsl_sf_log_1plusx, *]
  ring

theorem log_1plusx_h0 (x : ℝ) (hx : 1 + x ≠ 0) :
    HasDerivAt (fun t => evalT I (Function.update (envOf [x]) 0 t) (f_gsl_sf_log_1plusx.d 0)) (evalT I (envOf [x]) (f_gsl_sf_log_1plusx.h 0)) x := by
  refine deriv_of_formula I ?_ ?_ <;> simp only [rexpr, f_gsl_sf_log_1plusx, *]
  field_simp
  ring

theorem log_1plusx_mx_d0 (x : ℝ) (hx : 1 + x ≠ 0) :
    HasDerivAt (fun t => evalT I (Function.update (envOf [x]) 0 t) f_gsl_sf_log_1plusx_mx.value) (evalT I (envOf [x]) (f_gsl_sf_log_1plusx_mx.d 0)) x := by
  refine deriv_of_formula I ?_ ?_ <;> simp only [rexpr, f_gsl_sf_log_1plusx_mx, *]
  ring

theorem log_1plusx_mx_h0 (x : ℝ) (hx : 1 + x ≠ 0) :
    HasDerivAt (fun t => evalT I (Function.update (envOf [x]) 0 t) (f_gsl_sf_log_1plusx_mx.d 0)) (evalT I (envOf [x]) (f_gsl_sf_log_1plusx_mx.h 0)) x := by
  refine deriv_of_formula I ?_ ?_ <;> simp only [rexpr, f_gsl_sf_log_1plusx_mx, *]
  field_simp
  ring

theorem legendre_P1_d0 (x : ℝ)  :
    HasDerivAt (fun t => evalT I (Function.update (envOf [x]) 0 t) f_gsl_sf_legendre_P1.value) (evalT I (envOf [x]) (f_gsl_sf_legendre_P1.d 0)) x := by
  refine deriv_of_formula I ?_ ?_ <;> simp only [rexpr, f_gsl_sf_legendre_P1, *]

theorem legendre_P1_h0 (x : ℝ)  :
    HasDerivAt (fun t => evalT I (Function.update (envOf [x]) 0 t) (f_gsl_sf_legendre_P1.d 0)) (evalT I (envOf [x]) (f_gsl_sf_legendre_P1.h 0)) x := by
  refine deriv_of_formula I ?_ ?_ <;> simp only [rexpr, f_gsl_sf_legendre_P1, *]

theorem legendre_P2_d0 (x : ℝ)  :
    HasDerivAt (fun t => evalT I (Function.update (envOf [x]) 0 t) f_gsl_sf_legendre_P2.value) (evalT I (envOf [x]) (f_gsl_sf_legendre_P2.d 0)) x := by
  refine deriv_of_formula I ?_ ?_ <;> simp only [rexpr, f_gsl_sf_legendre_P2, *]
  ring

theorem legendre_P2_h0 (x : ℝ)  :
    HasDerivAt (fun t => evalT I (Function.update (envOf [x]) 0 t) (f_gsl_sf_legendre_P2.d 0)) (evalT I (envOf [x]) (f_gsl_sf_legendre_P2.h 0)) x := by
  refine deriv_of_formula I ?_ ?_ <;> simp only [rexpr, f_gsl_sf_legendre_P2, *]
  ring

theorem legendre_P3_d0 (x : ℝ)  :
    HasDerivAt (fun t => evalT I (Function.update (envOf [x]) 0 t) f_gsl_sf_legendre_P3.value) (evalT I (envOf [x]) (f_gsl_sf_legendre_P3.d 0)) x := by
  refine deriv_of_formula I ?_ ?_ <;> simp only [rexpr, f_gsl_sf_legendre_P3, *]
  ring

theorem legendre_P3_h0 (x : ℝ)  :
    HasDerivAt (fun t => evalT I (Function.update (envOf [x]) 0 t) (f_gsl_sf_legendre_P3.d 0)) (evalT I (envOf [x]) (f_gsl_sf_legendre_P3.h 0)) x := by
  refine deriv_of_formula I ?_ ?_ <;> simp only [rexpr, f_gsl_sf_legendre_P3, *]
  ring

-- `hl : l ≠ 0` (GSL special-cases λ = 0, where these polynomials are not what it computes) is in the statement of every
-- Gegenbauer theorem, although `gegenpoly_k_d0`, `_h0`, `_h1` do not need it; likewise `hx` in `expint_E1_d0`, `expint_Ei_d0`, `Ci_d0`
theorem gegenpoly_1_d0 (l x : ℝ) (hl : l ≠ 0) :
    HasDerivAt (fun t => evalT I (Function.update (envOf [l, x]) 0 t) f_gsl_sf_gegenpoly_1.value) (evalT I (envOf [l, x]) (f_gsl_sf_gegenpoly_1.d 0)) l := by
  refine deriv_of_formula I ?_ ?_ <;> simp only [rexpr, f_gsl_sf_gegenpoly_1, *]
  ring

theorem gegenpoly_1_d1 (l x : ℝ) (hl : l ≠ 0) :
    HasDerivAt (fun t => evalT I (Function.update (envOf [l, x]) 1 t) f_gsl_sf_gegenpoly_1.value) (evalT I (envOf [l, x]) (f_gsl_sf_gegenpoly_1.d 1)) x := by
  refine deriv_of_formula I ?_ ?_ <;> simp only [rexpr, f_gsl_sf_gegenpoly_1, *]
  ring

theorem gegenpoly_1_h0 (l x : ℝ) (hl : l ≠ 0) :
    HasDerivAt (fun t => evalT I (Function.update (envOf [l, x]) 0 t) (f_gsl_sf_gegenpoly_1.d 0)) (evalT I (envOf [l, x]) (f_gsl_sf_gegenpoly_1.h 0)) l := by
  refine deriv_of_formula I ?_ ?_ <;> simp only [rexpr, f_gsl_sf_gegenpoly_1, *]
  ring

theorem gegenpoly_1_h1 (l x : ℝ) (hl : l ≠ 0) :
    HasDerivAt (fun t => evalT I (Function.update (envOf [l, x]) 1 t) (f_gsl_sf_gegenpoly_1.d 0)) (evalT I (envOf [l, x]) (f_gsl_sf_gegenpoly_1.h 1)) x := by
  refine deriv_of_formula I ?_ ?_ <;> simp only [rexpr, f_gsl_sf_gegenpoly_1, *]
  ring

theorem gegenpoly_1_h2 (l x : ℝ) (hl : l ≠ 0) :
    HasDerivAt (fun t => evalT I (Function.update (envOf [l, x]) 1 t) (f_gsl_sf_gegenpoly_1.d 1)) (evalT I (envOf [l, x]) (f_gsl_sf_gegenpoly_1.h 2)) x := by
  refine deriv_of_formula I ?_ ?_ <;> simp only [rexpr, f_gsl_sf_gegenpoly_1, *]
  ring

theorem gegenpoly_2_d0 (l x : ℝ) (hl : l ≠ 0) :
    HasDerivAt (fun t => evalT I (Function.update (envOf [l, x]) 0 t) f_gsl_sf_gegenpoly_2.value) (evalT I (envOf [l, x]) (f_gsl_sf_gegenpoly_2.d 0)) l := by
  refine deriv_of_formula I ?_ ?_ <;> simp only [rexpr, f_gsl_sf_gegenpoly_2, *]
  ring

theorem gegenpoly_2_d1 (l x : ℝ) (hl : l ≠ 0) :
    HasDerivAt (fun t => evalT I (Function.update (envOf [l, x]) 1 t) f_gsl_sf_gegenpoly_2.value) (evalT I (envOf [l, x]) (f_gsl_sf_gegenpoly_2.d 1)) x := by
  refine deriv_of_formula I ?_ ?_ <;> simp only [rexpr, f_gsl_sf_gegenpoly_2, *]
  ring

theorem gegenpoly_2_h0 (l x : ℝ) (hl : l ≠ 0) :
    HasDerivAt (fun t => evalT I (Function.update (envOf [l, x]) 0 t) (f_gsl_sf_gegenpoly_2.d 0)) (evalT I (envOf [l, x]) (f_gsl_sf_gegenpoly_2.h 0)) l := by
  refine deriv_of_formula I ?_ ?_ <;> simp only [rexpr, f_gsl_sf_gegenpoly_2, *]
  ring

theorem gegenpoly_2_h1 (l x : ℝ) (hl : l ≠ 0) :
    HasDerivAt (fun t => evalT I (Function.update (envOf [l, x]) 1 t) (f_gsl_sf_gegenpoly_2.d 0)) (evalT I (envOf [l, x]) (f_gsl_sf_gegenpoly_2.h 1)) x := by
  refine deriv_of_formula I ?_ ?_ <;> simp only [rexpr, f_gsl_sf_gegenpoly_2, *]
  ring

theorem gegenpoly_2_h2 (l x : ℝ) (hl : l ≠ 0) :
    HasDerivAt (fun t => evalT I (Function.update (envOf [l, x]) 1 t) (f_gsl_sf_gegenpoly_2.d 1)) (evalT I (envOf [l, x]) (f_gsl_sf_gegenpoly_2.h 2)) x := by
  refine deriv_of_formula I ?_ ?_ <;> simp only [rexpr, f_gsl_sf_gegenpoly_2, *]
  ring

theorem gegenpoly_3_d0 (l x : ℝ) (hl : l ≠ 0) :
    HasDerivAt (fun t => evalT I (Function.update (envOf [l, x]) 0 t) f_gsl_sf_gegenpoly_3.value) (evalT I (envOf [l, x]) (f_gsl_sf_gegenpoly_3.d 0)) l := by
  refine deriv_of_formula I ?_ ?_ <;> simp only [rexpr, f_gsl_sf_gegenpoly_3, *]
  ring

theorem gegenpoly_3_d1 (l x : ℝ) (hl : l ≠ 0) :
    HasDerivAt (fun t => evalT I (Function.update (envOf [l, x]) 1 t) f_gsl_sf_gegenpoly_3.value) (evalT I (envOf [l, x]) (f_gsl_sf_gegenpoly_3.d 1)) x := by
  refine deriv_of_formula I ?_ ?_ <;> simp only [rexpr, f_gsl_sf_gegenpoly_3, *]
  ring

theorem gegenpoly_3_h0 (l x : ℝ) (hl : l ≠ 0) :
    HasDerivAt (fun t => evalT I (Function.update (envOf [l, x]) 0 t) (f_gsl_sf_gegenpoly_3.d 0)) (evalT I (envOf [l, x]) (f_gsl_sf_gegenpoly_3.h 0)) l := by
  refine deriv_of_formula I ?_ ?_ <;> simp only [rexpr, f_gsl_sf_gegenpoly_3, *]
  ring

theorem gegenpoly_3_h1 (l x : ℝ) (hl : l ≠ 0) :
    HasDerivAt (fun t => evalT I (Function.update (envOf [l, x]) 1 t) (f_gsl_sf_gegenpoly_3.d 0)) (evalT I (envOf [l, x]) (f_gsl_sf_gegenpoly_3.h 1)) x := by
  refine deriv_of_formula I ?_ ?_ <;> simp only [rexpr, f_gsl_sf_gegenpoly_3, *]
  ring

theorem gegenpoly_3_h2 (l x : ℝ) (hl : l ≠ 0) :
    HasDerivAt (fun t => evalT I (Function.update (envOf [l, x]) 1 t) (f_gsl_sf_gegenpoly_3.d 1)) (evalT I (envOf [l, x]) (f_gsl_sf_gegenpoly_3.h 2)) x := by
  refine deriv_of_formula I ?_ ?_ <;> simp only [rexpr, f_gsl_sf_gegenpoly_3, *]
  ring

theorem laguerre_1_d0 (a x : ℝ)  :
    HasDerivAt (fun t => evalT I (Function.update (envOf [a, x]) 0 t) f_gsl_sf_laguerre_1.value) (evalT I (envOf [a, x]) (f_gsl_sf_laguerre_1.d 0)) a := by
  refine deriv_of_formula I ?_ ?_ <;> simp only [rexpr, f_gsl_sf_laguerre_1, *]
  ring

theorem laguerre_1_d1 (a x : ℝ)  :
    HasDerivAt (fun t => evalT I (Function.update (envOf [a, x]) 1 t) f_gsl_sf_laguerre_1.value) (evalT I (envOf [a, x]) (f_gsl_sf_laguerre_1.d 1)) x := by
  refine deriv_of_formula I ?_ ?_ <;> simp only [rexpr, f_gsl_sf_laguerre_1, *]
  ring

theorem laguerre_1_h0 (a x : ℝ)  :
    HasDerivAt (fun t => evalT I (Function.update (envOf [a, x]) 0 t) (f_gsl_sf_laguerre_1.d 0)) (evalT I (envOf [a, x]) (f_gsl_sf_laguerre_1.h 0)) a := by
  refine deriv_of_formula I ?_ ?_ <;> simp only [rexpr, f_gsl_sf_laguerre_1, *]

theorem laguerre_1_h1 (a x : ℝ)  :
    HasDerivAt (fun t => evalT I (Function.update (envOf [a, x]) 1 t) (f_gsl_sf_laguerre_1.d 0)) (evalT I (envOf [a, x]) (f_gsl_sf_laguerre_1.h 1)) x := by
  refine deriv_of_formula I ?_ ?_ <;> simp only [rexpr, f_gsl_sf_laguerre_1, *]

theorem laguerre_1_h2 (a x : ℝ)  :
    HasDerivAt (fun t => evalT I (Function.update (envOf [a, x]) 1 t) (f_gsl_sf_laguerre_1.d 1)) (evalT I (envOf [a, x]) (f_gsl_sf_laguerre_1.h 2)) x := by
  refine deriv_of_formula I ?_ ?_ <;> simp only [rexpr, f_gsl_sf_laguerre_1, *]
  ring

theorem laguerre_2_d0 (a x : ℝ)  :
    HasDerivAt (fun t => evalT I (Function.update (envOf [a, x]) 0 t) f_gsl_sf_laguerre_2.value) (evalT I (envOf [a, x]) (f_gsl_sf_laguerre_2.d 0)) a := by
  refine deriv_of_formula I ?_ ?_ <;> simp only [rexpr, f_gsl_sf_laguerre_2, *]
  ring

theorem laguerre_2_d1 (a x : ℝ)  :
    HasDerivAt (fun t => evalT I (Function.update (envOf [a, x]) 1 t) f_gsl_sf_laguerre_2.value) (evalT I (envOf [a, x]) (f_gsl_sf_laguerre_2.d 1)) x := by
  refine deriv_of_formula I ?_ ?_ <;> simp only [rexpr, f_gsl_sf_laguerre_2, *]
  ring

theorem laguerre_2_h0 (a x : ℝ)  :
    HasDerivAt (fun t => evalT I (Function.update (envOf [a, x]) 0 t) (f_gsl_sf_laguerre_2.d 0)) (evalT I (envOf [a, x]) (f_gsl_sf_laguerre_2.h 0)) a := by
  refine deriv_of_formula I ?_ ?_ <;> simp only [rexpr, f_gsl_sf_laguerre_2, *]
  ring

theorem laguerre_2_h1 (a x : ℝ)  :
    HasDerivAt (fun t => evalT I (Function.update (envOf [a, x]) 1 t) (f_gsl_sf_laguerre_2.d 0)) (evalT I (envOf [a, x]) (f_gsl_sf_laguerre_2.h 1)) x := by
  refine deriv_of_formula I ?_ ?_ <;> simp only [rexpr, f_gsl_sf_laguerre_2, *]
  ring

theorem laguerre_2_h2 (a x : ℝ)  :
    HasDerivAt (fun t => evalT I (Function.update (envOf [a, x]) 1 t) (f_gsl_sf_laguerre_2.d 1)) (evalT I (envOf [a, x]) (f_gsl_sf_laguerre_2.h 2)) x := by
  refine deriv_of_formula I ?_ ?_ <;> simp only [rexpr, f_gsl_sf_laguerre_2, *]
  ring

theorem laguerre_3_d0 (a x : ℝ)  :
    HasDerivAt (fun t => evalT I (Function.update (envOf [a, x]) 0 t) f_gsl_sf_laguerre_3.value) (evalT I (envOf [a, x]) (f_gsl_sf_laguerre_3.d 0)) a := by
  refine deriv_of_formula I ?_ ?_ <;> simp only [rexpr, f_gsl_sf_laguerre_3, *]
  ring

theorem laguerre_3_d1 (a x : ℝ)  :
    HasDerivAt (fun t => evalT I (Function.update (envOf [a, x]) 1 t) f_gsl_sf_laguerre_3.value) (evalT I (envOf [a, x]) (f_gsl_sf_laguerre_3.d 1)) x := by
  refine deriv_of_formula I ?_ ?_ <;> simp only [rexpr, f_gsl_sf_laguerre_3, *]
  ring

theorem laguerre_3_h0 (a x : ℝ)  :
    HasDerivAt (fun t => evalT I (Function.update (envOf [a, x]) 0 t) (f_gsl_sf_laguerre_3.d 0)) (evalT I (envOf [a, x]) (f_gsl_sf_laguerre_3.h 0)) a := by
  refine deriv_of_formula I ?_ ?_ <;> simp only [rexpr, f_gsl_sf_laguerre_3, *]
  ring

theorem laguerre_3_h1 (a x : ℝ)  :
    HasDerivAt (fun t => evalT I (Function.update (envOf [a, x]) 1 t) (f_gsl_sf_laguerre_3.d 0)) (evalT I (envOf [a, x]) (f_gsl_sf_laguerre_3.h 1)) x := by
  refine deriv_of_formula I ?_ ?_ <;> simp only [rexpr, f_gsl_sf_laguerre_3, *]
  ring

theorem laguerre_3_h2 (a x : ℝ)  :
    HasDerivAt (fun t => evalT I (Function.update (envOf [a, x]) 1 t) (f_gsl_sf_laguerre_3.d 1)) (evalT I (envOf [a, x]) (f_gsl_sf_laguerre_3.h 2)) x := by
  refine deriv_of_formula I ?_ ?_ <;> simp only [rexpr, f_gsl_sf_laguerre_3, *]
  ring

@[rexpr] theorem one_add_exp_ne_zero (x : ℝ) : 1 + Real.exp x ≠ 0 := by positivity
@[rexpr] theorem exp_add_one_ne_zero (x : ℝ) : Real.exp x + 1 ≠ 0 := by positivity

theorem fermi_dirac_m1_d0 (x : ℝ)  :
    HasDerivAt (fun t => evalT I (Function.update (envOf [x]) 0 t) f_gsl_sf_fermi_dirac_m1.value) (evalT I (envOf [x]) (f_gsl_sf_fermi_dirac_m1.d 0)) x := by
  refine deriv_of_formula I ?_ ?_ <;> simp only [rexpr, f_gsl_sf_fermi_dirac_m1]
  ring

theorem fermi_dirac_m1_h0 (x : ℝ)  :
    HasDerivAt (fun t => evalT I (Function.update (envOf [x]) 0 t) (f_gsl_sf_fermi_dirac_m1.d 0)) (evalT I (envOf [x]) (f_gsl_sf_fermi_dirac_m1.h 0)) x := by
  refine deriv_of_formula I ?_ ?_ <;> simp only [rexpr, f_gsl_sf_fermi_dirac_m1]
  field_simp
  ring

theorem fermi_dirac_0_d0 (x : ℝ)  :
    HasDerivAt (fun t => evalT I (Function.update (envOf [x]) 0 t) f_gsl_sf_fermi_dirac_0.value) (evalT I (envOf [x]) (f_gsl_sf_fermi_dirac_0.d 0)) x := by
  refine deriv_of_formula I ?_ ?_ <;> simp only [rexpr, f_gsl_sf_fermi_dirac_0]
  ring

theorem fermi_dirac_0_h0 (x : ℝ)  :
    HasDerivAt (fun t => evalT I (Function.update (envOf [x]) 0 t) (f_gsl_sf_fermi_dirac_0.d 0)) (evalT I (envOf [x]) (f_gsl_sf_fermi_dirac_0.h 0)) x := by
  refine deriv_of_formula I ?_ ?_ <;> simp only [rexpr, f_gsl_sf_fermi_dirac_0]
  ring

theorem bessel_j0_d0 (x : ℝ) (hx : x ≠ 0) :
    HasDerivAt (fun t => evalT I (Function.update (envOf [x]) 0 t) f_gsl_sf_bessel_j0.value) (evalT I (envOf [x]) (f_gsl_sf_bessel_j0.d 0)) x := by
  refine deriv_of_formula I ?_ ?_ <;> simp only [rexpr, f_gsl_sf_bessel_j0, *]
  ring

theorem bessel_j0_h0 (x : ℝ) (hx : x ≠ 0) :
    HasDerivAt (fun t => evalT I (Function.update (envOf [x]) 0 t) (f_gsl_sf_bessel_j0.d 0)) (evalT I (envOf [x]) (f_gsl_sf_bessel_j0.h 0)) x := by
  refine deriv_of_formula I ?_ ?_ <;> simp only [rexpr, f_gsl_sf_bessel_j0, *]
  field_simp
  ring

theorem bessel_y0_d0 (x : ℝ) (hx : x ≠ 0) :
    HasDerivAt (fun t => evalT I (Function.update (envOf [x]) 0 t) f_gsl_sf_bessel_y0.value) (evalT I (envOf [x]) (f_gsl_sf_bessel_y0.d 0)) x := by
  refine deriv_of_formula I ?_ ?_ <;> simp only [rexpr, f_gsl_sf_bessel_y0, *]
  ring

theorem bessel_y0_h0 (x : ℝ) (hx : x ≠ 0) :
    HasDerivAt (fun t => evalT I (Function.update (envOf [x]) 0 t) (f_gsl_sf_bessel_y0.d 0)) (evalT I (envOf [x]) (f_gsl_sf_bessel_y0.h 0)) x := by
  refine deriv_of_formula I ?_ ?_ <;> simp only [rexpr, f_gsl_sf_bessel_y0, *]
  field_simp
  ring

/-! ### hypot and hypot3: the generated terms denote exactly the functions of `Deriv.lean`, whose theorems transfer -/

attribute [rexpr] evalT Function.update_apply Deriv.hyp Deriv.hypotD0 Deriv.hypotD1 Deriv.hypotH0 Deriv.hypotH1 Deriv.hypotH2
  Deriv.hyp3 Deriv.h3Dx Deriv.h3Dy Deriv.h3Dz Deriv.hypot3Hes

theorem hypot_d0 (x y : ℝ) (hpos : 0 < x ^ 2 + y ^ 2) :
    HasDerivAt (fun t => evalT I (Function.update (envOf [x, y]) 0 t) (f_gsl_hypot.value)) (evalT I (envOf [x, y]) (f_gsl_hypot.d 0)) x := by
  refine hasDerivAt_evalT I (Deriv.hypot_dx x y hpos) (fun t => ?_) ?_ <;> simp only [rexpr, pow_two, f_gsl_hypot]

theorem hypot_d1 (x y : ℝ) (hpos : 0 < x ^ 2 + y ^ 2) :
    HasDerivAt (fun t => evalT I (Function.update (envOf [x, y]) 1 t) (f_gsl_hypot.value)) (evalT I (envOf [x, y]) (f_gsl_hypot.d 1)) y := by
  refine hasDerivAt_evalT I (Deriv.hypot_dy x y hpos) (fun t => ?_) ?_ <;> simp only [rexpr, pow_two, f_gsl_hypot]

theorem hypot_h0 (x y : ℝ) (hpos : 0 < x ^ 2 + y ^ 2) :
    HasDerivAt (fun t => evalT I (Function.update (envOf [x, y]) 0 t) (f_gsl_hypot.d 0)) (evalT I (envOf [x, y]) (f_gsl_hypot.h 0)) x := by
  refine hasDerivAt_evalT I (Deriv.hypot_hes0 x y hpos) (fun t => ?_) ?_ <;> simp only [rexpr, pow_two, f_gsl_hypot]

theorem hypot_h1 (x y : ℝ) (hpos : 0 < x ^ 2 + y ^ 2) :
    HasDerivAt (fun t => evalT I (Function.update (envOf [x, y]) 1 t) (f_gsl_hypot.d 0)) (evalT I (envOf [x, y]) (f_gsl_hypot.h 1)) y := by
  refine hasDerivAt_evalT I (Deriv.hypot_hes1 x y hpos) (fun t => ?_) ?_ <;> simp only [rexpr, pow_two, f_gsl_hypot]

theorem hypot_h1_sym (x y : ℝ) (hpos : 0 < x ^ 2 + y ^ 2) :
    HasDerivAt (fun t => evalT I (Function.update (envOf [x, y]) 0 t) (f_gsl_hypot.d 1)) (evalT I (envOf [x, y]) (f_gsl_hypot.h 1)) x := by
  refine hasDerivAt_evalT I (Deriv.hypot_hes1' x y hpos) (fun t => ?_) ?_ <;> simp only [rexpr, pow_two, f_gsl_hypot]

theorem hypot_h2 (x y : ℝ) (hpos : 0 < x ^ 2 + y ^ 2) :
    HasDerivAt (fun t => evalT I (Function.update (envOf [x, y]) 1 t) (f_gsl_hypot.d 1)) (evalT I (envOf [x, y]) (f_gsl_hypot.h 2)) y := by
  refine hasDerivAt_evalT I (Deriv.hypot_hes2 x y hpos) (fun t => ?_) ?_ <;> simp only [rexpr, pow_two, f_gsl_hypot]

theorem hypot3_d0 (x y z : ℝ) (hpos : 0 < x ^ 2 + y ^ 2 + z ^ 2) :
    HasDerivAt (fun t => evalT I (Function.update (envOf [x, y, z]) 0 t) (f_gsl_hypot3.value)) (evalT I (envOf [x, y, z]) (f_gsl_hypot3.d 0)) x := by
  refine hasDerivAt_evalT I (Deriv.hypot3_dx x y z hpos) (fun t => ?_) ?_ <;> simp only [rexpr, pow_two, f_gsl_hypot3]

theorem hypot3_d1 (x y z : ℝ) (hpos : 0 < x ^ 2 + y ^ 2 + z ^ 2) :
    HasDerivAt (fun t => evalT I (Function.update (envOf [x, y, z]) 1 t) (f_gsl_hypot3.value)) (evalT I (envOf [x, y, z]) (f_gsl_hypot3.d 1)) y := by
  refine hasDerivAt_evalT I (Deriv.hypot3_dy x y z hpos) (fun t => ?_) ?_ <;> simp only [rexpr, pow_two, f_gsl_hypot3]

theorem hypot3_d2 (x y z : ℝ) (hpos : 0 < x ^ 2 + y ^ 2 + z ^ 2) :
    HasDerivAt (fun t => evalT I (Function.update (envOf [x, y, z]) 2 t) (f_gsl_hypot3.value)) (evalT I (envOf [x, y, z]) (f_gsl_hypot3.d 2)) z := by
  refine hasDerivAt_evalT I (Deriv.hypot3_dz x y z hpos) (fun t => ?_) ?_ <;> simp only [rexpr, pow_two, f_gsl_hypot3]

theorem hypot3_h0_xx (x y z : ℝ) (hpos : 0 < x ^ 2 + y ^ 2 + z ^ 2) :
    HasDerivAt (fun t => evalT I (Function.update (envOf [x, y, z]) 0 t) (f_gsl_hypot3.d 0)) (evalT I (envOf [x, y, z]) (f_gsl_hypot3.h 0)) x := by
  refine hasDerivAt_evalT I (Deriv.hypot3_hes_xx x y z hpos) (fun t => ?_) ?_ <;> simp only [rexpr, pow_two, f_gsl_hypot3]

theorem hypot3_h1_xy (x y z : ℝ) (hpos : 0 < x ^ 2 + y ^ 2 + z ^ 2) :
    HasDerivAt (fun t => evalT I (Function.update (envOf [x, y, z]) 1 t) (f_gsl_hypot3.d 0)) (evalT I (envOf [x, y, z]) (f_gsl_hypot3.h 1)) y := by
  refine hasDerivAt_evalT I (Deriv.hypot3_hes_xy x y z hpos) (fun t => ?_) ?_ <;> simp only [rexpr, pow_two, f_gsl_hypot3]

theorem hypot3_h2_xz (x y z : ℝ) (hpos : 0 < x ^ 2 + y ^ 2 + z ^ 2) :
    HasDerivAt (fun t => evalT I (Function.update (envOf [x, y, z]) 2 t) (f_gsl_hypot3.d 0)) (evalT I (envOf [x, y, z]) (f_gsl_hypot3.h 2)) z := by
  refine hasDerivAt_evalT I (Deriv.hypot3_hes_xz x y z hpos) (fun t => ?_) ?_ <;> simp only [rexpr, pow_two, f_gsl_hypot3]

theorem hypot3_h3_yy (x y z : ℝ) (hpos : 0 < x ^ 2 + y ^ 2 + z ^ 2) :
    HasDerivAt (fun t => evalT I (Function.update (envOf [x, y, z]) 1 t) (f_gsl_hypot3.d 1)) (evalT I (envOf [x, y, z]) (f_gsl_hypot3.h 3)) y := by
  refine hasDerivAt_evalT I (Deriv.hypot3_hes_yy x y z hpos) (fun t => ?_) ?_ <;> simp only [rexpr, pow_two, f_gsl_hypot3]

theorem hypot3_h4_yz (x y z : ℝ) (hpos : 0 < x ^ 2 + y ^ 2 + z ^ 2) :
    HasDerivAt (fun t => evalT I (Function.update (envOf [x, y, z]) 2 t) (f_gsl_hypot3.d 1)) (evalT I (envOf [x, y, z]) (f_gsl_hypot3.h 4)) z := by
  refine hasDerivAt_evalT I (Deriv.hypot3_hes_yz x y z hpos) (fun t => ?_) ?_ <;> simp only [rexpr, pow_two, f_gsl_hypot3]

theorem hypot3_h5_zz (x y z : ℝ) (hpos : 0 < x ^ 2 + y ^ 2 + z ^ 2) :
    HasDerivAt (fun t => evalT I (Function.update (envOf [x, y, z]) 2 t) (f_gsl_hypot3.d 2)) (evalT I (envOf [x, y, z]) (f_gsl_hypot3.h 5)) z := by
  refine hasDerivAt_evalT I (Deriv.hypot3_hes_zz x y z hpos) (fun t => ?_) ?_ <;> simp only [rexpr, pow_two, f_gsl_hypot3]

/-! ### bindings whose value is a GSL special function: theorems CONDITIONAL on the classical derivative identities

`Ident I f x` (RDiff.lean) says that the identity `dsym f` — e.g. J₀′ = −J₁, I₁′ = (I₀ + I₂)/2, Ai″ = x·Ai, F′ = 1 − 2xF, Γ′ = Γψ —
holds at x for the interpretation `I` of the symbols.  Under the identities named in its hypotheses each theorem proves that the expression
amplgsl.cc stores into `derivs[0]` is the derivative of the value, resp. that the one stored into `hes[0]` is the derivative of the stored
first derivative.  Nothing is proved about GSL's functions themselves; a changed formula in amplgsl.cc breaks the theorem. -/

theorem bessel_J0_d0 (x : ℝ) (hI0 : Ident I "gsl_sf_bessel_J0" x) :
    HasDerivAt (fun t => evalT I (Function.update (envOf [x]) 0 t) (f_gsl_sf_bessel_J0.value)) (evalT I (envOf [x]) (f_gsl_sf_bessel_J0.d 0)) x := by
  refine deriv_of_formula I ?_ ?_ <;> simp only [rexpr, f_gsl_sf_bessel_J0, *]
  ring

theorem bessel_J0_h0 (x : ℝ) (hI0 : Ident I "gsl_sf_bessel_J1" x) :
    HasDerivAt (fun t => evalT I (Function.update (envOf [x]) 0 t) (f_gsl_sf_bessel_J0.d 0)) (evalT I (envOf [x]) (f_gsl_sf_bessel_J0.h 0)) x := by
  refine deriv_of_formula I ?_ ?_ <;> simp only [rexpr, f_gsl_sf_bessel_J0, *]
  ring

theorem bessel_J1_d0 (x : ℝ) (hI0 : Ident I "gsl_sf_bessel_J1" x) :
    HasDerivAt (fun t => evalT I (Function.update (envOf [x]) 0 t) (f_gsl_sf_bessel_J1.value)) (evalT I (envOf [x]) (f_gsl_sf_bessel_J1.d 0)) x := by
  refine deriv_of_formula I ?_ ?_ <;> simp only [rexpr, f_gsl_sf_bessel_J1, *]
  ring

theorem bessel_J1_h0 (x : ℝ) (hI0 : Ident I "gsl_sf_bessel_J0" x) (hI1 : Ident I "gsl_sf_bessel_Jn#2" x) :
    HasDerivAt (fun t => evalT I (Function.update (envOf [x]) 0 t) (f_gsl_sf_bessel_J1.d 0)) (evalT I (envOf [x]) (f_gsl_sf_bessel_J1.h 0)) x := by
  refine deriv_of_formula I ?_ ?_ <;> simp only [rexpr, f_gsl_sf_bessel_J1, *]
  ring

theorem bessel_Y0_d0 (x : ℝ) (hI0 : Ident I "gsl_sf_bessel_Y0" x) :
    HasDerivAt (fun t => evalT I (Function.update (envOf [x]) 0 t) (f_gsl_sf_bessel_Y0.value)) (evalT I (envOf [x]) (f_gsl_sf_bessel_Y0.d 0)) x := by
  refine deriv_of_formula I ?_ ?_ <;> simp only [rexpr, f_gsl_sf_bessel_Y0, *]
  ring

theorem bessel_Y0_h0 (x : ℝ) (hI0 : Ident I "gsl_sf_bessel_Y1" x) :
    HasDerivAt (fun t => evalT I (Function.update (envOf [x]) 0 t) (f_gsl_sf_bessel_Y0.d 0)) (evalT I (envOf [x]) (f_gsl_sf_bessel_Y0.h 0)) x := by
  refine deriv_of_formula I ?_ ?_ <;> simp only [rexpr, f_gsl_sf_bessel_Y0, *]
  ring

theorem bessel_Y1_d0 (x : ℝ) (hI0 : Ident I "gsl_sf_bessel_Y1" x) :
    HasDerivAt (fun t => evalT I (Function.update (envOf [x]) 0 t) (f_gsl_sf_bessel_Y1.value)) (evalT I (envOf [x]) (f_gsl_sf_bessel_Y1.d 0)) x := by
  refine deriv_of_formula I ?_ ?_ <;> simp only [rexpr, f_gsl_sf_bessel_Y1, *]
  ring

theorem bessel_Y1_h0 (x : ℝ) (hI0 : Ident I "gsl_sf_bessel_Y0" x) (hI1 : Ident I "gsl_sf_bessel_Yn#2" x) :
    HasDerivAt (fun t => evalT I (Function.update (envOf [x]) 0 t) (f_gsl_sf_bessel_Y1.d 0)) (evalT I (envOf [x]) (f_gsl_sf_bessel_Y1.h 0)) x := by
  refine deriv_of_formula I ?_ ?_ <;> simp only [rexpr, f_gsl_sf_bessel_Y1, *]
  ring

theorem bessel_I0_d0 (x : ℝ) (hI0 : Ident I "gsl_sf_bessel_I0" x) :
    HasDerivAt (fun t => evalT I (Function.update (envOf [x]) 0 t) (f_gsl_sf_bessel_I0.value)) (evalT I (envOf [x]) (f_gsl_sf_bessel_I0.d 0)) x := by
  refine deriv_of_formula I ?_ ?_ <;> simp only [rexpr, f_gsl_sf_bessel_I0, *]
  ring

theorem bessel_I0_h0 (x : ℝ) (hI0 : Ident I "gsl_sf_bessel_I1" x) :
    HasDerivAt (fun t => evalT I (Function.update (envOf [x]) 0 t) (f_gsl_sf_bessel_I0.d 0)) (evalT I (envOf [x]) (f_gsl_sf_bessel_I0.h 0)) x := by
  refine deriv_of_formula I ?_ ?_ <;> simp only [rexpr, f_gsl_sf_bessel_I0, *]
  ring

theorem bessel_I1_d0 (x : ℝ) (hI0 : Ident I "gsl_sf_bessel_I1" x) :
    HasDerivAt (fun t => evalT I (Function.update (envOf [x]) 0 t) (f_gsl_sf_bessel_I1.value)) (evalT I (envOf [x]) (f_gsl_sf_bessel_I1.d 0)) x := by
  refine deriv_of_formula I ?_ ?_ <;> simp only [rexpr, f_gsl_sf_bessel_I1, *]
  ring

theorem bessel_I1_h0 (x : ℝ) (hI0 : Ident I "gsl_sf_bessel_I0" x) (hI1 : Ident I "gsl_sf_bessel_In#2" x) :
    HasDerivAt (fun t => evalT I (Function.update (envOf [x]) 0 t) (f_gsl_sf_bessel_I1.d 0)) (evalT I (envOf [x]) (f_gsl_sf_bessel_I1.h 0)) x := by
  refine deriv_of_formula I ?_ ?_ <;> simp only [rexpr, f_gsl_sf_bessel_I1, *]
  ring

theorem bessel_K0_d0 (x : ℝ) (hI0 : Ident I "gsl_sf_bessel_K0" x) :
    HasDerivAt (fun t => evalT I (Function.update (envOf [x]) 0 t) (f_gsl_sf_bessel_K0.value)) (evalT I (envOf [x]) (f_gsl_sf_bessel_K0.d 0)) x := by
  refine deriv_of_formula I ?_ ?_ <;> simp only [rexpr, f_gsl_sf_bessel_K0, *]
  ring

theorem bessel_K0_h0 (x : ℝ) (hI0 : Ident I "gsl_sf_bessel_K1" x) :
    HasDerivAt (fun t => evalT I (Function.update (envOf [x]) 0 t) (f_gsl_sf_bessel_K0.d 0)) (evalT I (envOf [x]) (f_gsl_sf_bessel_K0.h 0)) x := by
  refine deriv_of_formula I ?_ ?_ <;> simp only [rexpr, f_gsl_sf_bessel_K0, *]
  ring

theorem bessel_K1_d0 (x : ℝ) (hI0 : Ident I "gsl_sf_bessel_K1" x) :
    HasDerivAt (fun t => evalT I (Function.update (envOf [x]) 0 t) (f_gsl_sf_bessel_K1.value)) (evalT I (envOf [x]) (f_gsl_sf_bessel_K1.d 0)) x := by
  refine deriv_of_formula I ?_ ?_ <;> simp only [rexpr, f_gsl_sf_bessel_K1, *]
  ring

theorem bessel_K1_h0 (x : ℝ) (hI0 : Ident I "gsl_sf_bessel_K0" x) (hI1 : Ident I "gsl_sf_bessel_Kn#2" x) :
    HasDerivAt (fun t => evalT I (Function.update (envOf [x]) 0 t) (f_gsl_sf_bessel_K1.d 0)) (evalT I (envOf [x]) (f_gsl_sf_bessel_K1.h 0)) x := by
  refine deriv_of_formula I ?_ ?_ <;> simp only [rexpr, f_gsl_sf_bessel_K1, *]
  ring

theorem bessel_K0_scaled_d0 (x : ℝ) (hI0 : Ident I "gsl_sf_bessel_K0_scaled" x) :
    HasDerivAt (fun t => evalT I (Function.update (envOf [x]) 0 t) (f_gsl_sf_bessel_K0_scaled.value)) (evalT I (envOf [x]) (f_gsl_sf_bessel_K0_scaled.d 0)) x := by
  refine deriv_of_formula I ?_ ?_ <;> simp only [rexpr, f_gsl_sf_bessel_K0_scaled, *]
  ring

theorem bessel_K0_scaled_h0 (x : ℝ) (hI0 : Ident I "gsl_sf_bessel_K0_scaled" x) (hI1 : Ident I "gsl_sf_bessel_K1_scaled" x) :
    HasDerivAt (fun t => evalT I (Function.update (envOf [x]) 0 t) (f_gsl_sf_bessel_K0_scaled.d 0)) (evalT I (envOf [x]) (f_gsl_sf_bessel_K0_scaled.h 0)) x := by
  refine deriv_of_formula I ?_ ?_ <;> simp only [rexpr, f_gsl_sf_bessel_K0_scaled, *]
  ring

theorem bessel_K1_scaled_d0 (x : ℝ) (hI0 : Ident I "gsl_sf_bessel_K1_scaled" x) :
    HasDerivAt (fun t => evalT I (Function.update (envOf [x]) 0 t) (f_gsl_sf_bessel_K1_scaled.value)) (evalT I (envOf [x]) (f_gsl_sf_bessel_K1_scaled.d 0)) x := by
  refine deriv_of_formula I ?_ ?_ <;> simp only [rexpr, f_gsl_sf_bessel_K1_scaled, *]
  ring

theorem bessel_K1_scaled_h0 (x : ℝ) (hI0 : Ident I "gsl_sf_bessel_K0_scaled" x) (hI1 : Ident I "gsl_sf_bessel_K1_scaled" x) (hI2 : Ident I "gsl_sf_bessel_Kn_scaled#2" x) :
    HasDerivAt (fun t => evalT I (Function.update (envOf [x]) 0 t) (f_gsl_sf_bessel_K1_scaled.d 0)) (evalT I (envOf [x]) (f_gsl_sf_bessel_K1_scaled.h 0)) x := by
  refine deriv_of_formula I ?_ ?_ <;> simp only [rexpr, f_gsl_sf_bessel_K1_scaled, *]
  ring

theorem airy_Ai_d0 (x : ℝ) (hI0 : Ident I "gsl_sf_airy_Ai" x) :
    HasDerivAt (fun t => evalT I (Function.update (envOf [x]) 0 t) (f_gsl_sf_airy_Ai.value)) (evalT I (envOf [x]) (f_gsl_sf_airy_Ai.d 0)) x := by
  refine deriv_of_formula I ?_ ?_ <;> simp only [rexpr, f_gsl_sf_airy_Ai, *]
  ring

theorem airy_Ai_h0 (x : ℝ) (hI0 : Ident I "gsl_sf_airy_Ai_deriv" x) :
    HasDerivAt (fun t => evalT I (Function.update (envOf [x]) 0 t) (f_gsl_sf_airy_Ai.d 0)) (evalT I (envOf [x]) (f_gsl_sf_airy_Ai.h 0)) x := by
  refine deriv_of_formula I ?_ ?_ <;> simp only [rexpr, f_gsl_sf_airy_Ai, *]
  ring

theorem airy_Bi_d0 (x : ℝ) (hI0 : Ident I "gsl_sf_airy_Bi" x) :
    HasDerivAt (fun t => evalT I (Function.update (envOf [x]) 0 t) (f_gsl_sf_airy_Bi.value)) (evalT I (envOf [x]) (f_gsl_sf_airy_Bi.d 0)) x := by
  refine deriv_of_formula I ?_ ?_ <;> simp only [rexpr, f_gsl_sf_airy_Bi, *]
  ring

theorem airy_Bi_h0 (x : ℝ) (hI0 : Ident I "gsl_sf_airy_Bi_deriv" x) :
    HasDerivAt (fun t => evalT I (Function.update (envOf [x]) 0 t) (f_gsl_sf_airy_Bi.d 0)) (evalT I (envOf [x]) (f_gsl_sf_airy_Bi.h 0)) x := by
  refine deriv_of_formula I ?_ ?_ <;> simp only [rexpr, f_gsl_sf_airy_Bi, *]
  ring

theorem dawson_d0 (x : ℝ) (hI0 : Ident I "gsl_sf_dawson" x) :
    HasDerivAt (fun t => evalT I (Function.update (envOf [x]) 0 t) (f_gsl_sf_dawson.value)) (evalT I (envOf [x]) (f_gsl_sf_dawson.d 0)) x := by
  refine deriv_of_formula I ?_ ?_ <;> simp only [rexpr, f_gsl_sf_dawson, *]
  ring

theorem dawson_h0 (x : ℝ) (hI0 : Ident I "gsl_sf_dawson" x) :
    HasDerivAt (fun t => evalT I (Function.update (envOf [x]) 0 t) (f_gsl_sf_dawson.d 0)) (evalT I (envOf [x]) (f_gsl_sf_dawson.h 0)) x := by
  refine deriv_of_formula I ?_ ?_ <;> simp only [rexpr, f_gsl_sf_dawson, *]
  ring

theorem erf_Z_d0 (x : ℝ) (hI0 : Ident I "gsl_sf_erf_Z" x) :
    HasDerivAt (fun t => evalT I (Function.update (envOf [x]) 0 t) (f_gsl_sf_erf_Z.value)) (evalT I (envOf [x]) (f_gsl_sf_erf_Z.d 0)) x := by
  refine deriv_of_formula I ?_ ?_ <;> simp only [rexpr, f_gsl_sf_erf_Z, *]
  ring

theorem erf_Z_h0 (x : ℝ) (hI0 : Ident I "gsl_sf_erf_Z" x) :
    HasDerivAt (fun t => evalT I (Function.update (envOf [x]) 0 t) (f_gsl_sf_erf_Z.d 0)) (evalT I (envOf [x]) (f_gsl_sf_erf_Z.h 0)) x := by
  refine deriv_of_formula I ?_ ?_ <;> simp only [rexpr, f_gsl_sf_erf_Z, *]
  ring

theorem erf_Q_d0 (x : ℝ) (hI0 : Ident I "gsl_sf_erf_Q" x) :
    HasDerivAt (fun t => evalT I (Function.update (envOf [x]) 0 t) (f_gsl_sf_erf_Q.value)) (evalT I (envOf [x]) (f_gsl_sf_erf_Q.d 0)) x := by
  refine deriv_of_formula I ?_ ?_ <;> simp only [rexpr, f_gsl_sf_erf_Q, *]
  ring

theorem erf_Q_h0 (x : ℝ) (hI0 : Ident I "gsl_sf_erf_Z" x) :
    HasDerivAt (fun t => evalT I (Function.update (envOf [x]) 0 t) (f_gsl_sf_erf_Q.d 0)) (evalT I (envOf [x]) (f_gsl_sf_erf_Q.h 0)) x := by
  refine deriv_of_formula I ?_ ?_ <;> simp only [rexpr, f_gsl_sf_erf_Q, *]
  ring

theorem hazard_d0 (x : ℝ) (hI0 : Ident I "gsl_sf_hazard" x) :
    HasDerivAt (fun t => evalT I (Function.update (envOf [x]) 0 t) (f_gsl_sf_hazard.value)) (evalT I (envOf [x]) (f_gsl_sf_hazard.d 0)) x := by
  refine deriv_of_formula I ?_ ?_ <;> simp only [rexpr, f_gsl_sf_hazard, *]
  ring

theorem hazard_h0 (x : ℝ) (hI0 : Ident I "gsl_sf_hazard" x) :
    HasDerivAt (fun t => evalT I (Function.update (envOf [x]) 0 t) (f_gsl_sf_hazard.d 0)) (evalT I (envOf [x]) (f_gsl_sf_hazard.h 0)) x := by
  refine deriv_of_formula I ?_ ?_ <;> simp only [rexpr, f_gsl_sf_hazard, *]
  ring

theorem expint_E1_d0 (x : ℝ) (hx : x ≠ 0) (hI0 : Ident I "gsl_sf_expint_E1" x) :
    HasDerivAt (fun t => evalT I (Function.update (envOf [x]) 0 t) (f_gsl_sf_expint_E1.value)) (evalT I (envOf [x]) (f_gsl_sf_expint_E1.d 0)) x := by
  refine deriv_of_formula I ?_ ?_ <;> simp only [rexpr, f_gsl_sf_expint_E1, *]
  ring

theorem expint_E1_h0 (x : ℝ) (hx : x ≠ 0)  :
    HasDerivAt (fun t => evalT I (Function.update (envOf [x]) 0 t) (f_gsl_sf_expint_E1.d 0)) (evalT I (envOf [x]) (f_gsl_sf_expint_E1.h 0)) x := by
  refine deriv_of_formula I ?_ ?_ <;> simp only [rexpr, f_gsl_sf_expint_E1, *]
  field_simp
  ring

theorem expint_E2_d0 (x : ℝ) (hI0 : Ident I "gsl_sf_expint_E2" x) :
    HasDerivAt (fun t => evalT I (Function.update (envOf [x]) 0 t) (f_gsl_sf_expint_E2.value)) (evalT I (envOf [x]) (f_gsl_sf_expint_E2.d 0)) x := by
  refine deriv_of_formula I ?_ ?_ <;> simp only [rexpr, f_gsl_sf_expint_E2, *]
  ring

theorem expint_E2_h0 (x : ℝ) (hI0 : Ident I "gsl_sf_expint_E1" x) :
    HasDerivAt (fun t => evalT I (Function.update (envOf [x]) 0 t) (f_gsl_sf_expint_E2.d 0)) (evalT I (envOf [x]) (f_gsl_sf_expint_E2.h 0)) x := by
  refine deriv_of_formula I ?_ ?_ <;> simp only [rexpr, f_gsl_sf_expint_E2, *]
  ring

theorem expint_Ei_d0 (x : ℝ) (hx : x ≠ 0) (hI0 : Ident I "gsl_sf_expint_Ei" x) :
    HasDerivAt (fun t => evalT I (Function.update (envOf [x]) 0 t) (f_gsl_sf_expint_Ei.value)) (evalT I (envOf [x]) (f_gsl_sf_expint_Ei.d 0)) x := by
  refine deriv_of_formula I ?_ ?_ <;> simp only [rexpr, f_gsl_sf_expint_Ei, *]
  ring

theorem expint_Ei_h0 (x : ℝ) (hx : x ≠ 0)  :
    HasDerivAt (fun t => evalT I (Function.update (envOf [x]) 0 t) (f_gsl_sf_expint_Ei.d 0)) (evalT I (envOf [x]) (f_gsl_sf_expint_Ei.h 0)) x := by
  refine deriv_of_formula I ?_ ?_ <;> simp only [rexpr, f_gsl_sf_expint_Ei, *]
  field_simp

theorem Si_d0 (x : ℝ) (hx : x ≠ 0) (hI0 : Ident I "gsl_sf_Si" x) :
    HasDerivAt (fun t => evalT I (Function.update (envOf [x]) 0 t) (f_gsl_sf_Si.value)) (evalT I (envOf [x]) (f_gsl_sf_Si.d 0)) x := by
  refine deriv_of_formula I ?_ ?_ <;> simp only [rexpr, f_gsl_sf_Si, *]
  ring

theorem Si_h0 (x : ℝ) (hx : x ≠ 0)  :
    HasDerivAt (fun t => evalT I (Function.update (envOf [x]) 0 t) (f_gsl_sf_Si.d 0)) (evalT I (envOf [x]) (f_gsl_sf_Si.h 0)) x := by
  refine deriv_of_formula I ?_ ?_ <;> simp only [rexpr, f_gsl_sf_Si, *]
  field_simp

theorem Ci_d0 (x : ℝ) (hx : x ≠ 0) (hI0 : Ident I "gsl_sf_Ci" x) :
    HasDerivAt (fun t => evalT I (Function.update (envOf [x]) 0 t) (f_gsl_sf_Ci.value)) (evalT I (envOf [x]) (f_gsl_sf_Ci.d 0)) x := by
  refine deriv_of_formula I ?_ ?_ <;> simp only [rexpr, f_gsl_sf_Ci, *]
  ring

theorem Ci_h0 (x : ℝ) (hx : x ≠ 0)  :
    HasDerivAt (fun t => evalT I (Function.update (envOf [x]) 0 t) (f_gsl_sf_Ci.d 0)) (evalT I (envOf [x]) (f_gsl_sf_Ci.h 0)) x := by
  refine deriv_of_formula I ?_ ?_ <;> simp only [rexpr, f_gsl_sf_Ci, *]
  field_simp
  ring

theorem expint_3_d0 (x : ℝ) (hI0 : Ident I "gsl_sf_expint_3" x) :
    HasDerivAt (fun t => evalT I (Function.update (envOf [x]) 0 t) (f_gsl_sf_expint_3.value)) (evalT I (envOf [x]) (f_gsl_sf_expint_3.d 0)) x := by
  refine deriv_of_formula I ?_ ?_ <;> simp only [rexpr, f_gsl_sf_expint_3, *]
  ring

theorem expint_3_h0 (x : ℝ)  :
    HasDerivAt (fun t => evalT I (Function.update (envOf [x]) 0 t) (f_gsl_sf_expint_3.d 0)) (evalT I (envOf [x]) (f_gsl_sf_expint_3.h 0)) x := by
  refine deriv_of_formula I ?_ ?_ <;> simp only [rexpr, f_gsl_sf_expint_3, *]
  ring

theorem fermi_dirac_1_d0 (x : ℝ) (hI0 : Ident I "gsl_sf_fermi_dirac_1" x) :
    HasDerivAt (fun t => evalT I (Function.update (envOf [x]) 0 t) (f_gsl_sf_fermi_dirac_1.value)) (evalT I (envOf [x]) (f_gsl_sf_fermi_dirac_1.d 0)) x := by
  refine deriv_of_formula I ?_ ?_ <;> simp only [rexpr, f_gsl_sf_fermi_dirac_1, *]
  ring

theorem fermi_dirac_1_h0 (x : ℝ)  :
    HasDerivAt (fun t => evalT I (Function.update (envOf [x]) 0 t) (f_gsl_sf_fermi_dirac_1.d 0)) (evalT I (envOf [x]) (f_gsl_sf_fermi_dirac_1.h 0)) x := by
  refine deriv_of_formula I ?_ ?_ <;> simp only [rexpr, f_gsl_sf_fermi_dirac_1]
  ring

theorem fermi_dirac_2_d0 (x : ℝ) (hI0 : Ident I "gsl_sf_fermi_dirac_2" x) :
    HasDerivAt (fun t => evalT I (Function.update (envOf [x]) 0 t) (f_gsl_sf_fermi_dirac_2.value)) (evalT I (envOf [x]) (f_gsl_sf_fermi_dirac_2.d 0)) x := by
  refine deriv_of_formula I ?_ ?_ <;> simp only [rexpr, f_gsl_sf_fermi_dirac_2, *]
  ring

theorem fermi_dirac_2_h0 (x : ℝ) (hI0 : Ident I "gsl_sf_fermi_dirac_1" x) :
    HasDerivAt (fun t => evalT I (Function.update (envOf [x]) 0 t) (f_gsl_sf_fermi_dirac_2.d 0)) (evalT I (envOf [x]) (f_gsl_sf_fermi_dirac_2.h 0)) x := by
  refine deriv_of_formula I ?_ ?_ <;> simp only [rexpr, f_gsl_sf_fermi_dirac_2, *]
  ring

theorem fermi_dirac_3half_d0 (x : ℝ) (hI0 : Ident I "gsl_sf_fermi_dirac_3half" x) :
    HasDerivAt (fun t => evalT I (Function.update (envOf [x]) 0 t) (f_gsl_sf_fermi_dirac_3half.value)) (evalT I (envOf [x]) (f_gsl_sf_fermi_dirac_3half.d 0)) x := by
  refine deriv_of_formula I ?_ ?_ <;> simp only [rexpr, f_gsl_sf_fermi_dirac_3half, *]
  ring

theorem fermi_dirac_3half_h0 (x : ℝ) (hI0 : Ident I "gsl_sf_fermi_dirac_half" x) :
    HasDerivAt (fun t => evalT I (Function.update (envOf [x]) 0 t) (f_gsl_sf_fermi_dirac_3half.d 0)) (evalT I (envOf [x]) (f_gsl_sf_fermi_dirac_3half.h 0)) x := by
  refine deriv_of_formula I ?_ ?_ <;> simp only [rexpr, f_gsl_sf_fermi_dirac_3half, *]
  ring

theorem gamma_d0 (x : ℝ) (hI0 : Ident I "gsl_sf_gamma" x) :
    HasDerivAt (fun t => evalT I (Function.update (envOf [x]) 0 t) (f_gsl_sf_gamma.value)) (evalT I (envOf [x]) (f_gsl_sf_gamma.d 0)) x := by
  refine deriv_of_formula I ?_ ?_ <;> simp only [rexpr, f_gsl_sf_gamma, *]
  ring

theorem gamma_h0 (x : ℝ) (hI0 : Ident I "gsl_sf_gamma" x) (hI1 : Ident I "gsl_sf_psi" x) :
    HasDerivAt (fun t => evalT I (Function.update (envOf [x]) 0 t) (f_gsl_sf_gamma.d 0)) (evalT I (envOf [x]) (f_gsl_sf_gamma.h 0)) x := by
  refine deriv_of_formula I ?_ ?_ <;> simp only [rexpr, f_gsl_sf_gamma, *]
  ring

theorem psi_1_d0 (x : ℝ) (hI0 : Ident I "gsl_sf_psi_1" x) :
    HasDerivAt (fun t => evalT I (Function.update (envOf [x]) 0 t) (f_gsl_sf_psi_1.value)) (evalT I (envOf [x]) (f_gsl_sf_psi_1.d 0)) x := by
  refine deriv_of_formula I ?_ ?_ <;> simp only [rexpr, f_gsl_sf_psi_1, *]
  ring

theorem psi_1_h0 (x : ℝ) (hI0 : Ident I "gsl_sf_psi_n#2" x) :
    HasDerivAt (fun t => evalT I (Function.update (envOf [x]) 0 t) (f_gsl_sf_psi_1.d 0)) (evalT I (envOf [x]) (f_gsl_sf_psi_1.h 0)) x := by
  refine deriv_of_formula I ?_ ?_ <;> simp only [rexpr, f_gsl_sf_psi_1, *]
  ring

theorem cdf_ugaussian_P_d0 (x : ℝ) (hI0 : Ident I "gsl_cdf_ugaussian_P" x) :
    HasDerivAt (fun t => evalT I (Function.update (envOf [x]) 0 t) (f_gsl_cdf_ugaussian_P.value)) (evalT I (envOf [x]) (f_gsl_cdf_ugaussian_P.d 0)) x := by
  refine deriv_of_formula I ?_ ?_ <;> simp only [rexpr, f_gsl_cdf_ugaussian_P, *]
  ring

theorem cdf_ugaussian_P_h0 (x : ℝ) (hI0 : Ident I "gsl_ran_ugaussian_pdf" x) :
    HasDerivAt (fun t => evalT I (Function.update (envOf [x]) 0 t) (f_gsl_cdf_ugaussian_P.d 0)) (evalT I (envOf [x]) (f_gsl_cdf_ugaussian_P.h 0)) x := by
  refine deriv_of_formula I ?_ ?_ <;> simp only [rexpr, f_gsl_cdf_ugaussian_P, *]
  ring

theorem ran_ugaussian_pdf_d0 (x : ℝ) (hI0 : Ident I "gsl_ran_ugaussian_pdf" x) :
    HasDerivAt (fun t => evalT I (Function.update (envOf [x]) 0 t) (f_gsl_ran_ugaussian_pdf.value)) (evalT I (envOf [x]) (f_gsl_ran_ugaussian_pdf.d 0)) x := by
  refine deriv_of_formula I ?_ ?_ <;> simp only [rexpr, f_gsl_ran_ugaussian_pdf, *]
  ring

theorem ran_ugaussian_pdf_h0 (x : ℝ) (hI0 : Ident I "gsl_ran_ugaussian_pdf" x) :
    HasDerivAt (fun t => evalT I (Function.update (envOf [x]) 0 t) (f_gsl_ran_ugaussian_pdf.d 0)) (evalT I (envOf [x]) (f_gsl_ran_ugaussian_pdf.h 0)) x := by
  refine deriv_of_formula I ?_ ?_ <;> simp only [rexpr, f_gsl_ran_ugaussian_pdf, *]
  ring

/-! ### bindings f(order, x): the order is a parameter of the symbol (`f@k` = f of order + k), the derivative is w.r.t. x (argument 1);
only `derivs[1]` and `hes[2]` = ∂²/∂x² are assigned by these bindings (the order must be declared constant).  Conditional on `Ident`, as above. -/

theorem bessel_Jn_d1 (n x : ℝ) (hI0 : Ident I "gsl_sf_bessel_Jn@0" x) :
    HasDerivAt (fun t => evalT I (Function.update (envOf [n, x]) 1 t) (f_gsl_sf_bessel_Jn.value)) (evalT I (envOf [n, x]) (f_gsl_sf_bessel_Jn.d 1)) x := by
  refine deriv_of_formula I ?_ ?_ <;> simp only [rexpr, f_gsl_sf_bessel_Jn, *]
  ring

theorem bessel_Jn_h2 (n x : ℝ) (hI0 : Ident I "gsl_sf_bessel_Jn@-1" x) (hI1 : Ident I "gsl_sf_bessel_Jn@1" x) :
    HasDerivAt (fun t => evalT I (Function.update (envOf [n, x]) 1 t) (f_gsl_sf_bessel_Jn.d 1)) (evalT I (envOf [n, x]) (f_gsl_sf_bessel_Jn.h 2)) x := by
  refine deriv_of_formula I ?_ ?_ <;> simp only [rexpr, f_gsl_sf_bessel_Jn, *]
  ring

theorem bessel_Yn_d1 (n x : ℝ) (hI0 : Ident I "gsl_sf_bessel_Yn@0" x) :
    HasDerivAt (fun t => evalT I (Function.update (envOf [n, x]) 1 t) (f_gsl_sf_bessel_Yn.value)) (evalT I (envOf [n, x]) (f_gsl_sf_bessel_Yn.d 1)) x := by
  refine deriv_of_formula I ?_ ?_ <;> simp only [rexpr, f_gsl_sf_bessel_Yn, *]
  ring

theorem bessel_Yn_h2 (n x : ℝ) (hI0 : Ident I "gsl_sf_bessel_Yn@-1" x) (hI1 : Ident I "gsl_sf_bessel_Yn@1" x) :
    HasDerivAt (fun t => evalT I (Function.update (envOf [n, x]) 1 t) (f_gsl_sf_bessel_Yn.d 1)) (evalT I (envOf [n, x]) (f_gsl_sf_bessel_Yn.h 2)) x := by
  refine deriv_of_formula I ?_ ?_ <;> simp only [rexpr, f_gsl_sf_bessel_Yn, *]
  ring

theorem bessel_In_d1 (n x : ℝ) (hI0 : Ident I "gsl_sf_bessel_In@0" x) :
    HasDerivAt (fun t => evalT I (Function.update (envOf [n, x]) 1 t) (f_gsl_sf_bessel_In.value)) (evalT I (envOf [n, x]) (f_gsl_sf_bessel_In.d 1)) x := by
  refine deriv_of_formula I ?_ ?_ <;> simp only [rexpr, f_gsl_sf_bessel_In, *]
  ring

theorem bessel_In_h2 (n x : ℝ) (hI0 : Ident I "gsl_sf_bessel_In@-1" x) (hI1 : Ident I "gsl_sf_bessel_In@1" x) :
    HasDerivAt (fun t => evalT I (Function.update (envOf [n, x]) 1 t) (f_gsl_sf_bessel_In.d 1)) (evalT I (envOf [n, x]) (f_gsl_sf_bessel_In.h 2)) x := by
  refine deriv_of_formula I ?_ ?_ <;> simp only [rexpr, f_gsl_sf_bessel_In, *]
  ring

theorem bessel_Kn_d1 (n x : ℝ) (hI0 : Ident I "gsl_sf_bessel_Kn@0" x) :
    HasDerivAt (fun t => evalT I (Function.update (envOf [n, x]) 1 t) (f_gsl_sf_bessel_Kn.value)) (evalT I (envOf [n, x]) (f_gsl_sf_bessel_Kn.d 1)) x := by
  refine deriv_of_formula I ?_ ?_ <;> simp only [rexpr, f_gsl_sf_bessel_Kn, *]
  ring

theorem bessel_Kn_h2 (n x : ℝ) (hI0 : Ident I "gsl_sf_bessel_Kn@-1" x) (hI1 : Ident I "gsl_sf_bessel_Kn@1" x) :
    HasDerivAt (fun t => evalT I (Function.update (envOf [n, x]) 1 t) (f_gsl_sf_bessel_Kn.d 1)) (evalT I (envOf [n, x]) (f_gsl_sf_bessel_Kn.h 2)) x := by
  refine deriv_of_formula I ?_ ?_ <;> simp only [rexpr, f_gsl_sf_bessel_Kn, *]
  ring

theorem bessel_Kn_scaled_d1 (n x : ℝ) (hI0 : Ident I "gsl_sf_bessel_Kn_scaled@0" x) :
    HasDerivAt (fun t => evalT I (Function.update (envOf [n, x]) 1 t) (f_gsl_sf_bessel_Kn_scaled.value)) (evalT I (envOf [n, x]) (f_gsl_sf_bessel_Kn_scaled.d 1)) x := by
  refine deriv_of_formula I ?_ ?_ <;> simp only [rexpr, f_gsl_sf_bessel_Kn_scaled, *]
  ring

theorem bessel_Kn_scaled_h2 (n x : ℝ) (hI0 : Ident I "gsl_sf_bessel_Kn_scaled@-1" x) (hI1 : Ident I "gsl_sf_bessel_Kn_scaled@0" x) (hI2 : Ident I "gsl_sf_bessel_Kn_scaled@1" x) :
    HasDerivAt (fun t => evalT I (Function.update (envOf [n, x]) 1 t) (f_gsl_sf_bessel_Kn_scaled.d 1)) (evalT I (envOf [n, x]) (f_gsl_sf_bessel_Kn_scaled.h 2)) x := by
  refine deriv_of_formula I ?_ ?_ <;> simp only [rexpr, f_gsl_sf_bessel_Kn_scaled, *]
  ring

theorem fermi_dirac_int_d1 (n x : ℝ) (hI0 : Ident I "gsl_sf_fermi_dirac_int@0" x) :
    HasDerivAt (fun t => evalT I (Function.update (envOf [n, x]) 1 t) (f_gsl_sf_fermi_dirac_int.value)) (evalT I (envOf [n, x]) (f_gsl_sf_fermi_dirac_int.d 1)) x := by
  refine deriv_of_formula I ?_ ?_ <;> simp only [rexpr, f_gsl_sf_fermi_dirac_int, *]
  ring

theorem fermi_dirac_int_h2 (n x : ℝ) (hI0 : Ident I "gsl_sf_fermi_dirac_int@-1" x) :
    HasDerivAt (fun t => evalT I (Function.update (envOf [n, x]) 1 t) (f_gsl_sf_fermi_dirac_int.d 1)) (evalT I (envOf [n, x]) (f_gsl_sf_fermi_dirac_int.h 2)) x := by
  refine deriv_of_formula I ?_ ?_ <;> simp only [rexpr, f_gsl_sf_fermi_dirac_int, *]
  ring

theorem bessel_Jnu_d1 (n x : ℝ) (hI0 : Ident I "gsl_sf_bessel_Jnu@0" x) :
    HasDerivAt (fun t => evalT I (Function.update (envOf [n, x]) 1 t) (f_gsl_sf_bessel_Jnu.value)) (evalT I (envOf [n, x]) (f_gsl_sf_bessel_Jnu.d 1)) x := by
  refine deriv_of_formula I ?_ ?_ <;> simp only [rexpr, f_gsl_sf_bessel_Jnu, *]
  ring

theorem bessel_Jnu_h2 (n x : ℝ) (hI0 : Ident I "gsl_sf_bessel_Jnu@-1" x) (hI1 : Ident I "gsl_sf_bessel_Jnu@1" x) :
    HasDerivAt (fun t => evalT I (Function.update (envOf [n, x]) 1 t) (f_gsl_sf_bessel_Jnu.d 1)) (evalT I (envOf [n, x]) (f_gsl_sf_bessel_Jnu.h 2)) x := by
  refine deriv_of_formula I ?_ ?_ <;> simp only [rexpr, f_gsl_sf_bessel_Jnu, *]
  ring

theorem bessel_Ynu_d1 (n x : ℝ) (hI0 : Ident I "gsl_sf_bessel_Ynu@0" x) :
    HasDerivAt (fun t => evalT I (Function.update (envOf [n, x]) 1 t) (f_gsl_sf_bessel_Ynu.value)) (evalT I (envOf [n, x]) (f_gsl_sf_bessel_Ynu.d 1)) x := by
  refine deriv_of_formula I ?_ ?_ <;> simp only [rexpr, f_gsl_sf_bessel_Ynu, *]
  ring

theorem bessel_Ynu_h2 (n x : ℝ) (hI0 : Ident I "gsl_sf_bessel_Ynu@-1" x) (hI1 : Ident I "gsl_sf_bessel_Ynu@1" x) :
    HasDerivAt (fun t => evalT I (Function.update (envOf [n, x]) 1 t) (f_gsl_sf_bessel_Ynu.d 1)) (evalT I (envOf [n, x]) (f_gsl_sf_bessel_Ynu.h 2)) x := by
  refine deriv_of_formula I ?_ ?_ <;> simp only [rexpr, f_gsl_sf_bessel_Ynu, *]
  ring

theorem bessel_Inu_d1 (n x : ℝ) (hI0 : Ident I "gsl_sf_bessel_Inu@0" x) :
    HasDerivAt (fun t => evalT I (Function.update (envOf [n, x]) 1 t) (f_gsl_sf_bessel_Inu.value)) (evalT I (envOf [n, x]) (f_gsl_sf_bessel_Inu.d 1)) x := by
  refine deriv_of_formula I ?_ ?_ <;> simp only [rexpr, f_gsl_sf_bessel_Inu, *]
  ring

theorem bessel_Inu_h2 (n x : ℝ) (hI0 : Ident I "gsl_sf_bessel_Inu@-1" x) (hI1 : Ident I "gsl_sf_bessel_Inu@1" x) :
    HasDerivAt (fun t => evalT I (Function.update (envOf [n, x]) 1 t) (f_gsl_sf_bessel_Inu.d 1)) (evalT I (envOf [n, x]) (f_gsl_sf_bessel_Inu.h 2)) x := by
  refine deriv_of_formula I ?_ ?_ <;> simp only [rexpr, f_gsl_sf_bessel_Inu, *]
  ring

theorem bessel_Knu_d1 (n x : ℝ) (hI0 : Ident I "gsl_sf_bessel_Knu@0" x) :
    HasDerivAt (fun t => evalT I (Function.update (envOf [n, x]) 1 t) (f_gsl_sf_bessel_Knu.value)) (evalT I (envOf [n, x]) (f_gsl_sf_bessel_Knu.d 1)) x := by
  refine deriv_of_formula I ?_ ?_ <;> simp only [rexpr, f_gsl_sf_bessel_Knu, *]
  ring

theorem bessel_Knu_h2 (n x : ℝ) (hI0 : Ident I "gsl_sf_bessel_Knu@-1" x) (hI1 : Ident I "gsl_sf_bessel_Knu@1" x) :
    HasDerivAt (fun t => evalT I (Function.update (envOf [n, x]) 1 t) (f_gsl_sf_bessel_Knu.d 1)) (evalT I (envOf [n, x]) (f_gsl_sf_bessel_Knu.h 2)) x := by
  refine deriv_of_formula I ?_ ?_ <;> simp only [rexpr, f_gsl_sf_bessel_Knu, *]
  ring

theorem bessel_Knu_scaled_d1 (n x : ℝ) (hI0 : Ident I "gsl_sf_bessel_Knu_scaled@0" x) :
    HasDerivAt (fun t => evalT I (Function.update (envOf [n, x]) 1 t) (f_gsl_sf_bessel_Knu_scaled.value)) (evalT I (envOf [n, x]) (f_gsl_sf_bessel_Knu_scaled.d 1)) x := by
  refine deriv_of_formula I ?_ ?_ <;> simp only [rexpr, f_gsl_sf_bessel_Knu_scaled, *]
  ring

theorem bessel_Knu_scaled_h2 (n x : ℝ) (hI0 : Ident I "gsl_sf_bessel_Knu_scaled@-1" x) (hI1 : Ident I "gsl_sf_bessel_Knu_scaled@0" x) (hI2 : Ident I "gsl_sf_bessel_Knu_scaled@1" x) :
    HasDerivAt (fun t => evalT I (Function.update (envOf [n, x]) 1 t) (f_gsl_sf_bessel_Knu_scaled.d 1)) (evalT I (envOf [n, x]) (f_gsl_sf_bessel_Knu_scaled.h 2)) x := by
  refine deriv_of_formula I ?_ ?_ <;> simp only [rexpr, f_gsl_sf_bessel_Knu_scaled, *]
  ring
