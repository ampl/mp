import Lean.Meta.Tactic.Simp.RegisterCommand
/-- unfolds the syntactic operations on `RExpr` (`inline`, `subst`, `diff`, the tables `specE` / `dsym`) and `eval` / `Ok`
down to real arithmetic -/
register_simp_attr rexpr
