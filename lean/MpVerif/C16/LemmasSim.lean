import MpVerif.C16.LemmasChk
/-!
# C16 — checkers and conditions: the abstract outcome covers the concrete one (`chk_sim`, `cond_sim`)
-/
namespace MpVerif.C16

/-- the static context of a concrete call -/
def ctxOf (a : Args) (m : Mode) : ACtx := ⟨a.n, m, a.digp, a.const⟩

structure Covers (br : Br) (r : Bool × St) : Prop where
  tt : r.1 = true → RelO br.tt r.2
  ff : r.1 = false → RelO br.ff r.2

theorem Covers.join {br : Br} {r : Bool × St} (cv : Covers br r) : RelO (joinO br.tt br.ff) r.2 := by
  cases hb : r.1 with
  | true => exact (cv.tt hb).joinL _
  | false => exact (cv.ff hb).joinR _

theorem covers_ofBool {p : APt} {c : St} (b : Bool) (r : Rel p c) : Covers (ofBool b p) (b, c) := by
  cases b with
  | true => exact ⟨fun _ => r.toO, fun h => (nomatch h)⟩
  | false => exact ⟨fun h => (nomatch h), fun _ => r.toO⟩

theorem covers_chk {p : APt} {c : St} {r : Bool × St} {b : Bool} (rel : Rel p c) (ok : ChkOk (b = true) c r) :
    Covers ⟨some (if b = true then p.setErr else p), some p.setErr⟩ r := by
  refine ⟨fun h => ?_, fun h => (rel.setErr ok.mono (ok.fail h)).toO⟩
  split
  · rename_i hb; exact (rel.setErr ok.mono (ok.pass hb h)).toO
  · exact (rel.mono ok.mono).toO

theorem chk_sim (o : Oracle) (a : Args) (m : Mode) (e : Env) (ck : Chk) (p : APt) (c : St) (rel : Rel p c) :
    Covers (aChk (ctxOf a m) e ck p) (evalChk o a m e ck c) := by
  have ok := evalChk_ok o a m e ck c
  cases ck with
  | constArg i =>
    have h1 : (evalChk o a m e (.constArg i) c).1 = a.const (i.val e) := checkConstArg_fst a _ c
    show Covers (if a.const (i.val e) = true then ⟨some p, none⟩ else ⟨none, some p.setErr⟩) _
    split
    · rename_i hc; exact ⟨fun _ => (rel.mono ok.mono).toO, fun h => by rw [h1, hc] at h; cases h⟩
    · rename_i hc; exact ⟨fun h => absurd (h1 ▸ h) hc, fun h => (rel.setErr ok.mono (ok.fail h)).toO⟩
  | _ => exact covers_chk rel ok

theorem Rel.setLb {q : APt} {c c' : St} (v : Nat) (b : Bool) (rq : Rel q c) (hret : c'.ret = c.ret)
    (herr : c'.err = c.err) (hwd : c'.wd = c.wd) (hwh : c'.wh = c.wh) (hlb : c'.lb = upd c.lb v b) : Rel (q.setLb v b) c' := by
  refine ⟨hret.trans rq.ret, herr ▸ rq.err, fun x b' hx => ?_, herr ▸ hwd ▸ rq.wd, herr ▸ hwh ▸ rq.wh⟩
  have hx' : (if x = v then some b else q.lb x) = some b' := hx
  rw [hlb]
  unfold upd
  split at hx'
  · rename_i hxv; rw [if_pos hxv]; cases hx'; rfl
  · rename_i hxv; rw [if_neg hxv]; exact rq.lb x b' hx'

theorem Covers.setLb {br : Br} {r : Bool × St} (cv : Covers br r) (v : Nat) :
    Covers ⟨br.tt.map (·.setLb v true), br.ff.map (·.setLb v false)⟩ (r.1, { r.2 with lb := upd r.2.lb v r.1 }) := by
  refine ⟨fun h => ?_, fun h => ?_⟩
  · obtain ⟨p, hp, rp⟩ := cv.tt h
    exact ⟨_, by rw [hp]; rfl, rp.setLb v true rfl rfl rfl rfl (congrArg (upd r.2.lb v) h)⟩
  · obtain ⟨p, hp, rp⟩ := cv.ff h
    exact ⟨_, by rw [hp]; rfl, rp.setLb v false rfl rfl rfl rfl (congrArg (upd r.2.lb v) h)⟩

theorem cond_sim (o : Oracle) (a : Args) (m : Mode) (e : Env) (cnd : Cond) :
    ∀ (p : APt) (c : St), Rel p c → Covers (aCond (ctxOf a m) e cnd p) (evalCond o a m e cnd c) := by
  induction cnd with
  | derivs | hes | digp | dig _ | lit _ => intro p c rel; exact covers_ofBool _ rel
  | lb x =>
    intro p c rel
    show Covers (match p.lb x with | some b => ofBool b p | none => ⟨some p, some p⟩) (c.lb x, c)
    cases h : p.lb x with
    | none => exact ⟨fun _ => rel.toO, fun _ => rel.toO⟩
    | some b => rw [rel.lb x b h]; exact covers_ofBool b rel
  | opq => intro p c rel; exact ⟨fun _ => (rel.mono (tick_mono c)).toO, fun _ => (rel.mono (tick_mono c)).toO⟩
  | gsl k =>
    intro p c rel
    have hb (b : Bool) (h : o.cond c.tc = b) : Rel (p.setLb k b) (evalCond o a m e (.gsl k) c).2 :=
      rel.setLb k b rfl rfl rfl rfl (by show upd c.lb k (o.cond c.tc) = _; rw [h])
    exact ⟨fun h => (hb true h).toO, fun h => (hb false h).toO⟩
  | not c1 ih =>
    intro p c rel
    have cv := ih p c rel
    exact ⟨fun h => cv.ff (by simpa [evalCond] using h), fun h => cv.tt (by simpa [evalCond] using h)⟩
  | and c1 c2 ih1 ih2 =>
    intro p c rel
    have cv1 := ih1 p c rel
    simp only [evalCond, aCond]
    cases h1 : (evalCond o a m e c1 c).1 with
    | false =>
      simp only [Bool.false_eq_true, if_false]
      refine ⟨fun h => (nomatch h), fun _ => ?_⟩
      cases (aCond (ctxOf a m) e c1 p).tt with
      | none => exact cv1.ff h1
      | some pt => exact (cv1.ff h1).joinL _
    | true =>
      simp only [if_true]
      obtain ⟨pt, hpt, rpt⟩ := cv1.tt h1
      have cv2 := ih2 pt _ rpt
      rw [hpt]
      exact ⟨cv2.tt, fun h => (cv2.ff h).joinR _⟩
  | or c1 c2 ih1 ih2 =>
    intro p c rel
    have cv1 := ih1 p c rel
    simp only [evalCond, aCond]
    cases h1 : (evalCond o a m e c1 c).1 with
    | true =>
      simp only [if_true]
      refine ⟨fun _ => ?_, fun h => (nomatch h)⟩
      cases (aCond (ctxOf a m) e c1 p).ff with
      | none => exact cv1.tt h1
      | some pf => exact (cv1.tt h1).joinL _
    | false =>
      simp only [Bool.false_eq_true, if_false]
      obtain ⟨pf, hpf, rpf⟩ := cv1.ff h1
      have cv2 := ih2 pf _ rpf
      rw [hpf]
      exact ⟨fun h => (cv2.tt h).joinR _, cv2.ff⟩
  | chk ck => intro p c rel; exact chk_sim o a m e ck p c rel

end MpVerif.C16
