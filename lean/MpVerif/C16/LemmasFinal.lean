import MpVerif.C16.LemmasExec
/-!
# C16 — from the enumerating analysis to every concrete call
-/
namespace MpVerif.C16

theorem mem_allVecs : ∀ (v : List Bool), v ∈ allVecs v.length
  | [] => by simp [allVecs]
  | b :: v => by
    simp only [List.length_cons, allVecs, List.mem_flatMap]
    exact ⟨v, mem_allVecs v, by cases b <;> simp⟩

theorem mode_mem (m : Mode) : m ∈ allModes := by
  cases m with
  | mk d h => cases d <;> cases h <;> simp [allModes]

/-- the context of a concrete call is one of the enumerated ones -/
theorem ctx_enumerated (a : Args) (m : Mode) :
    ctxOf a m = (if a.digp then ⟨a.n, m, true, vecCst a.n true ((List.range a.n).map a.dig)⟩ else ⟨a.n, m, false, fun _ => false⟩) := by
  unfold ctxOf
  cases hd : a.digp <;> simp only [Bool.false_eq_true, if_false, if_true] <;> congr 1 <;> funext i
  · simp [Args.const, hd]
  · unfold Args.const vecCst
    by_cases hi : i < a.n <;> simp [hi, hd]

theorem disciplined_aRun {body : Stmt} {n : Nat} (h : disciplined body n = true) (a : Args) (m : Mode) (hn : a.n = n) :
    aRun (ctxOf a m) body = true := by
  unfold disciplined at h
  rw [List.all_eq_true] at h
  have hm := h m (mode_mem m)
  rw [Bool.and_eq_true, List.all_eq_true] at hm
  subst hn
  rw [ctx_enumerated]
  split
  · have := mem_allVecs ((List.range a.n).map a.dig)
    rw [List.length_map, List.length_range] at this
    exact hm.2 _ this
  · exact hm.1

theorem rel_init (a : Args) : Rel APt.init (St.init a) :=
  ⟨rfl, fun h => (nomatch h), fun _ _ h => (nomatch h), fun _ _ h => (nomatch h), fun _ _ h => (nomatch h)⟩

theorem aRun_sound {body : Stmt} (o : Oracle) (a : Args) (m : Mode) (h : aRun (ctxOf a m) body = true) :
    NoSilentNaN a m (run body o a m) := by
  unfold aRun at h
  obtain ⟨hrun, hdone⟩ := exec_sim o a m body [] APt.init (St.init a) (rel_init a) (and_left h)
  have hsome : (run body o a m).ret ≠ none := fun hx => by
    obtain ⟨q, hq, _⟩ := hrun hx
    have h2 := and_right h
    rw [hq] at h2; cases h2
  exact hdone (Option.isSome_iff_ne_none.mpr hsome)

end MpVerif.C16
