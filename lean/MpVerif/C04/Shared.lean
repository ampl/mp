import MpVerif.C04.Chains
/-! Items shared by several original items: the max-among-non-zero rule through Many2Many-family links. -/
namespace MpVerif.C04

/-- the order in which `ValueNode::SetNum` only moves a cell up -/
def NzLe (a b : Val) : Prop := a ≠ 0 → b ≠ 0 ∧ a ≤ b

theorem NzLe.refl (a : Val) : NzLe a a := fun h => ⟨h, Rat.le_refl⟩

theorem NzLe.trans {a b c : Val} (h1 : NzLe a b) (h2 : NzLe b c) : NzLe a c :=
  fun h => ⟨(h2 (h1 h).1).1, Rat.le_trans (h1 h).2 (h2 (h1 h).1).2⟩

theorem setNumVal_mono (cur v : Val) : NzLe cur (setNumVal cur v) := by
  intro h
  unfold setNumVal
  simp only [h, ne_eq, not_false_eq_true, if_true]
  split
  · rename_i h1; exact ⟨h1.2, Rat.le_of_lt h1.1⟩
  · exact ⟨h, Rat.le_refl⟩

theorem setNumVal_ge_arg (cur v : Val) : NzLe v (setNumVal cur v) := by
  intro h
  unfold setNumVal
  by_cases hc : cur = 0
  · simp [hc, h]
  · simp only [hc, ne_eq, not_false_eq_true, if_true]
    split
    · exact ⟨h, Rat.le_refl⟩
    · rename_i h1
      exact ⟨hc, Rat.not_lt.mp fun hlt => h1 ⟨hlt, h⟩⟩

theorem foldSet_mono (vs : List Val) (acc : Val) : NzLe acc (vs.foldl setNumVal acc) := by
  induction vs generalizing acc with
  | nil => exact .refl _
  | cons v vs ih => exact (setNumVal_mono acc v).trans (ih _)

theorem foldSet_mem (vs : List Val) (acc v : Val) (hv : v ∈ vs) : NzLe v (vs.foldl setNumVal acc) := by
  induction vs generalizing acc with
  | nil => cases hv
  | cons w vs ih =>
    cases hv with
    | head => exact (setNumVal_ge_arg acc v).trans (foldSet_mono vs _)
    | tail _ hv' => exact ih _ hv'

theorem foldSet_in (vs : List Val) (acc : Val) : vs.foldl setNumVal acc = acc ∨ vs.foldl setNumVal acc ∈ vs := by
  induction vs generalizing acc with
  | nil => exact Or.inl rfl
  | cons v vs ih =>
    rcases ih (setNumVal acc v) with h | h
    · rw [List.foldl_cons, h]
      unfold setNumVal
      split
      · split
        · exact Or.inr (List.mem_cons_self ..)
        · exact Or.inl rfl
      · exact Or.inr (List.mem_cons_self ..)
    · exact Or.inr (List.mem_cons_of_mem _ h)

theorem St.setNum_mono (S : St) (c : Cell) (v : Val) (u : Cell) : NzLe (S u) ((S.setNum c v) u) := by
  by_cases hc : u = c
  · subst hc; rw [St.setNum_same]; exact setNumVal_mono _ _
  · rw [St.setNum_other _ _ hc]; exact .refl _

theorem foldl_mono {α : Type} (f : St → α → St) (u : Cell) (l : List α)
    (h : ∀ a ∈ l, ∀ S : St, NzLe (S u) ((f S a) u)) (S : St) : NzLe (S u) ((l.foldl f S) u) :=
  List.foldlRecOn (motive := fun T => NzLe (S u) (T u)) l f (.refl _) fun T hT a ha => hT.trans (h a ha T)

theorem collectInto_mono (S : St) (c : Cell) (r : Rng) (u : Cell) : NzLe (S u) (collectInto S c r u) :=
  foldl_mono _ u _ (fun _ _ S => S.setNum_mono c _ u) S

theorem collectInto_at (S : St) (c : Cell) (r : Rng) (hne : c.1 ≠ r.node) :
    collectInto S c r c = ((List.range r.len).map (fun b => S (r.node, r.beg + b))).foldl setNumVal (S c) := by
  unfold collectInto
  rw [List.foldl_map]
  generalize List.range r.len = l
  induction l generalizing S with
  | nil => rfl
  | cons b bs ih =>
    have hcell : ∀ b', (S.setNum c (S (r.node, r.beg + b))) (r.node, r.beg + b') = S (r.node, r.beg + b') :=
      fun b' => St.setNum_other _ _ fun h => hne (h ▸ rfl)
    simp only [List.foldl_cons, ih, hcell, St.setNum_same]

theorem collectInto_reach (S : St) (c : Cell) (r : Rng) (hne : c.1 ≠ r.node) (t : Cell) (ht : r.has t = true) :
    NzLe (S t) (collectInto S c r c) := by
  rw [collectInto_at S c r hne]
  obtain ⟨hc, hlt⟩ := Rng.has_offset ht
  exact foldSet_mem _ _ _ (List.mem_map.mpr ⟨_, List.mem_range.mpr hlt, hc ▸ rfl⟩)

theorem collectAll_mono (S : St) (w r : Rng) (u : Cell) : NzLe (S u) (collectAll S w r u) :=
  foldl_mono _ u _ (fun _ _ S => collectInto_mono S _ r u) S

theorem collectAll_reach (S : St) (w r : Rng) (hne : w.node ≠ r.node) (u t : Cell)
    (hu : w.has u = true) (ht : r.has t = true) : NzLe (S t) (collectAll S w r u) := by
  obtain ⟨hucell, hlt⟩ := Rng.has_offset hu
  -- cut the outer loop at the pass that collects into `u`: the passes before leave `t` (on the other node) alone,
  -- that pass reaches, the passes after do not lower `u`
  obtain ⟨l1, l2, hl⟩ := List.append_of_mem (List.mem_range.mpr hlt)
  unfold collectAll
  rw [hl, List.foldl_append, List.foldl_cons, ← hucell]
  have h1 := foldl_frame (fun S a => collectInto S (w.node, w.beg + a) r) t l1 (fun a _ S => collectInto_frame fun hc =>
    hne ((congrArg Prod.fst hc).symm.trans ((Rng.has_iff r t).mp ht).1)) S
  exact h1 ▸ (collectInto_reach _ u r (hucell ▸ hne) t ht).trans (foldl_mono _ u l2 (fun _ _ S => collectInto_mono S _ r u) _)

theorem distrInner_spec (S : St) (r0 : Cell) (wn wb : Nat) (hne : r0.1 ≠ wn) (n j : Nat) (hj : j < n) :
    ((List.range n).foldl (fun S b => S.setNum (wn, wb + b) (S r0)) S) (wn, wb + j) = setNumVal (S (wn, wb + j)) (S r0) :=
  foldl_write_spec wn wb (fun T b => setNumVal (T (wn, wb + b)) (T r0)) S n
    (fun j T hT => by rw [hT _ fun b hb h => by simp at h; omega, hT r0 fun b _ h => hne (h ▸ rfl)]) j hj

theorem distrAll_single (S : St) (r w : Rng) (hlen : r.len = 1) (hne : r.node ≠ w.node) (t : Cell)
    (ht : w.has t = true) : distrAll S r w t = setNumVal (S t) (S (r.node, r.beg)) := by
  obtain ⟨hcell, hlt⟩ := Rng.has_offset ht
  unfold distrAll
  rw [hlen, hcell]
  exact distrInner_spec S (r.node, r.beg) w.node w.beg hne w.len _ hlt

theorem m2mSourcesRev_cons_skip {zero : Cell → Bool} {e : Entry} {B : List Entry} {t : Cell}
    (h : e.preWrites t = false) : m2mSourcesRev zero (e :: B) t = m2mSourcesRev zero B t := by
  cases e <;> simp [m2mSourcesRev, h]

/-- Presolve: a cell that (through copies) is fed only by One2Many entries receives the max-among-non-zero
    (`foldl setNumVal 0`) of the values given for ALL the linked source items. -/
theorem m2mSourcesRev_sound (k : Kind) (zero : Cell → Bool) (S0 : St) (hz : ∀ c, zero c = true → S0 c = 0)
    (L : List Entry) : ∀ (t : Cell) (us : List Cell),
    m2mSourcesRev zero L t = some us → (∀ u ∈ us, ∀ e ∈ L, e.preWrites u = false) →
    runPre k L.reverse S0 t = (us.map (fun u => S0 u)).foldl setNumVal 0 := by
  induction L with
  | nil =>
    intro t us h _
    simp only [m2mSourcesRev] at h
    split at h
    · rename_i hzt; cases h; exact hz t hzt
    · cases h
  | cons e B ih =>
    intro t us h hsrc
    rw [List.reverse_cons, runPre_snoc]
    have hsrcB : ∀ us' : List Cell, (∀ u ∈ us', u ∈ us) → ∀ u ∈ us', ∀ e' ∈ B, e'.preWrites u = false :=
      fun us' hsub u hu e' he' => hsrc u (hsub u hu) e' (List.mem_cons_of_mem _ he')
    cases hw : e.preWrites t with
    | false =>
      rw [m2mSourcesRev_cons_skip hw] at h
      rw [preEntry_frame hw]
      exact ih t us h (hsrcB us fun _ hu => hu)
    | true =>
      cases e with
      | copy s d =>
        simp only [m2mSourcesRev, hw, if_true] at h
        split at h
        · rename_i hne
          simp only [preEntry]
          rw [copyRange_at _ s d hne t hw]
          exact ih _ us h (hsrcB us fun _ hu => hu)
        · cases h
      | r2s cs ct vs sd => simp [m2mSourcesRev, hw] at h
      | m2m s d =>
        simp only [m2mSourcesRev, hw, if_true] at h
        split at h
        · rename_i hc
          obtain ⟨us', hus', rfl⟩ := Option.map_eq_some_iff.mp h
          simp only [preEntry]
          rw [distrAll_single _ s d hc.1 hc.2 t hw, ih t us' hus' (hsrcB us' fun u hu => List.mem_append_left _ hu),
            runPre_frame k B.reverse S0 (s.node, s.beg) fun e' he' =>
              hsrc _ (List.mem_append_right _ (List.mem_singleton.mpr rfl)) e'
                (List.mem_cons_of_mem _ (List.mem_reverse.mp he'))]
          simp [List.foldl_append]
        · cases h

theorem postEntry_r2s_mono (k : Kind) (cs ct vs : Cell) (sd : SlackData) (S S' : St) (u : Cell)
    (h : postEntry k (.r2s cs ct vs sd) S = some S') : NzLe (S u) (S' u) := by
  cases k
  case iis =>
    obtain ⟨v, -, rfl⟩ := Option.map_eq_some_iff.mp h
    exact S.setNum_mono cs v u
  case lazy => cases h; exact .refl _
  case generic => cases h; exact (S.setNum_mono cs _ u).trans (St.setNum_mono _ cs _ u)
  all_goals cases h; exact S.setNum_mono cs _ u

/-- Postsolve: a non-zero value the solver reports for a shared item `t` reaches EVERY original item `u` that has a
    Many2Many-family link to it (and is not overwritten by a copy afterwards): `u` ends non-zero and at least that value. -/
theorem reachPost_sound (k : Kind) (S0 : St) (L : List Entry) : ∀ (u t : Cell) (S' : St),
    reachPost L u t = true → (∀ e ∈ L, e.postWrites t = false) → runPost k L S0 = some S' → NzLe (S0 t) (S' u) := by
  induction L with
  | nil => intro u t S' h; cases h
  | cons e B ih =>
    intro u t S' h hnw hrun
    rw [runPost_cons] at hrun
    obtain ⟨S1, hB, hrun⟩ := Option.bind_eq_some_iff.mp hrun
    have hnwB : ∀ e' ∈ B, e'.postWrites t = false := fun e' he' => hnw e' (List.mem_cons_of_mem _ he')
    have hrec := fun h => ih u t S1 h hnwB hB
    cases e with
    | copy s d =>
      simp only [reachPost] at h
      split at h
      · cases h
      · rename_i hw
        rw [postEntry_frame (by simpa using hw) hrun]
        exact hrec h
    | r2s cs ct vs sd => exact (hrec h).trans (postEntry_r2s_mono k cs ct vs sd S1 S' u hrun)
    | m2m s d =>
      cases hrun
      simp only [reachPost] at h
      cases hsu : s.has u with
      | false =>
        rw [hsu] at h
        rw [collectAll_frame hsu]
        exact hrec h
      | true =>
        by_cases hne : s.node = d.node
        · simp [hsu, hne] at h
        · simp only [hsu, bne_iff_ne.mpr hne, Bool.and_self, if_true, Bool.or_eq_true] at h
          rcases h with hdt | h
          · exact runPost_frame k B S0 S1 t hnwB hB ▸ collectAll_reach S1 s d hne u t hsu hdt
          · exact (hrec h).trans (collectAll_mono S1 s d u)

end MpVerif.C04
