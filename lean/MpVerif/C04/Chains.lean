import MpVerif.C04.Lemmas
import MpVerif.C04.Trace
/-! Soundness of the symbolic origin functions `tracePost` / `tracePre` (for every loaded state). -/
namespace MpVerif.C04

theorem r2sDistinct_ne {cs ct vs : Cell} (h : r2sDistinct cs ct vs = true) : cs ≠ ct ∧ cs ≠ vs ∧ ct ≠ vs := by
  simp only [r2sDistinct, Bool.and_eq_true, bne_iff_ne, ne_eq] at h
  exact ⟨fun e => h.1.1 (e ▸ rfl), fun e => h.1.2 (e ▸ rfl), fun e => h.2 (e ▸ rfl)⟩

theorem tracePost_cons_skip {k : Kind} {zero : Cell → Bool} {e : Entry} {B : List Entry} {c : Cell}
    (h : e.postWrites c = false) : tracePost k zero (e :: B) c = tracePost k zero B c := by
  cases e <;> simp [tracePost, h]

theorem tracePre_cons_skip {k : Kind} {zero : Cell → Bool} {e : Entry} {B : List Entry} {c : Cell}
    (h : e.preWrites c = false) : tracePre k zero (e :: B) c = tracePre k zero B c := by
  cases e <;> simp [tracePre, h]

/-- a trace through the source cell of a `RangeCon2Slack` entry succeeds exactly when the cell is fresh (claimed zero, on a
    node of its own, written by nobody earlier in the run) and both the target row and the slack variable are traced -/
theorem tracePost_r2s_head_iff (k : Kind) (zero : Cell → Bool) (cs ct vs : Cell) (sd : SlackData) (B : List Entry)
    (o : Origin) :
    tracePost k zero (.r2s cs ct vs sd :: B) cs = some o ↔
      (zero cs = true ∧ r2sDistinct cs ct vs = true ∧ ∀ e ∈ B, e.postWrites cs = false) ∧
      ∃ ot os, tracePost k zero B ct = some ot ∧ tracePost k zero B vs = some os ∧ r2sPostOrigin k ot os = o := by
  have hw : (Entry.r2s cs ct vs sd).postWrites cs = true := by simp [Entry.postWrites]
  simp only [tracePost, hw, if_true, Bool.and_eq_true, List.all_eq_true, Bool.not_eq_eq_eq_not, Bool.not_true]
  cases tracePost k zero B ct <;> cases tracePost k zero B vs <;> simp [and_assoc]

/-- what `Postsolve<k>Entry` of `RangeCon2Slack` leaves in a source cell that held zero, in terms of the origins of the
    target constraint and the slack variable -/
theorem postEntry_r2s_fresh (k : Kind) (cs ct vs : Cell) (sd : SlackData) (S S' S0 : St) (ot os : Origin)
    (h : postEntry k (.r2s cs ct vs sd) S = some S') (h0 : S cs = 0) (hne : cs ≠ vs)
    (e1 : S ct = ot.eval S0) (e2 : S vs = os.eval S0) : S' cs = (r2sPostOrigin k ot os).eval S0 := by
  cases k
  case iis =>
    obtain ⟨v, hv, rfl⟩ := Option.map_eq_some_iff.mp h
    simp [r2sPostOrigin, Origin.eval, h0, ← e1, ← e2, hv]
  all_goals cases h; simp [r2sPostOrigin, Origin.eval, St.setNum_other _ _ hne.symm, h0, e1, e2]

/-- **Soundness of `tracePost`.** Whatever the solver-side vectors were (`S0` = any loaded state that is zero
    on the cells `zero` claims), if the postsolve run returns, cell `c` holds the value of the traced origin. -/
theorem tracePost_sound (k : Kind) (zero : Cell → Bool) (S0 : St) (hz : ∀ c, zero c = true → S0 c = 0)
    (es : List Entry) : ∀ (c : Cell) (o : Origin) (S' : St),
      tracePost k zero es c = some o → runPost k es S0 = some S' → S' c = o.eval S0 := by
  induction es with
  | nil => intro c o S' ht hr; cases ht; cases hr; rfl
  | cons e B ih =>
    intro c o S' ht hr
    rw [runPost_cons] at hr
    obtain ⟨S1, hB, hr⟩ := Option.bind_eq_some_iff.mp hr
    cases hw : e.postWrites c with
    | false =>
      rw [tracePost_cons_skip hw] at ht
      rw [postEntry_frame hw hr]
      exact ih c o S1 ht hB
    | true =>
      cases e with
      | copy s d =>
        simp only [tracePost, hw, if_true] at ht
        split at ht
        · rename_i hne
          cases hr
          rw [copyRange_at S1 d s (Ne.symm hne) c hw]
          exact ih _ _ _ ht hB
        · cases ht
      | m2m s d => simp [tracePost, hw] at ht
      | r2s cs ct vs sd =>
        obtain rfl : c = cs := by simpa [Entry.postWrites] using hw
        obtain ⟨⟨hzero, hdist, hnw⟩, ot, os, hot, hos, rfl⟩ := (tracePost_r2s_head_iff k zero c ct vs sd B o).mp ht
        exact postEntry_r2s_fresh k c ct vs sd S1 S' S0 ot os hr
          (by rw [runPost_frame k B S0 S1 c hnw hB]; exact hz c hzero) (r2sDistinct_ne hdist).2.1
          (ih ct ot S1 hot hB) (ih vs os S1 hos hB)

/-- **Soundness of `tracePre`** (`L` = reversed registration order). -/
theorem tracePre_sound (k : Kind) (zero : Cell → Bool) (S0 : St) (hz : ∀ c, zero c = true → S0 c = 0)
    (L : List Entry) : ∀ (c : Cell) (o : Origin),
      tracePre k zero L c = some o → runPre k L.reverse S0 c = o.eval S0 := by
  induction L with
  | nil => intro c o ht; cases ht; rfl
  | cons e B ih =>
    intro c o ht
    rw [List.reverse_cons, runPre_snoc]
    cases hw : e.preWrites c with
    | false =>
      rw [tracePre_cons_skip hw] at ht
      rw [preEntry_frame hw]
      exact ih c o ht
    | true =>
      cases e with
      | copy s d =>
        simp only [tracePre, hw, if_true] at ht
        split at ht
        · rename_i hne
          simp only [preEntry]
          rw [copyRange_at _ s d hne c hw]
          exact ih _ _ ht
        · cases ht
      | m2m s d => simp [tracePre, hw] at ht
      | r2s cs ct vs sd =>
        simp only [tracePre, hw, if_true] at ht
        split at ht
        · rename_i hcond
          simp only [Bool.and_eq_true, List.all_eq_true, Bool.not_eq_eq_eq_not, Bool.not_true] at hcond
          obtain ⟨⟨hzero, hdist⟩, hnw⟩ := hcond
          have hne := (r2sDistinct_ne hdist).2.2
          have h0 : runPre k B.reverse S0 c = 0 := by
            rw [runPre_frame k B.reverse S0 c (fun e he => hnw e (List.mem_reverse.mp he))]; exact hz c hzero
          split at ht
          · rename_i ocs hocs
            have e1 := ih cs ocs hocs
            -- the freshly written cell held zero, so `SetNum` stores the new value
            split at ht
            · rename_i hct
              cases ht; subst hct
              cases k <;> simp [preEntry, r2sPreTargetOrigin, Origin.eval, St.setNum_other _ _ hne, h0, e1]
            · rename_i hct
              obtain rfl : c = vs := by
                have : c = ct ∨ c = vs := by simpa [Entry.preWrites] using hw
                exact this.resolve_left hct
              cases k <;> simp only [r2sPreSlackOrigin, Option.some.injEq, reduceCtorEq] at ht <;> subst ht <;>
                simp [preEntry, Origin.eval, St.setNum_other _ _ hne.symm, h0, e1]
          · cases ht
        · cases ht

/-! ### certificates of explicit chains (H4 of DESIGN.md, section C04) -/

theorem tracePost_skip {k : Kind} {zero : Cell → Bool} {A B : List Entry} {c : Cell}
    (h : ∀ e ∈ A, e.postWrites c = false) : tracePost k zero (A ++ B) c = tracePost k zero B c := by
  induction A with
  | nil => rfl
  | cons e A ih =>
    rw [List.cons_append, tracePost_cons_skip (h e (List.mem_cons_self ..)),
      ih fun e' he' => h e' (List.mem_cons_of_mem _ he')]

theorem tracePost_none_written {k : Kind} {zero : Cell → Bool} {A : List Entry} {c : Cell}
    (h : ∀ e ∈ A, e.postWrites c = false) : tracePost k zero A c = some (.init c) := by
  simpa [tracePost] using tracePost_skip (B := []) h

theorem tracePost_copy_head {k : Kind} {zero : Cell → Bool} {s d : Rng} {B : List Entry} {j : Nat}
    (hj : j < d.len) (hne : s.node ≠ d.node) :
    tracePost k zero (.copy s d :: B) (s.node, s.beg + j) = tracePost k zero B (d.node, d.beg + j) := by
  have hw : (Entry.copy s d).postWrites (s.node, s.beg + j) = true := Rng.has_of_lt ⟨s.node, s.beg, d.len⟩ hj
  simp [tracePost, hw, hne]

theorem tracePre_skip {k : Kind} {zero : Cell → Bool} {A B : List Entry} {c : Cell}
    (h : ∀ e ∈ A, e.preWrites c = false) : tracePre k zero (A ++ B) c = tracePre k zero B c := by
  induction A with
  | nil => rfl
  | cons e A ih =>
    rw [List.cons_append, tracePre_cons_skip (h e (List.mem_cons_self ..)),
      ih fun e' he' => h e' (List.mem_cons_of_mem _ he')]

theorem tracePre_none_written {k : Kind} {zero : Cell → Bool} {A : List Entry} {c : Cell}
    (h : ∀ e ∈ A, e.preWrites c = false) : tracePre k zero A c = some (.init c) := by
  simpa [tracePre] using tracePre_skip (B := []) h

theorem tracePre_copy_head {k : Kind} {zero : Cell → Bool} {s d : Rng} {B : List Entry} {j : Nat}
    (hj : j < s.len) (hne : s.node ≠ d.node) :
    tracePre k zero (.copy s d :: B) (d.node, d.beg + j) = tracePre k zero B (s.node, s.beg + j) := by
  have hw : (Entry.copy s d).preWrites (d.node, d.beg + j) = true := Rng.has_of_lt ⟨d.node, d.beg, s.len⟩ hj
  simp [tracePre, hw, hne]

end MpVerif.C04
