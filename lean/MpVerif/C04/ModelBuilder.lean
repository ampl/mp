import MpVerif.C04.Trace
/-!
# C04 — how the link graph is built: the constructors

The converter builds the graph only through

* `ValueNode` constructors (every constructor registers the node: `newNode`),
* `ValueNode::Add / Select` (hand out a range inside the — growing — declared size: `newItem`, and inside the ops below),
* `ProblemFlattener::ConvertVars` (`copyVars`),
* the destructor of `AutoLinkScope` after ONE item has been converted (`autoLink`: a single single-index target → `CopyLink`, otherwise one
  `One2ManyLink` entry per target),
* `RangeConstraintConverter::ConvertRange` (`range2slack`: fresh equality constraint and fresh slack variable, autolinking off),
* `ConstraintKeeper::AddAllUnbridged` (`deliver`: copy to a fresh cell of a target terminal node).

`ConstraintKeeper::ConvertAllFrom` converts an item only if `!IsBridged()` and `ConvertConstraint` then marks it bridged;
`AddAllUnbridged` delivers only `!IsBridged()` items.  The model keeps the `bridged` flags and refuses an op on a bridged source
(the C++ `assert(!cnt.IsBridged())`), so the SOURCE side of every conversion is used once.

`traceWF` and `hitsM2M` are the decidable conditions under which a postsolve trace certificate exists (`tracePost_exists`); the driver
evaluates `traceWF` on every real graph (`wf2`).
-/
namespace MpVerif.C04

structure BState where
  sizes : List Nat          -- one entry per constructed (= registered) value node: its declared size
  entries : List Entry
  bridged : List Cell       -- items whose `is_bridged_` flag is set (converted or delivered)

def BState.size (st : BState) (n : Nat) : Nat := st.sizes.getD n 0
def BState.graph (st : BState) : Graph := ⟨st.entries, st.sizes⟩

inductive BOp
  | newNode                                              -- `ValueNode::ValueNode` (RegisterMe)
  | newItem (node n : Nat)                               -- `ValueNode::Add(n)`: an item nobody is linked to yet
  | copyVars (sv dv n : Nat)                             -- `ProblemFlattener::ConvertVars`
  | autoLink (src : Cell) (targets : List Rng)           -- `~AutoLinkScope()` (targets obtained by `Add` / `Select`)
  | range2slack (cs : Cell) (tn vn : Nat) (sd : SlackData)   -- `RangeConstraintConverter::ConvertRange`
  | deliver (c : Cell) (dn : Nat)                        -- `ConstraintKeeper::AddAllUnbridged`, one item

/-- declared size after `Add`/`Select` made `[.., upto)` part of node `n` -/
def growTo (sizes : List Nat) (n upto : Nat) : List Nat :=
  sizes.mapIdx (fun i s => if i = n then max s upto else s)

/-- what an op appends: (new sizes, new entries, newly bridged cells); `none` = the C++ would not do this
    (range of a node that does not exist, source already bridged / on a target terminal node, same node on both sides) -/
def BOp.effect (isDest : Nat → Bool) (st : BState) : BOp → Option (List Nat × List Entry × List Cell)
  | .newNode => some (st.sizes ++ [0], [], [])
  | .newItem node n => if node < st.sizes.length then some (growTo st.sizes node (st.size node + n), [], []) else none
  | .copyVars sv dv n =>
    if sv < st.sizes.length ∧ dv < st.sizes.length ∧ sv ≠ dv ∧ isDest sv = false then
      some (growTo (growTo st.sizes sv (st.size sv + n)) dv (st.size dv + n),
            [.copy ⟨sv, st.size sv, n⟩ ⟨dv, st.size dv, n⟩],
            (List.range n).map (fun j => (sv, st.size sv + j)))
    else none
  | .autoLink src targets =>
    if src.1 < st.sizes.length ∧ src.2 < st.size src.1 ∧ ¬ src ∈ st.bridged ∧ isDest src.1 = false ∧
        targets.all (fun t => decide (t.node < st.sizes.length) && t.node != src.1 && decide (0 < t.len)) = true then
      let sizes' := targets.foldl (fun sz t => growTo sz t.node (t.beg + t.len)) st.sizes
      let new := match targets with
        | [t] => if t.len = 1 then [Entry.copy ⟨src.1, src.2, 1⟩ t] else [Entry.m2m ⟨src.1, src.2, 1⟩ t]
        | ts => ts.map (fun t => Entry.m2m ⟨src.1, src.2, 1⟩ t)
      some (sizes', new, [src])
    else none
  | .range2slack cs tn vn sd =>
    if cs.1 < st.sizes.length ∧ cs.2 < st.size cs.1 ∧ ¬ cs ∈ st.bridged ∧ isDest cs.1 = false ∧
        tn < st.sizes.length ∧ vn < st.sizes.length ∧ cs.1 ≠ tn ∧ cs.1 ≠ vn ∧ tn ≠ vn then
      some (growTo (growTo st.sizes tn (st.size tn + 1)) vn (st.size vn + 1),
            [.r2s cs (tn, st.size tn) (vn, st.size vn) sd], [cs])
    else none
  | .deliver c dn =>
    if c.1 < st.sizes.length ∧ c.2 < st.size c.1 ∧ ¬ c ∈ st.bridged ∧ isDest c.1 = false ∧ dn < st.sizes.length ∧ c.1 ≠ dn ∧ isDest dn = true then
      some (growTo st.sizes dn (st.size dn + 1), [.copy ⟨c.1, c.2, 1⟩ ⟨dn, st.size dn, 1⟩], [c])
    else none

def BState.apply (isDest : Nat → Bool) (st : BState) (op : BOp) : Option BState :=
  (op.effect isDest st).map (fun r => ⟨r.1, st.entries ++ r.2.1, st.bridged ++ r.2.2⟩)

def build (isDest : Nat → Bool) : List BOp → BState → Option BState
  | [], st => some st
  | op :: ops, st => (st.apply isDest op).bind (build isDest ops)

def Entry.inside (sizes : List Nat) : Entry → Prop
  | .copy s d => s.beg + s.len ≤ sizes.getD s.node 0 ∧ d.beg + d.len ≤ sizes.getD d.node 0
  | .m2m s d => s.beg + s.len ≤ sizes.getD s.node 0 ∧ d.beg + d.len ≤ sizes.getD d.node 0
  | .r2s cs ct vs _ => cs.2 < sizes.getD cs.1 0 ∧ ct.2 < sizes.getD ct.1 0 ∧ vs.2 < sizes.getD vs.1 0

/-- copy entries connect different nodes; the source of a `RangeCon2Slack` entry is zero when loaded, its three cells are on different
    nodes, and no entry registered later writes it in a postsolve run -/
def traceWF (zero : Cell → Bool) : List Entry → Bool
  | [] => true
  | .copy s d :: B => s.node != d.node && traceWF zero B
  | .m2m _ _ :: B => traceWF zero B
  | .r2s cs ct vs _ :: B => zero cs && r2sDistinct cs ct vs && B.all (fun e' => !e'.postWrites cs) && traceWF zero B

/-- following `c` back through a postsolve run reaches a Many2Many-family entry (the item was converted into several items / shares
    items: max-among-non-zero applies, `reachPost`) -/
def hitsM2M : List Entry → Cell → Bool
  | [], _ => false
  | .copy s d :: B, c =>
    if (Entry.copy s d).postWrites c then hitsM2M B (d.node, d.beg + (c.2 - s.beg)) else hitsM2M B c
  | .m2m s d :: B, c => if (Entry.m2m s d).postWrites c then true else hitsM2M B c
  | .r2s cs ct vs sd :: B, c =>
    if (Entry.r2s cs ct vs sd).postWrites c then (hitsM2M B ct || hitsM2M B vs) else hitsM2M B c

end MpVerif.C04
