import MpVerif.C04.Arms
import MpVerif.C04.ModelReg
import MpVerif.C04.ModelBuilder
/-! Line driver for C04.  One op per line; prints one canonical line per op (`bad-op` if not understood).

    graph <nnodes> <size_0> ... <size_{n-1}>     start a new graph (resets entries, bounds, node contents)
    entry copy <sn> <sb> <sl> <dn> <db> <dl>
    entry m2m  <sn> <sb> <sl> <dn> <db> <dl>
    entry r2s <csn> <csi> <ctn> <cti> <vsn> <vsi> <lb> <nlin> (<c> <v>)* <nquad> (<c> <v1> <v2>)*
    bounds <n> (<lb> <ub>)*                      variable bounds of the flat model, `-` = infinite
    wf <sv> <dv> <n>                             -> `wf <inBounds> <wfVars>`
    call <pre|post> <kind> <clampnode|-> <nin> (<node> <len> <v>*)* <nout> <node>*
                                                 -> `ok <node>: v v v | <node>: ...` or `raise`
         node contents persist between calls (each call = `runFromReg prev`: only the registered nodes are cleaned)
    trace <pre|post> <kind> <node> <idx> <nloaded> <node>*   -> symbolic origin of a cell (see Trace.lean)
    round <r> <ismip> <solved> <nint> <0|1>* <nx> <v>*   -> `round <roundCount> <roundStep …>` (mip:round post-processing)
    roundlast <r> <ismip> <solved> <node> <0|1>*        -> the same applied to node <node> of the state the last `call` returned
    wf2 <ndest> <node>*          -> `wf2 <nodesRegistered> <traceWF (zero = not a loaded target node)>`
    arms on | arms report       instrumentation (Arms.lean): count the model arms taken by the following `call`s
    sources <node> <idx> <nloaded> <node>*   -> `sources ok n:i ...` (m2mSourcesRev + srcsUnwritten) | `sources none` | `sources written`
    reach <kind> <unode> <uidx> <tnode> <tidx> <nloaded> <node>*
          -> `reach <reachPost (entries before the first writer of t) u t> <tracePost of t in the remaining entries>`
-/
open MpVerif.C04

def parseRat (s : String) : Option Rat :=
  match s.splitOn "/" with
  | [a] => a.toInt?.map (fun n => (n : Rat))
  | [a, b] => match a.toInt?, b.toNat? with
    | some n, some d => if d = 0 then none else some (mkRat n d)
    | _, _ => none
  | _ => none

def showRat (r : Rat) : String := if r.den = 1 then toString r.num else s!"{r.num}/{r.den}"

def parseKind : String → Option Kind
  | "generic" => some .generic | "sol" => some .sol | "basis" => some .basis
  | "iis" => some .iis | "lazy" => some .lazy | _ => none

def parseDir : String → Option Dir
  | "pre" => some .pre | "post" => some .post | _ => none

structure DState where
  g : Graph := ⟨[], []⟩
  lbs : List (Option Rat) := []
  ubs : List (Option Rat) := []
  prev : St := ⟨fun _ => 0⟩
  arms : Counts := []
  countArms : Bool := false

def nats (l : List String) : Option (List Nat) := l.mapM String.toNat?
def rats (l : List String) : Option (List Rat) := l.mapM parseRat

/-- parse `<node> <len> v*` groups -/
partial def parseInputs : Nat → List String → Option (List (Nat × List Rat) × List String)
  | 0, rest => some ([], rest)
  | k + 1, n :: len :: rest => do
    let n ← n.toNat?
    let len ← len.toNat?
    if rest.length < len then none
    let vs ← rats (rest.take len)
    let (more, rest') ← parseInputs k (rest.drop len)
    pure ((n, vs) :: more, rest')
  | _, _ => none

def parseBound (s : String) : Option (Option Rat) := if s = "-" then some none else (parseRat s).map some

partial def parseBounds : List String → Option (List (Option Rat) × List (Option Rat))
  | [] => some ([], [])
  | a :: b :: rest => do
    let l ← parseBound a
    let u ← parseBound b
    let (ls, us) ← parseBounds rest
    pure (l :: ls, u :: us)
  | _ => none

partial def parseLin : Nat → List String → Option (List (Rat × Nat) × List String)
  | 0, rest => some ([], rest)
  | k + 1, c :: v :: rest => do
    let c ← parseRat c
    let v ← v.toNat?
    let (more, rest') ← parseLin k rest
    pure ((c, v) :: more, rest')
  | _, _ => none

partial def parseQuad : Nat → List String → Option (List (Rat × Nat × Nat) × List String)
  | 0, rest => some ([], rest)
  | k + 1, c :: v1 :: v2 :: rest => do
    let c ← parseRat c
    let v1 ← v1.toNat?
    let v2 ← v2.toNat?
    let (more, rest') ← parseQuad k rest
    pure ((c, v1, v2) :: more, rest')
  | _, _ => none

def handle (st : DState) (toks : List String) : DState × String :=
  match toks with
  | "graph" :: n :: sizes =>
    match n.toNat?, nats sizes with
    | some n, some sz => if sz.length = n then ({ g := ⟨[], sz⟩, arms := st.arms, countArms := st.countArms }, "graph") else (st, "bad-op")
    | _, _ => (st, "bad-op")
  | ["entry", kind, sn, sb, sl, dn, db, dl] =>
    match nats [sn, sb, sl, dn, db, dl] with
    | some [sn, sb, sl, dn, db, dl] =>
      let s : Rng := ⟨sn, sb, sl⟩
      let d : Rng := ⟨dn, db, dl⟩
      if kind = "copy" then ({ st with g := { st.g with entries := st.g.entries ++ [.copy s d] } }, "entry")
      else if kind = "m2m" then ({ st with g := { st.g with entries := st.g.entries ++ [.m2m s d] } }, "entry")
      else (st, "bad-op")
    | _ => (st, "bad-op")
  | "entry" :: "r2s" :: csn :: csi :: ctn :: cti :: vsn :: vsi :: lb :: nlin :: rest =>
    match nats [csn, csi, ctn, cti, vsn, vsi, nlin], parseRat lb with
    | some [csn, csi, ctn, cti, vsn, vsi, nlin], some lb =>
      match parseLin nlin rest with
      | some (lin, nq :: rest') =>
        match nq.toNat? with
        | some nq =>
          match parseQuad nq rest' with
          | some (quad, []) =>
            ({ st with g := { st.g with entries := st.g.entries ++ [.r2s (csn, csi) (ctn, cti) (vsn, vsi) ⟨lin, quad, lb⟩] } }, "entry")
          | _ => (st, "bad-op")
        | none => (st, "bad-op")
      | _ => (st, "bad-op")
    | _, _ => (st, "bad-op")
  | "bounds" :: n :: rest =>
    match n.toNat?, parseBounds rest with
    | some n, some (ls, us) => if ls.length = n then ({ st with lbs := ls, ubs := us }, "bounds") else (st, "bad-op")
    | _, _ => (st, "bad-op")
  | ["wf", sv, dv, n] =>
    match nats [sv, dv, n] with
    | some [sv, dv, n] => (st, s!"wf {if st.g.inBounds then 1 else 0} {if st.g.wfVarsExact sv dv n then 1 else 0}")
    | _ => (st, "bad-op")
  | "call" :: dir :: kind :: clamp :: nin :: rest =>
    match parseDir dir, parseKind kind, nin.toNat? with
    | some dir, some kind, some nin =>
      match parseInputs nin rest with
      | some (inputs, nout :: outs) =>
        match nout.toNat?, nats outs with
        | some nout, some outs =>
          if outs.length ≠ nout then (st, "bad-op") else
          let r := runFromReg st.g st.prev ⟨dir, kind, inputs⟩
          let st := if st.countArms then { st with arms := armsOfCall st.g ⟨dir, kind, inputs⟩ st.arms } else st
          match r with
          | none => (st, "raise")            -- node contents after a raise are unspecified; next call cleans them
          | some S =>
            let clampNode : Option Nat := clamp.toNat?
            let st := match clampNode with
              | some n => if st.countArms then { st with arms := clampArms st.lbs st.ubs (readNode S n (st.g.size n)) st.arms } else st
              | none => st
            let line := outs.map (fun n =>
              let v := readNode S n (st.g.size n)
              let v := if clampNode = some n then clampVec st.lbs st.ubs v else v
              s!"{n}: " ++ " ".intercalate (v.map showRat))
            ({ st with prev := S }, "ok " ++ " | ".intercalate line)
        | _, _ => (st, "bad-op")
      | _ => (st, "bad-op")
    | _, _, _ => (st, "bad-op")
  | "trace" :: dir :: kind :: node :: idx :: nl :: loaded =>
    match parseDir dir, parseKind kind, nats [node, idx, nl], nats loaded with
    | some dir, some kind, some [node, idx, nl], some loaded =>
      if loaded.length ≠ nl then (st, "bad-op") else
      let zero : Cell → Bool := fun c => !loaded.contains c.1
      let o := match dir with
        | .post => tracePost kind zero st.g.entries (node, idx)
        | .pre => tracePre kind zero st.g.entries.reverse (node, idx)
      (st, "trace " ++ (match o with | some o => o.show | none => "none"))
    | _, _, _, _ => (st, "bad-op")
  | "sources" :: tn :: ti :: nl :: loaded =>
    match nats [tn, ti, nl], nats loaded with
    | some [tn, ti, nl], some loaded =>
      if loaded.length ≠ nl then (st, "bad-op") else
      let zero : Cell → Bool := fun c => !loaded.contains c.1
      match m2mSourcesRev zero st.g.entries.reverse (tn, ti) with
      | some us => if srcsUnwritten st.g.entries us then
            (st, "sources ok " ++ " ".intercalate (us.map (fun u => s!"{u.1}:{u.2}")))
          else (st, "sources written")
      | none => (st, "sources none")
    | _, _ => (st, "bad-op")
  | "reach" :: kind :: un :: ui :: tn :: ti :: nl :: loaded =>
    match parseKind kind, nats [un, ui, tn, ti, nl], nats loaded with
    | some kind, some [un, ui, tn, ti, nl], some loaded =>
      if loaded.length ≠ nl then (st, "bad-op") else
      let zero : Cell → Bool := fun c => !loaded.contains c.1
      let t : Cell := (tn, ti)
      let a := st.g.entries.takeWhile (fun e => !e.postWrites t)
      let b := st.g.entries.dropWhile (fun e => !e.postWrites t)
      let o := tracePost kind zero b t
      (st, s!"reach {if reachPost a (un, ui) t then 1 else 0} " ++ (match o with | some o => o.show | none => "none"))
    | _, _, _ => (st, "bad-op")
  | "round" :: r :: ismip :: solved :: nint :: rest =>
    match r.toInt?, ismip.toNat?, solved.toNat?, nint.toNat? with
    | some r, some ismip, some solved, some nint =>
      match nats (rest.take nint), (rest.drop nint) with
      | some bs, nx :: xs =>
        match nx.toNat?, rats xs with
        | some nx, some xs =>
          if xs.length ≠ nx || bs.length ≠ nint then (st, "bad-op") else
          let isInt := bs.map (· != 0)
          let v := roundStep r (ismip != 0) (solved != 0) isInt xs
          (st, s!"round {roundCount isInt xs} " ++ " ".intercalate (v.map showRat))
        | _, _ => (st, "bad-op")
      | _, _ => (st, "bad-op")
    | _, _, _, _ => (st, "bad-op")
  | "roundlast" :: r :: ismip :: solved :: node :: bits =>
    match r.toInt?, nats [ismip, solved, node], nats bits with
    | some r, some [ismip, solved, node], some bs =>
      let isInt := bs.map (· != 0)
      let x := readNode st.prev node (st.g.size node)
      let v := roundStep r (ismip != 0) (solved != 0) isInt x
      (st, s!"round {roundCount isInt x} " ++ " ".intercalate (v.map showRat))
    | _, _, _ => (st, "bad-op")
  | "wf2" :: nd :: dest =>
    match nd.toNat?, nats dest with
    | some nd, some dest =>
      if dest.length ≠ nd then (st, "bad-op") else
      (st, s!"wf2 {if st.g.nodesRegistered then 1 else 0} {if traceWF (fun c => !dest.contains c.1) st.g.entries then 1 else 0}")
    | _, _ => (st, "bad-op")
  | ["arms", "on"] => ({ st with countArms := true }, "arms on")
  | ["arms", "report"] => (st, "arms " ++ " ".intercalate (st.arms.map (fun kv => s!"{kv.1}={kv.2}")))
  | _ => (st, "bad-op")

partial def loop (h out : IO.FS.Stream) (st : DState) : IO Unit := do
  let line ← h.getLine
  if line.isEmpty then return ()
  let toks := (line.trimAscii.toString.splitOn " ").filter (· ≠ "")
  let (st', res) := handle st toks
  out.putStrLn res
  out.flush
  loop h out st'

def main : IO Unit := do
  loop (← IO.getStdin) (← IO.getStdout) {}
