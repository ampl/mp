import MpVerif.C04.Model
/-! Frame properties and closed forms of the entry semantics. -/
namespace MpVerif.C04

@[simp] theorem St.set_same (S : St) (c : Cell) (v : Val) : (S.set c v) c = v := by
  simp [St.set]

theorem St.set_other (S : St) {c c' : Cell} (v : Val) (h : c' ≠ c) : (S.set c v) c' = S c' := by
  simp [St.set, h]

theorem St.setNum_other (S : St) {c c' : Cell} (v : Val) (h : c' ≠ c) : (S.setNum c v) c' = S c' :=
  S.set_other _ h

@[simp] theorem St.setNum_same (S : St) (c : Cell) (v : Val) : (S.setNum c v) c = setNumVal (S c) v :=
  S.set_same ..

@[simp] theorem setNumVal_zero (v : Val) : setNumVal 0 v = v := by
  simp [setNumVal]

theorem Rng.has_iff (r : Rng) (c : Cell) : r.has c = true ↔ c.1 = r.node ∧ r.beg ≤ c.2 ∧ c.2 < r.beg + r.len := by
  simp [Rng.has, and_assoc]

theorem Rng.has_false_iff (r : Rng) (c : Cell) : r.has c = false ↔ ¬ (c.1 = r.node ∧ r.beg ≤ c.2 ∧ c.2 < r.beg + r.len) := by
  rw [← Rng.has_iff]; simp

theorem Rng.has_offset {r : Rng} {c : Cell} (h : r.has c = true) : c = (r.node, r.beg + (c.2 - r.beg)) ∧ c.2 - r.beg < r.len := by
  obtain ⟨h1, h2, h3⟩ := (r.has_iff c).mp h
  exact ⟨Prod.ext h1 (by simp only; omega), by omega⟩

theorem Rng.has_of_lt (r : Rng) {a : Nat} (ha : a < r.len) : r.has (r.node, r.beg + a) = true :=
  (r.has_iff _).mpr ⟨rfl, Nat.le_add_right .., Nat.add_lt_add_left ha _⟩

theorem Rng.ne_of_has_false {r : Rng} {c : Cell} (h : r.has c = false) {a : Nat} (ha : a < r.len) : c ≠ (r.node, r.beg + a) := by
  rintro rfl
  rw [r.has_of_lt ha] at h
  cases h

/-- a loop whose every pass leaves cell `c` alone leaves it alone -/
theorem foldl_frame {α : Type} (f : St → α → St) (c : Cell) (l : List α) (h : ∀ a ∈ l, ∀ S, (f S a) c = S c) (S : St) :
    (l.foldl f S) c = S c :=
  List.foldlRecOn (motive := fun T => T c = S c) l f rfl fun T hT a ha => (h a ha T).trans hT

theorem foldl_congr_mem {α β : Type} (f g : β → α → β) (l : List α) (S : β) (h : ∀ e ∈ l, ∀ S, f S e = g S e) :
    l.foldl f S = l.foldl g S :=
  List.foldl_rel rfl fun e he S _ hS => hS ▸ h e he S

theorem copyRange_succ (S : St) (sn sb dn db len : Nat) :
    copyRange S sn sb dn db (len + 1) =
      (copyRange S sn sb dn db len).set (dn, db + len) ((copyRange S sn sb dn db len) (sn, sb + len)) := by
  simp [copyRange, List.range_succ, List.foldl_append]

theorem copyRange_frame {S : St} {sn sb dn db len : Nat} {c : Cell}
    (h : (⟨dn, db, len⟩ : Rng).has c = false) : copyRange S sn sb dn db len c = S c :=
  foldl_frame _ c _ (fun _ hj S => S.set_other _ (Rng.ne_of_has_false h (List.mem_range.mp hj))) S

/-- a loop whose pass `b` writes cell `(dn, db + b)` with a value that does not depend on the cells written before it:
    afterwards the cell holds that value as computed from the initial state -/
theorem foldl_write_spec (dn db : Nat) (v : St → Nat → Val) (S : St) (n : Nat)
    (hv : ∀ j (T : St), (∀ c : Cell, (∀ b < j, c ≠ (dn, db + b)) → T c = S c) → v T j = v S j)
    (j : Nat) (hj : j < n) :
    ((List.range n).foldl (fun T b => T.set (dn, db + b) (v T b)) S) (dn, db + j) = v S j := by
  induction n with
  | zero => omega
  | succ n ih =>
    rw [List.range_succ, List.foldl_append, List.foldl_cons, List.foldl_nil]
    by_cases hjn : j = n
    · subst hjn
      rw [St.set_same]
      exact hv j _ fun c hc => foldl_frame _ c _ (fun b hb T => T.set_other _ (hc b (List.mem_range.mp hb))) S
    · rw [St.set_other _ _ (by simpa using hjn)]
      exact ih (by omega)

theorem copyRange_spec (S : St) (sn sb dn db len : Nat) (hne : sn ≠ dn) (j : Nat) (hj : j < len) :
    copyRange S sn sb dn db len (dn, db + j) = S (sn, sb + j) :=
  foldl_write_spec dn db (fun T b => T (sn, sb + b)) S len
    (fun _ _ hT => hT _ fun _ _ h => hne (congrArg Prod.fst h)) j hj

/-- `postEntry` of `copy s d` is this for `copy d s` -/
theorem copyRange_at (S : St) (s d : Rng) (hne : s.node ≠ d.node) (c : Cell) (hw : (Entry.copy s d).preWrites c = true) :
    copyRange S s.node s.beg d.node d.beg s.len c = S (s.node, s.beg + (c.2 - d.beg)) := by
  obtain ⟨hc, hj⟩ := Rng.has_offset (r := ⟨d.node, d.beg, s.len⟩) hw
  exact (congrArg _ hc).trans (copyRange_spec S _ _ _ _ _ hne _ hj)

theorem collectInto_frame {S : St} {c : Cell} {r : Rng} {c' : Cell} (h : c' ≠ c) :
    collectInto S c r c' = S c' :=
  foldl_frame _ c' _ (fun _ _ S => S.setNum_other _ h) S

theorem collectAll_frame {S : St} {w r : Rng} {c : Cell} (h : w.has c = false) :
    collectAll S w r c = S c :=
  foldl_frame _ c _ (fun _ ha S => collectInto_frame (Rng.ne_of_has_false h (List.mem_range.mp ha))) S

theorem distrAll_frame {S : St} {r w : Rng} {c : Cell} (h : w.has c = false) :
    distrAll S r w c = S c :=
  foldl_frame _ c _ (fun _ _ S => foldl_frame _ c _
    (fun _ hb S => S.setNum_other _ (Rng.ne_of_has_false h (List.mem_range.mp hb))) S) S

theorem postEntry_frame {k : Kind} {e : Entry} {S S' : St} {c : Cell}
    (hw : e.postWrites c = false) (h : postEntry k e S = some S') : S' c = S c := by
  cases e with
  | copy s d => cases h; exact copyRange_frame hw
  | m2m s d => cases h; exact collectAll_frame hw
  | r2s cs ct vs sd =>
    have hc : c ≠ cs := by simpa [Entry.postWrites] using hw
    cases k
    case iis =>
      obtain ⟨v, -, rfl⟩ := Option.map_eq_some_iff.mp h
      exact S.setNum_other _ hc
    all_goals cases h; simp [St.setNum_other _ _ hc]

theorem preEntry_frame {k : Kind} {e : Entry} {S : St} {c : Cell}
    (hw : e.preWrites c = false) : preEntry k e S c = S c := by
  cases e with
  | copy s d => exact copyRange_frame hw
  | m2m s d => exact distrAll_frame hw
  | r2s cs ct vs sd =>
    obtain ⟨h1, h2⟩ : c ≠ ct ∧ c ≠ vs := by simpa [Entry.preWrites] using hw
    cases k <;> simp [preEntry, St.setNum_other _ _ h1, St.setNum_other _ _ h2]

theorem runEntriesPost_append (k : Kind) (as bs : List Entry) (S : St) :
    runEntriesPost k (as ++ bs) S = (runEntriesPost k as S).bind (runEntriesPost k bs) := by
  induction as generalizing S with
  | nil => rfl
  | cons a as ih => simp only [List.cons_append, runEntriesPost, Option.bind_assoc, funext ih]

theorem runEntriesPost_of_total (k : Kind) (f : St → Entry → St) (l : List Entry) (S : St)
    (h : ∀ e ∈ l, ∀ S, postEntry k e S = some (f S e)) : runEntriesPost k l S = some (l.foldl f S) := by
  induction l generalizing S with
  | nil => rfl
  | cons a l ih =>
    simp only [runEntriesPost, List.foldl_cons]
    rw [h a (by simp)]
    exact ih _ (fun e he => h e (by simp [he]))

theorem runPost_append (k : Kind) (A B : List Entry) (S : St) :
    runPost k (A ++ B) S = (runPost k B S).bind (runPost k A) := by
  simp only [runPost, List.reverse_append, runEntriesPost_append]
  rfl

theorem runPost_cons (k : Kind) (e : Entry) (B : List Entry) (S : St) :
    runPost k (e :: B) S = (runPost k B S).bind (postEntry k e) := by
  simp only [runPost, List.reverse_cons, runEntriesPost_append]
  congr 1
  funext S1
  simp [runEntriesPost]

theorem runPost_nil (k : Kind) (S : St) : runPost k [] S = some S := rfl

theorem runPost_frame (k : Kind) (es : List Entry) (S S' : St) (c : Cell)
    (hw : ∀ e ∈ es, e.postWrites c = false) (h : runPost k es S = some S') : S' c = S c := by
  induction es generalizing S' with
  | nil => cases h; rfl
  | cons e B ih =>
    rw [runPost_cons] at h
    obtain ⟨S1, hB, h⟩ := Option.bind_eq_some_iff.mp h
    rw [postEntry_frame (hw e (List.mem_cons_self ..)) h]
    exact ih S1 (fun e he => hw e (List.mem_cons_of_mem _ he)) hB

theorem runPre_snoc (k : Kind) (e : Entry) (B : List Entry) (S : St) :
    runPre k (B ++ [e]) S = preEntry k e (runPre k B S) := by
  simp [runPre, List.foldl_append]

theorem runPre_cons (k : Kind) (e : Entry) (B : List Entry) (S : St) :
    runPre k (e :: B) S = runPre k B (preEntry k e S) := rfl

theorem runPre_frame (k : Kind) (es : List Entry) (S : St) (c : Cell)
    (hw : ∀ e ∈ es, e.preWrites c = false) : runPre k es S c = S c :=
  foldl_frame _ c es (fun e he S => preEntry_frame (hw e he)) S

theorem postEntry_total (k : Kind) (hk : k ≠ .iis) (e : Entry) (S : St) : ∃ S', postEntry k e S = some S' := by
  cases e with
  | copy s d => exact ⟨_, rfl⟩
  | m2m s d => exact ⟨_, rfl⟩
  | r2s cs ct vs sd => cases k <;> first | exact ⟨_, rfl⟩ | exact absurd rfl hk

/-- the states an entry meets in a run differ from the initial one only in cells some entry writes (`runPost_frame`), so the run returns
    when every entry returns on such states: whether a run raises depends on its read-only cells alone -/
theorem runPost_returns (k : Kind) (es : List Entry) (S : St)
    (h : ∀ e ∈ es, ∀ T : St, (∀ c, (∀ e' ∈ es, e'.postWrites c = false) → T c = S c) → ∃ S', postEntry k e T = some S') :
    ∃ S', runPost k es S = some S' := by
  induction es with
  | nil => exact ⟨S, rfl⟩
  | cons e B ih =>
    obtain ⟨S1, h1⟩ := ih fun e' he' T hT =>
      h e' (List.mem_cons_of_mem _ he') T fun c hc => hT c (List.forall_mem_cons.mp hc).2
    rw [runPost_cons, h1]
    exact h e (List.mem_cons_self ..) S1 fun c hc => runPost_frame k B S S1 c (List.forall_mem_cons.mp hc).2 h1

theorem runPost_total (k : Kind) (hk : k ≠ .iis) (es : List Entry) (S : St) : ∃ S', runPost k es S = some S' :=
  runPost_returns k es S fun e _ T _ => postEntry_total k hk e T

theorem srcNodes_not_postWrites (e : Entry) (n j : Nat) (h : e.srcNodes.contains n = false) :
    e.postWrites (n, j) = false := by
  have hn : ∀ m : Nat, [m].contains n = false → n ≠ m := by simp
  cases e with
  | copy s d => exact (Rng.has_false_iff _ _).mpr fun h1 => hn _ h h1.1
  | m2m s d => exact (Rng.has_false_iff _ _).mpr fun h1 => hn _ h h1.1
  | r2s cs ct vs sd => exact beq_eq_false_iff_ne.mpr fun hc => hn _ h (congrArg Prod.fst hc)

/-- H1–H3 unpacked: the first entry is the copy of the variables, and what the other entries may not do -/
theorem Graph.wfVars_elim {g : Graph} {sv dv n : Nat} (h : g.wfVars sv dv n = true) :
    ∃ rest, g.entries = .copy ⟨sv, 0, n⟩ ⟨dv, 0, n⟩ :: rest ∧ sv ≠ dv ∧ n ≤ g.size dv ∧
      ∀ e ∈ rest, e.srcNodes.contains sv = false ∧ e.srcNodes.contains dv = false ∧
        ∀ j < n, e.preWrites (dv, j) = false := by
  unfold Graph.wfVars at h
  split at h
  · rename_i s d rest hes
    simp only [Bool.and_eq_true, beq_iff_eq, bne_iff_ne, ne_eq, decide_eq_true_eq, List.all_eq_true,
      Bool.not_eq_eq_eq_not, Bool.not_true, List.mem_range] at h
    obtain ⟨⟨⟨⟨rfl, rfl⟩, hne⟩, hn⟩, hrest⟩ := h
    exact ⟨rest, hes, hne, hn, fun e he => ⟨(hrest e he).1.1, (hrest e he).1.2, (hrest e he).2⟩⟩
  · cases h

theorem loadInto_of_lookup {S : St} {sizes : Nat → Nat} {inputs : List (Nat × List Val)} {n : Nat} {x : List Val}
    (h : inputs.lookup n = some x) (j : Nat) : loadInto S sizes inputs (n, j) = resized x (sizes n) j := by
  simp [loadInto, h]

theorem loadInto_of_not_lookup {S : St} {sizes : Nat → Nat} {inputs : List (Nat × List Val)} {c : Cell}
    (h : inputs.lookup c.1 = none) : loadInto S sizes inputs c = S c := by
  simp [loadInto, h]

theorem loaded_zero (prev : St) (sizes : Nat → Nat) (inputs : List (Nat × List Val)) (zero : Cell → Bool)
    (hz : ∀ c, zero c = true → inputs.lookup c.1 = none) :
    ∀ c, zero c = true → loadInto (clean prev) sizes inputs c = 0 := by
  intro c hc
  rw [loadInto_of_not_lookup (hz c hc)]
  rfl

theorem absVal_eq_zero (z : Val) (h : absVal z = 0) : z = 0 := by
  unfold absVal at h
  split at h
  · grind
  · exact h

theorem map_getD_range (x : List Val) : (List.range x.length).map (fun j => x.getD j 0) = x := by
  apply List.ext_getElem
  · simp
  · intro i h1 h2
    simp [List.getD_eq_getElem?_getD, h2]

end MpVerif.C04
