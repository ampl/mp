/-
  Micro-language for the CONTROL STRUCTURE of the value presolver, the target of `translators/gen_valcvt.py`:

  * `RunStmt`   — the statements of `ValuePresolverImpl::RunPresolve / RunPostsolve` (clean the nodes, load the argument, loop over the
                  link ranges in a direction calling `fn`, return a side);
  * `HelperProg`— the range helpers of `CopyLink` (`CopySrcDest`, `CopyDestSrc`) and `Many2ManyLink` (`DistributeFromSrc2Dest`,
                  `CollectFromDest2Src`): direction of the loop over the entries of the range, function called per entry, which of
                  `br.first` / `br.second` is passed as 1st / 2nd argument;
  * `M2MWrites` — which parameter of `Distr(nr1, nr2)` / `Collect(nr1, nr2)` receives `SetVal`;
  * `IndivLoop` — the macro-generated loops of `BasicIndivEntryLink` (`RangeCon2Slack`'s base): direction, per-entry method called.

  The interpreter `execRun` gives these programmes a meaning on the model's state; `Props.lean` proves that the GENERATED programmes mean
  exactly `runFromReg` (for every graph, memory and call).
-/
import MpVerif.C04.ModelReg

namespace MpVerif.C04

inductive LoopDir | fwd | bwd
deriving DecidableEq, Repr

inductive Side | src | dest
deriving DecidableEq, Repr

inductive RunStmt
  | cleanNodes                  -- `CleanUpValueNodes();`
  | load (s : Side)             -- `src_ = mv;` / `dest_ = mv;`
  | loopRanges (d : LoopDir)    -- `for (br : brl_) (br.b_.*fn)(br.ir_);` / the same with `rbegin()..rend()`
  | ret (s : Side)              -- `return dest_;` / `return src_;`
deriving DecidableEq, Repr

inductive EPos | first | second
deriving DecidableEq, Repr

inductive Prim | copy | distr | collect
deriving DecidableEq, Repr

structure HelperProg where
  dir : LoopDir
  prim : Prim
  a : EPos
  b : EPos
deriving DecidableEq, Repr

inductive NParam | nr1 | nr2
deriving DecidableEq, Repr

structure M2MWrites where
  distr : NParam
  collect : NParam
deriving DecidableEq, Repr

/-- everything the translator extracts about the control structure -/
structure RunTables where
  runPre : List RunStmt
  runPost : List RunStmt
  /-- (class, method, programme of the helper the method calls) for `CopyLink` and `Many2ManyLink` -/
  linkProgs : List (String × String × HelperProg)
  writes : M2MWrites
  /-- `BasicIndivEntryLink`: (method, loop direction, per-entry method called) -/
  indivLoops : List (String × LoopDir × String)
  /-- public methods of `ValuePresolverImpl`: (method, run function it calls, `BasicLink` method whose pointer it passes as `fn`) -/
  entryPoints : List (String × String × String)

def kindName : Kind → String
  | .generic => "GenericDbl"
  | .sol => "Solution"
  | .basis => "Basis"
  | .iis => "IIS"
  | .lazy => "LazyUserCutFlags"

def dirName : Dir → String
  | .pre => "Presolve"
  | .post => "Postsolve"

/-- the public method of `ValuePresolverImpl` a call of the model stands for; also the name of the `BasicLink` method of that kind -/
def methodName (d : Dir) (k : Kind) : String := dirName d ++ kindName k

def orderBy {α : Type} (d : LoopDir) (l : List α) : List α :=
  match d with
  | .fwd => l
  | .bwd => l.reverse

def selPos (p : EPos) (first second : Rng) : Rng :=
  match p with
  | .first => first
  | .second => second

def selParam (p : NParam) (nr1 nr2 : Rng) : Rng :=
  match p with
  | .nr1 => nr1
  | .nr2 => nr2

/-- `Distr<T>(nr1, nr2)`: outer loop over `nr1`, inner over `nr2`, `SetVal(i, val)` on the node of the WRITTEN parameter -/
def distrGen (S : St) (nr1 nr2 : Rng) (wnode : Nat) : St :=
  (List.range nr1.len).foldl (fun S a =>
    (List.range nr2.len).foldl (fun S b => S.setNum (wnode, nr2.beg + b) (S (nr1.node, nr1.beg + a))) S) S

/-- `Collect<T>(nr1, nr2)`: outer loop over `nr1`, inner over `nr2`, `SetVal(i0, vec2.at(i))` on the node of the WRITTEN parameter -/
def collectGen (S : St) (nr1 nr2 : Rng) (wnode : Nat) : St :=
  (List.range nr1.len).foldl (fun S a =>
    (List.range nr2.len).foldl (fun S b => S.setNum (wnode, nr1.beg + a) (S (nr2.node, nr2.beg + b))) S) S

/-- one per-entry call of a range helper -/
def execPrim (w : M2MWrites) (p : HelperProg) (first second : Rng) (S : St) : St :=
  let A := selPos p.a first second
  let B := selPos p.b first second
  match p.prim with
  | .copy => copyRange S A.node A.beg B.node B.beg A.len
  | .distr => distrGen S A B (selParam w.distr A B).node
  | .collect => collectGen S A B (selParam w.collect A B).node

/-- the link class an entry of the model belongs to -/
inductive Cls | copyLink | m2mLink | r2sLink
deriving DecidableEq, Repr

def Entry.cls : Entry → Cls
  | .copy _ _ => .copyLink
  | .m2m _ _ => .m2mLink
  | .r2s _ _ _ _ => .r2sLink

def Cls.name : Cls → String
  | .copyLink => "CopyLink"
  | .m2mLink => "Many2ManyLink"
  | .r2sLink => "RangeCon2Slack"

/-- a link range of `brl_`: a link object (its class) and the entries of its index range -/
structure LRange where
  cls : Cls
  entries : List Entry
deriving Repr

def LRange.wf (r : LRange) : Bool := r.entries.all (fun e => e.cls == r.cls)

def lookupProg (T : RunTables) (c : Cls) (m : String) : Option HelperProg :=
  (T.linkProgs.find? (fun t => t.1 == c.name && t.2.1 == m)).map (·.2.2)

def lookupIndiv (T : RunTables) (m : String) : Option (LoopDir × String) :=
  (T.indivLoops.find? (fun t => t.1 == m)).map (·.2)

def execHelperEntry (w : M2MWrites) (p : HelperProg) (e : Entry) (S : St) : St :=
  match e with
  | .copy s d => execPrim w p s d S
  | .m2m s d => execPrim w p s d S
  | .r2s _ _ _ _ => S

/-- `(br.b_.*fn)(br.ir_)` for one link range, `fn` = the NAME of the `BasicLink` method whose pointer was passed: virtual dispatch on
    the class of the link; `none` = not translatable / raises.  The per-entry methods of `RangeCon2Slack` have the meaning of the
    model's `preEntry k` / `postEntry k` exactly when they are the `<dir><kind>Entry` ones (`C04_gen_r2s_presolve/_postsolve`). -/
def execRange (T : RunTables) (fn : String) (d : Dir) (k : Kind) (r : LRange) (S : St) : Option St :=
  match r.cls with
  | .r2sLink =>
    match lookupIndiv T fn with
    | none => none
    | some (ld, callee) =>
      if callee = methodName d k ++ "Entry" then
        match d with
        | .pre => some ((orderBy ld r.entries).foldl (fun S e => preEntry k e S) S)
        | .post => runEntriesPost k (orderBy ld r.entries) S
      else none
  | c =>
    match lookupProg T c fn with
    | none => none
    | some p => some ((orderBy p.dir r.entries).foldl (fun S e => execHelperEntry T.writes p e S) S)

def execRanges (T : RunTables) (fn : String) (d : Dir) (k : Kind) : List LRange → St → Option St
  | [], S => some S
  | r :: rs, S => (execRange T fn d k r S).bind (execRanges T fn d k rs)

/-- the side the argument of a call is loaded to / the result is read from -/
def Dir.inSide : Dir → Side
  | .pre => .src
  | .post => .dest
def Dir.outSide : Dir → Side
  | .pre => .dest
  | .post => .src

/-- run the statements; the result is the memory at `return` (`none`: raised, no `return`, or a side that is not the call's) -/
def execStmts (T : RunTables) (g : Graph) (ranges : List LRange) (fn : String) (c : Call) : List RunStmt → St → Option St
  | [], _ => none
  | .cleanNodes :: rest, S => execStmts T g ranges fn c rest (cleanReg g S)
  | .load s :: rest, S => if s = c.dir.inSide then execStmts T g ranges fn c rest (loadInto S g.size c.inputs) else none
  | .loopRanges d :: rest, S => (execRanges T fn c.dir c.kind (orderBy d ranges) S).bind (execStmts T g ranges fn c rest)
  | .ret s :: _, S => if s = c.dir.outSide then some S else none

def lookupEntry (T : RunTables) (m : String) : Option (String × String) :=
  (T.entryPoints.find? (fun t => t.1 == m)).map (·.2)

/-- the body of the run function a public method names -/
def runProg (T : RunTables) (run : String) : Option (List RunStmt) :=
  if run = "RunPresolve" then some T.runPre else if run = "RunPostsolve" then some T.runPost else none

/-- a call of the public method `<dir><kind>(mv)`: its translated body `return <run>(&BasicLink::<fn>, mv);` says which run function
    is executed and which link method is applied to every range -/
def execRun (T : RunTables) (sizes : List Nat) (ranges : List LRange) (prev : St) (c : Call) : Option St :=
  let g : Graph := ⟨(ranges.map (·.entries)).flatten, sizes⟩
  match lookupEntry T (methodName c.dir c.kind) with
  | none => none
  | some (run, fn) =>
    match runProg T run with
    | none => none
    | some prog => execStmts T g ranges fn c prog prev

end MpVerif.C04
