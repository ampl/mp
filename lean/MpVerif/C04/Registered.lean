import MpVerif.C04.Lemmas
import MpVerif.C04.ModelReg
/-! An entry reads and writes only its own nodes: states that agree on a set of nodes containing them keep agreeing through a run. -/
namespace MpVerif.C04

theorem Entry.forall_nodes {Q : Nat → Prop} (e : Entry) : (∀ n ∈ e.nodes, Q n) ↔
    match e with
    | .copy s d | .m2m s d => Q s.node ∧ Q d.node
    | .r2s cs ct vs _ => Q cs.1 ∧ Q ct.1 ∧ Q vs.1 := by
  cases e <;> simp [Entry.nodes]

def AgreeOn (P : Nat → Bool) (S T : St) : Prop := ∀ c : Cell, P c.1 = true → S c = T c

theorem AgreeOn.set {P : Nat → Bool} {S T : St} (h : AgreeOn P S T) (c : Cell) (v : Val) :
    AgreeOn P (S.set c v) (T.set c v) := by
  intro c' hc'
  by_cases he : c' = c
  · subst he; simp
  · rw [St.set_other _ _ he, St.set_other _ _ he]; exact h c' hc'

theorem AgreeOn.setNum {P : Nat → Bool} {S T : St} (h : AgreeOn P S T) (c : Cell) (hc : P c.1 = true) (v : Val) :
    AgreeOn P (S.setNum c v) (T.setNum c v) := by
  unfold St.setNum
  rw [h c hc]
  exact h.set c _

theorem AgreeOn.copyRange {P : Nat → Bool} {S T : St} (h : AgreeOn P S T) (sn sb dn db len : Nat) (hs : P sn = true) :
    AgreeOn P (copyRange S sn sb dn db len) (copyRange T sn sb dn db len) :=
  List.foldl_rel h fun j _ S T h => by rw [h (sn, sb + j) hs]; exact h.set _ _

theorem AgreeOn.collectInto {P : Nat → Bool} {S T : St} (h : AgreeOn P S T) (c : Cell) (r : Rng)
    (hc : P c.1 = true) (hr : P r.node = true) : AgreeOn P (collectInto S c r) (collectInto T c r) :=
  List.foldl_rel h fun b _ S T h => by rw [h (r.node, r.beg + b) hr]; exact h.setNum c hc _

theorem AgreeOn.collectAll {P : Nat → Bool} {S T : St} (h : AgreeOn P S T) (w r : Rng)
    (hw : P w.node = true) (hr : P r.node = true) : AgreeOn P (collectAll S w r) (collectAll T w r) :=
  List.foldl_rel h fun a _ _ _ h => h.collectInto (w.node, w.beg + a) r hw hr

theorem AgreeOn.distrAll {P : Nat → Bool} {S T : St} (h : AgreeOn P S T) (r w : Rng)
    (hr : P r.node = true) (hw : P w.node = true) : AgreeOn P (distrAll S r w) (distrAll T r w) :=
  List.foldl_rel h fun a _ _ _ h =>
    List.foldl_rel h fun b _ S T h => by rw [h (r.node, r.beg + a) hr]; exact h.setNum (w.node, w.beg + b) hw _

theorem AgreeOn.lowerSlack {P : Nat → Bool} {S T : St} (h : AgreeOn P S T) (vn : Nat) (hv : P vn = true) (sd : SlackData) :
    lowerSlack S vn sd = lowerSlack T vn sd := by
  unfold MpVerif.C04.lowerSlack
  rw [foldl_congr_mem _ _ sd.lin 0 fun t _ a => by rw [h (vn, t.2) hv],
    foldl_congr_mem _ _ sd.quad 0 fun t _ a => by rw [h (vn, t.2.1) hv, h (vn, t.2.2) hv]]

theorem AgreeOn.preEntry {P : Nat → Bool} {S T : St} (h : AgreeOn P S T) (k : Kind) (e : Entry)
    (he : e.nodes.all P = true) : AgreeOn P (preEntry k e S) (preEntry k e T) := by
  have hn := e.forall_nodes.mp (List.all_eq_true.mp he)
  cases e with
  | copy s d => exact h.copyRange _ _ _ _ _ hn.1
  | m2m s d => exact h.distrAll s d hn.1 hn.2
  | r2s cs ct vs sd =>
    obtain ⟨hcs, hct, hvs⟩ := hn
    cases k <;> simp only [MpVerif.C04.preEntry]
    · rw [h cs hcs]; exact (h.setNum ct hct _).setNum vs hvs _
    · rw [h cs hcs]
      have h1 := h.setNum ct hct (T cs)
      rw [h1.lowerSlack vs.1 hvs sd]
      exact h1.setNum vs hvs _
    · rw [h cs hcs]; exact (h.setNum vs hvs _).setNum ct hct _
    · exact h
    · rw [h cs hcs]; exact h.setNum ct hct _

/-- both raise, or both return states that agree on `P` -/
def OptAgree (P : Nat → Bool) : Option St → Option St → Prop
  | none, none => True
  | some S, some T => AgreeOn P S T
  | _, _ => False

theorem AgreeOn.postEntry {P : Nat → Bool} {S T : St} (h : AgreeOn P S T) (k : Kind) (e : Entry)
    (he : e.nodes.all P = true) : OptAgree P (postEntry k e S) (postEntry k e T) := by
  have hn := e.forall_nodes.mp (List.all_eq_true.mp he)
  cases e with
  | copy s d => exact h.copyRange _ _ _ _ _ hn.2
  | m2m s d => exact h.collectAll s d hn.1 hn.2
  | r2s cs ct vs sd =>
    obtain ⟨hcs, hct, hvs⟩ := hn
    cases k <;> simp only [MpVerif.C04.postEntry]
    · have h1 := h.setNum cs hcs (T ct)
      rw [h ct hct, h1 vs hvs]
      exact h1.setNum cs hcs _
    · rw [h ct hct]; exact h.setNum cs hcs _
    · rw [h vs hvs]; exact h.setNum cs hcs _
    · rw [h vs hvs, h ct hct]
      cases iisVal (T vs) (T ct) with
      | none => trivial
      | some v => exact h.setNum cs hcs v
    · exact h

theorem OptAgree.bind {P : Nat → Bool} {a b : Option St} (h : OptAgree P a b) {f : St → Option St}
    (hf : ∀ S T, AgreeOn P S T → OptAgree P (f S) (f T)) : OptAgree P (a.bind f) (b.bind f) :=
  match a, b, h with
  | none, none, _ => trivial
  | some S, some T, h => hf S T h

theorem agree_runPre {P : Nat → Bool} (k : Kind) (es : List Entry) (hes : ∀ e ∈ es, e.nodes.all P = true) :
    ∀ S T : St, AgreeOn P S T → AgreeOn P (runPre k es S) (runPre k es T) :=
  fun _ _ h => List.foldl_rel h fun e he _ _ h => h.preEntry k e (hes e he)

theorem agree_runPost {P : Nat → Bool} (k : Kind) (es : List Entry) (hes : ∀ e ∈ es, e.nodes.all P = true) :
    ∀ S T : St, AgreeOn P S T → OptAgree P (runPost k es S) (runPost k es T) := by
  induction es with
  | nil => intro S T h; exact h
  | cons e B ih =>
    intro S T h
    rw [runPost_cons, runPost_cons]
    exact (ih (fun e' he' => hes e' (List.mem_cons_of_mem _ he')) S T h).bind
      fun _ _ h1 => h1.postEntry k e (hes e (List.mem_cons_self ..))

end MpVerif.C04
