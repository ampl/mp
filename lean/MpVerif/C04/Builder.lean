import MpVerif.C04.Registered
import MpVerif.C04.Chains
import MpVerif.C04.ModelBuilder
/-!
# C04 — the invariants the constructors of `ModelBuilder.lean` establish

Proved for EVERY sequence of ops: every node an entry touches is registered, every range lies inside the declared size, and the
graph satisfies `traceWF` — from which a trace certificate exists for every cell unless the item was split by a Many2Many-family entry
(`tracePost_exists`).
-/
namespace MpVerif.C04

theorem hitsM2M_cons_skip {e : Entry} {B : List Entry} {c : Cell} (h : e.postWrites c = false) :
    hitsM2M (e :: B) c = hitsM2M B c := by
  cases e <;> simp [hitsM2M, h]

theorem traceWF_tail {zero : Cell → Bool} {e : Entry} {B : List Entry} (h : traceWF zero (e :: B) = true) :
    traceWF zero B = true := by
  cases e <;> simp only [traceWF, Bool.and_eq_true] at h <;> first | exact h | exact h.2

/-- **A certificate exists** for every cell of a `traceWF` graph whose history does not pass through a Many2Many-family entry. -/
theorem tracePost_exists (k : Kind) (zero : Cell → Bool) (es : List Entry) : ∀ c : Cell,
    traceWF zero es = true → hitsM2M es c = false → ∃ o, tracePost k zero es c = some o := by
  induction es with
  | nil => intro c _ _; exact ⟨_, rfl⟩
  | cons e B ih =>
    intro c hwf hm
    cases hw : e.postWrites c with
    | false =>
      rw [tracePost_cons_skip hw]
      rw [hitsM2M_cons_skip hw] at hm
      exact ih c (traceWF_tail hwf) hm
    | true =>
      cases e with
      | copy s d =>
        simp only [traceWF, Bool.and_eq_true, bne_iff_ne, ne_eq] at hwf
        simp only [hitsM2M, hw, if_true] at hm
        simp only [tracePost, hw, if_true, if_pos hwf.1]
        exact ih _ hwf.2 hm
      | m2m s d => simp [hitsM2M, hw] at hm
      | r2s cs ct vs sd =>
        simp only [traceWF, Bool.and_eq_true] at hwf
        obtain ⟨⟨⟨hz, hd⟩, hall⟩, hB⟩ := hwf
        simp only [hitsM2M, hw, if_true, Bool.or_eq_false_iff] at hm
        obtain ⟨ot, hot⟩ := ih ct hB hm.1
        obtain ⟨os, hos⟩ := ih vs hB hm.2
        simp only [tracePost, hw, if_true, hz, hd, hall, Bool.and_self, hot, hos]
        exact ⟨_, rfl⟩

theorem traceWF_append (zero : Cell → Bool) (es new : List Entry) :
    traceWF zero (es ++ new) = true ↔
      traceWF zero es = true ∧ (∀ cs ct vs sd, .r2s cs ct vs sd ∈ es → ∀ e ∈ new, e.postWrites cs = false) ∧
        traceWF zero new = true := by
  induction es with
  | nil => simp [traceWF]
  | cons e B ih =>
    cases e with
    | copy s d => simp [traceWF, ih, and_assoc]
    | m2m s d => simp [traceWF, ih]
    | r2s cs ct vs sd =>
      simp only [List.cons_append, traceWF, Bool.and_eq_true, ih, List.all_append, List.all_eq_true,
        Bool.not_eq_eq_eq_not, Bool.not_true, List.mem_cons, Entry.r2s.injEq]
      constructor
      · rintro ⟨⟨⟨hz, hd⟩, hB, hN⟩, hw, hr, hn⟩
        exact ⟨⟨⟨⟨hz, hd⟩, hB⟩, hw⟩, fun cs' ct' vs' sd' h => h.elim (fun h => h.1 ▸ hN) (hr cs' ct' vs' sd'), hn⟩
      · rintro ⟨⟨⟨⟨hz, hd⟩, hB⟩, hw⟩, hr, hn⟩
        exact ⟨⟨⟨hz, hd⟩, hB, hr cs ct vs sd (.inl ⟨rfl, rfl, rfl, rfl⟩)⟩, hw,
          fun cs' ct' vs' sd' h => hr cs' ct' vs' sd' (.inr h), hn⟩

/-- What every state reached by `build` satisfies.  `sources` (a cell some entry writes in a postsolve run is bridged and not on a
    target terminal node) is what makes `wf` inductive: an op takes only unbridged cells as sources, so it cannot write the source of
    an earlier `RangeCon2Slack` entry. -/
structure Inv (isDest : Nat → Bool) (st : BState) : Prop where
  registered : ∀ e ∈ st.entries, ∀ n ∈ e.nodes, n < st.sizes.length
  inside : ∀ e ∈ st.entries, e.inside st.sizes
  sources : ∀ e ∈ st.entries, ∀ c, e.postWrites c = true → c ∈ st.bridged ∧ isDest c.1 = false
  bridgedIn : ∀ c ∈ st.bridged, c.2 < st.sizes.getD c.1 0
  wf : traceWF (fun c => !isDest c.1) st.entries = true

/-- sizes only grow, nodes are only added -/
def SizesGrow (a b : List Nat) : Prop := a.length ≤ b.length ∧ ∀ n, a.getD n 0 ≤ b.getD n 0

theorem growTo_length (sizes : List Nat) (n u : Nat) : (growTo sizes n u).length = sizes.length := by
  simp [growTo]

theorem growTo_getD (sizes : List Nat) (n u m : Nat) :
    (growTo sizes n u).getD m 0 = if m = n ∧ m < sizes.length then max (sizes.getD m 0) u else sizes.getD m 0 := by
  unfold growTo
  by_cases hm : m < sizes.length
  · simp only [List.getD_eq_getElem?_getD, List.getElem?_mapIdx, List.getElem?_eq_getElem hm, Option.map_some, Option.getD_some, hm, and_true]
  · have : sizes.length ≤ m := Nat.le_of_not_lt hm
    simp [List.getD_eq_getElem?_getD, hm]

theorem growTo_grows (sizes : List Nat) (n u : Nat) : SizesGrow sizes (growTo sizes n u) := by
  refine ⟨by simp [growTo_length], fun m => ?_⟩
  rw [growTo_getD]
  split
  · exact Nat.le_max_left _ _
  · exact Nat.le_refl _

theorem SizesGrow.trans {a b c : List Nat} (h1 : SizesGrow a b) (h2 : SizesGrow b c) : SizesGrow a c :=
  ⟨Nat.le_trans h1.1 h2.1, fun n => Nat.le_trans (h1.2 n) (h2.2 n)⟩

theorem SizesGrow.refl (a : List Nat) : SizesGrow a a := ⟨Nat.le_refl _, fun _ => Nat.le_refl _⟩

theorem Entry.inside_mono {a b : List Nat} (h : SizesGrow a b) (e : Entry) (he : e.inside a) : e.inside b := by
  cases e with
  | copy s d => exact ⟨Nat.le_trans he.1 (h.2 _), Nat.le_trans he.2 (h.2 _)⟩
  | m2m s d => exact ⟨Nat.le_trans he.1 (h.2 _), Nat.le_trans he.2 (h.2 _)⟩
  | r2s cs ct vs sd => exact ⟨Nat.lt_of_lt_of_le he.1 (h.2 _), Nat.lt_of_lt_of_le he.2.1 (h.2 _), Nat.lt_of_lt_of_le he.2.2 (h.2 _)⟩

/-- what a step must satisfy so that the invariant is preserved -/
structure GoodStep (isDest : Nat → Bool) (st : BState) (sizes' : List Nat) (new : List Entry) (srcs : List Cell) : Prop where
  grow : SizesGrow st.sizes sizes'
  registered : ∀ e ∈ new, ∀ n ∈ e.nodes, n < sizes'.length
  inside : ∀ e ∈ new, e.inside sizes'
  writes : ∀ e ∈ new, ∀ c, e.postWrites c = true → c ∈ srcs
  fresh : ∀ c ∈ srcs, ¬ c ∈ st.bridged
  notDest : ∀ c ∈ srcs, isDest c.1 = false
  srcIn : ∀ c ∈ srcs, c.2 < sizes'.getD c.1 0
  wfNew : traceWF (fun c => !isDest c.1) new = true

theorem Inv.step {isDest : Nat → Bool} {st : BState} (hI : Inv isDest st) {sizes' : List Nat} {new : List Entry} {srcs : List Cell}
    (g : GoodStep isDest st sizes' new srcs) : Inv isDest ⟨sizes', st.entries ++ new, st.bridged ++ srcs⟩ where
  registered := List.forall_mem_append.mpr
    ⟨fun e h n hn => Nat.lt_of_lt_of_le (hI.registered e h n hn) g.grow.1, g.registered⟩
  inside := List.forall_mem_append.mpr ⟨fun e h => Entry.inside_mono g.grow e (hI.inside e h), g.inside⟩
  sources := List.forall_mem_append.mpr
    ⟨fun e h c hw => (hI.sources e h c hw).imp_left (List.mem_append_left _),
     fun e h c hw => ⟨List.mem_append_right _ (g.writes e h c hw), g.notDest c (g.writes e h c hw)⟩⟩
  bridgedIn := List.forall_mem_append.mpr
    ⟨fun c h => Nat.lt_of_lt_of_le (hI.bridgedIn c h) (g.grow.2 _), g.srcIn⟩
  wf := by
    rw [traceWF_append]
    -- an earlier r2s source `cs` is bridged (`sources`), and a new entry writes only cells that were not (`fresh`)
    exact ⟨hI.wf, fun cs ct vs sd h0 e he => Bool.eq_false_iff.mpr fun hpw =>
      g.fresh cs (g.writes e he cs hpw) (hI.sources _ h0 cs (by simp [Entry.postWrites])).1, g.wfNew⟩

theorem growTo_ge (sizes : List Nat) (n u : Nat) (hn : n < sizes.length) : u ≤ (growTo sizes n u).getD n 0 := by
  rw [growTo_getD]; simp [hn, Nat.le_max_right]

theorem traceWF_of_forall (zero : Cell → Bool) (l : List Entry)
    (h : ∀ e ∈ l, (∃ s d, e = Entry.copy s d ∧ s.node ≠ d.node) ∨ (∃ s d, e = Entry.m2m s d)) : traceWF zero l = true := by
  induction l with
  | nil => rfl
  | cons e B ih =>
    have hB := ih (fun e' he' => h e' (List.mem_cons_of_mem _ he'))
    rcases h e (List.mem_cons_self ..) with ⟨s, d, he, hne⟩ | ⟨s, d, he⟩
    · subst he; simp [traceWF, hne, hB]
    · subst he; simp [traceWF, hB]

theorem BOp.effect_autoLink {isDest : Nat → Bool} {st : BState} {src : Cell} {targets : List Rng} {r : List Nat × List Entry × List Cell}
    (h : BOp.effect isDest st (.autoLink src targets) = some r) :
    (src.1 < st.sizes.length ∧ src.2 < st.size src.1 ∧ ¬ src ∈ st.bridged ∧ isDest src.1 = false ∧
      ∀ t ∈ targets, t.node < st.sizes.length ∧ t.node ≠ src.1 ∧ 0 < t.len) ∧
    r.1 = targets.foldl (fun sz t => growTo sz t.node (t.beg + t.len)) st.sizes ∧ r.2.2 = [src] ∧
    ∀ e ∈ r.2.1, ∃ t ∈ targets, (e = Entry.copy ⟨src.1, src.2, 1⟩ t ∧ t.len = 1) ∨ e = Entry.m2m ⟨src.1, src.2, 1⟩ t := by
  simp only [BOp.effect] at h
  split at h
  · rename_i hc
    cases h
    obtain ⟨hs1, hs2, hnb, hnd, hall⟩ := hc
    refine ⟨⟨hs1, hs2, hnb, hnd, fun t ht => by simpa [and_assoc] using List.all_eq_true.mp hall t ht⟩, rfl, rfl, fun e he => ?_⟩
    simp only at he
    rcases targets with _ | ⟨t, _ | ⟨t2, rest⟩⟩
    · simp at he
    · by_cases h1 : t.len = 1
      · simp only [h1, if_true, List.mem_singleton] at he
        exact ⟨t, List.mem_cons_self .., Or.inl ⟨he, h1⟩⟩
      · simp only [h1, if_false, List.mem_singleton] at he
        exact ⟨t, List.mem_cons_self .., Or.inr he⟩
    · simp only [List.mem_map] at he
      obtain ⟨t', ht', he'⟩ := he
      exact ⟨t', ht', Or.inr he'.symm⟩
  · cases h

theorem foldGrow_grows (targets : List Rng) (sizes : List Nat) :
    SizesGrow sizes (targets.foldl (fun sz t => growTo sz t.node (t.beg + t.len)) sizes) := by
  induction targets generalizing sizes with
  | nil => exact SizesGrow.refl _
  | cons t ts ih => simp only [List.foldl_cons]; exact (growTo_grows sizes _ _).trans (ih _)

theorem foldGrow_ge (targets : List Rng) (sizes : List Nat) (t : Rng) (ht : t ∈ targets) (hn : t.node < sizes.length) :
    t.beg + t.len ≤ (targets.foldl (fun sz t => growTo sz t.node (t.beg + t.len)) sizes).getD t.node 0 := by
  induction targets generalizing sizes with
  | nil => cases ht
  | cons t0 ts ih =>
    simp only [List.foldl_cons]
    rcases List.mem_cons.mp ht with h | h
    · subst h
      exact Nat.le_trans (growTo_ge sizes _ _ hn) ((foldGrow_grows ts _).2 _)
    · exact ih _ h (by simpa [growTo_length] using hn)

theorem copy1_postWrites (a : Cell) (d : Rng) (hd : d.len = 1) (c : Cell)
    (h : (Entry.copy ⟨a.1, a.2, 1⟩ d).postWrites c = true) : c = a := by
  obtain ⟨hc, hlt⟩ := Rng.has_offset (r := ⟨a.1, a.2, d.len⟩) h
  simp only [hd] at hc hlt
  rw [hc]
  exact Prod.ext rfl (by simp only; omega)

theorem m2m1_postWrites (a : Cell) (d : Rng) (c : Cell)
    (h : (Entry.m2m ⟨a.1, a.2, 1⟩ d).postWrites c = true) : c = a :=
  copy1_postWrites a ⟨d.node, d.beg, 1⟩ rfl c h

theorem GoodStep.noEntries {isDest : Nat → Bool} {st : BState} {sizes' : List Nat} (h : SizesGrow st.sizes sizes') :
    GoodStep isDest st sizes' [] [] where
  grow := h
  registered := by intro e he; cases he
  inside := by intro e he; cases he
  writes := by intro e he; cases he
  fresh := by intro c hc; cases hc
  notDest := by intro c hc; cases hc
  srcIn := by intro c hc; cases hc
  wfNew := rfl

theorem append_grows (sizes l : List Nat) : SizesGrow sizes (sizes ++ l) := by
  refine ⟨by simp, fun n => ?_⟩
  by_cases hn : n < sizes.length
  · simp [List.getD_eq_getElem?_getD, List.getElem?_append_left hn]
  · have : sizes.getD n 0 = 0 := by simp [List.getD_eq_getElem?_getD, List.getElem?_eq_none (Nat.le_of_not_lt hn)]
    rw [this]; exact Nat.zero_le _

theorem GoodStep.single {isDest : Nat → Bool} {st : BState} {sizes' : List Nat} {new : List Entry} {src : Cell}
    (grow : SizesGrow st.sizes sizes') (h2 : src.2 < st.size src.1) (hnb : ¬ src ∈ st.bridged) (hnd : isDest src.1 = false)
    (per : ∀ e ∈ new, (∀ n ∈ e.nodes, n < sizes'.length) ∧ e.inside sizes' ∧ ∀ c, e.postWrites c = true → c = src)
    (wfNew : traceWF (fun c => !isDest c.1) new = true) : GoodStep isDest st sizes' new [src] where
  grow := grow
  registered := fun e he => (per e he).1
  inside := fun e he => (per e he).2.1
  writes := fun e he c hw => List.mem_singleton.mpr ((per e he).2.2 c hw)
  fresh := List.forall_mem_singleton.mpr hnb
  notDest := List.forall_mem_singleton.mpr hnd
  srcIn := List.forall_mem_singleton.mpr (Nat.lt_of_lt_of_le h2 (grow.2 _))
  wfNew := wfNew

theorem BOp.effect_deliver {isDest : Nat → Bool} {st : BState} {c : Cell} {dn : Nat} {r : List Nat × List Entry × List Cell}
    (h : BOp.effect isDest st (.deliver c dn) = some r) :
    BOp.effect isDest st (.autoLink c [⟨dn, st.size dn, 1⟩]) = some r := by
  simp only [BOp.effect] at h ⊢
  split at h
  · rename_i hc
    obtain ⟨h1, h2, hnb, hnd, hdn, hne, _⟩ := hc
    rw [← h]
    simp [h1, h2, hnb, hnd, hdn, Ne.symm hne]
  · cases h

theorem BOp.goodStep_autoLink {isDest : Nat → Bool} {st : BState} (src : Cell) (targets : List Rng) {r : List Nat × List Entry × List Cell}
    (h : BOp.effect isDest st (.autoLink src targets) = some r) : GoodStep isDest st r.1 r.2.1 r.2.2 := by
  -- copy or m2m entries, each with the single source cell `src`, which the guard says is unbridged
  obtain ⟨⟨hs1, hs2, hnb, hnd, hT⟩, hsz, hbr, hmem⟩ := effect_autoLink h
  have hgrow := foldGrow_grows targets st.sizes
  rw [hsz, hbr]
  refine GoodStep.single hgrow hs2 hnb hnd (fun e he => ?_) (traceWF_of_forall _ _ fun e he => ?_)
  · obtain ⟨t, ht, hcase⟩ := hmem e he
    have hreg := And.intro (Nat.lt_of_lt_of_le hs1 hgrow.1) (Nat.lt_of_lt_of_le (hT t ht).1 hgrow.1)
    have hin := And.intro (Nat.le_trans hs2 (hgrow.2 _)) (foldGrow_ge targets st.sizes t ht (hT t ht).1)
    rcases hcase with ⟨rfl, hl⟩ | rfl
    · exact ⟨(Entry.forall_nodes _).mpr hreg, hin, copy1_postWrites src t hl⟩
    · exact ⟨(Entry.forall_nodes _).mpr hreg, hin, m2m1_postWrites src t⟩
  · obtain ⟨t, ht, hcase⟩ := hmem e he
    exact hcase.imp (fun h => ⟨_, _, h.1, fun hn => (hT t ht).2.1 hn.symm⟩) fun h => ⟨_, _, h⟩

theorem BOp.goodStep {isDest : Nat → Bool} {st : BState} (hI : Inv isDest st) (op : BOp) {r : List Nat × List Entry × List Cell}
    (h : op.effect isDest st = some r) : GoodStep isDest st r.1 r.2.1 r.2.2 := by
  cases op with
  | newNode =>
    simp only [BOp.effect, Option.some.injEq] at h
    subst h
    exact GoodStep.noEntries (append_grows _ _)
  | newItem node n =>
    simp only [BOp.effect] at h
    split at h
    · cases h; exact GoodStep.noEntries (growTo_grows _ _ _)
    · cases h
  | copyVars sv dv n =>
    -- one copy entry between two fresh ranges; its sources are the `n` fresh cells of `sv`, beyond every bridged cell (`bridgedIn`)
    simp only [BOp.effect] at h
    split at h
    · rename_i hc
      cases h
      obtain ⟨hsv, hdv, hne, hnd⟩ := hc
      -- the two nested `growTo` are the fold of `autoLink` over these two ranges, so `foldGrow_grows` and `foldGrow_ge` apply
      let ts : List Rng := [⟨sv, st.size sv, n⟩, ⟨dv, st.size dv, n⟩]
      have hg := foldGrow_grows ts st.sizes
      have hsz_sv := foldGrow_ge ts st.sizes ⟨sv, st.size sv, n⟩ (by simp [ts]) hsv
      refine { grow := hg, registered := ?_, inside := ?_, writes := ?_, fresh := ?_, notDest := ?_, srcIn := ?_, wfNew := ?_ }
      · rw [List.forall_mem_singleton]
        exact (Entry.forall_nodes _).mpr ⟨Nat.lt_of_lt_of_le hsv hg.1, Nat.lt_of_lt_of_le hdv hg.1⟩
      · rw [List.forall_mem_singleton]
        exact ⟨hsz_sv, foldGrow_ge ts st.sizes ⟨dv, st.size dv, n⟩ (by simp [ts]) hdv⟩
      · rw [List.forall_mem_singleton]
        intro c hw
        obtain ⟨hc, hlt⟩ := Rng.has_offset (r := ⟨sv, st.size sv, n⟩) hw
        exact List.mem_map.mpr ⟨_, List.mem_range.mpr hlt, hc.symm⟩
      · intro c hc hb
        obtain ⟨j, _, rfl⟩ := List.mem_map.mp hc
        have := hI.bridgedIn _ hb
        simp only [BState.size] at this
        omega
      · intro c hc
        obtain ⟨j, _, rfl⟩ := List.mem_map.mp hc
        exact hnd
      · intro c hc
        obtain ⟨j, hj, rfl⟩ := List.mem_map.mp hc
        exact Nat.lt_of_lt_of_le (Nat.add_lt_add_left (List.mem_range.mp hj) _) hsz_sv
      · simp [traceWF, hne]
    · cases h
  | autoLink src targets => exact goodStep_autoLink src targets h
  | range2slack cs tn vn sd =>
    -- one r2s entry with source `cs` (unbridged, not on a target node, so zero when loaded) and fresh cells on two other nodes
    simp only [BOp.effect] at h
    split at h
    · rename_i hc
      cases h
      obtain ⟨h1, h2, hnb, hnd, htn, hvn, hn1, hn2, hn3⟩ := hc
      let ts : List Rng := [⟨tn, st.size tn, 1⟩, ⟨vn, st.size vn, 1⟩]
      have hg := foldGrow_grows ts st.sizes
      refine GoodStep.single hg h2 hnb hnd (List.forall_mem_singleton.mpr ⟨?_, ?_, ?_⟩) ?_
      · exact (Entry.forall_nodes _).mpr ⟨Nat.lt_of_lt_of_le h1 hg.1, Nat.lt_of_lt_of_le htn hg.1, Nat.lt_of_lt_of_le hvn hg.1⟩
      · exact ⟨Nat.lt_of_lt_of_le h2 (hg.2 _), foldGrow_ge ts _ ⟨tn, st.size tn, 1⟩ (by simp [ts]) htn, foldGrow_ge ts _ ⟨vn, st.size vn, 1⟩ (by simp [ts]) hvn⟩
      · intro c hw
        simpa [Entry.postWrites] using hw
      · simp [traceWF, hnd, r2sDistinct, hn1, hn2, hn3]
    · cases h
  | deliver c dn => exact goodStep_autoLink c _ (BOp.effect_deliver h)

theorem Inv.empty (isDest : Nat → Bool) : Inv isDest ⟨[], [], []⟩ where
  registered := by intro e he; cases he
  inside := by intro e he; cases he
  sources := by intro e he; cases he
  bridgedIn := by intro c hc; cases hc
  wf := rfl

theorem Inv.apply {isDest : Nat → Bool} {st st' : BState} (hI : Inv isDest st) (op : BOp) (h : st.apply isDest op = some st') :
    Inv isDest st' := by
  simp only [BState.apply, Option.map_eq_some_iff] at h
  obtain ⟨r, hr, hst⟩ := h
  subst hst
  exact hI.step (op.goodStep hI hr)

theorem build_cons {isDest : Nat → Bool} {op : BOp} {ops : List BOp} {st st' : BState} :
    build isDest (op :: ops) st = some st' ↔ ∃ st1, st.apply isDest op = some st1 ∧ build isDest ops st1 = some st' :=
  Option.bind_eq_some_iff

theorem Inv.build {isDest : Nat → Bool} (ops : List BOp) : ∀ {st st' : BState}, Inv isDest st → build isDest ops st = some st' → Inv isDest st' := by
  induction ops with
  | nil => intro st st' hI h; cases h; exact hI
  | cons op ops ih =>
    intro st st' hI h
    obtain ⟨st1, h1, h⟩ := build_cons.mp h
    exact ih (hI.apply op h1) h

theorem build_entries_prefix (isDest : Nat → Bool) (ops : List BOp) : ∀ {st st' : BState}, build isDest ops st = some st' →
    ∃ rest, st'.entries = st.entries ++ rest := by
  induction ops with
  | nil => intro st st' h; cases h; exact ⟨[], by simp⟩
  | cons op ops ih =>
    intro st st' h
    obtain ⟨st1, h1, h⟩ := build_cons.mp h
    obtain ⟨rest, hr⟩ := ih h
    obtain ⟨r, _, rfl⟩ := Option.map_eq_some_iff.mp h1
    exact ⟨r.2.1 ++ rest, by rw [hr]; simp⟩

end MpVerif.C04
