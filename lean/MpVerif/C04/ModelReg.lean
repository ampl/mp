import MpVerif.C04.Model
/-!
# C04 — node registration: `CleanUpValueNodes` zeroes exactly the REGISTERED value nodes

`ValuePresolverImpl::CleanUpValueNodes` walks `val_nodes_`, the set in which every `ValueNode` constructor (plain, copy, move)
inserts the node (`RegisterMe`) and from which only the destructor removes it.  In the model the registered nodes are the indices of
`Graph.sizes` (exactly the `val_nodes_` dump of the real presolver, taken on every run); `cleanReg` zeroes those and nothing else.
History independence is then a RESULT: it needs that every node a link entry reads or writes is registered
(`Graph.nodesRegistered`: decidable, checked on every real graph, and proved for every graph built by the modelled constructors,
`C04_built_nodes_registered`).
-/
namespace MpVerif.C04

def Graph.registered (g : Graph) (n : Nat) : Bool := decide (n < g.sizes.length)

/-- `CleanUpValueNodes`: `CleanUpAndRealloc` for every registered node; other memory is untouched -/
def cleanReg (g : Graph) (S : St) : St := ⟨fun c => if g.registered c.1 then 0 else S c⟩

def Entry.nodes : Entry → List Nat
  | .copy s d => [s.node, d.node]
  | .m2m s d => [s.node, d.node]
  | .r2s cs ct vs _ => [cs.1, ct.1, vs.1]

/-- every node a link entry reads or writes is a registered node -/
def Graph.nodesRegistered (g : Graph) : Bool := g.entries.all (fun e => e.nodes.all g.registered)

/-- one call on a presolver whose nodes hold `prev`: clean the REGISTERED nodes, load, run -/
def runFromReg (g : Graph) (prev : St) (c : Call) : Option St :=
  let S0 := loadInto (cleanReg g prev) g.size c.inputs
  match c.dir with
  | .pre => some (runPre c.kind g.entries S0)
  | .post => runPost c.kind g.entries S0

end MpVerif.C04
