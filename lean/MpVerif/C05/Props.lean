import MpVerif.C05.LemmasAll
import MpVerif.C05.LemmasIntReal
/-!
# C05 — a written .sol file is read back as the same solution: property theorems

`writeSol c s` (C05/Model.lean) mirrors `mp::WriteSolFile` (include/mp/sol.h, src/sol.cc);
`readSol` (C14/Model.lean) mirrors `mp::SOLReader2::ReadSOLFile`: `fx = true` the code as of ampl/mp 602adf1, `fx = false` the
code before it; `fm` = with/without repo_patches/C14-badoptions-message.diff.  Reals go through the abstract codec
`c : Codec D` (`enc` = fmt's `'{:.16}'`); integers are printed by the concrete `encInt`.

The specification (`Wf`, `observable`, the text model of integral reals) is in `Spec.lean`.

`C05_roundtrip` is the full-strength statement: for **every** solution (message, options, vectors of any
length, objno, status, any list of suffixes with sparse values and multi-line tables) that meets the side
conditions `Wf`, for every declared size ≥ the vector lengths and for all four reader variants `fx`, `fm`, reading the
written bytes returns OK and delivers exactly `observable c s`.  The side conditions are

* the explicit codec hypotheses `GoodNum` / `GoodSufTok` on the *text* printed for each real (`decstring`
  resp. `strtod` consumes exactly that text) — evaluated by the driver on every real of every run; that the
  consumed text denotes a value within the property's tolerance is the numeric half of the codec, TESTED by
  the harness on doubles, not proved;
* restrictions of the format that are documented or obvious (no NUL/LF inside a message line, a suffix name,
  a table line; C `int` ranges; lengths that fit the reader's 512-byte line buffer: message lines ≤ 510,
  suffix names and the last table line ≤ 509 characters; a message does not start a line with a backspace —
  leading backspaces of the *first* line are legal and handled by the reader (reported as `nbs`), that case is
  covered by the correspondence and the oracle only);
* the complements of the **findings**, each with a proved counterexample below and a replay on the real code
  on every run: 3 ≤ #options ≤ 9 (A8 and the 1–2 options case), second option ≠ 3 (A9; A8, A9: DESIGN.md, Appendix A), no message line
  ending in CR, no message line of 511 characters.

Non-finite reals: `C05_nonfinite_*` (rejected with Bad_Line in a vector, read as the same text in a suffix).
-/
namespace MpVerif.C05
open MpVerif.C14

/-- **A written .sol file is read back as the same solution** (model level, all solutions meeting `Wf`). -/
theorem C05_roundtrip {D : Type} (fx fm : Bool) (c : Codec D) (s : Sol D) (nVars nCons : Nat) (w : Wf c s nVars nCons) :
    readSol fx fm nVars nCons readAll (writeSol c s) = ⟨.ok, observable c s, false⟩ := by
  rw [writeSol_eq_lit]; exact roundtrip_lit fx fm c s nVars nCons w

/-- the error code alone -/
theorem C05_roundtrip_code {D : Type} (fx fm : Bool) (c : Codec D) (s : Sol D) (nVars nCons : Nat) (w : Wf c s nVars nCons) :
    (readSol fx fm nVars nCons readAll (writeSol c s)).code = .ok := by
  rw [C05_roundtrip fx fm c s nVars nCons w]

/-- **Message block** on its own: line by line, interior empty lines as the reserved single space, no
backspaces counted, the reader stops exactly behind the terminating empty line. -/
theorem C05_message_roundtrip (msg rest : Bytes) (f : Nat)
    (h : ∀ l ∈ escLines (splitLines msg), GoodLine l) (hf : (escLines (splitLines msg)).length < f) :
    msgText f (writeMessage msg ++ rest) ⟨[], 0, true⟩ =
      .ok (⟨msgRead msg, 0, true⟩, tailNl (splitLines msg) ++ rest) :=
  message_roundtrip msg rest f h hf

/-- **Dual / primal vectors of any length** on their own. -/
theorem C05_vector_roundtrip {D : Type} (c : Codec D) (vs : List D) (rest : Bytes)
    (h : ∀ v ∈ vs, GoodNum (c.enc v)) :
    runVec false .dbl .all vs.length (writeVals c vs ++ rest) =
      (⟨vs.length, vs.map (fun v => ⟨0, c.enc v⟩), .ok, 0⟩, rest) :=
  runVec_vals c vs rest h

/-! ## numeric clause

What is and is not proved here.  The reader model delivers the TEXT of a number, never a value; `strtod` and fmt's digit generation are outside Lean.
* Non-integral finite reals ("within 1e-15"): a theorem only under the assumptions `G16` (on fmt) and `CorrRounded` (on strtod):
  `C05_within_1e15`, `C05_real_vector_within_1e15`, `C05_file_reals_within_1e15`.  Without them `C05_noninteger_real_partial` only says that a text satisfying the codec hypothesis is handed to
  `strtod` unchanged; the numeric half is sampled (10^5 / 5·10^6 doubles per run through the real fmt and strtod).
* Integral reals below 10^15: proved about two DEFINITIONS of this development — `fmtG16Int` (text model of `%.16g` on integer-valued doubles, with the switch to
  scientific notation above 16 digits) and `parseDec` (exact value `m·10^e` of a decimal text): the text passes the reader's scanners unconditionally, it is the
  plain numeral, and its exact value is the integer, which is a double.  That the real writer prints `fmtG16Int n` and that the real `strtod` returns the correctly
  rounded `parseDec` value is SAMPLED on every run (fields `intok`, `dec`), not proved; that a correctly rounded `strtod` maps the exact value of a double to that
  double is a property of glibc that is trusted. -/

/-- **Integral reals below 10^15** (about the text model `fmtG16Int`, see above): the text is the plain numeral, satisfies both codec hypotheses
*unconditionally* (the reader's scanners accept it and consume exactly that text, as a vector value and as a suffix value), its exact decimal value is `n`,
and `|n| < 2^53`, i.e. `n` is a double. -/
theorem C05_integer_real_exact (n : Int) (h : n.natAbs < 10 ^ 15) :
    fmtG16Int n = encInt n ∧ GoodNum (fmtG16Int n) ∧ GoodSufTok (fmtG16Int n) ∧ parseDec (fmtG16Int n) = some (n, 0) ∧ n.natAbs < 2 ^ 53 := by
  have hl := encInt_len n 14 (by simpa using h)
  rw [fmtG16Int_small n (Nat.lt_trans h (by decide))]
  refine ⟨rfl, goodNum_encInt n (by omega), goodSufTok_encInt_of_len n (by omega), parseDec_encInt n, ?_⟩
  have : (10 : Nat) ^ 15 < 2 ^ 53 := by decide
  omega

/-- the text model on both sides of the switch at 10^16, and why the bound cannot be dropped: `2^54` is a double, `%.16g` prints it as
`1.801439850948198e+16`, whose exact value `1801439850948198·10^1` is a different integer (kernel evaluation of the definitions) -/
theorem C05_g16_switch_instances :
    fmtG16Int 9999999999999999 = str "9999999999999999" ∧
    fmtG16Int 10000000000000000 = str "1e+16" ∧
    fmtG16Int (-10000000000000000000000) = str "-1e+22" ∧
    fmtG16Int 18014398509481984 = str "1.801439850948198e+16" ∧
    parseDec (fmtG16Int 18014398509481984) = some (1801439850948198, 1) ∧
    fmtG16Int 99999999999999995 = str "1e+17" ∧
    fmtG16Int 12345678901234565 = str "1.234567890123456e+16" ∧
    fmtG16Int 12345678901234575 = str "1.234567890123458e+16" ∧
    parseDec (str "-2.25e-07") = some (-225, -9) ∧
    parseDec (str "nan") = none ∧ parseDec (str "1e") = none := by decide +kernel

/-- the codec of integral reals: no hypothesis left -/
def intCodec : Codec Int := ⟨fmtG16Int, fun n => n == 0⟩

/-- **Vectors of integral reals below 10^15, any length** (no codec hypothesis): the handler receives, in order, the texts `fmtG16Int n`, whose exact values are
the written integers. -/
theorem C05_integer_vector_exact (ns : List Int) (rest : Bytes) (h : ∀ n ∈ ns, n.natAbs < 10 ^ 15) :
    runVec false .dbl .all ns.length (writeVals intCodec ns ++ rest) =
      (⟨ns.length, ns.map (fun n => ⟨0, fmtG16Int n⟩), .ok, 0⟩, rest) ∧
    ∀ n ∈ ns, parseDec (fmtG16Int n) = some (n, 0) := by
  refine ⟨runVec_vals intCodec ns rest fun n hn => ?_, fun n hn => ?_⟩
  · obtain ⟨_, hg, _⟩ := C05_integer_real_exact n (h n hn)
    exact (hg : GoodNum (fmtG16Int n))
  · obtain ⟨_, _, _, hp, _⟩ := C05_integer_real_exact n (h n hn)
    exact hp

/-- NOT the numeric clause for non-integral reals (for that see `C05_within_1e15` and the section comment): under the explicit codec hypothesis on the printed text
(evaluated by the driver on every real of every run) the vector reader hands exactly that text to `strtod`. -/
theorem C05_noninteger_real_partial {D : Type} (c : Codec D) (x : D) (rest : Bytes) (h : GoodNum (c.enc x)) :
    readItem false .dbl (c.enc x ++ 10 :: rest) = (.ok ⟨0, c.enc x⟩, rest) :=
  readItem_num (c.enc x) rest h

/-! ### non-integral reals: "within 1e-15 relative", fmt and strtod as explicit assumptions -/

theorem rabs_sub_le (a b c : Rat) : rabs (a - c) ≤ rabs (a - b) + rabs (c - b) := by
  unfold rabs; grind

theorem rabs_le_sub_add (a b : Rat) : rabs a ≤ rabs (b - a) + rabs b := by
  unfold rabs; grind

/-- **Arithmetic core of the numeric clause.**  If the printed decimal `d` is a nearest 16-significant-digit decimal of `x` (`G16`, assumption on fmt) and the
double `y` read back is a nearest double of `d` in the normal range (`CorrRounded`, assumption on strtod), then `|y - x| ≤ 10^-15·|x|`
(in fact `≤ (5·10^-16 + 2^-53)(1 + …)|x| ≈ 6.2·10^-16 |x|`). -/
theorem C05_within_1e15 (x d y : Rat) (hp : G16 x d) (hr : CorrRounded d y) : rabs (y - x) ≤ rabs x / 1000000000000000 := by
  obtain ⟨s, hs, h16, hh⟩ := hp
  unfold CorrRounded at hr
  -- `|y - x| ≤ |y - d| + |x - d|` and `|d| ≤ |x - d| + |x|`; what is left is linear in the five absolute values and `s`
  have h1 := rabs_sub_le y d x
  have h2 := rabs_le_sub_add d x
  grind

/-- **Vectors of arbitrary finite reals, any length.**  `val v` is the value of the datum `v`, `S t` the double `strtod` returns for the text `t`.
Proved about the models: the handler receives exactly the printed texts (under the codec hypothesis `GoodNum` on the texts, evaluated on every run).
Under the two stated ASSUMPTIONS on the real conversions — for the values of this vector, fmt printed a nearest 16-digit decimal (`G16`) and strtod returned
a nearest double of that decimal in the normal range (`CorrRounded`) — every value comes back within `10^-15` relative. -/
theorem C05_real_vector_within_1e15 {D : Type} (c : Codec D) (val : D → Rat) (S : Bytes → Rat) (vs : List D) (rest : Bytes)
    (hgood : ∀ v ∈ vs, GoodNum (c.enc v))
    (hconv : ∀ v ∈ vs, ∃ d, decValue (c.enc v) = some d ∧ G16 (val v) d ∧ CorrRounded d (S (c.enc v))) :
    runVec false .dbl .all vs.length (writeVals c vs ++ rest) =
      (⟨vs.length, vs.map (fun v => ⟨0, c.enc v⟩), .ok, 0⟩, rest) ∧
    ∀ v ∈ vs, rabs (S (c.enc v) - val v) ≤ rabs (val v) / 1000000000000000 := by
  refine ⟨runVec_vals c vs rest hgood, fun v hv => ?_⟩
  obtain ⟨d, _, hg, hc⟩ := hconv v hv
  exact C05_within_1e15 (val v) d (S (c.enc v)) hg hc

/-- non-vacuity: `x = 1/3` printed as `0.3333333333333333`: the text has the exact value `3333333333333333·10^-16`, `G16` holds with `s = 10^-16`, and a
`y` equal to that decimal is within the bound; an 8-digit text (`0.33333333`) does NOT satisfy `G16` for `1/3` with any unit `s` — the assumption has content. -/
theorem C05_within_1e15_instance :
    decValue (str "0.3333333333333333") = some (3333333333333333 / 10000000000000000) ∧
    G16 (1 / 3) (3333333333333333 / 10000000000000000) ∧
    CorrRounded (3333333333333333 / 10000000000000000) (3333333333333333 / 10000000000000000) ∧
    ¬ G16 (1 / 3) (33333333 / 100000000) := by
  refine ⟨?_, ⟨1 / 10000000000000000, ?_, ?_, ?_⟩, ?_, ?_⟩
  · have h : parseDec (str "0.3333333333333333") = some (3333333333333333, -16) := by decide
    simp only [decValue, h, Option.map_some]
    have : pow10 (-16) = 1 / 10000000000000000 := by simp [pow10]
    rw [this]; grind
  · grind
  · unfold rabs; grind
  · unfold rabs; grind
  · unfold CorrRounded rabs; grind
  · rintro ⟨s, hs, h1, h2⟩
    unfold rabs at *
    grind

/-! ### whole files: every real of the solution -/

theorem sparseD_texts {D : Type} (c : Codec D) (vs : List D) : ∀ i,
    (sparseD c i vs).map (·.2) = (vs.filter (fun v => !c.isZero v)).map c.enc := by
  induction vs with
  | nil => intro i; rfl
  | cons v vs ih =>
    intro i
    simp only [sparseD]
    by_cases h : c.isZero v = true
    · simp [h, ih (i + 1)]
    · simp [h, ih (i + 1)]

theorem realItems_append (a b : List Event) : realItems (a ++ b) = realItems a ++ realItems b := by
  simp [realItems]

theorem realItems_vecEvs {D : Type} (c : Codec D) (mk : VecOut → Event) (vs : List D)
    (hmk : ∀ v, realItems [mk v] = v.items.map (·.val)) : realItems (vecEvs c mk vs) = vs.map c.enc := by
  unfold vecEvs
  split
  · rename_i h; rw [List.eq_nil_of_length_eq_zero h]; rfl
  · rw [hmk]; simp [List.map_map, Function.comp_def]

/-- the FLOAT bit survives `kindMask`, so the reader's test on the delivered kind is the writer's `isFloat` -/
theorem realItems_obsSuf {D : Type} (c : Codec D) (x : Suf D) :
    realItems (obsSuf c x) =
      (if isOutput x.kind && isFloat x.kind then x.dvals.filter (fun v => !c.isZero v) else []).map (fun v => 32 :: c.enc v) := by
  have hk : (kindMask x.kind / 4) % 2 = 1 ↔ isFloat x.kind = true := by
    simp only [kindMask, isFloat, decide_eq_true_eq]; omega
  unfold obsSuf
  by_cases ho : isOutput x.kind = true
  · by_cases hf : isFloat x.kind = true
    · simp only [ho, hf, Bool.not_true, Bool.false_eq_true, if_false, Bool.and_self, if_true, realItems, List.flatMap_cons, List.flatMap_nil,
        List.append_nil, Int.toNat_natCast, hk.mpr hf, Suf.entries, List.map_map]
      have := congrArg (List.map (fun t => 32 :: t)) (sparseD_texts c x.dvals 0)
      simpa [List.map_map, Function.comp_def] using this
    · simp [ho, hf, realItems, mt hk.mp hf]
  · simp [ho, realItems]

theorem realItems_sufs {D : Type} (c : Codec D) (l : List (Suf D)) :
    realItems (l.flatMap (obsSuf c)) =
      (l.flatMap (fun x => if isOutput x.kind && isFloat x.kind then x.dvals.filter (fun v => !c.isZero v) else [])).map (fun v => 32 :: c.enc v) := by
  rw [realItems, List.flatMap_assoc, List.map_flatMap]
  exact congrArg l.flatMap (funext (realItems_obsSuf c))

/-- the reals the handler receives from `observable c s` are exactly the printed texts of `writtenReals c s`, in order: vector items are the text itself,
items of a real-valued suffix are the text behind the separating blank -/
theorem realItems_observable {D : Type} (c : Codec D) (s : Sol D) :
    realItems (observable c s) =
      (s.duals ++ s.primals).map c.enc ++
      (s.sufs.flatMap (fun x => if isOutput x.kind && isFloat x.kind then x.dvals.filter (fun v => !c.isZero v) else [])).map (fun v => 32 :: c.enc v) := by
  have hd := realItems_vecEvs c (.dual false) s.duals (fun v => by simp [realItems])
  have hp := realItems_vecEvs c (.primal false) s.primals (fun v => by simp [realItems])
  have h1 : realItems (if (msgRead s.msg).length = 0 then [] else [Event.msg (msgRead s.msg) 0]) = [] := by
    split <;> simp [realItems]
  have h2 : ∀ a b t, realItems [Event.options a b t] = [] := by intros; simp [realItems]
  have h3 : ∀ a b t, realItems [Event.objno a b t] = [] := by intros; simp [realItems]
  unfold observable
  simp only [realItems_append, hd, hp, realItems_sufs, h1, h2, h3, List.map_append, List.nil_append, List.append_nil]

/-- **Every real of a written file, numeric clause.**  For every codec, every solution meeting `Wf`, every reader variant: the file is read back OK with
`observable c s` (C05_roundtrip); the reals the handler receives are exactly the printed texts of the solution's reals — duals, primals and the non-zero entries of the
real-valued OUTPUT suffixes, in order (a suffix item is the text behind the separating blank, which `strtod` skips); and under the two stated ASSUMPTIONS on the
conversions (`G16` for fmt, `CorrRounded` for strtod — see Spec.lean; assumed only for the reals of this solution) every one of them comes back within `10^-15` relative. -/
theorem C05_file_reals_within_1e15 {D : Type} (fx fm : Bool) (c : Codec D) (val : D → Rat) (S : Bytes → Rat) (s : Sol D) (nVars nCons : Nat)
    (w : Wf c s nVars nCons)
    (hconv : ∀ v ∈ writtenReals c s, ∃ d, decValue (c.enc v) = some d ∧ G16 (val v) d ∧ CorrRounded d (S (c.enc v))) :
    readSol fx fm nVars nCons readAll (writeSol c s) = ⟨.ok, observable c s, false⟩ ∧
    realItems (readSol fx fm nVars nCons readAll (writeSol c s)).evs =
      (s.duals ++ s.primals).map c.enc ++
      (s.sufs.flatMap (fun x => if isOutput x.kind && isFloat x.kind then x.dvals.filter (fun v => !c.isZero v) else [])).map (fun v => 32 :: c.enc v) ∧
    ∀ v ∈ writtenReals c s, rabs (S (c.enc v) - val v) ≤ rabs (val v) / 1000000000000000 := by
  have hr := C05_roundtrip fx fm c s nVars nCons w
  refine ⟨hr, ?_, fun v hv => ?_⟩
  · rw [hr]; exact realItems_observable c s
  · obtain ⟨d, _, hg, hc⟩ := hconv v hv
    exact C05_within_1e15 (val v) d (S (c.enc v)) hg hc

/-- integer suffix values in the C `int` range always satisfy the hypotheses on suffix entries … -/
theorem C05_int_entries_good (vs : List Int) (h : ∀ v ∈ vs, Int32 v) :
    ∀ e ∈ sparseI 0 vs, e.1 < vs.length ∧ GoodSufTok e.2 := by
  intro e he; simpa using sparseI_good 0 vs h e he

/-- … and real suffix values do whenever the printed text of every non-zero value satisfies `GoodSufTok` -/
theorem C05_real_entries_good {D : Type} (c : Codec D) (vs : List D)
    (h : ∀ v ∈ vs, c.isZero v = false → GoodSufTok (c.enc v)) :
    ∀ e ∈ sparseD c 0 vs, e.1 < vs.length ∧ GoodSufTok e.2 := by
  intro e he; simpa using sparseD_good c 0 vs h e he

/-- the texts fmt prints for non-finite doubles: the spellings found in `write_double` of include/mp/format.h of the tree under test
(`MpVerif.Gen.SolGuards.fmt_nonfinite`, re-read on every run), each with and without a leading `-`.  The three theorems of the section
"non-finite values" below quantify over THIS list, so a changed spelling changes their statements and they are decided again. -/
def nonfiniteToks : List Bytes := MpVerif.Gen.SolGuards.fmt_nonfinite.flatMap (fun s => [str s, 45 :: str s])

/-! ## translator ties

`MpVerif.Gen.SolGuards` is regenerated on every run from the tree under test (`translators/gen_solguards.py`): the writer's kind mask and
OUTPUT filter through clang's typed AST, and (structure tie) the ordered list of format strings of every `print` in include/mp/sol.h. -/
section gen
open MpVerif.CSem MpVerif.Gen.SolGuards

/-- the suffix kind printed in the header, `kind & (SUFFIX_KIND_MASK | FLOAT | IODECL)`, = the model's `kindMask` (suffix kinds are flag sets below 128) -/
theorem C05_gen_kind_mask : ∀ k : Fin 128, w_kind_mask (k.val : Int) = .ret ((kindMask k.val : Nat) : Int) := by decide

/-- the OUTPUT filter `(kind & suf::OUTPUT) == 0` = the model's `isOutput` -/
theorem C05_gen_is_output : ∀ k : Fin 128, w_is_output (k.val : Int) = .ret (if isOutput k.val then 1 else 0) := by decide

/-- **The writer model renders the format strings of the tree under test.**  `writeSol` prints each of the eleven `print`s of include/mp/sol.h by
interpreting its format string as found in the source on this run (`writer_formats`; `{}` of an integer ↦ `encInt`/`encNat`, of a string ↦ the bytes,
`{:.16}` of a double ↦ `Codec.enc`, `\\n` ↦ 10; anything else is not rendered); the result is, for every codec and solution, the hand-written byte
layout `writeSolLit` that the round-trip lemmas analyse.  A changed format string changes `writeSol` (driver output, statements of `C05_roundtrip*`)
and this proof has to be redone. -/
theorem C05_gen_writer_formats {D : Type} (c : Codec D) (s : Sol D) : writeSol c s = writeSolLit c s := writeSol_eq_lit c s

/-- TRIPWIRE (detects change, proves nothing about behaviour): there are eleven prints, and `WriteSolFile` visits the suffix kinds in the order in which
`Sol.sufs` is documented to be concatenated -/
theorem C05_tripwire_writer_kind_order : writer_formats.length = 11 ∧ writer_kind_order = writerKindOrder := by decide

/-- TRIPWIRE: in the tree under test the list `nonfiniteToks` (defined from the generated spellings) consists of these four texts -/
theorem C05_gen_nonfinite_spellings :
    nonfiniteToks = [str "inf", str "-inf", str "nan", str "-nan"] := by decide

end gen

/-! ## non-finite values -/

/-- `decstring` rejects every non-finite text (the last consumed character is a letter) … -/
theorem C05_nonfinite_decstring : ∀ t ∈ nonfiniteToks, decstring (t ++ [10]) = none := by decide

/-- … so a non-finite dual/primal value makes the vector reader fail with Bad_Line (rejected with an error
code, never delivered as a different number) -/
theorem C05_nonfinite_rejected (t rest : Bytes) (ht : t ∈ nonfiniteToks) :
    readItem false .dbl (t ++ 10 :: rest) = (.error .badLine, rest) := by
  have hd := C05_nonfinite_decstring t ht
  have hc : (∀ c ∈ t, c ≠ 10 ∧ c ≠ 0) ∧ t.length ≤ 500 := by
    revert t; decide
  unfold readItem
  simp only [Bool.false_eq_true, if_false]
  rw [fgets_line 511 rest hc.1 (by omega)]
  simp only
  rw [cstr_line hc.1, hd]

/-- in a suffix line `<index> <value>` the same texts are consumed entirely by `strtod`
(read back as the same non-finite value) -/
theorem C05_nonfinite_suffix_same : ∀ t ∈ nonfiniteToks, strtodLen (32 :: t ++ [10]) = t.length + 1 := by decide

/-! ## whole files: instances of `C05_roundtrip` with the observable events written out and counterexamples to the side conditions (kernel evaluation); then what `SufOK.table` restricts, and non-vacuity of the hypotheses of the 1e-15 theorems and of `Wf` -/

abbrev Tok := Bytes × Bool
def tokCodec : Codec Tok := ⟨fun t => t.1, fun t => t.2⟩
def tk (s : String) : Tok := (str s, false)
def zero : Tok := (str "0", true)

/-- message `hi\n\nthere`, 3 options, 1 dual, 2 primals, objno 1, status 100, an int suffix with a
two-line table and a real suffix; the non-OUTPUT suffix `skip` is not written -/
def sol1 : Sol Tok :=
  ⟨str "hi\n\nthere", [1, 0, 7], 2, 3, [tk "0.5"], [tk "1", tk "-2.25e-07"], 1, 100,
   [⟨16, str "sstatus", str "0\tnone\n1\tbas", [0, 3, 0, 1], []⟩,
    ⟨0, str "skip", [], [5], []⟩,
    ⟨21, str "dual2", [], [], [zero, tk "1e+100"]⟩]⟩

theorem wf_sol1 : Wf tokCodec sol1 3 2 where
  msg := by
    intro l hl
    have : l = str "hi" ∨ l = [32] ∨ l = str "there" := by revert l; decide
    rcases this with h | h | h <;> subst h <;> exact ⟨by decide, by decide, by decide, by decide, by decide⟩
  opts := ⟨1, 0, 7, [], rfl, by decide, by decide⟩
  ints := by decide
  duals := by
    intro v hv
    have : v = tk "0.5" := by simpa [sol1] using hv
    subst this; exact ⟨by decide, by decide, by decide⟩
  primals := by
    intro v hv
    have : v = tk "1" ∨ v = tk "-2.25e-07" := by simpa [sol1] using hv
    rcases this with h | h <;> subst h <;> exact ⟨by decide, by decide, by decide⟩
  nd := by decide
  np := by decide
  objno := by decide
  status := by decide
  sufs := by
    intro x hx ho
    have : x = ⟨16, str "sstatus", str "0\tnone\n1\tbas", [0, 3, 0, 1], []⟩ ∨ x = ⟨0, str "skip", [], [5], []⟩ ∨
        x = ⟨21, str "dual2", [], [], [zero, tk "1e+100"]⟩ := by simpa [sol1] using hx
    rcases this with h | h | h <;> subst h
    · refine ⟨⟨by decide, by decide, by decide⟩, ?_, by decide, .inr ⟨[str "0\tnone"], str "1\tbas", by decide,
        ⟨by decide, by decide, by decide, by decide⟩, by decide, by decide⟩⟩
      intro e he
      have := C05_int_entries_good [0, 3, 0, 1] (by decide) e (by simpa [Suf.entries, isFloat] using he)
      exact ⟨by have := this.1; simp at this; omega, this.2⟩
    · exact absurd ho (by decide)
    · refine ⟨⟨by decide, by decide, by decide⟩, ?_, by decide, .inl rfl⟩
      intro e he
      have : e = (1, str "1e+100") := by
        have : e ∈ [(1, str "1e+100")] := by
          have h2 : Suf.entries tokCodec ⟨21, str "dual2", [], [], [zero, tk "1e+100"]⟩ = [(1, str "1e+100")] := by decide
          rw [h2] at he; exact he
        simpa using this
      subst this
      exact ⟨by decide, ⟨by decide, by decide, by decide⟩⟩

theorem C05_roundtrip_instance :
    readSol true false 3 2 readAll (writeSol tokCodec sol1) =
      ⟨.ok, [.msg (str "hi\n \nthere\n") 0,
             .options [3, 1, 0, 7, 2, 1, 3, 2] false [],
             .dual false ⟨1, [⟨0, str "0.5"⟩], .ok, 0⟩,
             .primal false ⟨2, [⟨0, str "1"⟩, ⟨0, str "-2.25e-07"⟩], .ok, 0⟩,
             .objno false (str "0") (str " 100"),
             .suffix false 0 8 13 (str "sstatus") (str "0\tnone\n1\tbas") ⟨2, [⟨1, str " 3"⟩, ⟨3, str " 1"⟩], .ok, 0⟩,
             .suffix false 5 6 0 (str "dual2") [] ⟨1, [⟨1, str " 1e+100"⟩], .ok, 0⟩], false⟩ := by
  rw [C05_roundtrip true false tokCodec sol1 3 2 wf_sol1]; decide

/-- the same file read by the reader before 602adf1 gives the same result -/
theorem C05_roundtrip_instance_before_fix :
    readSol false false 3 2 readAll (writeSol tokCodec sol1) = readSol true false 3 2 readAll (writeSol tokCodec sol1) :=
  (C05_roundtrip false false tokCodec sol1 3 2 wf_sol1).trans (C05_roundtrip true false tokCodec sol1 3 2 wf_sol1).symm

/-- empty message, no vectors, 9 options -/
def sol2 : Sol Tok := ⟨[], [1, 1, 1, 1, 1, 1, 1, 1, 1], 0, 0, [], [], 1, 0, []⟩
theorem wf_sol2 : Wf tokCodec sol2 0 0 where
  msg := by
    intro l hl
    have : escLines (splitLines sol2.msg) = [] := by decide
    rw [this] at hl; cases hl
  opts := ⟨1, 1, 1, [1, 1, 1, 1, 1, 1], rfl, by decide, by decide⟩
  ints := by decide
  duals := by intro v hv; cases hv
  primals := by intro v hv; cases hv
  nd := by decide
  np := by decide
  objno := by decide
  status := by decide
  sufs := by intro x hx; cases hx

theorem C05_roundtrip_instance_empty :
    readSol true false 0 0 readAll (writeSol tokCodec sol2) =
      ⟨.ok, [.options [9, 1, 1, 1, 1, 1, 1, 1, 1, 1, 0, 0, 0, 0] false [], .objno false (str "0") (str " 0")], false⟩ := by
  rw [C05_roundtrip true false tokCodec sol2 0 0 wf_sol2]; decide

def solNoOpt (ncons : Nat) (duals : List Tok) : Sol Tok := ⟨str "m", [], ncons, 1, duals, [tk "1"], 1, 0, []⟩
/-- **A8**: zero options.  `WriteSolFile` still prints `Options`; the reader then takes the four count
lines as options: `ncons = 3` with three duals is read as "3 options" (the wrong options block
`[3, 3, 1, 1, 1, 2, 3, 1]` is delivered), `ncons = 5` without duals ends in Bad_Line, and any `ncons` outside 3..9
(here 0) makes the file unreadable (Bad_Format). -/
theorem C05_counterexample_zero_options :
    (readSol true false 1 5 readAll (writeSol tokCodec (solNoOpt 5 []))).code = .badLine ∧
    (readSol true false 1 0 readAll (writeSol tokCodec (solNoOpt 0 []))).code = .badFormat ∧
    (readSol true false 1 5 readAll (writeSol tokCodec (solNoOpt 3 [tk "1", tk "2", tk "3"]))).evs.take 2 =
      [.msg (str "m\n") 0, .options [3, 3, 1, 1, 1, 2, 3, 1] false []] := by decide +kernel

/-- one or two options: the reader insists on 3..9 -/
theorem C05_counterexample_two_options :
    (readSol true false 1 0 readAll (writeSol tokCodec ⟨str "m", [1, 1], 0, 1, [], [tk "1"], 1, 0, []⟩)).code = .badFormat := by decide +kernel

/-- **A9**: second option equal to 3 selects the vbtol form in the reader; the writer never writes it -/
theorem C05_counterexample_vbtol_flag :
    (readSol true false 1 0 readAll (writeSol tokCodec ⟨str "m", [1, 3, 1, 1], 0, 1, [], [tk "1"], 1, 0, []⟩)).code ≠ .ok := by decide +kernel

/-- a message line consisting of a single CR is taken for the terminating empty line -/
theorem C05_counterexample_cr_line :
    (readSol true false 0 0 readAll (writeSol tokCodec ⟨str "a\n\r\nb", [1, 1, 1], 0, 0, [], [], 1, 0, []⟩)).code ≠ .ok := by decide +kernel

/-- a message line of exactly 511 characters: the second `fgets` chunk is a lone `\n`, which the reader
takes for the terminator: the line comes back without its newline (and any following lines are lost) -/
theorem C05_counterexample_line_511 :
    (readSol true false 0 0 readAll (writeSol tokCodec ⟨List.replicate 511 120, [1, 1, 1], 0, 0, [], [], 1, 0, []⟩)).evs.head? =
      some (.msg (List.replicate 511 120) 0) := by decide +kernel

/-- backspaces at the start of a later line are stripped and counted as "initial" backspaces -/
theorem C05_counterexample_late_backspace :
    (readSol true false 0 0 readAll (writeSol tokCodec ⟨str "ab\n\x08\x08cd", [1, 1, 1], 0, 0, [], [], 1, 0, []⟩)).evs.head? =
      some (.msg (str "ab\ncd\n") 2) := by decide +kernel

/-- every byte string is a table in the sense of `SufOK`: lines without LF joined by LF, then a last line
(so what `SufOK.table` restricts is: no NUL, the last line ≤ 509 characters and not ending in CR, and the total length) -/
theorem C05_table_decomp (t : Bytes) :
    ∃ init last, t = joinNl init ++ last ∧ (∀ l ∈ init, ∀ c ∈ l, c ≠ 10) ∧ (∀ c ∈ last, c ≠ 10) := by
  induction t with
  | nil => exact ⟨[], [], by simp [joinNl], by simp, by simp⟩
  | cons c cs ih =>
    obtain ⟨init, last, e, h1, h2⟩ := ih
    by_cases hc : c = 10
    · subst hc
      exact ⟨[] :: init, last, by simp [joinNl, e], by
        intro l hl; rcases List.mem_cons.mp hl with rfl | hl
        · simp
        · exact h1 l hl, h2⟩
    · cases init with
      | nil =>
        refine ⟨[], c :: last, by simp [joinNl] at e ⊢; exact e, by simp, ?_⟩
        intro x hx; rcases List.mem_cons.mp hx with rfl | hx
        · exact hc
        · exact h2 x hx
      | cons l ls =>
        refine ⟨(c :: l) :: ls, last, by simp [joinNl] at e ⊢; exact e, ?_, h2⟩
        intro l' hl'; rcases List.mem_cons.mp hl' with rfl | hl'
        · intro x hx; rcases List.mem_cons.mp hx with rfl | hx
          · exact hc
          · exact h1 l (by simp) x hx
        · exact h1 l' (by simp [hl'])

/-- non-vacuity for `C05_file_reals_within_1e15`: the reals of `sol1` and what the handler receives for them: the zero entry of the real
suffix is not written, the suffix item carries the separating blank -/
theorem C05_file_reals_instance :
    (writtenReals tokCodec sol1).map tokCodec.enc = [str "0.5", str "1", str "-2.25e-07", str "1e+100"] ∧
    realItems (readSol true false 3 2 readAll (writeSol tokCodec sol1)).evs = [str "0.5", str "1", str "-2.25e-07", str " 1e+100"] := by
  rw [C05_roundtrip true false tokCodec sol1 3 2 wf_sol1]; decide

/-- the two assumptions are satisfiable for every non-zero value (exact conversions) -/
theorem C05_assumptions_satisfiable (x : Rat) (h : x ≠ 0) : G16 x x ∧ CorrRounded x x := by
  refine ⟨⟨rabs x / 1000000000000000, ?_, ?_, ?_⟩, ?_⟩
  · unfold rabs; grind
  · unfold rabs; grind
  · unfold rabs; grind
  · unfold CorrRounded rabs; grind

/-! non-vacuity of the hypotheses: the concrete solution `sol1` (message with an empty line, options,
vectors, an int suffix with a two-line table, a skipped suffix, a real suffix with a zero entry) meets `Wf` -/
example : Wf tokCodec sol1 3 2 := wf_sol1

/-- hypotheses of `C05_nonfinite_rejected` / the ranges of the `C05_gen_*` theorems are inhabited by the cases that matter -/
example : str "inf" ∈ nonfiniteToks ∧ str "-nan" ∈ nonfiniteToks := by decide
example : MpVerif.Gen.SolGuards.w_kind_mask 92 = .ret 12 ∧ MpVerif.Gen.SolGuards.w_is_output 92 = .ret 1 ∧
    MpVerif.Gen.SolGuards.w_is_output 44 = .ret 0 := by decide

example : GoodNum (str "-2.25e-07") := ⟨by decide, by decide, by decide⟩
example : GoodNum (str "1.797693134862316e+308") := ⟨by decide, by decide, by decide⟩
example : ∀ l ∈ escLines (splitLines (str "hi\n\nthere")), GoodLine l := wf_sol1.msg

end MpVerif.C05
