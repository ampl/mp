import MpVerif.C05.LemmasNum
/-! # C05 — the sections of a written file as the reader parses them -/
namespace MpVerif.C05
open MpVerif.C14

theorem toInt32_id (i : Int) (h : Int32 i) : toInt32 i = i := by
  unfold Int32 at h
  unfold toInt32
  simp only
  split <;> omega

theorem readIntLine_encInt (i : Int) (rest : Bytes) (h : Int32 i) :
    readIntLine (encInt i ++ 10 :: rest) = .ok (i, rest) := by
  have hl := encInt_len32 i h
  unfold readIntLine
  rw [fgets_line 512 rest (encInt_clean i) (by omega)]
  simp only
  rw [cstr_line (encInt_clean i)]
  rw [strtol_encInt i 10 [] rfl (by unfold Int32 at h; omega)]
  simp only [encInt_length_ne_zero i, if_false, toInt32_id i h]

theorem writeIntLines_append (xs ys : List Int) : writeIntLines (xs ++ ys) = writeIntLines xs ++ writeIntLines ys := by
  induction xs with
  | nil => simp [writeIntLines]
  | cons x xs ih => simp [writeIntLines, ih, List.append_assoc]

theorem readIntLines_write (xs : List Int) (h : ∀ i ∈ xs, Int32 i) (rest : Bytes) :
    readIntLines xs.length (writeIntLines xs ++ rest) = .ok (xs, rest) := by
  induction xs with
  | nil => simp [readIntLines, writeIntLines]
  | cons x xs ih =>
    simp only [List.cons_append, writeIntLines, nl, List.append_assoc, List.length_cons, List.nil_append]
    unfold readIntLines
    rw [readIntLine_encInt x _ (h x (by simp))]
    simp only
    rw [ih (fun i hi => h i (by simp [hi]))]

/-- `optsText` reads four integer lines (count, first three options), decides from them how many more follow, and reads those;
    `tail` is what the writer puts behind the options (the four counts) -/
theorem optsText_written (o0 o1 o2 : Int) (os tail : List Int) (rest : Bytes) (hos : os.length ≤ 6) (h3 : o1 ≠ 3) (ht : tail.length = 4)
    (hr : ∀ i ∈ [((os.length + 3 : Nat) : Int), o0, o1, o2] ++ (os ++ tail), Int32 i) :
    optsText (writeIntLines ([((os.length + 3 : Nat) : Int), o0, o1, o2] ++ (os ++ tail)) ++ rest) =
      .ok (⟨[((os.length + 3 : Nat) : Int), o0, o1, o2] ++ (os ++ tail), os.length + 3, false, []⟩, rest) := by
  have h1 : readIntLines 4 _ = _ := readIntLines_write [_, o0, o1, o2] (fun i hi => hr i (List.mem_append_left _ hi)) (writeIntLines (os ++ tail) ++ rest)
  have h2 := readIntLines_write (os ++ tail) (fun i hi => hr i (List.mem_append_right _ hi)) rest
  rw [List.length_append, ht] at h2
  unfold optsText
  rw [writeIntLines_append, List.append_assoc, h1]
  simp only [List.getD_cons_zero, List.getD_cons_succ, optHeader, if_neg (show ¬ (((os.length + 3 : Nat) : Int) < 3 ∨ ((os.length + 3 : Nat) : Int) > 9) by omega),
    if_neg h3, Int.toNat_natCast, h2]
  rfl

theorem strObjno : str "objno " = [111, 98, 106, 110, 111, 32] := by decide
theorem strSuffix : str "suffix " = [115, 117, 102, 102, 105, 120, 32] := by decide
theorem strOptions : str "Options" = [79, 112, 116, 105, 111, 110, 115] := by decide

theorem textTail_objno (fx : Bool) (pol : Policy) (a b : Int) (rest : Bytes) (ha : Int64 a) (hb : Int64 b) :
    textTail fx pol (str "objno " ++ encInt a ++ 32 :: encInt b ++ 10 :: rest) =
      Result.cons (.objno false (encInt a) (32 :: encInt b)) (gsuf fx (rest.length + 1) pol bufInit rest) := by
  have la := encInt_len64 a ha
  have lb := encInt_len64 b hb
  have hline : Clean (str "objno " ++ encInt a ++ 32 :: encInt b) :=
    ((show Clean (str "objno ") by decide).append (encInt_clean a)).append (encInt_clean b).blank
  unfold textTail
  rw [show str "objno " ++ encInt a ++ 32 :: encInt b ++ 10 :: rest = (str "objno " ++ encInt a ++ 32 :: encInt b) ++ 10 :: rest from by simp]
  rw [fgets_line 512 rest hline (by rw [strObjno]; simp; omega)]
  simp only
  rw [cstr_line hline]
  have e1 : (str "objno " ++ encInt a ++ 32 :: encInt b ++ [10]).take 6 = str "objno " := by
    rw [strObjno]; simp
  have e2 : (str "objno " ++ encInt a ++ 32 :: encInt b ++ [10]).drop 6 = encInt a ++ 32 :: (encInt b ++ [10]) := by
    rw [strObjno]; simp
  simp only [e1, e2, ne_eq, not_true_eq_false, if_false]
  have k1 := strtodLen_encInt a 32 (encInt b ++ [10]) (.inl rfl)
  have k2 : strtodLen (32 :: (encInt b ++ [10])) = (encInt b).length + 1 := strtodLen_sp_encInt b
  rw [k1]
  simp only [encInt_length_ne_zero a, if_false, List.drop_left', k2, Nat.add_one_ne_zero, List.take_left']
  congr 2
  rw [show 32 :: (encInt b ++ [10]) = (32 :: encInt b) ++ [10] from rfl]
  exact List.take_left' (by simp)

/-- The same for the driver's field `goodsuf=` and the hypothesis `GoodSufTok`, see `goodNumB_sound`. -/
theorem goodSufTokB_sound (t : Bytes) (h : goodSufTokB t = true) : GoodSufTok t := by
  simp only [goodSufTokB, Bool.and_eq_true, decide_eq_true_eq, List.all_eq_true, bne_iff_ne, ne_eq, beq_iff_eq] at h
  exact ⟨h.1.1, fun c hc => h.1.2 c hc, h.2⟩

theorem readItem_pair (k : RdKind) (hk : k ≠ .dbl) (i : Nat) (t rest : Bytes) (hi : i ≤ 2147483647) (ht : GoodSufTok t) :
    readItem false k (encNat i ++ 32 :: t ++ 10 :: rest) = (.ok ⟨(i : Int), 32 :: t⟩, rest) := by
  have li := encNat_len32 i hi
  have hline : Clean (encNat i ++ 32 :: t) := (encNat_clean i).append (Clean.blank ht.clean)
  unfold readItem
  simp only [Bool.false_eq_true, if_false]
  rw [show encNat i ++ 32 :: t ++ 10 :: rest = (encNat i ++ 32 :: t) ++ 10 :: rest from by simp]
  rw [fgets_line 511 rest hline (by have := ht.short; simp; omega)]
  simp only
  rw [cstr_line hline]
  have hst : strtol (encNat i ++ 32 :: t ++ [10]) = ((i : Int), (encNat i).length) := by
    have := strtol_encInt (i : Int) 32 (t ++ [10]) rfl (by omega)
    rw [encInt_ofNat] at this
    simpa using this
  have hne : ¬ ((encNat i).length = 0) := fun h => encNat_ne_nil i (List.length_eq_zero_iff.mp h)
  have hdrop : (encNat i ++ 32 :: t ++ [10]).drop (encNat i).length = 32 :: t ++ [10] := by
    rw [show encNat i ++ 32 :: t ++ [10] = encNat i ++ (32 :: t ++ [10]) from by simp]; exact List.drop_left'  rfl
  have htake : (32 :: t ++ [10]).take (t.length + 1) = 32 :: t := by
    rw [show 32 :: t ++ [10] = (32 :: t) ++ [10] from rfl]; exact List.take_left' (by simp)
  cases k with
  | dbl => exact absurd rfl hk
  | ipair =>
    simp only [hst, hne, if_false, hdrop, ht.scan, Nat.add_one_ne_zero, htake, toInt32_id (i : Int) (by unfold Int32; omega)]
  | dpair =>
    simp only [hst, hne, if_false, hdrop, ht.scan, Nat.add_one_ne_zero, htake, toInt32_id (i : Int) (by unfold Int32; omega)]

theorem runVec_entries (k : RdKind) (hk : k ≠ .dbl) (es : List (Nat × Bytes))
    (h : ∀ e ∈ es, e.1 ≤ 2147483647 ∧ GoodSufTok e.2) (rest : Bytes) :
    runVec false k .all es.length (writeEntries es ++ rest) =
      (⟨es.length, es.map (fun e => ⟨(e.1 : Int), 32 :: e.2⟩), .ok, 0⟩, rest) :=
  runVec_written k writeEntries (fun e => encNat e.1 ++ [32] ++ e.2 ++ [10]) _ rfl (fun _ _ => rfl) es
    (fun e he rest => by simpa using readItem_pair k hk e.1 e.2 rest (h e he).1 (h e he).2) rest

end MpVerif.C05
