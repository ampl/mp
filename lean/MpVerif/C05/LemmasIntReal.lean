import MpVerif.C05.LemmasNum
/-! # C05 — integers as text, beside the round trip: the plain numeral `encInt n` meets both codec hypotheses (`GoodNum`,
`GoodSufTok`), so the entries of a suffix meet the token half of `SufOK.entries` and have indices below the length of the value list
(`sparseD_good`, `sparseI_good`; the index half, `e.1 ≤ 2147483647`, needs a bound on that length, left to the instance); integer suffix
values are treated as a case of the real-valued ones, under the codec `intSuf`; and what the text models of Spec.lean (`fmtG16Int`, `intTextValue`, `parseDec`) make of it -/
namespace MpVerif.C05
open MpVerif.C14

theorem encInt_last_digit (n : Int) : isDigit ((encInt n).getLast (encInt_ne_nil n)) = true := by
  obtain ⟨hd, hne, _⟩ := encNat_spec n.natAbs
  rcases encInt_cases n with ⟨_, e⟩ | ⟨_, e⟩
  · have : (encInt n).getLast (encInt_ne_nil n) ∈ encNat n.natAbs := by rw [← e]; exact List.getLast_mem _
    exact hd _ this
  · have hmem : (encInt n).getLast (encInt_ne_nil n) ∈ encNat n.natAbs := by
      have h1 : (encInt n).getLast (encInt_ne_nil n) = (45 :: encNat n.natAbs).getLast (by simp) := by simp [e]
      rw [h1, List.getLast_cons hne]; exact List.getLast_mem _
    exact hd _ hmem

theorem goodNum_encInt (n : Int) (l : (encInt n).length ≤ 500) : GoodNum (encInt n) := by
  have c := encInt_clean n
  have k := strtodLen_encInt n 10 [] (.inr rfl)
  have hne := encInt_ne_nil n
  have hlen := encInt_length_ne_zero n
  refine ⟨l, c, ?_⟩
  unfold decstring
  rw [k]
  simp only [hlen, if_false]
  rw [getD_last_char _ hne]
  have hd := encInt_last_digit n
  simp only [hd, Bool.true_or, if_true]
  rw [List.take_left' rfl]

theorem goodSufTok_encInt_of_len (v : Int) (l : (encInt v).length ≤ 400) : GoodSufTok (encInt v) :=
  ⟨l, encInt_clean v, strtodLen_sp_encInt v⟩

theorem goodSufTok_encInt (v : Int) (h : Int32 v) : GoodSufTok (encInt v) :=
  goodSufTok_encInt_of_len v (Nat.le_trans (encInt_len32 v h) (by decide))

theorem sparseD_good {D : Type} (c : Codec D) (i : Nat) (vs : List D)
    (h : ∀ v ∈ vs, c.isZero v = false → GoodSufTok (c.enc v)) :
    ∀ e ∈ sparseD c i vs, e.1 < i + vs.length ∧ GoodSufTok e.2 := by
  induction vs generalizing i with
  | nil => simp [sparseD]
  | cons v vs ih =>
    intro e he
    unfold sparseD at he
    have ih' := ih (i + 1) (fun x hx => h x (by simp [hx]))
    split at he
    · have := ih' e he; simp only [List.length_cons]; exact ⟨by omega, this.2⟩
    · rename_i hz
      rcases List.mem_cons.mp he with rfl | he
      · exact ⟨by simp, h v (by simp) (by simpa using hz)⟩
      · have := ih' e he; simp only [List.length_cons]; exact ⟨by omega, this.2⟩

def intSuf : Codec Int := ⟨encInt, fun v => decide (v = 0)⟩

theorem sparseI_eq (i : Nat) (vs : List Int) : sparseI i vs = sparseD intSuf i vs := by
  induction vs generalizing i with
  | nil => rfl
  | cons v vs ih => simp only [sparseI, sparseD, intSuf, decide_eq_true_eq, ih]

theorem sparseI_good (i : Nat) (vs : List Int) (h : ∀ v ∈ vs, Int32 v) :
    ∀ e ∈ sparseI i vs, e.1 < i + vs.length ∧ GoodSufTok e.2 := by
  rw [sparseI_eq]
  exact sparseD_good intSuf i vs fun v hv _ => goodSufTok_encInt v (h v hv)

theorem all_isDigit_encNat (m : Nat) : (encNat m).all isDigit = true := by
  rw [List.all_eq_true]; exact (encNat_spec m).1

theorem intTextValue_encInt (n : Int) : intTextValue (encInt n) = some n := by
  obtain ⟨hd, hne, hv⟩ := encNat_spec n.natAbs
  have hall := all_isDigit_encNat n.natAbs
  rcases encInt_cases n with ⟨hn, e⟩ | ⟨hn, e⟩
  · rw [e]
    have h45 : ∀ t, encNat n.natAbs ≠ 45 :: t := by
      intro t ht
      have : (45 : Nat) ∈ encNat n.natAbs := by rw [ht]; simp
      have := hd 45 this
      simp [isDigit] at this
    unfold intTextValue
    split
    · rename_i ds heq; exact absurd heq (h45 ds)
    · simp [hne, hall, hv]; omega
  · rw [e]
    simp [intTextValue, hne, hall, hv]; omega

theorem fmtG16Int_small (n : Int) (h : n.natAbs < 10 ^ 16) : fmtG16Int n = encInt n := by
  have hl : (encNat n.natAbs).length ≤ 16 := encNatAux_len n.natAbs n.natAbs 15 h
  unfold fmtG16Int encInt fmtG16Nat
  simp only [hl, if_true]

theorem takeWhile_all {α : Type} (p : α → Bool) (l : List α) (h : l.all p = true) : l.takeWhile p = l := by
  simpa using List.takeWhile_append_of_pos (l₂ := []) (List.all_eq_true.mp h)

theorem parseDec_of_intTextValue {t : Bytes} {n : Int} (h : intTextValue t = some n) : parseDec t = some (n, 0) := by
  unfold intTextValue at h
  split at h
  · rename_i ds
    split at h
    · rename_i hd
      unfold parseDec
      simp only [List.head?_cons, if_true, List.drop_succ_cons, List.drop_zero, takeWhile_all isDigit ds hd.2, List.drop_length, List.append_nil]
      simp [hd.1]; simpa using h
    · cases h
  · rename_i h45
    split at h
    · rename_i hd
      have hh : t.head? ≠ some 45 := by
        intro hh
        cases t with
        | nil => cases hh
        | cons x r => exact h45 r (by simp at hh; rw [hh])
      unfold parseDec
      simp only [hh, if_false, takeWhile_all isDigit t hd.2, List.drop_length, List.append_nil]
      simp [hd.1]; simpa using h
    · cases h

theorem parseDec_encInt (n : Int) : parseDec (encInt n) = some (n, 0) :=
  parseDec_of_intTextValue (intTextValue_encInt n)

end MpVerif.C05
