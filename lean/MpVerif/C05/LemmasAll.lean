import MpVerif.C05.LemmasSuf
/-! # C05 — assembling the sections into the whole file.  The round trip is proved about the literal byte layout `writeSolLit`; the
file rendered from the generated format strings is shown to be `writeSolLit`, which carries it over to `writeSol`. -/
namespace MpVerif.C05
open MpVerif.C14

theorem writeSuffix_eq {D : Type} (c : Codec D) (s : Suf D) (ho : isOutput s.kind = true) :
    writeSuffix c s = str "suffix " ++ hdrFields (kindMask s.kind) (s.entries c).length (s.name.length + 1)
        (if s.table = [] then 0 else s.table.length + 1) (if s.table = [] then 0 else 1 + countNl s.table) ++
      10 :: (s.name ++ 10 :: ((if s.table = [] then [] else s.table ++ [10]) ++ writeEntries (s.entries c))) := by
  unfold writeSuffix hdrFields
  simp [ho, sp, nl, List.append_assoc]

theorem gsuf_sufs {D : Type} (fx : Bool) (c : Codec D) (sufs : List (Suf D))
    (h : ∀ s ∈ sufs, isOutput s.kind = true → SufOK c s) :
    ∀ (f : Nat) (buf : Buf), (writeSuffixes c sufs).length < f →
      gsuf fx f readAll buf (writeSuffixes c sufs) = ⟨.ok, sufs.flatMap (obsSuf c), false⟩ := by
  induction sufs with
  | nil =>
    intro f buf hf
    cases f with
    | zero => simp at hf
    | succ f => simp [writeSuffixes, gsuf, fgets, done]
  | cons s sufs ih =>
    intro f buf hf
    have ih' := ih (fun x hx => h x (by simp [hx]))
    by_cases ho : isOutput s.kind = true
    · rw [writeSuffixes, writeSuffix_eq c s ho] at hf ⊢
      cases f with
      | zero => simp at hf
      | succ f =>
        have ok := h s (by simp) ho
        -- a table has at most as many newlines as bytes, and `SufOK.table` bounds its length: the header passes `sufheadcheck` and `Lget`
        have hcn : countNl s.table ≤ s.table.length := List.length_filter_le _ _
        have hlen : s.table.length ≤ 199999999 := ok.table.elim (fun h => by simp [h]) fun ⟨_, _, _, _, h, _⟩ => h
        obtain ⟨b', hstep⟩ := gsuf_step fx f readAll rfl buf (kindMask s.kind) s.name s.table (s.entries c) (writeSuffixes c sufs)
          (by unfold kindMask; omega) ok.name ok.entries ok.count (by split <;> omega) (by split <;> omega) (by split <;> omega)
          (gsufBody_written fx s.name s.table _ ok.name ok.table)
        simp only [List.append_assoc, List.cons_append, List.length_append, List.length_cons] at hstep hf ⊢
        rw [hstep, ih' f b' (by omega)]
        simp [obsSuf, ho, Result.cons]
    · have hw : writeSuffix c s = [] := by unfold writeSuffix; simp [ho]
      have ho' : obsSuf c s = [] := by unfold obsSuf; simp [ho]
      simp only [writeSuffixes, hw, List.nil_append, List.flatMap_cons, ho'] at hf ⊢
      exact ih' f buf hf

theorem writeMsgLines_eq (ls : List Bytes) :
    writeMsgLines ls = joinNl (escLines ls) ++ 10 :: tailNl ls := by
  induction ls with
  | nil => simp [writeMsgLines, escLines, tailNl, joinNl]
  | cons l ls ih =>
    cases ls with
    | nil =>
      by_cases h : l = []
      · simp [writeMsgLines, escLines, tailNl, joinNl, h]
      · simp [writeMsgLines, escLines, tailNl, joinNl, h]
    | cons l' ls =>
      simp only [writeMsgLines, escLines, tailNl, ih, joinNl_cons]
      by_cases h : l = [] <;> simp [h]

theorem msgRead_eq (msg : Bytes) : msgRead msg = joinNl (escLines (splitLines msg)) := rfl

theorem message_roundtrip (msg rest : Bytes) (f : Nat)
    (h : ∀ l ∈ escLines (splitLines msg), GoodLine l) (hf : (escLines (splitLines msg)).length < f) :
    msgText f (writeMessage msg ++ rest) ⟨[], 0, true⟩ =
      .ok (⟨msgRead msg, 0, true⟩, tailNl (splitLines msg) ++ rest) := by
  rw [writeMessage, writeMsgLines_eq, List.append_assoc, msgRead_eq]
  simpa using msgText_lines (escLines (splitLines msg)) h (tailNl (splitLines msg) ++ rest) ⟨[], 0, true⟩ rfl f hf

theorem tailNl_cases (ls : List Bytes) : tailNl ls = [10] ∨ tailNl ls = [] := by
  induction ls with
  | nil => simp [tailNl]
  | cons l ls ih =>
    cases ls with
    | nil => by_cases h : l = [] <;> simp [tailNl, h]
    | cons l' ls => simpa [tailNl] using ih

theorem msgRead_clean (msg : Bytes) (h : ∀ l ∈ escLines (splitLines msg), GoodLine l) : ∀ c ∈ msgRead msg, c ≠ 0 :=
  msgRead_eq msg ▸ joinNl_clean _ fun l hl => (h l hl).clean

theorem writeMessage_clean (msg : Bytes) (h : ∀ l ∈ escLines (splitLines msg), GoodLine l) :
    ∀ c ∈ writeMessage msg, c ≠ 0 := by
  intro c hc
  unfold writeMessage at hc
  rw [writeMsgLines_eq] at hc
  rcases List.mem_append.mp hc with hc | hc
  · exact msgRead_clean msg h c hc
  · rcases List.mem_cons.mp hc with hc | hc
    · omega
    · rcases tailNl_cases (splitLines msg) with e | e <;> rw [e] at hc <;> simp at hc
      omega

theorem escLines_le (msg : Bytes) : (escLines (splitLines msg)).length ≤ (writeMessage msg).length := by
  unfold writeMessage
  rw [writeMsgLines_eq]
  have := length_le_joinNl (escLines (splitLines msg))
  simp only [List.length_append]; omega

/-- the tail of the file after the options block -/
def afterOpts {D : Type} (c : Codec D) (s : Sol D) : Bytes :=
  writeVals c s.duals ++ (writeVals c s.primals ++
    (str "objno " ++ encInt (s.objno - 1) ++ 32 :: encInt s.status ++ 10 :: writeSuffixes c s.sufs))

theorem writeSolLit_eq {D : Type} (c : Codec D) (s : Sol D) (hne : s.options ≠ []) :
    writeSolLit c s = writeMessage s.msg ++ (str "Options" ++ 10 ::
      (writeIntLines (optInts s.options s.ncons s.duals.length s.nvars s.primals.length) ++ afterOpts c s)) := by
  have hl : ¬ (s.options.length = 0) := by
    cases h : s.options with
    | nil => exact absurd h hne
    | cons _ _ => simp
  unfold writeSolLit afterOpts optInts
  simp [hl, writeIntLines, writeIntLines_append, encInt_ofNat, nl, sp, List.append_assoc]

/-- The binary format begins with the 32-bit length 6, whose second byte is 0. -/
theorem readU32_ne6 (X rest : Bytes) (hlen : 4 ≤ X.length) (h0 : ∀ b ∈ X, b ≠ 0) (r : Bytes) :
    readU32 (X ++ rest) ≠ some (6, r) := by
  match X, hlen, h0 with
  | a :: b :: c :: d :: X', _, h0 =>
    have hb : b ≠ 0 := h0 b (by simp)
    unfold readU32 fread
    simp only [List.cons_append, List.length_cons]
    have : ¬ ((X' ++ rest).length + 1 + 1 + 1 + 1 < 4) := by omega
    simp only [this, if_false, List.take_succ_cons, List.take_zero, le32]
    intro h
    simp at h
    omega

theorem readSol_text {fx fm : Bool} {nv nc : Nat} {pol : Policy} {X rest : Bytes} (hlen : 4 ≤ X.length) (h0 : ∀ b ∈ X, b ≠ 0) :
    readSol fx fm nv nc pol (X ++ rest) = readText fx fm nv nc pol (X ++ rest) := by
  unfold readSol
  split
  · rename_i r heq; exact absurd heq (readU32_ne6 X rest hlen h0 r)
  · rfl

theorem skipNl_tail (t : Bytes) (ht : t = [10] ∨ t = []) (c : Nat) (hc : c ≠ 10 ∧ c ≠ 13) (rest : Bytes) :
    skipNl (t ++ c :: rest) = c :: rest := by
  rcases ht with h | h <;> subst h <;> simp [skipNl, hc]

theorem getD_append_len (os l : List Int) (i : Nat) (d : Int) : (os ++ l).getD (os.length + i) d = l.getD i d := by
  induction os with
  | nil => simp
  | cons o os ih => simpa [Nat.succ_add] using ih

theorem optInts_getD (opts : List Int) (a b c d i : Nat) :
    (optInts opts a b c d).getD (opts.length + 1 + i) 0 = [(a : Int), (b : Int), (c : Int), (d : Int)].getD i 0 := by
  unfold optInts
  rw [List.cons_append, show opts.length + 1 + i = (opts.length + i) + 1 by omega, List.getD_cons_succ, getD_append_len]

def prependEvs (es : List Event) (r : Result) : Result := { r with evs := es ++ r.evs }

/-- The left side is the body that `dualPart` and (text format) `primalPart` share, with the event constructor `mk` and what
    follows the vector, `K`, left open. -/
theorem vec_written {D : Type} (c : Codec D) (mk : VecOut → Event) (K : Bytes → Result) (vs : List D) (T : Bytes)
    (h : ∀ v ∈ vs, GoodNum (c.enc v)) :
    (if vs.length = 0 then K (writeVals c vs ++ T) else
      let v := runVec false .dbl .all vs.length (writeVals c vs ++ T)
      Result.cons (mk v.1) (afterVec v.1 fun _ => K v.2)) = prependEvs (vecEvs c mk vs) (K T) := by
  rw [runVec_vals c vs T h]
  unfold vecEvs
  split
  · rename_i h0; rw [List.eq_nil_of_length_eq_zero h0]; rfl
  · simp [afterVec, checkReader, Result.cons, prependEvs]

theorem body_written {D : Type} (fx fm : Bool) (c : Codec D) (s : Sol D) (nv nc : Nat) (w : Wf c s nv nc) :
    body fx fm nv nc readAll false
      (some ⟨optInts s.options s.ncons s.duals.length s.nvars s.primals.length, s.options.length, false, []⟩) (afterOpts c s) =
    ⟨.ok, [.options (optInts s.options s.ncons s.duals.length s.nvars s.primals.length) false []] ++
      (vecEvs c (.dual false) s.duals ++ vecEvs c (.primal false) s.primals) ++
      [.objno false (encInt (s.objno - 1)) (32 :: encInt s.status)] ++ s.sufs.flatMap (obsSuf c), false⟩ := by
  have hz1 : _ = (s.duals.length : Int) := optInts_getD s.options s.ncons s.duals.length s.nvars s.primals.length 1
  have hz3 : _ = (s.primals.length : Int) := optInts_getD s.options s.ncons s.duals.length s.nvars s.primals.length 3
  have hnd := w.nd
  have hnp := w.np
  unfold body preCheck optEvent
  simp only [Opts.z, hz1, hz3]
  have h1 : ¬ (readAll.optRv ≠ 0) := by simp [readAll]
  have h2 : ¬ ((s.primals.length : Int) > (nv : Int) ∨ (s.primals.length : Int) < 0) := by omega
  have h3 : ¬ ((s.duals.length : Int) > (nc : Int) ∨ (s.duals.length : Int) < 0) := by omega
  simp only [h1, h2, h3, if_false, Bool.false_eq_true, Int.toNat_natCast]
  unfold afterOpts dualPart afterDual
  simp only [Bool.false_eq_true, if_false]
  rw [show readAll.dual = .all from rfl, vec_written c (.dual false) (primalPart fx readAll false s.primals.length) s.duals _ w.duals]
  unfold primalPart
  simp only [Bool.false_eq_true, if_false]
  rw [show readAll.primal = .all from rfl, vec_written c (.primal false) (textTail fx readAll) s.primals _ w.primals]
  rw [textTail_objno fx readAll (s.objno - 1) s.status _ w.objno w.status]
  rw [gsuf_sufs fx c s.sufs w.sufs _ bufInit (Nat.lt_succ_self _)]
  simp [Result.cons, prependEvs]

theorem roundtrip_lit {D : Type} (fx fm : Bool) (c : Codec D) (s : Sol D) (nv nc : Nat) (w : Wf c s nv nc) :
    readSol fx fm nv nc readAll (writeSolLit c s) = ⟨.ok, observable c s, false⟩ := by
  obtain ⟨o0, o1, o2, os, ho, hos, h3⟩ := w.opts
  have hne : s.options ≠ [] := by rw [ho]; simp
  have hmc := writeMessage_clean s.msg w.msg
  have hopt : optsText (writeIntLines (optInts s.options s.ncons s.duals.length s.nvars s.primals.length) ++ afterOpts c s) =
      .ok (⟨optInts s.options s.ncons s.duals.length s.nvars s.primals.length, s.options.length, false, []⟩, afterOpts c s) := by
    have hi := w.ints
    rw [ho] at hi ⊢
    exact optsText_written o0 o1 o2 os _ _ hos h3 rfl hi
  rw [writeSolLit_eq c s hne]
  generalize writeIntLines (optInts s.options s.ncons s.duals.length s.nvars s.primals.length) ++ afterOpts c s = R at hopt ⊢
  have h0 : ∀ b ∈ writeMessage s.msg ++ str "Options", b ≠ 0 := fun b hb =>
    (List.mem_append.mp hb).elim (hmc b) ((by decide : ∀ b ∈ str "Options", b ≠ 0) b)
  rw [← List.append_assoc, readSol_text (by rw [strOptions]; simp) h0, List.append_assoc]
  unfold readText
  rw [message_roundtrip s.msg _ _ w.msg (by have := escLines_le s.msg; simp only [List.length_append]; omega)]
  simp only
  -- `readText` takes the `O` by pattern matching and the rest of the line, `ptions`, with `fgets`
  rw [strOptions]
  simp only [List.cons_append, List.nil_append]
  rw [skipNl_tail _ (tailNl_cases _) 79 (by decide)]
  simp only
  rw [show (112 :: 116 :: 105 :: 111 :: 110 :: 115 :: 10 :: R) = [112, 116, 105, 111, 110, 115] ++ 10 :: R from rfl]
  rw [fgets_line 512 (l := [112, 116, 105, 111, 110, 115]) R (by decide) (by decide)]
  simp only
  have hp : (cstr ([112, 116, 105, 111, 110, 115] ++ [10])).take 6 = str "ptions" := by decide
  simp only [hp, if_true, hopt]
  rw [body_written fx fm c s nv nc w]
  unfold msgEvent observable
  simp only [ne_eq, not_true_eq_false, if_false, Bool.false_eq_true]
  rw [cstr_clean _ (msgRead_clean s.msg w.msg)]
  split <;> simp [Result.cons, *]

/-! ## `writeSol` (rendered from the generated format strings) = `writeSolLit`

Each of the eleven prints, rendered by `fmtGo` from the format string of the tree under test, is the text the hand-written form contains (kernel
evaluation of the interpreter on the generated string, arguments free).  If a format string in include/mp/sol.h changes, these fail. -/

theorem fmtK_0 {D : Type} (c : Codec D) (i : Nat) (v : Int) : fmtK c 0 [.nat i, .int v] = encNat i ++ [32] ++ encInt v ++ [10] := by
  show encNat i ++ (32 :: (encInt v ++ [10])) = _
  simp
theorem fmtK_1 {D : Type} (c : Codec D) (i : Nat) (v : D) : fmtK c 1 [.nat i, .real v] = encNat i ++ [32] ++ c.enc v ++ [10] := by
  show encNat i ++ (32 :: (c.enc v ++ [10])) = _
  simp
theorem fmtK_2 {D : Type} (c : Codec D) (a b d e f : Nat) (n : Bytes) :
    fmtK c 2 [.nat a, .nat b, .nat d, .nat e, .nat f, .txt n] =
      str "suffix " ++ encNat a ++ sp ++ encNat b ++ sp ++ encNat d ++ sp ++ encNat e ++ sp ++ encNat f ++ nl ++ n ++ nl := by
  show str "suffix " ++ (encNat a ++ (32 :: (encNat b ++ (32 :: (encNat d ++ (32 :: (encNat e ++ (32 :: (encNat f ++ (10 :: (n ++ [10])))))))))))  = _
  simp [sp, nl]
theorem fmtK_3 {D : Type} (c : Codec D) (t : Bytes) : fmtK c 3 [.txt t] = t ++ nl := by
  show t ++ [10] = _
  rfl
theorem fmtK_4 {D : Type} (c : Codec D) : fmtK c 4 [] = str "Options" ++ nl := by rfl
theorem fmtK_5 {D : Type} (c : Codec D) (n : Nat) : fmtK c 5 [.nat n] = encNat n ++ nl := by
  show encNat n ++ [10] = _
  rfl
theorem fmtK_6 {D : Type} (c : Codec D) (i : Int) : fmtK c 6 [.int i] = encInt i ++ nl := by
  show encInt i ++ [10] = _
  rfl
theorem fmtK_7 {D : Type} (c : Codec D) (a b d e : Nat) :
    fmtK c 7 [.nat a, .nat b, .nat d, .nat e] = encNat a ++ nl ++ encNat b ++ nl ++ encNat d ++ nl ++ encNat e ++ nl := by
  show encNat a ++ (10 :: (encNat b ++ (10 :: (encNat d ++ (10 :: (encNat e ++ [10])))))) = _
  simp [nl]
theorem fmtK_8 {D : Type} (c : Codec D) (v : D) : fmtK c 8 [.real v] = c.enc v ++ nl := by
  show c.enc v ++ [10] = _
  rfl
theorem fmtK_9 {D : Type} (c : Codec D) (v : D) : fmtK c 9 [.real v] = c.enc v ++ nl := by
  show c.enc v ++ [10] = _
  rfl
theorem fmtK_10 {D : Type} (c : Codec D) (a b : Int) : fmtK c 10 [.int a, .int b] = str "objno " ++ encInt a ++ sp ++ encInt b ++ nl := by
  show str "objno " ++ (encInt a ++ (32 :: (encInt b ++ [10]))) = _
  simp [sp, nl]

theorem wEntriesI_eq {D : Type} (c : Codec D) (vs : List Int) : ∀ i, wEntriesI c i vs = writeEntries (sparseI i vs) := by
  induction vs with
  | nil => intro i; rfl
  | cons v vs ih =>
    intro i
    simp only [wEntriesI, sparseI]
    split
    · exact ih (i + 1)
    · rw [fmtK_0, ih (i + 1)]; simp [writeEntries]

theorem wEntriesD_eq {D : Type} (c : Codec D) (vs : List D) : ∀ i, wEntriesD c i vs = writeEntries (sparseD c i vs) := by
  induction vs with
  | nil => intro i; rfl
  | cons v vs ih =>
    intro i
    simp only [wEntriesD, sparseD]
    split
    · exact ih (i + 1)
    · rw [fmtK_1, ih (i + 1)]; simp [writeEntries]

theorem wSuffix_eq {D : Type} (c : Codec D) (s : Suf D) : wSuffix c s = writeSuffix c s := by
  unfold wSuffix writeSuffix
  split
  · rfl
  · simp only [fmtK_2, fmtK_3, wEntriesD_eq, wEntriesI_eq, Suf.entries]
    split <;> simp [List.append_assoc]

theorem wSuffixes_eq {D : Type} (c : Codec D) (l : List (Suf D)) : wSuffixes c l = writeSuffixes c l := by
  induction l with
  | nil => rfl
  | cons s r ih => simp [wSuffixes, writeSuffixes, wSuffix_eq, ih]

theorem wIntLines_eq {D : Type} (c : Codec D) (l : List Int) : wIntLines c l = writeIntLines l := by
  induction l with
  | nil => rfl
  | cons i r ih => simp [wIntLines, writeIntLines, fmtK_6, ih]

theorem wVals_eq {D : Type} (c : Codec D) (k : Nat) (hk : ∀ v, fmtK c k [.real v] = c.enc v ++ nl) (l : List D) :
    wVals c k l = writeVals c l := by
  induction l with
  | nil => rfl
  | cons i r ih => simp [wVals, writeVals, hk, ih]

/-- the file rendered from the format strings of the tree under test is the hand-written form the lemmas are about -/
theorem writeSol_eq_lit {D : Type} (c : Codec D) (s : Sol D) : writeSol c s = writeSolLit c s := by
  unfold writeSol writeSolLit
  simp only [fmtK_4, fmtK_5, fmtK_7, fmtK_10, wIntLines_eq, wVals_eq c 8 (fmtK_8 c), wVals_eq c 9 (fmtK_9 c), wSuffixes_eq, List.append_assoc]

end MpVerif.C05
