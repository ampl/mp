import MpVerif.C05.Lemmas
/-! # C05 — decimal integers: the text `encInt` prints (digits of the right value, its length, no newline or NUL) and what
`strtol`, `Lget` and the `strtod` scanner do with it -/
namespace MpVerif.C05
open MpVerif.C14

theorem decValAcc_nil (acc : Nat) : decValAcc acc [] = acc := rfl
theorem decValAcc_cons (acc c : Nat) (cs : Bytes) : decValAcc acc (c :: cs) = decValAcc (10 * acc + (c - 48)) cs := by
  unfold decValAcc; rw [List.foldl_cons]

theorem isDigit_iff (c : Nat) : isDigit c = true ↔ 48 ≤ c ∧ c ≤ 57 := by
  simp [isDigit]

theorem decValAcc_append (acc : Nat) (ds : Bytes) (d : Nat) :
    decValAcc acc (ds ++ [d]) = 10 * decValAcc acc ds + (d - 48) := by
  simp [decValAcc, List.foldl_append]

theorem decValAcc_ge (acc : Nat) (ds : Bytes) : acc ≤ decValAcc acc ds := by
  induction ds generalizing acc with
  | nil => simp [decValAcc_nil]
  | cons c cs ih =>
    rw [decValAcc_cons]
    have := ih (10 * acc + (c - 48))
    omega

theorem encNatAux_spec (f n : Nat) (h : n ≤ f) :
    AllDigits (encNatAux f n) ∧ encNatAux f n ≠ [] ∧ decVal (encNatAux f n) = n := by
  induction f generalizing n with
  | zero =>
    have : n = 0 := by omega
    subst this
    refine ⟨?_, by simp [encNatAux], by simp [encNatAux, decVal, decValAcc_cons, decValAcc_nil]⟩
    intro c hc; simp [encNatAux] at hc; subst hc; decide
  | succ f ih =>
    unfold encNatAux
    split
    · rename_i hlt
      refine ⟨?_, by simp, by simp [decVal, decValAcc_cons, decValAcc_nil]⟩
      intro c hc; simp at hc; subst hc; rw [isDigit_iff]; omega
    · rename_i hge
      have := ih (n / 10) (by omega)
      obtain ⟨a, b, c⟩ := this
      refine ⟨?_, by simp, ?_⟩
      · intro x hx
        rcases List.mem_append.mp hx with hx | hx
        · exact a x hx
        · simp at hx; subst hx; rw [isDigit_iff]; omega
      · unfold decVal at c ⊢
        rw [decValAcc_append, c]; omega

theorem encNat_spec (n : Nat) : AllDigits (encNat n) ∧ encNat n ≠ [] ∧ decVal (encNat n) = n :=
  encNatAux_spec n n (Nat.le_refl _)

theorem digitsVal_digits (ds : Bytes) (hd : AllDigits ds) (t : Nat) (r : Bytes) (acc : Nat) (ht : isDigit t = false) :
    digitsVal (ds ++ t :: r) acc = (decValAcc acc ds, ds.length) := by
  induction ds generalizing acc with
  | nil => simp [digitsVal, ht, decValAcc_nil]
  | cons c cs ih =>
    have hc : isDigit c = true := hd c (by simp)
    simp only [List.cons_append, digitsVal, hc, if_true, decValAcc_cons, List.length_cons]
    rw [ih (fun x hx => hd x (by simp [hx]))]

theorem countWhile_digits (ds : Bytes) (hd : AllDigits ds) (t : Nat) (r : Bytes) (ht : isDigit t = false) :
    countWhile isDigit (ds ++ t :: r) = ds.length := by
  induction ds with
  | nil => simp [countWhile, ht]
  | cons c cs ih =>
    have hc : isDigit c = true := hd c (by simp)
    simp only [List.cons_append, countWhile, hc, if_true, List.length_cons]
    rw [ih (fun x hx => hd x (by simp [hx]))]

/-- `+ 48`: before 602adf1 (`fx = false`) the overflow test `10·acc + c > INT_MAX` is made with `c` the character code, `'0'` not
    yet subtracted. -/
theorem lgetDigits_digits (fx : Bool) (ds : Bytes) (hd : AllDigits ds) (t : Nat) (r : Bytes) (acc : Nat)
    (ht : isDigit t = false) (hb : decValAcc acc ds + 48 ≤ 2147483647) :
    lgetDigits fx (ds ++ t :: r) acc = .ok (decValAcc acc ds) (t :: r) := by
  induction ds generalizing acc with
  | nil => simp [lgetDigits, ht, decValAcc_nil]
  | cons c cs ih =>
    have hc : isDigit c = true := hd c (by simp)
    have hc' := (isDigit_iff c).mp hc
    have hge := decValAcc_ge (10 * acc + (c - 48)) cs
    simp only [decValAcc_cons] at hb
    simp only [List.cons_append, lgetDigits, hc, if_true, decValAcc_cons]
    cases fx
    · have h1 : ¬ (10 * acc + c > 2147483647) := by omega
      have h2 : 10 * acc + c - 48 = 10 * acc + (c - 48) := by omega
      simp only [Bool.false_eq_true, if_false, h1, h2]
      exact ih (fun x hx => hd x (by simp [hx])) _ hb
    · have h1 : ¬ (acc > 214748363) := by omega
      simp only [if_true, h1, if_false]
      exact ih (fun x hx => hd x (by simp [hx])) _ hb

/-- the byte behind a numeral in a written line: a blank or a newline (the lemmas below take `t = 32 ∨ t = 10` directly) -/
structure NumTerm (t : Nat) : Prop where
  h : t = 32 ∨ t = 10

theorem lget_digits (fx : Bool) (ds : Bytes) (hd : AllDigits ds) (hne : ds ≠ []) (t : Nat) (r : Bytes)
    (ht : t = 32 ∨ t = 10) (hb : decVal ds + 48 ≤ 2147483647) :
    lget fx (ds ++ t :: r) = .ok (decVal ds) (t :: r) := by
  cases ds with
  | nil => exact absurd rfl hne
  | cons c cs =>
    have hc : isDigit c = true := hd c (by simp)
    have hc' := (isDigit_iff c).mp hc
    have htd : isDigit t = false := by rcases ht with h | h <;> subst h <;> decide
    unfold lget
    have h32 : ¬ c = 32 := by omega
    simp only [List.cons_append, List.dropWhile_cons, h32, decide_false, Bool.false_eq_true, if_false, hc, Bool.not_true]
    have : lgetDigits fx (cs ++ t :: r) (c - 48) = .ok (decVal (c :: cs)) (t :: r) := by
      have := lgetDigits_digits fx cs (fun x hx => hd x (by simp [hx])) t r (c - 48) htd (by simpa [decVal, decValAcc_cons] using hb)
      simpa [decVal, decValAcc_cons] using this
    rw [this]
    rcases ht with h | h <;> subst h <;> simp

/-- `2147483599 = INT_MAX - 48`, see `lgetDigits_digits` -/
theorem lget_encNat (fx : Bool) (n t : Nat) (r : Bytes) (ht : t = 32 ∨ t = 10) (hb : n ≤ 2147483599) :
    lget fx (encNat n ++ t :: r) = .ok n (t :: r) := by
  obtain ⟨hd, hne, hv⟩ := encNat_spec n
  have := lget_digits fx (encNat n) hd hne t r ht (by rw [hv]; omega)
  rwa [hv] at this

theorem lget_sp (fx : Bool) (s : Bytes) : lget fx (32 :: s) = lget fx s := by
  simp [lget]

theorem digit_not_space (c : Nat) (h : isDigit c = true) : isSpace c = false := by
  have := (isDigit_iff c).mp h
  simp [isSpace]; omega

theorem strtol_digits (ds : Bytes) (hd : AllDigits ds) (hne : ds ≠ []) (t : Nat) (r : Bytes)
    (ht : isDigit t = false) (hb : decVal ds ≤ 9223372036854775807) :
    strtol (ds ++ t :: r) = ((decVal ds : Int), ds.length) := by
  cases ds with
  | nil => exact absurd rfl hne
  | cons c cs =>
    have hc : isDigit c = true := hd c (by simp)
    have hc' := (isDigit_iff c).mp hc
    have hsp := digit_not_space c hc
    have hdv := digitsVal_digits (c :: cs) hd t r 0 ht
    unfold strtol
    have h43 : ¬ c = 43 := by omega
    have h45 : ¬ c = 45 := by omega
    simp only [List.cons_append, List.takeWhile_cons, hsp, Bool.false_eq_true, if_false, List.length_nil, List.drop_zero,
      h43, h45]
    simp only [List.cons_append] at hdv
    rw [hdv]
    have hgt : ¬ (decValAcc 0 (c :: cs) > 9223372036854775807) := by unfold decVal at hb; omega
    simp [hgt, decVal]

theorem strtol_neg_digits (ds : Bytes) (hd : AllDigits ds) (hne : ds ≠ []) (t : Nat) (r : Bytes)
    (ht : isDigit t = false) (hb : decVal ds ≤ 9223372036854775808) :
    strtol (45 :: ds ++ t :: r) = (-(decVal ds : Int), ds.length + 1) := by
  have hdv := digitsVal_digits ds hd t r 0 ht
  unfold strtol
  have hsp : isSpace 45 = false := by decide
  simp only [List.cons_append, List.takeWhile_cons, hsp, Bool.false_eq_true, if_false, List.length_nil, List.drop_zero]
  simp only [show ¬ ((45 : Nat) = 43) from by decide, if_false, if_true, List.drop_succ_cons, List.drop_zero]
  rw [hdv]
  have hlen : ¬ (ds.length = 0) := by
    cases ds with
    | nil => exact absurd rfl hne
    | cons _ _ => simp
  have hgt : ¬ (decValAcc 0 ds > 9223372036854775808) := by unfold decVal at hb; omega
  simp [hlen, hgt, decVal]; omega

theorem lower_digit (c : Nat) (h : isDigit c = true) : lower c = c := by
  have := (isDigit_iff c).mp h
  unfold lower
  have : ¬ (65 ≤ c) := by omega
  simp [this]

theorem mantLen_digits (ds : Bytes) (hd : AllDigits ds) (hne : ds ≠ []) (t : Nat) (r : Bytes) (ht : t = 32 ∨ t = 10) :
    mantLen isDigit 101 (ds ++ t :: r) = ds.length := by
  have htd : isDigit t = false := by rcases ht with h | h <;> subst h <;> decide
  have hcw := countWhile_digits ds hd t r htd
  have hlen : 0 < ds.length := by
    cases ds with
    | nil => exact absurd rfl hne
    | cons _ _ => simp
  unfold mantLen
  simp only [hcw, List.drop_left']
  have hdot : (t == 46) = false := by rcases ht with h | h <;> subst h <;> decide
  simp only [hdot, Bool.false_eq_true, if_false, Nat.add_zero]
  have : ¬ ds.length = 0 := by omega
  simp only [this, if_false, List.drop_left']
  have hexp : expLen 101 (t :: r) = 0 := by
    unfold expLen
    have : ¬ (lower t = 101) := by rcases ht with h | h <;> subst h <;> decide
    simp [this]
  rw [hexp]; rfl

theorem scanBody_digits (ds : Bytes) (hd : AllDigits ds) (hne : ds ≠ []) (t : Nat) (r : Bytes) (ht : t = 32 ∨ t = 10) :
    scanBody (ds ++ t :: r) = ds.length := by
  have hm := mantLen_digits ds hd hne t r ht
  have h1 : str "infinity" = [105, 110, 102, 105, 110, 105, 116, 121] := by decide
  have h2 : str "inf" = [105, 110, 102] := by decide
  have h3 : str "nan" = [110, 97, 110] := by decide
  cases ds with
  | nil => exact absurd rfl hne
  | cons c cs =>
    have hc : isDigit c = true := hd c (by simp)
    have hc' := (isDigit_iff c).mp hc
    have hl := lower_digit c hc
    unfold scanBody
    have n1 : ¬ (c = 105) := by omega
    have n2 : ¬ (c = 110) := by omega
    simp only [h1, h2, h3, List.cons_append, prefixCI, hl, n1, n2, decide_false, Bool.false_and, Bool.false_eq_true, if_false]
    simp only [List.cons_append] at hm
    -- the hexadecimal form needs `0x`
    by_cases h48 : c = 48
    · subst h48
      cases cs with
      | nil =>
        have : ¬ (lower t = 120) := by rcases ht with h | h <;> subst h <;> decide
        simp only [List.nil_append, this, if_false] at hm ⊢
        simpa using hm
      | cons d ds' =>
        have hdd : isDigit d = true := hd d (by simp)
        have hd' := (isDigit_iff d).mp hdd
        have : ¬ (lower d = 120) := by rw [lower_digit d hdd]; omega
        simp only [List.cons_append, this, if_false] at hm ⊢
        simpa using hm
    · split
      · rename_i heq
        simp at heq; exact absurd heq.1 h48
      · simpa using hm

theorem strtodLen_digits (ds : Bytes) (hd : AllDigits ds) (hne : ds ≠ []) (t : Nat) (r : Bytes) (ht : t = 32 ∨ t = 10) :
    strtodLen (ds ++ t :: r) = ds.length := by
  have hb := scanBody_digits ds hd hne t r ht
  cases ds with
  | nil => exact absurd rfl hne
  | cons c cs =>
    have hc : isDigit c = true := hd c (by simp)
    have hc' := (isDigit_iff c).mp hc
    have hsp := digit_not_space c hc
    unfold strtodLen
    have n1 : ¬ (c = 43) := by omega
    have n2 : ¬ (c = 45) := by omega
    simp only [List.cons_append, List.takeWhile_cons, hsp, Bool.false_eq_true, if_false, List.length_nil, List.drop_zero,
      n1, n2, decide_false, Bool.or_self]
    simp only [List.cons_append] at hb
    rw [hb]
    simp

theorem strtodLen_neg_digits (ds : Bytes) (hd : AllDigits ds) (hne : ds ≠ []) (t : Nat) (r : Bytes) (ht : t = 32 ∨ t = 10) :
    strtodLen (45 :: ds ++ t :: r) = ds.length + 1 := by
  have hb := scanBody_digits ds hd hne t r ht
  have hlen : 0 < ds.length := by
    cases ds with
    | nil => exact absurd rfl hne
    | cons _ _ => simp
  unfold strtodLen
  have hsp : isSpace 45 = false := by decide
  simp only [List.cons_append, List.takeWhile_cons, hsp, Bool.false_eq_true, if_false, List.length_nil, List.drop_zero]
  simp only [show ((45 : Nat) = 43) = False from by decide, decide_false, decide_true, Bool.or_true, if_true,
    List.drop_succ_cons, List.drop_zero, hb]
  have : ¬ ds.length = 0 := by omega
  simp [this]; omega

theorem encInt_cases (i : Int) :
    (0 ≤ i ∧ encInt i = encNat i.natAbs) ∨ (i < 0 ∧ encInt i = 45 :: encNat i.natAbs) := by
  unfold encInt
  by_cases h : i < 0
  · exact .inr ⟨h, by simp [h]⟩
  · exact .inl ⟨by omega, by simp [h]⟩

theorem strtodLen_encInt (i : Int) (t : Nat) (r : Bytes) (ht : t = 32 ∨ t = 10) :
    strtodLen (encInt i ++ t :: r) = (encInt i).length := by
  obtain ⟨hd, hne, _⟩ := encNat_spec i.natAbs
  rcases encInt_cases i with ⟨_, h⟩ | ⟨_, h⟩
  · rw [h]; exact strtodLen_digits _ hd hne t r ht
  · rw [h]; simpa using strtodLen_neg_digits _ hd hne t r ht

theorem strtol_encInt (i : Int) (t : Nat) (r : Bytes) (htd : isDigit t = false)
    (hb : -9223372036854775808 ≤ i ∧ i ≤ 9223372036854775807) :
    strtol (encInt i ++ t :: r) = (i, (encInt i).length) := by
  obtain ⟨hd, hne, hv⟩ := encNat_spec i.natAbs
  rcases encInt_cases i with ⟨hi, h⟩ | ⟨hi, h⟩
  · rw [h, strtol_digits _ hd hne t r htd (by rw [hv]; omega), hv]
    congr 1; omega
  · rw [h]
    have := strtol_neg_digits _ hd hne t r htd (by rw [hv]; omega)
    simp only [List.cons_append] at this ⊢
    rw [this, hv]
    simp; omega

theorem encInt_clean (i : Int) : Clean (encInt i) := by
  have hdig : Clean (encNat i.natAbs) := fun c hc => by
    have := (isDigit_iff c).mp ((encNat_spec i.natAbs).1 c hc)
    omega
  rcases encInt_cases i with ⟨_, h⟩ | ⟨_, h⟩ <;> rw [h]
  · exact hdig
  · exact hdig.cons (by decide)

theorem encNatAux_len (f n k : Nat) (h : n < 10 ^ (k + 1)) : (encNatAux f n).length ≤ k + 1 := by
  induction f generalizing n k with
  | zero => simp [encNatAux]
  | succ f ih =>
    unfold encNatAux
    split
    · simp
    · rename_i hge
      cases k with
      | zero => simp at h; omega
      | succ k =>
        have : n / 10 < 10 ^ (k + 1) := by
          apply Nat.div_lt_of_lt_mul
          rw [Nat.pow_succ] at h; omega
        have := ih (n / 10) k this
        simp; omega

theorem encInt_len (i : Int) (k : Nat) (h : i.natAbs < 10 ^ (k + 1)) : (encInt i).length ≤ k + 2 := by
  have := encNatAux_len i.natAbs i.natAbs k h
  rcases encInt_cases i with ⟨_, e⟩ | ⟨_, e⟩ <;> rw [e] <;> simp [encNat] <;> omega

theorem encInt_len32 (i : Int) (h : Int32 i) : (encInt i).length ≤ 11 := by
  have : i.natAbs < 10 ^ (9 + 1) := by
    have : (10 : Nat) ^ (9 + 1) = 10000000000 := by decide
    rw [this]; unfold Int32 at h; omega
  exact encInt_len i 9 this

theorem encInt_len64 (i : Int) (h : Int64 i) : (encInt i).length ≤ 20 := by
  have : i.natAbs < 10 ^ (18 + 1) := by
    have : (10 : Nat) ^ (18 + 1) = 10000000000000000000 := by decide
    rw [this]; unfold Int64 at h; omega
  exact encInt_len i 18 this

theorem encInt_ne_nil (i : Int) : encInt i ≠ [] := by
  obtain ⟨_, hne, _⟩ := encNat_spec i.natAbs
  rcases encInt_cases i with ⟨_, e⟩ | ⟨_, e⟩ <;> rw [e]
  · exact hne
  · simp

theorem encInt_length_ne_zero (i : Int) : (encInt i).length ≠ 0 :=
  fun h => encInt_ne_nil i (List.length_eq_zero_iff.mp h)

theorem encInt_ofNat (n : Nat) : encInt (n : Int) = encNat n := by
  unfold encInt
  have : ¬ ((n : Int) < 0) := by omega
  simp [this]

theorem encNat_clean (n : Nat) : Clean (encNat n) := by
  have := encInt_clean (n : Int); rwa [encInt_ofNat] at this

theorem encNat_len32 (n : Nat) (h : n ≤ 2147483647) : (encNat n).length ≤ 11 := by
  have := encInt_len32 (n : Int) (by unfold Int32; omega); rwa [encInt_ofNat] at this

theorem encNat_ne_nil (n : Nat) : encNat n ≠ [] := (encNat_spec n).2.1

theorem strtodLen_sp (s : Bytes) (h : strtodLen s ≠ 0) : strtodLen (32 :: s) = strtodLen s + 1 := by
  unfold strtodLen at h ⊢
  have hsp : isSpace 32 = true := by decide
  simp only [List.takeWhile_cons, hsp, if_true, List.length_cons, List.drop_succ_cons] at h ⊢
  -- the leading blank only adds one to the count of skipped spaces: name the parts the two sides share and compare the two `if`s
  generalize (s.takeWhile isSpace).length = W at h ⊢
  generalize List.drop W s = S1 at h ⊢
  cases S1 with
  | nil =>
    dsimp only at h ⊢
    generalize scanBody (List.drop 0 ([] : Bytes)) = b at h ⊢
    split at h
    · exact absurd rfl h
    · rename_i hb; simp only [hb, if_false]; omega
  | cons c tl =>
    dsimp only at h ⊢
    generalize scanBody (List.drop (if (decide (c = 43) || decide (c = 45)) = true then 1 else 0) (c :: tl)) = b at h ⊢
    generalize (if (decide (c = 43) || decide (c = 45)) = true then 1 else 0) = sg at h ⊢
    split at h
    · exact absurd rfl h
    · rename_i hb; simp only [hb, if_false]; omega

theorem strtodLen_sp_encInt (v : Int) : strtodLen (32 :: encInt v ++ [10]) = (encInt v).length + 1 := by
  have k := strtodLen_encInt v 10 [] (.inr rfl)
  rw [List.cons_append, strtodLen_sp _ (by rw [k]; exact encInt_length_ne_zero v), k]

end MpVerif.C05
