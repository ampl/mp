import MpVerif.C05.Spec
import MpVerif.C14.Lemmas
/-! # C05 — line-level lemmas: what the reader does with a line the writer printed -/
namespace MpVerif.C05
open MpVerif.C14

/-- No newline, so `fgets` stops only at the one behind the line, and no NUL, so the C string in the buffer is all of it.
    An `abbrev`, so that the `clean` fields of `GoodLine`, `GoodNum`, `GoodSufTok`, `GoodName` and `GoodTable.init_clean`,
    `.last_clean` (Spec.lean) are proofs of it as they stand. -/
abbrev Clean (l : Bytes) : Prop := ∀ c ∈ l, c ≠ 10 ∧ c ≠ 0

theorem Clean.nl {l : Bytes} (h : Clean l) : ∀ c ∈ l, c ≠ 10 := fun c hc => (h c hc).1

theorem Clean.nul {l : Bytes} (h : Clean l) : ∀ c ∈ l, c ≠ 0 := fun c hc => (h c hc).2

theorem Clean.append {a b : Bytes} (ha : Clean a) (hb : Clean b) : Clean (a ++ b) :=
  fun c hc => (List.mem_append.mp hc).elim (ha c) (hb c)

theorem Clean.cons {x : Nat} {b : Bytes} (hb : Clean b) (hx : x ≠ 10 ∧ x ≠ 0) : Clean (x :: b) :=
  fun c hc => (List.mem_cons.mp hc).elim (fun e => e ▸ hx) (hb c)

theorem Clean.blank {b : Bytes} (hb : Clean b) : Clean (32 :: b) := hb.cons (by decide)

theorem fgets_line (sz : Nat) {l : Bytes} (rest : Bytes) (h : Clean l) (hk : l.length + 2 ≤ sz) :
    fgets sz (l ++ 10 :: rest) = some (l ++ [10], rest) := by
  have : (l ++ 10 :: rest).takeWhile (· ≠ 10) = l := by
    rw [List.takeWhile_append_of_pos (by simpa using h.nl)]; simp
  rw [fgets_eq, if_neg (by simp; omega), this, Nat.min_eq_right (by omega), List.splitAt_eq,
    show l ++ 10 :: rest = (l ++ [10]) ++ rest by simp, List.take_left' (by simp), List.drop_left' (by simp)]

theorem cstr_append (p tl : Bytes) (h0 : ∀ c ∈ p, c ≠ 0) : cstr (p ++ tl) = p ++ cstr tl :=
  List.takeWhile_append_of_pos fun c hc => by simpa using h0 c hc

theorem cstr_line {l : Bytes} (h : Clean l) : cstr (l ++ [10]) = l ++ [10] := cstr_append l [10] h.nul

theorem cstr_clean (l : Bytes) (h0 : ∀ c ∈ l, c ≠ 0) : cstr l = l := by
  simpa [cstr] using cstr_append l [] h0

theorem getD_last_char (t : Bytes) (ht : t ≠ []) : (t ++ [10]).getD (t.length - 1) 0 = t.getLast ht := by
  rcases List.eq_nil_or_concat t with h | ⟨l, x, h⟩
  · exact absurd h ht
  · subst h; simp

theorem crlfCut_line (l : Bytes) (h10 : ∀ c ∈ l, c ≠ 10) (hcr : l.getLast? ≠ some 13) :
    crlfCut (l ++ [10]) = l ++ [10] := by
  induction l with
  | nil => simp [crlfCut]
  | cons c cs ih =>
    simp only [List.cons_append, crlfCut]
    have hcs : ∀ x ∈ cs, x ≠ 10 := fun x hx => h10 x (by simp [hx])
    cases cs with
    | nil =>
      have : c ≠ 13 := by simpa using hcr
      simp [this, crlfCut]
    | cons d ds =>
      have hd : d ≠ 10 := hcs d (by simp)
      have : ¬ (c = 13 ∧ ((d :: ds) ++ [10]).head? = some 10) := by simp [hd]
      simp only [this, if_false]
      rw [ih hcs (by simpa [List.getLast?_cons_cons] using hcr)]

theorem joinNl_cons (l : Bytes) (ls : List Bytes) : joinNl (l :: ls) = l ++ 10 :: joinNl ls := by simp [joinNl]

theorem joinNl_clean (init : List Bytes) (h : ∀ l ∈ init, Clean l) : ∀ c ∈ joinNl init, c ≠ 0 := by
  intro c hc
  simp only [joinNl, List.mem_flatMap, List.mem_append, List.mem_cons, List.mem_nil_iff, or_false] at hc
  obtain ⟨l, hl, hc | hc⟩ := hc
  · exact (h l hl).nul c hc
  · omega

theorem length_le_joinNl (ls : List Bytes) : ls.length ≤ (joinNl ls).length := by
  induction ls with
  | nil => simp [joinNl]
  | cons l ls ih => rw [joinNl_cons, List.length_append, List.length_cons, List.length_cons]; omega

theorem msgText_lines (ls : List Bytes) (h : ∀ l ∈ ls, GoodLine l) (rest : Bytes) (st : MsgState) (hbs : st.bs = true)
    (f : Nat) (hf : ls.length < f) :
    msgText f (joinNl ls ++ 10 :: rest) st = .ok (⟨st.msg ++ joinNl ls, st.nbs, true⟩, rest) := by
  induction ls generalizing st f with
  | nil =>
    cases f with
    | zero => simp at hf
    | succ f =>
      simp only [joinNl, List.flatMap_nil, List.nil_append, List.append_nil]
      unfold msgText
      rw [show (10 :: rest) = [] ++ 10 :: rest from rfl, fgets_line 512 (l := []) rest (by decide) (by simp)]
      simp [cstr, crlfCut, ← hbs]
  | cons l ls ih =>
    cases f with
    | zero => simp at hf
    | succ f =>
      have gl := h l (by simp)
      rw [joinNl_cons, List.append_assoc, List.cons_append]
      unfold msgText
      rw [fgets_line 512 _ gl.clean (by have := gl.short; omega)]
      simp only
      rw [cstr_line gl.clean, crlfCut_line l (Clean.nl gl.clean) gl.nocr]
      have hhead : (l ++ [10]).head? ≠ some 10 := by
        cases l with
        | nil => exact absurd rfl gl.nonempty
        | cons c cs => simp; exact Clean.nl gl.clean c (by simp)
      have hproc : procLine (l ++ [10]) st.bs = (l ++ [10], 0, st.bs) := by
        cases l with
        | nil => exact absurd rfl gl.nonempty
        | cons c cs =>
          have hc : c ≠ 8 := by simpa using gl.nobs
          simp [procLine, hc]
      simp only [hhead, if_false, hproc]
      have := ih (fun x hx => h x (by simp [hx])) ⟨st.msg ++ (l ++ [10]), st.nbs + 0, st.bs⟩ hbs f (by simpa using hf)
      rw [this]
      simp [List.append_assoc]

/-- Used by no proof: the driver counts the reals that pass `goodNumB` (field `good=` of its output), and this is what makes that
    count evidence for the hypothesis `GoodNum` of the theorems. -/
theorem goodNumB_sound (t : Bytes) (h : goodNumB t = true) : GoodNum t := by
  simp only [goodNumB, Bool.and_eq_true, decide_eq_true_eq, List.all_eq_true, bne_iff_ne, ne_eq, beq_iff_eq] at h
  exact ⟨h.1.1, fun c hc => h.1.2 c hc, h.2⟩

theorem readItem_num (t rest : Bytes) (h : GoodNum t) :
    readItem false .dbl (t ++ 10 :: rest) = (.ok ⟨0, t⟩, rest) := by
  unfold readItem
  simp only [Bool.false_eq_true, if_false]
  rw [fgets_line 511 rest h.clean (by have := h.short; omega)]
  simp only
  rw [cstr_line h.clean, h.dec]

/-- the vector reader on written items, whatever they are: dual and primal values (`runVec_vals`) and suffix entries
    (`runVec_entries`) are the two cases -/
theorem runVec_written {α : Type} (k : RdKind) (wr : List α → Bytes) (w : α → Bytes) (it : α → Item)
    (h0 : wr [] = []) (hc : ∀ x xs, wr (x :: xs) = w x ++ wr xs) (xs : List α)
    (h : ∀ x ∈ xs, ∀ rest, readItem false k (w x ++ rest) = (.ok (it x), rest)) (rest : Bytes) :
    runVec false k .all xs.length (wr xs ++ rest) = (⟨xs.length, xs.map it, .ok, 0⟩, rest) := by
  have : vecLoop false k xs.length xs.length (wr xs ++ rest) = (xs.map it, .ok, 0, rest) := by
    induction xs with
    | nil => simp [vecLoop, h0]
    | cons x xs ih =>
      rw [hc, List.append_assoc, List.length_cons]
      unfold vecLoop
      simp only [Nat.add_one_ne_zero, if_false, h x (by simp), Nat.add_sub_cancel, ih (fun y hy => h y (by simp [hy]))]
      simp
  unfold runVec
  simp [this]

theorem runVec_vals {D : Type} (c : Codec D) (vs : List D) (rest : Bytes) (h : ∀ v ∈ vs, GoodNum (c.enc v)) :
    runVec false .dbl .all vs.length (writeVals c vs ++ rest) =
      (⟨vs.length, vs.map (fun v => ⟨0, c.enc v⟩), .ok, 0⟩, rest) :=
  runVec_written .dbl (writeVals c) (fun v => c.enc v ++ nl) _ rfl (fun _ _ => rfl) vs
    (fun v hv rest => by rw [List.append_assoc]; exact readItem_num _ _ (h v hv)) rest

end MpVerif.C05
