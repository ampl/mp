import MpVerif.C05.LemmasSec
/-! # C05 — one written suffix as `gsufread` parses it: the name line, the table copied line by line into its zero-filled
buffer, the five header fields, one step of the suffix loop -/
namespace MpVerif.C05
open MpVerif.C14

theorem getD_name_nl (name : Bytes) (tl : Buf) :
    ((name ++ [10]).map some ++ some 0 :: tl).getD name.length none = some 10 := by
  simp

theorem bufCstr_name (name : Bytes) (tl : Buf) (h0 : ∀ c ∈ name, c ≠ 0) :
    bufCstr (((name ++ [10]).map some ++ some 0 :: tl).set name.length (some 0)) = name := by
  induction name with
  | nil => simp [bufCstr]
  | cons c cs ih =>
    have hc : c ≠ 0 := h0 c (by simp)
    simp only [List.cons_append, List.map_cons, List.length_cons, List.set_cons_succ, bufCstr, hc, if_false]
    rw [ih (fun x hx => h0 x (by simp [hx]))]

theorem name_line (buf : Buf) (name : Bytes) (hn : GoodName name) :
    nameEnd (bufStore buf (name ++ [10])) (name.length + 1) = .ok true ∧
    bufCstr ((bufStore buf (name ++ [10])).set name.length (some 0)) = name := by
  have hlt : ¬ (name.length ≥ 512) := by have := hn.short; omega
  refine ⟨?_, bufCstr_name name _ (Clean.nul hn.clean)⟩
  unfold nameEnd bufRead bufStore
  simp only [Nat.add_sub_cancel, hlt, if_false, getD_name_nl, if_true]

theorem writeAt_zeros (p d : Bytes) (m : Nat) :
    writeAt (p ++ List.replicate m 0) p.length d = p ++ d ++ List.replicate (m - d.length) 0 := by
  unfold writeAt
  rw [List.take_left' rfl]
  congr 1
  rw [List.drop_append]
  simp [List.drop_replicate]

theorem cstr_zeros (p : Bytes) (m : Nat) (h0 : ∀ c ∈ p, c ≠ 0) : cstr (p ++ List.replicate m 0) = p := by
  rw [cstr_append p _ h0]; cases m <;> simp [cstr, List.replicate]

/-- The table buffer is `p ++ m zero bytes`, `p` the lines copied so far: `fgets` writes a line with its newline and a NUL at
    offset `p.length`, the NUL falls on a zero byte, and the buffer has the same shape again. -/
theorem tabLines_written (init : List Bytes) (hinit : ∀ l ∈ init, Clean l) (p : Bytes) (m : Nat) (tail : Bytes)
    (hm : (joinNl init).length + 1 ≤ m) :
    tabLines init.length (p ++ List.replicate m 0) p.length (p.length + m) (joinNl init ++ tail) =
      .ok ((p ++ joinNl init) ++ List.replicate (m - (joinNl init).length) 0, p.length + (joinNl init).length, tail) := by
  induction init generalizing p m with
  | nil => simp [tabLines, joinNl]
  | cons l ls ih =>
    have hl := hinit l (by simp)
    rw [joinNl_cons, List.length_append, List.length_cons] at hm ⊢
    unfold tabLines
    rw [List.append_assoc, List.cons_append, Nat.add_sub_cancel_left, fgets_line m _ hl (by omega)]
    simp only
    rw [cstr_line hl, writeAt_zeros p (l ++ [10] ++ [0]) m]
    have e1 : p ++ (l ++ [10] ++ [0]) ++ List.replicate (m - (l ++ [10] ++ [0]).length) 0 =
        (p ++ (l ++ [10])) ++ List.replicate (m - (l.length + 1)) 0 := by
      have : m - (l.length + 1) = (m - (l ++ [10] ++ [0]).length) + 1 := by simp; omega
      rw [this, List.replicate_succ]; simp
    have e2 : p.length + (l ++ [10]).length = (p ++ (l ++ [10])).length := by simp
    have e3 : p.length + m = (p ++ (l ++ [10])).length + (m - (l.length + 1)) := by simp; omega
    rw [e1, e2, e3, ih (fun x hx => hinit x (by simp [hx])) (p ++ (l ++ [10])) (m - (l.length + 1)) (by omega)]
    simp [List.append_assoc, Nat.sub_sub, Nat.add_assoc, Nat.add_comm, Nat.add_left_comm]

theorem countNl_join (init : List Bytes) (last : Bytes) (hi : ∀ l ∈ init, ∀ c ∈ l, c ≠ 10) (hl : ∀ c ∈ last, c ≠ 10) :
    countNl (joinNl init ++ last) = init.length := by
  unfold countNl
  induction init with
  | nil =>
    simp only [joinNl, List.flatMap_nil, List.nil_append, List.length_nil]
    rw [List.length_eq_zero_iff, List.filter_eq_nil_iff]
    intro c hc; simpa using hl c hc
  | cons l ls ih =>
    have h1 : (l.filter (· = 10)) = [] := by
      rw [List.filter_eq_nil_iff]; intro c hc; simpa using hi l (by simp) c hc
    simp only [joinNl, List.flatMap_cons, List.append_assoc, List.filter_append, h1, List.nil_append, List.length_cons]
    have := ih (fun x hx => hi x (by simp [hx]))
    simp only [joinNl, List.filter_append, List.length_append] at this
    simpa using this

/-- The name line, then `tabLines_written` for all lines but the last; the last line is read apart because the reader strips its
    newline and tests for a CR in front of it (`GoodTable.last_nocr`); what is left of the zero bytes ends the C string. -/
theorem gsufBody_written (fx : Bool) (name t rest : Bytes) (hn : GoodName name)
    (ht : t = [] ∨ ∃ init last, t = joinNl init ++ last ∧ GoodTable init last ∧ t.length ≤ 199999999 ∧ t ≠ []) (b : Buf) :
    ∃ b', gsufBody fx b (name.length + 1) (if t = [] then 0 else t.length + 1) (if t = [] then 0 else 1 + countNl t)
      (name ++ 10 :: ((if t = [] then [] else t ++ [10]) ++ rest)) = .ok (name, t, rest, b') := by
  obtain ⟨hend, hname⟩ := name_line b name hn
  unfold gsufBody
  rw [fgets_line 511 _ hn.clean (by have := hn.short; omega)]
  have hfx : ¬ (fx = true ∧ (name ++ [10]).length < name.length + 1) := by simp
  simp only [cstr_line hn.clean, hfx, if_false, hend, Nat.add_sub_cancel, hname]
  rcases ht with ht | ⟨init, last, ht, hgt, -, hne⟩
  · subst ht
    simp
  · have hcnt : countNl (joinNl init ++ last) = init.length :=
      countNl_join init last (fun l hl => Clean.nl (hgt.init_clean l hl)) (Clean.nl hgt.last_clean)
    simp only [hne, if_false, Nat.add_one_ne_zero]
    subst ht
    have htl := tabLines_written init hgt.init_clean [] ((joinNl init ++ last).length + 1) (last ++ 10 :: rest)
      (by simp only [List.length_append]; omega)
    simp only [List.nil_append, List.length_nil, Nat.zero_add] at htl
    rw [hcnt, Nat.add_sub_cancel_left, List.append_assoc, List.append_assoc, List.cons_append, List.nil_append, htl]
    simp only
    rw [fgets_line 511 rest hgt.last_clean (by have := hgt.last_short; omega)]
    simp only
    rw [cstr_line hgt.last_clean]
    have h1 : ¬ ((last ++ [10]).length = 0) := by simp
    have h2 : ¬ ((last ++ [10]).getLast? ≠ some 10) := by simp
    have h3 : ¬ ((last ++ [10]).length - 1 ≥ (joinNl init ++ last).length + 1 - (joinNl init).length) := by
      simp only [List.length_append, List.length_cons, List.length_nil]; omega
    have hL : ¬ ((last ++ [10]).length - 1 ≠ 0 ∧ (last ++ [10]).getD ((last ++ [10]).length - 1 - 1) 0 = 13) := by
      rw [List.length_append, List.length_singleton, Nat.add_sub_cancel]
      intro ⟨h0, h⟩
      have hl : last ≠ [] := fun e => h0 (by rw [e]; rfl)
      rw [getD_last_char _ hl] at h
      exact hgt.last_nocr (by rw [List.getLast?_eq_some_getLast hl, h])
    have h0 : ∀ c ∈ joinNl init ++ last, c ≠ 0 := fun c hc =>
      (List.mem_append.mp hc).elim (joinNl_clean init hgt.init_clean c) (Clean.nul hgt.last_clean c)
    simp only [h1, h2, h3, hL, if_false]
    refine ⟨_, congrArg (fun x => Except.ok (name, x, rest, _)) ?_⟩
    have hm : (joinNl init ++ last).length + 1 - (joinNl init).length = last.length + 1 := by
      simp only [List.length_append]; omega
    rw [List.length_append, List.length_singleton, Nat.add_sub_cancel, List.take_left' rfl, hm]
    have : (if last.length = 0 then joinNl init ++ List.replicate (last.length + 1) 0
        else writeAt (joinNl init ++ List.replicate (last.length + 1) 0) (joinNl init).length last) =
        (joinNl init ++ last) ++ List.replicate 1 0 := by
      split
      · rename_i e; rw [List.eq_nil_of_length_eq_zero e, List.append_nil]; rfl
      · rw [writeAt_zeros, Nat.add_sub_cancel_left]
    rw [this, cstr_zeros _ _ h0]

/-- the five header fields after `suffix ` -/
def hdrFields (k n nl tl tls : Nat) : Bytes :=
  encNat k ++ 32 :: (encNat n ++ 32 :: (encNat nl ++ 32 :: (encNat tl ++ 32 :: encNat tls)))

theorem lget5_hdr (fx : Bool) (k n nl tl tls : Nat)
    (hk : k ≤ 2147483599) (hn : n ≤ 2147483599) (hnl : nl ≤ 2147483599) (htl : tl ≤ 2147483599) (htls : tls ≤ 2147483599) :
    lget5 fx (hdrFields k n nl tl tls ++ [10]) = .ok [k, n, nl, tl, tls] := by
  unfold lget5 hdrFields
  simp only [List.append_assoc, List.cons_append]
  rw [lget_encNat fx k 32 _ (.inl rfl) hk]
  simp only
  rw [lget_sp, lget_encNat fx n 32 _ (.inl rfl) hn]
  simp only
  rw [lget_sp, lget_encNat fx nl 32 _ (.inl rfl) hnl]
  simp only
  rw [lget_sp, lget_encNat fx tl 32 _ (.inl rfl) htl]
  simp only
  rw [lget_sp, lget_encNat fx tls 10 [] (.inr rfl) htls]

theorem hdrFields_clean (k n nl tl tls : Nat) : Clean (hdrFields k n nl tl tls) :=
  (encNat_clean k).append <| .blank <| (encNat_clean n).append <| .blank <| (encNat_clean nl).append <| .blank <|
    (encNat_clean tl).append <| .blank <| encNat_clean tls

theorem hdrFields_len (k n nl tl tls : Nat)
    (hk : k ≤ 2147483647) (hn : n ≤ 2147483647) (hnl : nl ≤ 2147483647) (htl : tl ≤ 2147483647) (htls : tls ≤ 2147483647) :
    (hdrFields k n nl tl tls).length ≤ 59 := by
  unfold hdrFields
  have := encNat_len32 k hk; have := encNat_len32 n hn; have := encNat_len32 nl hnl
  have := encNat_len32 tl htl; have := encNat_len32 tls htls
  simp only [List.length_append, List.length_cons]; omega

theorem sufKind_ne_dbl (k : Int) : sufKind k ≠ .dbl := by
  unfold sufKind; split <;> simp

/-- The bounds are the reader's own: with the checks (`fx = true`) `sufheadcheck` rejects a table length above `268435455`
    (without them the same bound keeps `tl + 2 * nl + 6` within `int`, `sufheadcheck_eq_ok`), and `Lget` needs
    `INT_MAX - 48` (`lget_encNat`). -/
theorem gsuf_step (fx : Bool) (f : Nat) (pol : Policy) (hp : pol.suf = .all) (buf : Buf) (k : Nat) (name : Bytes) {tablen tablines : Nat}
    {tfile : Bytes} (table : Bytes) (es : List (Nat × Bytes)) (rest : Bytes)
    (hk : k ≤ 15) (hn : GoodName name)
    (hes : ∀ e ∈ es, e.1 ≤ 2147483647 ∧ GoodSufTok e.2) (hcount : es.length ≤ 2147483599)
    (htl : tablen ≤ 268435455) (htls : tablines ≤ 2147483599)
    (hT : tablen = 0 ∨ (1 ≤ tablines ∧ tablines ≤ tablen + 1))
    (hbody : ∀ b, ∃ b', gsufBody fx b (name.length + 1) tablen tablines (name ++ 10 :: (tfile ++ (writeEntries es ++ rest))) =
      .ok (name, table, writeEntries es ++ rest, b')) :
    ∃ buf', gsuf fx (f + 1) pol buf
        (str "suffix " ++ hdrFields k es.length (name.length + 1) tablen tablines ++ 10 :: (name ++ 10 :: (tfile ++ (writeEntries es ++ rest)))) =
      Result.cons (.suffix false (k : Int) ((name.length + 1 : Nat) : Int) (tablen : Int) name table
          ⟨es.length, es.map (fun e => ⟨(e.1 : Int), 32 :: e.2⟩), .ok, 0⟩)
        (gsuf fx f pol buf' rest) := by
  have hnl := hn.short
  have hne : 1 ≤ name.length := List.length_pos_iff.mpr hn.nonempty
  have hclean := hdrFields_clean k es.length (name.length + 1) tablen tablines
  have hlen := hdrFields_len k es.length (name.length + 1) tablen tablines (by omega) (by omega) (by omega) (by omega) (by omega)
  have h5 := lget5_hdr fx k es.length (name.length + 1) tablen tablines (by omega) (by omega) (by omega) (by omega) (by omega)
  -- from here on the header fields are an opaque clean line `H` of at most 59 bytes that `lget5` parses
  generalize hdrFields k es.length (name.length + 1) tablen tablines = H at hclean hlen h5 ⊢
  have hline : Clean (str "suffix " ++ H) := (show Clean (str "suffix ") by decide).append hclean
  obtain ⟨b', hb'⟩ := hbody (bufStore buf (str "suffix " ++ H ++ [10]))
  generalize name ++ 10 :: (tfile ++ (writeEntries es ++ rest)) = R at hb' ⊢
  refine ⟨b', ?_⟩
  have hsc : sufheadcheck fx (k : Int) (es.length : Int) ((name.length + 1 : Nat) : Int) (tablen : Int) (tablines : Int) = .ok :=
    sufheadcheck_eq_ok.mpr ⟨by omega, by omega, by omega, by omega, fun _ => by omega, by omega, by omega⟩
  have hrun := runVec_entries (sufKind (k : Int)) (sufKind_ne_dbl _) es hes rest
  have e1 : (str "suffix " ++ H ++ [10]).take 7 = str "suffix " := by rw [strSuffix]; rfl
  have e2 : (str "suffix " ++ H ++ [10]).drop 7 = H ++ [10] := by rw [strSuffix]; rfl
  conv => lhs; unfold gsuf
  rw [fgets_line 511 _ hline (by rw [strSuffix]; simp only [List.length_append, List.length_cons, List.length_nil]; omega)]
  simp only
  rw [cstr_line hline]
  simp only [e1, e2, ne_eq, not_true_eq_false, if_false, h5, List.getD_cons_zero, List.getD_cons_succ, hsc, hb', hp, hrun]
  simp [afterVec, checkReader]

end MpVerif.C05
