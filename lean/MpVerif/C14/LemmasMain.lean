import MpVerif.C14.LemmasSuf
/-! # C14 — the suffix loops, the tails and the whole reader satisfy the invariant

The loops of the model whose length the file decides (`msgText`, `binChunks`, `msgBin`, `gsuf`, `bsuf`; the others recurse on
a count) recurse on a fuel argument `f`; each lemma about such a loop (`gsuf_inv`, `bsuf_inv` here, the `*_sat`
lemmas of the message loops in `LemmasInv`) assumes `inp.length < f` and goes by induction on `f`: the `zero` case is
contradictory, and every iteration consumes at least one byte, so the hypothesis holds again for the recursive call.
`readSol` starts each loop with the remaining length + 1. -/
namespace MpVerif.C14

theorem gsuf_inv {fx fm : Bool} {nv nc f : Nat} {pol : Policy} {buf : Buf} {inp : Bytes}
    (hs : SanePol pol) (hf : inp.length < f) :
    RInv fx fm (EvOK nv nc) (gsuf fx f pol buf inp) := by
  induction f generalizing buf inp with
  | zero => omega
  | succ f ih =>
    unfold gsuf
    split
    · exact rinv_done
    · rename_i chunk inp1 hg
      have hfg := fgets_some hg
      dsimp only
      split
      · exact rinv_err (.doc rfl)
      · split
        · rename_i c hc
          apply rinv_err
          rcases lget5_err hc with h | ⟨h, hfx⟩
          · subst h; exact .doc rfl
          · subst h; exact .ub hfx rfl
        · rename_i h hh
          split
          · exact rinv_err (.doc rfl)
          · rename_i hsc
            exact rinv_err (.ub (sufheadcheck_ub hsc) rfl)
          · rename_i hsc
            have hk := sufheadcheck_eq_ok.mp hsc
            have hbody := gsufBody_sat (fx := fx) (bufStore buf chunk) (h.getD 2 0) (h.getD 3 0) (h.getD 4 0) inp1
            split
            · rename_i c hc
              exact rinv_err (hbody.error hc).1
            · rename_i name table inp2 buf2 hc
              obtain ⟨hinp, hname, htab⟩ : inp2.length ≤ inp1.length ∧
                name.length ≤ h.getD 2 0 - 1 ∧ table.length ≤ h.getD 3 0 := hbody.ok hc
              have ⟨_, hr, hok⟩ := runVec_facts false (sufKind ↑(h.getD 0 0)) pol.suf (h.getD 1 0) inp2 hs.suf
              exact rinv_vec ⟨hok, by omega, by omega, fun _ => by omega, by simp⟩ rfl hok
                fun _ => ih (by omega)

theorem bsuf_inv {fx fm : Bool} {nv nc f : Nat} {pol : Policy} {inp : Bytes}
    (hs : SanePol pol) (hf : inp.length < f) :
    RInv fx fm (EvOK nv nc) (bsuf fx f pol inp) := by
  induction f generalizing inp with
  | zero => omega
  | succ f ih =>
    unfold bsuf
    split
    · exact rinv_done
    · rename_i L inp1 h1
      have l1 := readU32_some h1
      refine iteInduction (fun _ => rinv_err (.doc rfl)) (fun _ => ?_)
      split
      · exact rinv_err (.doc rfl)
      · rename_i hd inp2 h2
        have l2 := fread_some h2
        dsimp only
        refine iteInduction (fun hub => ?_) (fun _ => ?_)
        · exact rinv_err (.ub hub.1 rfl)
        refine iteInduction (fun _ => rinv_err (.doc rfl)) (fun _ => ?_)
        split
        · exact rinv_err (.doc rfl)
        · rename_i hsc
          exact rinv_err (.ub (sufheadcheck_ub hsc) rfl)
        · rename_i hsc
          have hk := sufheadcheck_eq_ok.mp hsc
          split
          · exact rinv_err (.doc rfl)
          · rename_i nameB inp3 h3
            have l3 := fread_some h3
            split
            · exact rinv_err (.doc rfl)
            · rename_i tabB inp4 h4
              have l4 : tabB.length ≤ (toInt32 (le32 ((hd.drop 20).take 4))).toNat ∧ inp4.length ≤ inp3.length := by
                split at h4
                · simp at h4; obtain ⟨rfl, rfl⟩ := h4; simp
                · have := fread_some h4; omega
              have c1 := cstr_length_le (nameB ++ tabB)
              have c2 := cstr_length_le tabB
              simp only [List.length_append] at c1
              have ⟨_, hr, hok⟩ := runVec_facts true (sufKind (toInt32 (le32 ((hd.drop 8).take 4)))) pol.suf
                (toInt32 (le32 ((hd.drop 12).take 4))).toNat inp4 hs.suf
              refine rinv_vec ⟨hok, by omega, by omega, by simp, fun _ => by omega⟩ rfl hok fun _ => ?_
              · split
                · exact rinv_err (.doc rfl)
                · rename_i L1 inp5 h5
                  have l5 := readU32_some h5
                  exact iteInduction (fun _ => rinv_err (.doc rfl)) (fun _ => ih (by omega))

theorem textTail_inv {fx fm : Bool} {nv nc : Nat} {pol : Policy} {inp : Bytes} (hs : SanePol pol) :
    RInv fx fm (EvOK nv nc) (textTail fx pol inp) := by
  unfold textTail
  split
  · exact rinv_done
  · dsimp only
    split
    · exact rinv_err (.doc rfl)
    · split
      · exact rinv_err (.doc rfl)
      · split
        · exact rinv_cons trivial rfl rinv_done
        · apply rinv_cons
          · trivial
          · rfl
          · exact gsuf_inv hs (by omega)

theorem binTail_inv {fx fm : Bool} {nv nc : Nat} {pol : Policy} {inp : Bytes} (hs : SanePol pol) :
    RInv fx fm (EvOK nv nc) (binTail fx pol inp) := by
  unfold binTail
  split
  · exact rinv_done
  · split
    · exact rinv_err (.doc rfl)
    · split
      · exact rinv_err (.doc rfl)
      · split
        · exact rinv_err (.doc rfl)
        · split
          · exact rinv_err (.doc rfl)
          · dsimp only
            apply rinv_cons
            · trivial
            · rfl
            · split
              · exact bsuf_inv hs (by omega)
              · exact rinv_done

theorem afterPrimalBin_inv {fx fm : Bool} {nv nc i : Nat} {pol : Policy} {inp : Bytes} (hs : SanePol pol) :
    RInv fx fm (EvOK nv nc) (afterPrimalBin fx pol i inp) := by
  unfold afterPrimalBin
  split
  · exact rinv_err (.doc rfl)
  · exact binTail_inv hs

theorem primalPart_inv {fx fm binary : Bool} {nv nc i : Nat} {pol : Policy} {inp : Bytes}
    (hs : SanePol pol) (hi : i ≤ nv) : RInv fx fm (EvOK nv nc) (primalPart fx pol binary i inp) := by
  unfold primalPart
  split
  · split
    · exact afterPrimalBin_inv hs
    · have ⟨h, _, hok⟩ := runVec_facts true .dbl pol.primal i inp hs.primal
      exact rinv_vec ⟨Nat.le_trans (Nat.le_of_eq h) hi, hok⟩ rfl hok fun _ => afterPrimalBin_inv hs
  · split
    · exact textTail_inv hs
    · have ⟨h, _, hok⟩ := runVec_facts false .dbl pol.primal i inp hs.primal
      exact rinv_vec ⟨Nat.le_trans (Nat.le_of_eq h) hi, hok⟩ rfl hok fun _ => textTail_inv hs

theorem afterDual_inv {fx fm binary : Bool} {nv nc j i : Nat} {pol : Policy} {inp : Bytes}
    (hs : SanePol pol) (hi : i ≤ nv) : RInv fx fm (EvOK nv nc) (afterDual fx pol binary j i inp) := by
  unfold afterDual
  split
  · split
    · exact rinv_err (.doc rfl)
    · split
      · exact rinv_err (.doc rfl)
      · exact primalPart_inv hs hi
  · exact primalPart_inv hs hi

theorem dualPart_inv {fx fm binary : Bool} {nv nc j i : Nat} {pol : Policy} {inp : Bytes}
    (hs : SanePol pol) (hj : j ≤ nc) (hi : i ≤ nv) : RInv fx fm (EvOK nv nc) (dualPart fx pol binary j i inp) := by
  unfold dualPart
  split
  · exact afterDual_inv hs hi
  · have ⟨h, _, hok⟩ := runVec_facts binary .dbl pol.dual j inp hs.dual
    exact rinv_vec ⟨Nat.le_trans (Nat.le_of_eq h) hj, hok⟩ rfl hok fun _ => afterDual_inv hs hi

theorem preCheck_sat {fx fm : Bool} {P : Event → Prop} (nv nc : Nat) (pol : Policy) (binary : Bool) (o : Option Opts) (inp : Bytes) :
    Sat (RInv fx fm P) (fun r => r.1 ≤ nc ∧ r.2.1 ≤ nv) (preCheck fm nv nc pol binary o inp) := by
  unfold preCheck
  cases o with
  | none => exact ⟨Nat.le_refl _, Nat.le_refl _⟩
  | some o =>
    dsimp only
    refine iteInduction (fun _ => ⟨.doc rfl, by simp, by simp [EvsInv]⟩) (fun _ => ?_)
    refine iteInduction (fun _ => rinv_err (.doc rfl)) (fun h3 => ?_)
    refine iteInduction (fun _ => rinv_err (.doc rfl)) (fun h1 => ?_)
    refine iteInduction (fun _ => ?_) (fun _ => ?_)
    · split
      · exact rinv_err (.doc rfl)
      · refine iteInduction (fun _ => rinv_err (.doc rfl)) (fun _ => ?_)
        dsimp only [Sat]; omega
    · dsimp only [Sat]; omega

theorem optEvent_inv {fx fm : Bool} {nv nc : Nat} {o : Option Opts} {r : Result}
    (ho : ∀ o', o = some o' → OptsOK o') (h : RInv fx fm (EvOK nv nc) r) : RInv fx fm (EvOK nv nc) (optEvent o r) := by
  unfold optEvent
  cases o with
  | none => exact h
  | some o => exact rinv_cons (by have := ho o rfl; unfold OptsOK at this; constructor <;> omega) rfl h

theorem body_inv {fx fm binary : Bool} {nv nc : Nat} {pol : Policy} {o : Option Opts} {inp : Bytes}
    (hs : SanePol pol) (ho : ∀ o', o = some o' → OptsOK o') :
    RInv fx fm (EvOK nv nc) (body fx fm nv nc pol binary o inp) := by
  unfold body
  have hp := preCheck_sat (fx := fx) (fm := fm) (P := EvOK nv nc) nv nc pol binary o inp
  refine optEvent_inv ho ?_
  split
  · rename_i r h; exact hp.error h
  · rename_i j i inp' h
    have hji : j ≤ nc ∧ i ≤ nv := hp.ok h
    exact dualPart_inv hs hji.1 hji.2

theorem msgEvent_inv {fx fm binary : Bool} {nv nc : Nat} {st : MsgState} {r : Result}
    (h : RInv fx fm (EvOK nv nc) r) : RInv fx fm (EvOK nv nc) (msgEvent binary st r) := by
  unfold msgEvent
  generalize (if st.nbs ≠ 0 then st.msg.dropWhile (· = 8) else st.msg) = m
  dsimp only
  split
  · exact h
  · exact rinv_cons trivial rfl h

theorem readText_inv {fx fm : Bool} {nv nc : Nat} {pol : Policy} {inp : Bytes} (hs : SanePol pol) :
    RInv fx fm (EvOK nv nc) (readText fx fm nv nc pol inp) := by
  unfold readText
  split
  · rename_i hc; exact rinv_err (.doc ((msgText_sat (by omega)).error hc))
  · extract_lets inp1 hdr
    clear_value inp1
    -- the header is taken apart once, as a `Sat` statement; after that only its value matters
    have hh : Sat Doc (fun r => ∀ o', r.1 = some o' → OptsOK o') hdr := by
      unfold hdr
      split
      · split
        · rfl
        · rename_i r2 _
          refine iteInduction (fun _ => ?_) (fun _ _ => nofun)
          split
          · rename_i hc; exact (optsText_sat r2).error hc
          · rename_i hc; exact fun _ h => Option.some.inj h ▸ (optsText_sat r2).ok hc
      · exact fun _ => nofun
    clear_value hdr
    split
    · exact rinv_err (.doc hh)
    · exact msgEvent_inv (body_inv hs hh)

theorem readBin_inv {fx fm : Bool} {nv nc : Nat} {pol : Policy} {inp : Bytes} (hs : SanePol pol) :
    RInv fx fm (EvOK nv nc) (readBin fx fm nv nc pol inp) := by
  unfold readBin
  split
  · rename_i hc; exact rinv_err (.doc ((msgBin_sat (by omega)).error hc))
  · split
    · exact rinv_err (.doc rfl)
    · rename_i L r1 _
      split
      · split
        · rename_i hc; exact rinv_err (.doc ((optsBin_sat L r1).error hc))
        · rename_i hc
          exact msgEvent_inv (body_inv hs fun _ h => Option.some.inj h ▸ (optsBin_sat L r1).ok hc)
      · split
        · exact rinv_err (.doc rfl)
        · exact msgEvent_inv (body_inv hs nofun)

theorem readSol_inv {fx fm : Bool} {nv nc : Nat} (pol : Policy) (bytes : Bytes) (hs : SanePol pol) :
    RInv fx fm (EvOK nv nc) (readSol fx fm nv nc pol bytes) := by
  unfold readSol
  split
  · split
    · exact rinv_err (.doc rfl)
    · split
      · exact rinv_err (.doc rfl)
      · split
        · exact rinv_err (.doc rfl)
        · split
          · exact rinv_err (.doc rfl)
          · exact readBin_inv hs
  · exact readText_inv hs

theorem readSol_evOK {fx fm : Bool} {nv nc : Nat} {pol : Policy} {bytes : Bytes} (hs : SanePol pol) :
    ∀ e ∈ (readSol fx fm nv nc pol bytes).evs, EvOK nv nc e := fun e he => by
  obtain ⟨pre, post, h⟩ := List.append_of_mem he
  exact (evsInv_split (h ▸ (readSol_inv pol bytes hs).evs)).1

end MpVerif.C14
