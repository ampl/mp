import MpVerif.C14.LemmasMain
import MpVerif.Gen.SolGuards
import MpVerif.Basic.CSemLemmas
/-!
# C14 — SOL reader is total and memory-safe on arbitrary files: property theorems

`readSol fx fm nVars nCons pol bytes` (Model.lean) mirrors `SOLReader2::ReadSOLFile`
(nl-writer2/include/mp/sol-reader2.hpp) on a file with contents `bytes`, declared sizes
`nVars`/`nCons`, and a handler following policy `pol`.

* `fx = true` is the reader of the tree (bounds checks in `gsufread`/`Lget`/`sufheadcheck`, ampl/mp 602adf1);
  `fx = false` is the reader without these checks.  The `C14_history_*` theorems are about the latter, and the check
  decides by a behavioural probe which variant the tree under test implements — a tree that behaves like
  `fx = false` is reported as a violation.
* `fm = true` is the reader of the tree (Bad_Options carries a message, ampl/mp 927b124); `fm = false` is the reader
  without that message (the probe selects it for a tree that lacks it).

All theorems quantify over **all** byte strings, **all** declared sizes and **all** handler
policies that pass a documented error code (not OK) to `SetError` (`SanePol`).  The policy is all that is assumed of
the handler: what `OnAMPLOptions` returns, how many values it reads from each vector and which error it sets; a
handler that throws is outside the model.  `C14_codes` and `C14_buf` are the full-strength statements about the tree.
-/
namespace MpVerif.C14

/-- **Totality.**  Lean accepts `readSol` as a total function: the loops whose length the file decides (`msgText`,
`binChunks`, `msgBin`, `gsuf`, `bsuf`) recurse on a fuel argument initialised to the remaining file length + 1, the
counted ones (`vecLoop`, `readIntLines`, `tabLines`) on their count.  This theorem says the fuel is never exhausted,
i.e. each of the five loops terminates because each iteration consumes at least one byte of the file.  (`hs` is there
because the statement is read off `readSol_inv`.) -/
theorem C14_total (fx fm : Bool) (nv nc : Nat) (pol : Policy) (bytes : Bytes) (hs : SanePol pol) :
    (readSol fx fm nv nc pol bytes).code ≠ .fuel :=
  (readSol_inv pol bytes hs).code.ne_fuel

/-- The handler is never offered more dual values than the problem has constraints, nor more
primal values than it has variables. -/
theorem C14_offer_bound (fx fm : Bool) (nv nc : Nat) (pol : Policy) (bytes : Bytes) (hs : SanePol pol) :
    ∀ e ∈ (readSol fx fm nv nc pol bytes).evs,
      (∀ b v, e = .dual b v → v.offered ≤ nc) ∧ (∀ b v, e = .primal b v → v.offered ≤ nv) := by
  intro e he
  have := readSol_evOK hs e he
  constructor
  · intro b v h; subst h; exact this.1
  · intro b v h; subst h; exact this.1

/-- **Hostile counts are rejected before anything is offered.**  If the Options block states a number of dual or
primal values that is negative or exceeds the declared problem size (and the handler accepted the options), the
checks after the Options block return Bad_Format and no vector is offered.  (The counts are C `int`s — any value from
INT_MIN to INT_MAX; after this check they are non-negative, which is why offered counts are `Nat` in the model.) -/
theorem C14_hostile_counts_rejected (fm : Bool) (nVars nCons : Nat) (pol : Policy) (binary : Bool) (o : Opts) (inp : Bytes)
    (hrv : pol.optRv = 0) (h : o.z 3 < 0 ∨ o.z 3 > nVars ∨ o.z 1 < 0 ∨ o.z 1 > nCons) :
    ∃ r, preCheck fm nVars nCons pol binary (some o) inp = .error r ∧ r.code = .badFormat ∧ r.evs = [] := by
  unfold preCheck
  simp only [hrv, ne_eq, not_true_eq_false, if_false]
  by_cases h3 : o.z 3 > nVars ∨ o.z 3 < 0
  · simp only [h3, if_true]; exact ⟨_, rfl, rfl, rfl⟩
  · have h1 : o.z 1 > nCons ∨ o.z 1 < 0 := by omega
    simp only [h3, if_false, h1, if_true]; exact ⟨_, rfl, rfl, rfl⟩

/-- `msg\n\nOptions\n3\n1\n1\n0\n2\n-1\n2\n2\n1\n2\n3\n4\n5\nobjno 0 0\n`: dual count −1 with a valid primal count -/
def negDual : Bytes := [109, 115, 103, 10, 10, 79, 112, 116, 105, 111, 110, 115, 10, 51, 10, 49, 10, 49, 10, 48, 10, 50, 10, 45, 49, 10, 50, 10, 50, 10, 49, 10, 50, 10, 51, 10, 52, 10, 53, 10, 111, 98, 106, 110, 111, 32, 48, 32, 48, 10]

/-- … on a concrete file, for a read-while-Size()≠0 handler: only the message and the options are delivered -/
theorem C14_negative_dual_count_instance :
    readSol true true 2 2 ⟨0, .whileNz, .whileNz, .all⟩ negDual =
      ⟨.badFormat, [.msg [109, 115, 103, 10] 0, .options [3, 1, 1, 0, 2, -1, 2, 2] false []], true⟩ := by decide +kernel

/-- Text format: a suffix name is delivered with fewer than `namelen` characters and a table
with at most `tablen` characters, `namelen`/`tablen` being the header fields of that suffix
(the name buffer of `namelen` bytes and the table buffer of `tablen` bytes are never overrun). -/
theorem C14_lengths_text (fx fm : Bool) (nv nc : Nat) (pol : Policy) (bytes : Bytes) (hs : SanePol pol) :
    ∀ e ∈ (readSol fx fm nv nc pol bytes).evs, ∀ kind namelen tablen name table v,
      e = .suffix false kind namelen tablen name table v →
        (name.length : Int) + 1 ≤ namelen ∧ (table.length : Int) ≤ tablen := by
  intro e he kind namelen tablen name table v h
  have := readSol_evOK hs e he
  subst h
  exact ⟨this.name_text rfl, this.table_le⟩

/- Full-strength statement for the binary format (FALSE for the code as it is, with or without the bounds
checks of `fx`): `… e = .suffix true kind namelen tablen name table v → name.length + 1 ≤ namelen`.
`bsufread` freads `namelen` bytes and builds `std::string(SR.name)` without terminating it, so an
unterminated name runs on into the table.  Proved instead: -/
theorem C14_lengths_binary_partial (fx fm : Bool) (nv nc : Nat) (pol : Policy) (bytes : Bytes) (hs : SanePol pol) :
    ∀ e ∈ (readSol fx fm nv nc pol bytes).evs, ∀ kind namelen tablen name table v,
      e = .suffix true kind namelen tablen name table v →
        (name.length : Int) ≤ namelen + tablen ∧ (table.length : Int) ≤ tablen := by
  intro e he kind namelen tablen name table v h
  have := readSol_evOK hs e he
  subst h
  exact ⟨this.name_bin rfl, this.table_le⟩

def readAll : Policy := ⟨0, .all, .all, .all⟩

/-- binary file whose suffix record says `namelen = 3`, `tablen = 2` and carries `foo` `t\0`:
the handler receives the 4-character name `foot`. -/
def cexBinName : Bytes := [6, 0, 0, 0, 98, 105, 110, 97, 114, 121, 6, 0, 0, 0, 2, 0, 0, 0, 104, 105, 2, 0, 0, 0, 0, 0, 0, 0, 0, 0, 0, 0, 0, 0, 0, 0, 0, 0, 0, 0, 8, 0, 0, 0, 0, 0, 0, 0, 0, 0, 248, 63, 8, 0, 0, 0, 8, 0, 0, 0, 0, 0, 0, 0, 7, 0, 0, 0, 8, 0, 0, 0, 29, 0, 0, 0, 10, 83, 117, 102, 102, 105, 120, 10, 0, 0, 0, 0, 0, 0, 0, 0, 3, 0, 0, 0, 2, 0, 0, 0, 102, 111, 111, 116, 0, 29, 0, 0, 0]

theorem C14_counterexample_binary_name :
    (readSol false false 1 0 readAll cexBinName).code = .ok ∧
    ∃ v, Event.suffix true 0 3 2 [102, 111, 111, 116] [116] v ∈ (readSol false false 1 0 readAll cexBinName).evs := by
  refine ⟨by decide +kernel, ⟨0, [], .ok, 0⟩, by decide +kernel⟩

/-- **No partially delivered vector is reported complete.**  When a vector callback returns
with the reader's status OK, every delivered value was read from the file and
delivered + remaining = offered; in particular "complete" (status OK, nothing remaining) means
all offered values were delivered.  A failed read closes the vector (`Size() = 0`) with a
non-OK status. -/
theorem C14_no_false_complete (fx fm : Bool) (nv nc : Nat) (pol : Policy) (bytes : Bytes) (hs : SanePol pol) :
    ∀ e ∈ (readSol fx fm nv nc pol bytes).evs, ∀ v, e.vec? = some v →
      (v.rr = .ok → v.items.length + v.remaining = v.offered) ∧
      (v.complete → v.items.length = v.offered) ∧
      (v.rr ≠ .ok → v.remaining = 0) := by
  intro e he v hv
  have := readSol_evOK hs e he
  have hok : VecOK v := by
    cases e <;> simp [Event.vec?] at hv <;> subst hv
    · exact this.2
    · exact this.2
    · exact this.vec
  refine ⟨hok.ok_count, ?_, hok.fail_closed⟩
  intro hc
  have := hok.ok_count hc.1
  rw [hc.2] at this; simpa using this

/-- … and a vector that was not reported complete ends the run with an error: it is the last
event the handler sees and the result is not OK. -/
theorem C14_failure_reported (fx fm : Bool) (nv nc : Nat) (pol : Policy) (bytes : Bytes) (hs : SanePol pol)
    (pre post : List Event) (e : Event) (v : VecOut)
    (hsplit : (readSol fx fm nv nc pol bytes).evs = pre ++ e :: post) (hv : e.vec? = some v) (hn : ¬ v.complete) :
    post = [] ∧ (readSol fx fm nv nc pol bytes).code ≠ .ok :=
  (evsInv_split (hsplit ▸ (readSol_inv pol bytes hs).evs)).2 v hv hn

/-! ## result codes, messages, the 512-byte buffer -/

/- `C14_codes` and `C14_buf` are FALSE for the reader without the checks of 602adf1 (`fx = false`):
   `(readSol false fm nv nc pol bytes).code.documented = true`
   `(readSol false fm nv nc pol bytes).code ≠ .ubOob`   (every index into `buf[512]` is < 512)
There `gsufread` indexes its 512-byte stack buffer with the file-provided `namelen` (A7), compares a byte
that `fgets` never stored when the name line is shorter than `namelen`, `Lget` overflows `int` on
10+ digit fields and `sufheadcheck` overflows `int` computing `tablen + 2*namelen + 6`.
The `C14_history_*` theorems say what holds of that reader and give the inputs that exhibit the defects
(`corpus/C14` replays them on every run; the tree rejects them: `C14_regression_inputs_rejected`). -/

theorem C14_codes (fm : Bool) (nv nc : Nat) (pol : Policy) (bytes : Bytes) (hs : SanePol pol) :
    (readSol true fm nv nc pol bytes).code.documented = true :=
  (readSol_inv pol bytes hs).code.documented

/-- the reader never indexes the line buffer out of bounds, never reads a byte `fgets`
did not store, never overflows an `int` in `Lget`/`sufheadcheck` -/
theorem C14_buf (fm : Bool) (nv nc : Nat) (pol : Policy) (bytes : Bytes) (hs : SanePol pol) :
    (readSol true fm nv nc pol bytes).code.isUb = false :=
  (readSol_inv pol bytes hs).code.not_ub

/-- the reader before 602adf1 (`fx = false`): a result that is not a documented code is one of the undefined behaviours -/
theorem C14_history_codes_before_602adf1 (fm : Bool) (nv nc : Nat) (pol : Policy) (bytes : Bytes) (hs : SanePol pol) :
    (readSol false fm nv nc pol bytes).code.documented = true ∨ (readSol false fm nv nc pol bytes).code.isUb = true :=
  match (readSol_inv pol bytes hs).code with
  | .doc h => .inl h
  | .ub _ h => .inr h

/-- the reader before 602adf1 (`fx = false`): the out-of-bounds index can only come from a suffix header with `namelen ≥ 512` -/
theorem C14_history_buf_before_602adf1 (buf : Buf) (namelen tablen tablines : Nat) (inp : Bytes) (h : namelen ≤ 511) :
    gsufBody false buf namelen tablen tablines inp ≠ .error .ubOob := by
  intro hg
  have := ((gsufBody_sat (fx := false) buf namelen tablen tablines inp).error hg).2 rfl
  omega

/-- `m\n\nobjno 0 0\nsuffix 0 0 600 0 0\nfoo\n`: `buf[599]` of `char buf[512]` -/
def cexOob : Bytes := [109, 10, 10, 111, 98, 106, 110, 111, 32, 48, 32, 48, 10, 115, 117, 102, 102, 105, 120, 32, 48, 32, 48, 32, 54, 48, 48, 32, 48, 32, 48, 10, 102, 111, 111, 10]
theorem C14_history_counterexample_buf_oob : (readSol false false 0 0 readAll cexOob).code = .ubOob := by decide +kernel

/-- `… suffix 0 0 100 0 0\nfoo\n`: `buf[99]` was never written -/
def cexUninit : Bytes := [109, 10, 10, 111, 98, 106, 110, 111, 32, 48, 32, 48, 10, 115, 117, 102, 102, 105, 120, 32, 48, 32, 48, 32, 49, 48, 48, 32, 48, 32, 48, 10, 102, 111, 111, 10]
theorem C14_history_counterexample_buf_uninit : (readSol false false 0 0 readAll cexUninit).code = .ubUninit := by decide +kernel

/-- `… suffix 0 0 99999999999 0 0\n…`: `10*L + c - '0'` overflows `int` in `Lget` -/
def cexLget : Bytes := [109, 10, 10, 111, 98, 106, 110, 111, 32, 48, 32, 48, 10, 115, 117, 102, 102, 105, 120, 32, 48, 32, 48, 32, 57, 57, 57, 57, 57, 57, 57, 57, 57, 57, 57, 32, 48, 32, 48, 10, 102, 111, 111, 10]
theorem C14_history_counterexample_lget_overflow : (readSol false false 0 0 readAll cexLget).code = .ubOverflow := by decide +kernel

/-- binary suffix record with `namelen = 2^30`: `2*namelen` overflows `int` in `sufheadcheck` -/
def cexHead : Bytes := [6, 0, 0, 0, 98, 105, 110, 97, 114, 121, 6, 0, 0, 0, 2, 0, 0, 0, 104, 105, 2, 0, 0, 0, 0, 0, 0, 0, 0, 0, 0, 0, 0, 0, 0, 0, 0, 0, 0, 0, 8, 0, 0, 0, 0, 0, 0, 0, 0, 0, 248, 63, 8, 0, 0, 0, 8, 0, 0, 0, 0, 0, 0, 0, 7, 0, 0, 0, 8, 0, 0, 0, 24, 0, 0, 0, 10, 83, 117, 102, 102, 105, 120, 10, 0, 0, 0, 0, 0, 0, 0, 0, 0, 0, 0, 64, 0, 0, 0, 0, 24, 0, 0, 0]
theorem C14_history_counterexample_headcheck_overflow : (readSol false false 1 0 readAll cexHead).code = .ubOverflow := by decide +kernel

/-- the same four inputs are rejected with a documented code by the reader of the tree (`fx = true`) -/
theorem C14_regression_inputs_rejected :
    (readSol true false 0 0 readAll cexOob).code = .badLine ∧ (readSol true false 0 0 readAll cexUninit).code = .badLine ∧
    (readSol true false 0 0 readAll cexLget).code = .badLine ∧ (readSol true false 1 0 readAll cexHead).code = .badSuffix := by
  decide +kernel

/-- **An error comes with a message** (`fm = true`, ampl/mp 927b124): every result other than OK has a non-empty
message. -/
theorem C14_error_has_message (fx : Bool) (nv nc : Nat) (pol : Policy) (bytes : Bytes) (hs : SanePol pol)
    (h1 : (readSol fx true nv nc pol bytes).code ≠ .ok) : (readSol fx true nv nc pol bytes).hasMsg = true :=
  (readSol_inv pol bytes hs).msg h1 (.inr rfl)

/-- For `fm = false` (the reader before 927b124) `code ≠ .ok → hasMsg = true` is FALSE: `OnAMPLOptions` returning
non-zero makes that reader return `NLW2_SOLRead_Bad_Options` without calling `serror`
(`C14_counterexample_badoptions_no_message`).  For either `fm`, every other error has a message. -/
theorem C14_error_has_message_partial (fx fm : Bool) (nv nc : Nat) (pol : Policy) (bytes : Bytes) (hs : SanePol pol)
    (h1 : (readSol fx fm nv nc pol bytes).code ≠ .ok) (h2 : (readSol fx fm nv nc pol bytes).code ≠ .badOptions) :
    (readSol fx fm nv nc pol bytes).hasMsg = true :=
  (readSol_inv pol bytes hs).msg h1 (.inl h2)

/-- `m\n\nOptions\n3\n0\n1\n0\n0\n0\n0\n0\n` with a handler that rejects the options -/
def cexOpts : Bytes := [109, 10, 10, 79, 112, 116, 105, 111, 110, 115, 10, 51, 10, 48, 10, 49, 10, 48, 10, 48, 10, 48, 10, 48, 10, 48, 10]
theorem C14_counterexample_badoptions_no_message :
    (readSol true false 0 0 ⟨1, .all, .all, .all⟩ cexOpts).code = .badOptions ∧
    (readSol true false 0 0 ⟨1, .all, .all, .all⟩ cexOpts).hasMsg = false ∧
    (readSol true true 0 0 ⟨1, .all, .all, .all⟩ cexOpts).hasMsg = true := by decide +kernel

/-! ## the `Long Options[14]` array

The model indexes the options with the totalised `List.getD`; the real code indexes a fixed array `Long Options[14]`.  These theorems
state the guard the real code relies on: whenever an options block is accepted (text or binary), exactly `nOpts + 5 ≤ 14` entries were
stored, so `z[1] = Options[nOpts+2]` and `z[3] = Options[nOpts+4]` (and every index the reader writes) are inside the array and inside the
model's list — `getD` never falls back to its default. -/

theorem C14_options_array_bound_text (inp r : Bytes) (o : Opts) (h : optsText inp = .ok (o, r)) :
    o.opts.length = o.nOpts + 5 ∧ o.nOpts + 5 ≤ 14 ∧ 1 ≤ o.nOpts := (optsText_sat inp).ok h

/-- the same for the binary format: an accepted Options record stored exactly `nOpts + 5 ≤ 14` integers -/
theorem C14_options_array_bound_bin (L : Nat) (inp r : Bytes) (o : Opts) (h : optsBin L inp = .ok (o, r)) :
    o.opts.length = o.nOpts + 5 ∧ o.nOpts + 5 ≤ 14 ∧ 1 ≤ o.nOpts := (optsBin_sat L inp).ok h

/-- **What `OnAMPLOptions` receives.**  Every options block delivered to the handler (`ao.options_.assign(Options, Options+nOpts+5)`) has between 6 and 14
values, for every file, format, declared size and handler. -/
theorem C14_options_handed_to_handler (fx fm : Bool) (nv nc : Nat) (pol : Policy) (bytes : Bytes) (hs : SanePol pol) :
    ∀ e ∈ (readSol fx fm nv nc pol bytes).evs, ∀ opts vb t, e = .options opts vb t → 6 ≤ opts.length ∧ opts.length ≤ 14 := by
  intro e he opts vb t h
  have := readSol_evOK hs e he
  subst h
  exact this

/-- `m\n\nOptions\n5\n1\n1\n0\n0\n0\n0\n0\n0\n0\n`: a valid file with 5 AMPL options -/
def fiveOpts : Bytes := [109, 10, 10, 79, 112, 116, 105, 111, 110, 115, 10, 53, 10, 49, 10, 49, 10, 48, 10, 48, 10, 48, 10, 48, 10, 48, 10, 48, 10, 48, 10]

/-- **A receiving array of 9 entries is too small** (the size of the C API's `AMPLOptions_C::options_[MAX_AMPL_OPTIONS]` before f8d8c0f, filled by `std::copy` of the
whole list in `NLW2_SOLHandler_C_Impl::OnAMPLOptions`): a valid file with 5 options is read OK and hands 10 values to the handler; the bound 14 of the previous
theorem is attained with 9 options, so no capacity below 14 is enough. -/
theorem C14_history_counterexample_c_api_options_array :
    (readSol true true 0 0 readAll fiveOpts) = ⟨.ok, [.msg [109, 10] 0, .options [5, 1, 1, 0, 0, 0, 0, 0, 0, 0] false []], false⟩ ∧
    ([5, 1, 1, 0, 0, 0, 0, 0, 0, 0] : List Int).length > 9 ∧
    (∃ o r, optsText (str "9\n1\n1\n1\n1\n1\n1\n1\n1\n1\n0\n0\n0\n0\n") = .ok (o, r) ∧ o.opts.length = 14) := by
  refine ⟨by decide +kernel, by decide, ⟨[9, 1, 1, 1, 1, 1, 1, 1, 1, 1, 0, 0, 0, 0], 9, false, []⟩, [], by rfl, rfl⟩

/-- the capacity of the C struct as it is in the tree under test (`long options_[…]` in sol-handler-c.h with the macros of nl-header-c.h, regenerated on every run)
is at least the 14 values the reader can hand over.  With a capacity of 9 (the tree before f8d8c0f) this statement is false and the proof stage fails. -/
theorem C14_gen_c_api_capacity : 14 ≤ MpVerif.Gen.SolGuards.c_api_options_capacity := by decide

/-- **The C API copy stays inside its array.**  Every options block the reader delivers — any file, format, declared size, handler — fits
`AMPLOptions_C::options_` of the tree under test, so the bound `n = std::min(ao.options_.size(), cap)` of the copy in
`NLW2_SOLHandler_C_Impl::OnAMPLOptions` never cuts a block short (`C14_gen_c_api_copy_count`, `C14_c_api_copies_whole_block`). -/
theorem C14_c_api_options_fit (fx fm : Bool) (nv nc : Nat) (pol : Policy) (bytes : Bytes) (hs : SanePol pol) :
    ∀ e ∈ (readSol fx fm nv nc pol bytes).evs, ∀ opts vb t, e = .options opts vb t →
      opts.length ≤ MpVerif.Gen.SolGuards.c_api_options_capacity := by
  intro e he opts vb t h
  have h1 := (C14_options_handed_to_handler fx fm nv nc pol bytes hs e he opts vb t h).2
  have h2 := C14_gen_c_api_capacity
  omega

/-- **The number of values the C API copies** (`n = std::min(ao.options_.size(), cap); ao_c.n_options_ = (int)n; std::copy(begin, begin + n, ao_c.options_)` in
`NLW2_SOLHandler_C_Impl::OnAMPLOptions`, re-translated from sol-handler-c-impl.h on every run): for every vector size below 2^31 the generated code yields
`min size capacity`, never more than the array holds. -/
theorem C14_gen_c_api_copy_count (size : Nat) (h : size < 2147483648) :
    MpVerif.Gen.SolGuards.c_api_copy_count (size : Int) = .ret ((min size MpVerif.Gen.SolGuards.c_api_options_capacity : Nat) : Int) ∧
    min size MpVerif.Gen.SolGuards.c_api_options_capacity ≤ MpVerif.Gen.SolGuards.c_api_options_capacity := by
  refine ⟨?_, Nat.min_le_right _ _⟩
  unfold MpVerif.Gen.SolGuards.c_api_copy_count MpVerif.Gen.SolGuards.sg_min_ul__ul_ul MpVerif.Gen.SolGuards.c_api_options_capacity
  simp only [MpVerif.CSem.clt_ne_zero]
  split <;> simp (disch := omega) only [MpVerif.CSem.Outcome.bind_ret, MpVerif.CSem.conv_tI, MpVerif.CSem.Outcome.ret.injEq] <;> omega

/-- For every options block the reader delivers (any file, format, declared size, handler) the count of `C14_gen_c_api_copy_count` is the whole block:
`n_options_ = opts.length`, nothing is dropped and nothing is written outside `options_`. -/
theorem C14_c_api_copies_whole_block (fx fm : Bool) (nv nc : Nat) (pol : Policy) (bytes : Bytes) (hs : SanePol pol) :
    ∀ e ∈ (readSol fx fm nv nc pol bytes).evs, ∀ opts vb t, e = .options opts vb t →
      MpVerif.Gen.SolGuards.c_api_copy_count (opts.length : Int) = .ret (opts.length : Int) := by
  intro e he opts vb t h
  have h1 := C14_c_api_options_fit fx fm nv nc pol bytes hs e he opts vb t h
  have h2 := (C14_gen_c_api_copy_count opts.length (by
    have := (C14_options_handed_to_handler fx fm nv nc pol bytes hs e he opts vb t h).2; omega)).1
  rw [h2, Nat.min_eq_left h1]

/-- every use of an accepted options block after it was read (`z[1]`, `z[3]`) reads an entry that was stored -/
theorem C14_options_index_in_bounds (inp r : Bytes) (o : Opts) (L : Nat)
    (h : optsText inp = .ok (o, r) ∨ optsBin L inp = .ok (o, r)) (i : Nat) (hi : i ≤ 3) :
    o.nOpts + 1 + i < o.opts.length := by
  rcases h with h | h
  · have := C14_options_array_bound_text inp r o h; omega
  · have := C14_options_array_bound_bin L inp r o h; omega

/-! ## translator ties

`MpVerif.Gen.SolGuards` is regenerated on every run by `translators/gen_solguards.py` from the text of
`nl-writer2/include/mp/sol-reader2.hpp` in the tree under test (verbatim slices through clang's typed AST and `tr_cint`).
The theorems below prove the hand model's integer decisions equal to the generated definitions for all arguments, so the
property theorems above speak about the tree under test: an edit of one of these decisions breaks a proof obligation. -/
section gen
open MpVerif.CSem MpVerif.Gen.SolGuards

/-- the 'Wrong NumVars / NumAlgCons' checks: generated code = the guard of `preCheck` -/
theorem C14_gen_count_guard (z3 z1 nv nc : Int) :
    count_guard z3 z1 nv nc = .ret (if (z3 > nv ∨ z3 < 0) ∨ (z1 > nc ∨ z1 < 0) then 3 else 0) := by
  simp only [count_guard, cor_ret, Outcome.bind_ret, tv_ne_zero, clt_ne_zero, cgt_ne_zero]
  by_cases h1 : z3 > nv ∨ z3 < 0 <;> by_cases h2 : z1 > nc ∨ z1 < 0 <;> simp only [h1, h2, if_true, if_false, or_self, or_true, true_or]

/-- … and `preCheck` (text format, options accepted by the handler) lets a file pass exactly when the generated checks return 0 -/
theorem C14_gen_preCheck (fm : Bool) (nVars nCons : Nat) (pol : Policy) (o : Opts) (inp : Bytes) (hrv : pol.optRv = 0) :
    preCheck fm nVars nCons pol false (some o) inp =
      (if count_guard (o.z 3) (o.z 1) nVars nCons = .ret 0 then .ok ((o.z 1).toNat, (o.z 3).toNat, inp) else .error (err .badFormat)) := by
  rw [C14_gen_count_guard]
  unfold preCheck
  simp only [hrv, ne_eq, not_true_eq_false, if_false, Bool.false_eq_true]
  by_cases h3 : o.z 3 > nVars ∨ o.z 3 < 0
  · simp [h3]
  · by_cases h1 : o.z 1 > nCons ∨ o.z 1 < 0
    · simp [h3, h1]
    · simp [h3, h1]

/-- the same in the binary format: the generated checks come first, then the record length of the dual vector is read and compared -/
theorem C14_gen_preCheck_bin (fm : Bool) (nVars nCons : Nat) (pol : Policy) (o : Opts) (inp : Bytes) (hrv : pol.optRv = 0) :
    preCheck fm nVars nCons pol true (some o) inp =
      (if count_guard (o.z 3) (o.z 1) nVars nCons = .ret 0 then
        (match readU32 inp with
          | none => .error (err .earlyEof)
          | some (L, r) => if L ≠ recLen (o.z 1).toNat then .error (err .badFormat) else .ok ((o.z 1).toNat, (o.z 3).toNat, r))
       else .error (err .badFormat)) := by
  rw [C14_gen_count_guard]
  unfold preCheck
  simp only [hrv, ne_eq, not_true_eq_false, if_false, if_true]
  by_cases h3 : o.z 3 > nVars ∨ o.z 3 < 0
  · simp [h3]
  · by_cases h1 : o.z 1 > nCons ∨ o.z 1 < 0
    · simp [h3, h1]
    · simp [h3, h1]
      rcases readU32 inp with _ | ⟨L, r⟩ <;> rfl

theorem gen_sufheadcheck (kind n namelen tablen tablines : Int)
    (hl : -2147483648 ≤ namelen ∧ namelen ≤ 2147483647) (ht : -2147483648 ≤ tablen ∧ tablen ≤ 2147483647) :
    MpVerif.Gen.SolGuards.sufheadcheck kind n namelen tablen tablines =
      .ret (if MpVerif.C14.sufheadcheck true kind n namelen tablen tablines = .ok then 0 else 1) := by
  unfold MpVerif.Gen.SolGuards.sufheadcheck MpVerif.C14.sufheadcheck
  simp only [cor_ret, cand_eq, Outcome.bind_ret, tv_ne_zero, clt_ne_zero, cgt_ne_zero, tobool_eq_tv]
  by_cases c1 : kind < 0 ∨ kind > 15 ∨ n < 0 ∨ namelen < 2 ∨ tablen < 0
  · rw [if_pos (by omega), if_pos c1]; rfl
  rw [if_neg (by omega), if_neg c1]
  by_cases c2 : namelen > 268435455 ∨ tablen > 268435455
  · simp only [c2, and_true, if_true]; rfl
  -- past the two size guards none of `tablen + 1`, `2 * namelen`, `tablen + 2 * namelen + 6` leaves `int`
  have m1 : ¬ tablen + 1 > 2147483647 := by omega
  have m3 : ¬ (2 * namelen > 2147483647 ∨ tablen + 2 * namelen > 2147483647 ∨ tablen + 2 * namelen + 6 > 2147483647) := by omega
  simp (disch := omega) only [c2, cadd, cmul, arith_tI, Outcome.bind_ret, m1, m3, and_false, if_false, tv_ne_zero, cgt_ne_zero]
  by_cases t0 : tablen ≠ 0 <;> by_cases u : tablines > tablen + 1 ∨ tablines < 1 <;> simp [t0, u, tv]

/-- `sufheadcheck`: generated code (incl. the size computed for `xp.resize`, signed overflow = `ub`) = the model's `sufheadcheck true` -/
theorem C14_gen_sufheadcheck (kind n namelen tablen tablines : Int)
    (hk : -2147483648 ≤ kind ∧ kind ≤ 2147483647) (hn : -2147483648 ≤ n ∧ n ≤ 2147483647)
    (hl : -2147483648 ≤ namelen ∧ namelen ≤ 2147483647) (ht : -2147483648 ≤ tablen ∧ tablen ≤ 2147483647)
    (hs : -2147483648 ≤ tablines ∧ tablines ≤ 2147483647) :
    MpVerif.Gen.SolGuards.sufheadcheck kind n namelen tablen tablines =
      .ret (if MpVerif.C14.sufheadcheck true kind n namelen tablen tablines = .ok then 0 else 1) :=
  gen_sufheadcheck kind n namelen tablen tablines hl ht

/-- one digit of `Lget`: generated code = the step of the model's `lgetDigits true` -/
theorem C14_gen_lget_step (L c : Int) (hL : 0 ≤ L) (hc : 48 ≤ c ∧ c ≤ 57) :
    lget_step L c = .ret (if L > 214748363 then -1 else 10 * L + (c - 48)) := by
  have c48 : conv tI 48 = 48 := by decide
  unfold lget_step
  simp only [cgt_ne_zero]
  split <;> simp (disch := omega) only [cneg, cmul, csub, cadd, c48, arith_tI, Outcome.bind_ret]

theorem C14_gen_lget_step_model (acc c : Nat) (cs : Bytes) (hc : isDigit c = true) :
    lgetDigits true (c :: cs) acc =
      (if lget_step acc c = .ret (-1) then .fail else lgetDigits true cs (10 * acc + (c - 48))) := by
  have hd : 48 ≤ c ∧ c ≤ 57 := by simpa [isDigit] using hc
  rw [C14_gen_lget_step acc c (by omega) (by omega)]
  simp only [lgetDigits, hc, if_true]
  by_cases h : acc > 214748363
  · have : (acc : Int) > 214748363 := by omega
    simp [h, this]
  · have : ¬ (acc : Int) > 214748363 := by omega
    have hne : ¬ (10 * (acc : Int) + ((c : Int) - 48) = -1) := by omega
    simp [h, this, hne]

/-- option count 3..9 and the vbtol flag: both copies of the check (text and binary branch) = the model's `optHeader` -/
theorem C14_gen_opts_header (o0 o2 : Int) (h : -2147483648 ≤ o0 ∧ o0 ≤ 2147483647) :
    opts_header_text o0 o2 = opts_header_bin o0 o2 ∧
    opts_header_text o0 o2 = .ret (match optHeader o0 o2 with
      | none => -1
      | some (nOpts, vb) => 2 * ((nOpts : Int) + 5) + (if vb then 1 else 0)) := by
  unfold optHeader opts_header_text opts_header_bin
  simp only [cor_ret, Outcome.bind_ret, tv_ne_zero, clt_ne_zero, cgt_ne_zero, ceq_eq_tv]
  by_cases c1 : o0 < 3 ∨ o0 > 9
  · simp only [c1, if_true]; exact ⟨trivial, rfl⟩
  by_cases v : o2 = 3 <;>
    simp (disch := omega) only [c1, v, if_true, if_false, csub, cadd, cmul, arith_tI, Outcome.bind_ret, true_and, Outcome.ret.injEq, Bool.false_eq_true] <;> omega

/-- reader: `SR.h.kind & 4` selects the real-valued suffix reader exactly when the model's `sufKind` says `dpair`
(kinds that pass `sufheadcheck` are 0..15) -/
theorem C14_gen_suffix_is_real : ∀ k : Fin 16,
    suffix_is_real_bin (k.val : Int) = .ret (if sufKind (k.val : Int) = .dpair then 1 else 0) ∧
    suffix_is_real_text (k.val : Int) = .ret (if sufKind (k.val : Int) = .dpair then 1 else 0) := by decide

/-- binary: `L1 = j * sizeof(real)` in `uiolen` arithmetic = the model's `recLen` (every count is a non-negative `int`) -/
theorem C14_gen_rec_len (j : Nat) (h : j ≤ 2147483647) : rec_len (j : Int) = .ret ((recLen j : Nat) : Int) := by
  simp only [rec_len, cmul, arith_tUL, conv_tUL, conv_tU, Outcome.bind_ret, recLen, u32, Outcome.ret.injEq]
  omega

theorem cband_three (x : Nat) (h : x < 4294967296) : cband (x : Int) 3 = ((x % 4 : Nat) : Int) := by
  unfold cband sx64
  have h1 : ((x : Int) % 18446744073709551616).toNat = x := by omega
  have h2 : ((3 : Int) % 18446744073709551616).toNat = 3 := by decide
  rw [h1, h2]
  have h3 : x &&& 3 = x % 4 := Nat.and_two_pow_sub_one_eq_mod x 2
  rw [h3]
  have : ¬ (x % 4 ≥ 9223372036854775808) := by omega
  simp [this]

/-- binary: the test that a record announces an Options block = the model's `isOptsRecord` (`L` is a `uiolen`) -/
theorem C14_gen_is_opts_record (L : Nat) (h : L < 4294967296) :
    is_opts_record (L : Int) = .ret (if isOptsRecord L then 1 else 0) := by
  unfold isOptsRecord
  generalize hm : u32 (L + 4294967296 - 39) = m
  have hlt : m < 4294967296 := by unfold u32 at hm; omega
  -- `L2` as both tests see it: computed in `unsigned long`, stored as `uiolen`, converted back for the comparison
  have e : ((L : Int) % 18446744073709551616 - 39) % 18446744073709551616 % 4294967296 % 18446744073709551616 = (m : Int) := by
    unfold u32 at hm; omega
  simp only [is_opts_record, cmul, cadd, csub, arith_tUL, conv_tUL, conv_tU, Outcome.bind_ret, Int.reduceMod, Int.reduceMul,
    Int.reduceAdd, Int.reduceSub, e, cband_three m hlt, cand_ret, cle_eq_tv, cnot_eq_tv, tobool_eq_tv, tv_ne_zero, tv_eq_zero,
    Decidable.not_not, Bool.and_eq_true, decide_eq_true_eq]
  rw [tv_congr (show _ ↔ (m ≤ 24 ∧ m % 4 = 0) by omega)]
  unfold tv
  split <;> rfl

end gen

/-! ## non-vacuity: well-formed files of both formats are read completely -/

/-- `hello\n\nOptions\n3\n0\n1\n0\n1\n1\n2\n2\n0.5\n1\n2\nobjno 0 100\nsuffix 0 1 4 0 0\nfoo\n1 3\n` -/
def okText : Bytes := [104, 101, 108, 108, 111, 10, 10, 79, 112, 116, 105, 111, 110, 115, 10, 51, 10, 48, 10, 49, 10, 48, 10, 49, 10, 49, 10, 50, 10, 50, 10, 48, 46, 53, 10, 49, 10, 50, 10, 111, 98, 106, 110, 111, 32, 48, 32, 49, 48, 48, 10, 115, 117, 102, 102, 105, 120, 32, 48, 32, 49, 32, 52, 32, 48, 32, 48, 10, 102, 111, 111, 10, 49, 32, 51, 10]

example : readSol false false 2 1 readAll okText =
    ⟨.ok, [.msg [104, 101, 108, 108, 111, 10] 0, .options [3, 0, 1, 0, 1, 1, 2, 2] false [],
           .dual false ⟨1, [⟨0, [48, 46, 53]⟩], .ok, 0⟩, .primal false ⟨2, [⟨0, [49]⟩, ⟨0, [50]⟩], .ok, 0⟩,
           .objno false [48] [32, 49, 48, 48], .suffix false 0 4 0 [102, 111, 111] [] ⟨1, [⟨1, [32, 51]⟩], .ok, 0⟩], false⟩ := by
  decide +kernel

def okBin : Bytes := [6, 0, 0, 0, 98, 105, 110, 97, 114, 121, 6, 0, 0, 0, 2, 0, 0, 0, 104, 105, 2, 0, 0, 0, 0, 0, 0, 0, 0, 0, 0, 0, 0, 0, 0, 0, 0, 0, 0, 0, 8, 0, 0, 0, 0, 0, 0, 0, 0, 0, 248, 63, 8, 0, 0, 0, 8, 0, 0, 0, 0, 0, 0, 0, 7, 0, 0, 0, 8, 0, 0, 0, 36, 0, 0, 0, 10, 83, 117, 102, 102, 105, 120, 10, 0, 0, 0, 0, 1, 0, 0, 0, 4, 0, 0, 0, 0, 0, 0, 0, 102, 111, 111, 0, 0, 0, 0, 0, 9, 0, 0, 0, 36, 0, 0, 0]

example : readSol false false 1 0 readAll okBin =
    ⟨.ok, [.msg [104, 105, 10] 0, .primal true ⟨1, [⟨0, [0, 0, 0, 0, 0, 0, 248, 63]⟩], .ok, 0⟩,
           .objno true [0, 0, 0, 0] [7, 0, 0, 0], .suffix true 0 4 0 [102, 111, 111] [] ⟨1, [⟨0, [9, 0, 0, 0]⟩], .ok, 0⟩], false⟩ := by
  decide +kernel

/-- a truncated vector is *not* reported complete, and the run fails with EarlyEOF -/
example : readSol false false 3 0 readAll [109, 10, 10, 49, 10, 50, 10] =
    ⟨.earlyEof, [.msg [109, 10] 0, .primal false ⟨3, [⟨0, [49]⟩, ⟨0, [50]⟩], .earlyEof, 0⟩], true⟩ := by decide

example : SanePol readAll := ⟨trivial, trivial, trivial⟩
/-- a handler that reads everything / stops silently after 2 values / rejects a suffix after 1 value with Bad_Suffix -/
example : SanePol ⟨0, .whileNz, .some 2, .someErr 1 .badSuffix⟩ := ⟨trivial, trivial, ⟨rfl, by decide⟩⟩

/-- hypotheses of `C14_failure_reported` on a concrete run: the truncated primal vector is the last event, the result is EarlyEOF -/
example : ∃ pre e post v, (readSol true true 3 0 readAll [109, 10, 10, 49, 10, 50, 10]).evs = pre ++ e :: post ∧ e.vec? = some v ∧ ¬ v.complete ∧
    post = [] ∧ (readSol true true 3 0 readAll [109, 10, 10, 49, 10, 50, 10]).code = .earlyEof :=
  ⟨[.msg [109, 10] 0], .primal false ⟨3, [⟨0, [49]⟩, ⟨0, [50]⟩], .earlyEof, 0⟩, [], ⟨3, [⟨0, [49]⟩, ⟨0, [50]⟩], .earlyEof, 0⟩,
    by decide, rfl, by simp [VecOut.complete], rfl, by decide⟩

/-- hypotheses of `C14_hostile_counts_rejected`: an options block stating −1 dual values for a problem with 2 constraints -/
example : (⟨[3, 1, 1, 0, 2, -1, 2, 2], 3, false, []⟩ : Opts).z 1 < 0 ∧ (⟨[3, 1, 1, 0, 2, -1, 2, 2], 3, false, []⟩ : Opts).z 3 ≤ 2 := by
  unfold Opts.z; decide

/-- hypotheses of `C14_options_array_bound_text`: an accepted options block with the maximum of 9 options fills exactly `Options[0..13]` -/
example : ∃ o r, optsText (str "9\n1\n1\n1\n1\n1\n1\n1\n1\n1\n0\n0\n0\n0\nrest") = .ok (o, r) ∧ o.opts.length = 14 ∧ r = str "rest" :=
  ⟨⟨[9, 1, 1, 1, 1, 1, 1, 1, 1, 1, 0, 0, 0, 0], 9, false, []⟩, str "rest", by rfl, rfl, rfl⟩

/-- the generated decisions on concrete arguments (both directions of each guard) -/
example : MpVerif.Gen.SolGuards.sufheadcheck 0 1 4 8 2 = .ret 0 ∧ MpVerif.Gen.SolGuards.sufheadcheck 0 1 4 8 10 = .ret 1 ∧
    MpVerif.Gen.SolGuards.sufheadcheck 16 1 4 0 0 = .ret 1 ∧ MpVerif.Gen.SolGuards.sufheadcheck 0 1 300000000 0 0 = .ret 1 := by decide
example : MpVerif.Gen.SolGuards.count_guard 2 (-1) 2 2 = .ret 3 ∧ MpVerif.Gen.SolGuards.count_guard 2 2 2 2 = .ret 0 ∧
    MpVerif.Gen.SolGuards.lget_step 214748364 57 = .ret (-1) ∧ MpVerif.Gen.SolGuards.lget_step 214748363 57 = .ret 2147483639 := by decide
example : MpVerif.Gen.SolGuards.is_opts_record 39 = .ret 1 ∧ MpVerif.Gen.SolGuards.is_opts_record 40 = .ret 0 ∧
    MpVerif.Gen.SolGuards.is_opts_record 67 = .ret 0 ∧ MpVerif.Gen.SolGuards.rec_len 536870912 = .ret 0 := by decide

end MpVerif.C14
