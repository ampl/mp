import MpVerif.C14.Model
/-! # C14 — the vocabulary of the property theorems besides the model: what is assumed of the handler (`SanePol`), `Event.vec?`,
`VecOut.complete`; and `VecOK`, what the invariant says of an offered vector; then lemmas about the stdio primitives and the vector readers -/
namespace MpVerif.C14

/-- the handler passes a documented error code (not OK) to `SetError` -/
def SaneAct : VecAct → Prop
  | .someErr _ c => c.documented = true ∧ c ≠ .ok
  | _ => True

structure SanePol (pol : Policy) : Prop where
  dual : SaneAct pol.dual
  primal : SaneAct pol.primal
  suf : SaneAct pol.suf

/-- what a handler can rely on when its callback returns -/
structure VecOK (v : VecOut) : Prop where
  ok_count : v.rr = .ok → v.items.length + v.remaining = v.offered
  fail_closed : v.rr ≠ .ok → v.remaining = 0
  rr_doc : v.rr.documented = true

def Event.vec? : Event → Option VecOut
  | .dual _ v => some v
  | .primal _ v => some v
  | .suffix _ _ _ _ _ _ v => some v
  | _ => none

/-- "reported complete": the reader's own status is OK and nothing is left to read -/
def VecOut.complete (v : VecOut) : Prop := v.rr = .ok ∧ v.remaining = 0

theorem fgetsAux_eq (k : Nat) (inp : Bytes) :
    fgetsAux k inp = inp.splitAt (min k ((inp.takeWhile (· ≠ 10)).length + 1)) := by
  induction k generalizing inp with
  | zero => simp [fgetsAux]
  | succ k ih =>
    cases inp with
    | nil => simp [fgetsAux]
    | cons c cs =>
      simp only [fgetsAux, List.takeWhile_cons]
      split
      · rename_i h; simp [h]
      · rename_i h; simp [h, ih cs, Nat.add_min_add_right]

theorem fgets_eq (sz : Nat) (inp : Bytes) :
    fgets sz inp = if sz = 0 ∨ (2 ≤ sz ∧ inp = []) then none
      else some (inp.splitAt (min (sz - 1) ((inp.takeWhile (· ≠ 10)).length + 1))) := by
  unfold fgets
  split
  · simp [*]
  · split
    · simp [*]
    · cases inp with
      | nil => rw [if_pos (.inr ⟨by omega, rfl⟩)]
      | cons c cs => rw [if_neg (by simp; omega), fgetsAux_eq]

theorem fgets_some {sz : Nat} {inp c r : Bytes} (h : fgets sz inp = some (c, r)) :
    c.length + r.length = inp.length ∧ c.length + 1 ≤ sz ∧ (2 ≤ sz → 0 < c.length) := by
  rw [fgets_eq, List.splitAt_eq] at h
  split at h
  · cases h
  · rename_i hc
    cases Option.some.inj h
    have : 2 ≤ sz → 0 < inp.length := fun h2 => List.length_pos_iff.mpr fun e => hc (.inr ⟨h2, e⟩)
    simp only [List.length_take, List.length_drop]; omega

theorem fgets_rest_le {sz : Nat} {inp c r : Bytes} (h : fgets sz inp = some (c, r)) : r.length ≤ inp.length := by
  have := fgets_some h; omega

theorem fgets_rest_lt {sz : Nat} {inp c r : Bytes} (hs : 2 ≤ sz) (h : fgets sz inp = some (c, r)) :
    r.length < inp.length := by
  have := fgets_some h; have := this.2.2 hs; omega

theorem fread_some {n : Nat} {inp b r : Bytes} (h : fread n inp = some (b, r)) :
    b.length = n ∧ r.length + n = inp.length := by
  unfold fread at h
  split at h
  · simp at h
  · simp at h; obtain ⟨h1, h2⟩ := h; subst h1 h2; simp; omega

theorem readU32_some {inp r : Bytes} {v : Nat} (h : readU32 inp = some (v, r)) : r.length + 4 = inp.length := by
  unfold readU32 at h
  split at h
  · simp at h
  · rename_i b r' hf
    simp at h; obtain ⟨_, rfl⟩ := h
    exact (fread_some hf).2

theorem readI32_some {inp r : Bytes} {v : Int} (h : readI32 inp = some (v, r)) : r.length + 4 = inp.length := by
  unfold readI32 at h
  split at h
  · simp at h
  · rename_i b r' hf
    simp at h; obtain ⟨_, rfl⟩ := h
    exact (fread_some hf).2

theorem cstr_length_le (b : Bytes) : (cstr b).length ≤ b.length := by
  unfold cstr; exact (List.takeWhile_sublist _).length_le

theorem of_ite_ne {α : Sort _} {c : Prop} [Decidable c] {a b x : α} (h : (if c then a else b) = x) (ha : a ≠ x) : ¬ c ∧ b = x := by
  by_cases hc : c
  · rw [if_pos hc] at h; exact absurd h ha
  · rw [if_neg hc] at h; exact ⟨hc, h⟩

/-- `tl + 2 * nl + 6` is the last and largest `int` that `sufheadcheck` computes -/
theorem sufheadcheck_eq_ok {fx : Bool} {k n nl tl tls : Int} :
    sufheadcheck fx k n nl tl tls = .ok ↔
      (0 ≤ k ∧ k ≤ 15) ∧ 0 ≤ n ∧ 2 ≤ nl ∧ 0 ≤ tl ∧ (fx = true → nl ≤ 268435455 ∧ tl ≤ 268435455) ∧
        (tl ≠ 0 → 1 ≤ tls ∧ tls ≤ tl + 1) ∧ tl + 2 * nl + 6 ≤ 2147483647 := by
  unfold sufheadcheck
  constructor
  · intro h
    obtain ⟨c1, h⟩ := of_ite_ne h (by decide)
    obtain ⟨c2, h⟩ := of_ite_ne h (by decide)
    obtain ⟨c3, h⟩ := of_ite_ne h (by decide)
    obtain ⟨c4, h⟩ := of_ite_ne h (by decide)
    obtain ⟨c5, -⟩ := of_ite_ne h (by decide)
    refine ⟨by omega, by omega, by omega, by omega, fun hfx => by simp only [hfx, true_and] at c2; omega, by omega, by omega⟩
  · intro ⟨h1, h2, h3, h4, h5, h6, h7⟩
    rw [if_neg (by omega), if_neg (fun h => by have := h5 h.1; omega), if_neg (by omega), if_neg (by omega), if_neg (by omega)]

theorem readItem_facts (binary : Bool) (k : RdKind) (inp : Bytes) :
    (readItem binary k inp).2.length ≤ inp.length ∧
      ∀ c, (readItem binary k inp).1 = .error c → c = .earlyEof ∨ c = .badLine := by
  -- every exit returns `[]`, `inp` itself, or what an `fread` / `fgets` left; every failing exit carries one of the two literals
  unfold readItem
  split
  · split
    · split
      · simp
      · rename_i h; have := fread_some h; simp; omega
    · split
      · simp
      · rename_i h1; have := readI32_some h1
        split
        · simp
        · rename_i h2; have := fread_some h2; simp; omega
    · split
      · simp
      · rename_i h1; have := readI32_some h1
        split
        · simp
        · rename_i h2; have := fread_some h2; simp; omega
  · split
    · simp
    · rename_i h; have := fgets_rest_le h
      dsimp only
      split
      · split <;> simpa
      · split
        · simpa
        · split <;> simpa

theorem vecLoop_ok (binary : Bool) (k : RdKind) (w n : Nat) (inp : Bytes) :
    let r := vecLoop binary k w n inp
    r.2.2.2.length ≤ inp.length ∧ r.1.length ≤ w ∧ VecOK ⟨n, r.1, r.2.1, r.2.2.1⟩ := by
  induction w generalizing n inp with
  | zero => exact ⟨Nat.le_refl _, Nat.le_refl _, fun _ => Nat.zero_add _, fun h => absurd rfl h, rfl⟩
  | succ w ih =>
    simp only [vecLoop]
    split
    · rename_i hn; exact ⟨Nat.le_refl _, Nat.zero_le _, fun _ => hn.symm, fun _ => rfl, rfl⟩
    · obtain ⟨h1, he⟩ := readItem_facts binary k inp
      split
      · rename_i it rest hr
        rw [hr] at h1
        obtain ⟨a, e, b, c, d⟩ := ih (n - 1) rest
        exact ⟨Nat.le_trans a h1, Nat.succ_le_succ e, fun h => by have := b h; simp only [List.length_cons] at this ⊢; omega, c, d⟩
      · rename_i c rest hr
        rw [hr] at h1 he
        rcases he c rfl with h' | h' <;> subst h' <;>
          exact ⟨h1, Nat.zero_le _, fun h => (by cases h), fun _ => rfl, rfl⟩

theorem runVec_facts (binary : Bool) (k : RdKind) (act : VecAct) (n : Nat) (inp : Bytes) (hs : SaneAct act) :
    (runVec binary k act n inp).1.offered = n ∧
    (runVec binary k act n inp).2.length ≤ inp.length ∧
    VecOK (runVec binary k act n inp).1 := by
  unfold runVec
  extract_lets want r
  obtain ⟨h1, -, h2⟩ : r.2.2.2.length ≤ inp.length ∧ r.1.length ≤ want ∧ VecOK ⟨n, r.1, r.2.1, r.2.2.1⟩ :=
    vecLoop_ok binary k want n inp
  cases act with
  | someErr j c =>
    -- the handler's own code replaces an OK status; a read error stays
    dsimp only
    split
    · exact ⟨rfl, h1, fun h => absurd h hs.2, fun _ => rfl, hs.1⟩
    · exact ⟨rfl, h1, h2⟩
  | _ => exact ⟨rfl, h1, h2⟩

end MpVerif.C14
