import MpVerif.C14.Lemmas
/-! # C14 — the result invariant (`EvOK`, `EvsInv`, `CodeOK`, `RInv`) with its glue lemmas (`rinv_err`, `rinv_done`, `rinv_cons`,
`rinv_vec`), the specification predicate `Sat`, and what the message and options readers can return (`msgText_sat`, `msgBin_sat`,
`optsText_sat`, `optsBin_sat`, `OptsOK`) -/
namespace MpVerif.C14

structure SufEvOK (binary : Bool) (namelen tablen : Int) (name table : Bytes) (v : VecOut) : Prop where
  vec : VecOK v
  namelen_ge : 2 ≤ namelen
  table_le : (table.length : Int) ≤ tablen
  name_text : binary = false → (name.length : Int) + 1 ≤ namelen
  name_bin : binary = true → (name.length : Int) ≤ namelen + tablen

/-- what every delivered event satisfies (for declared sizes `nv`, `nc`) -/
def EvOK (nv nc : Nat) : Event → Prop
  | .dual _ v => v.offered ≤ nc ∧ VecOK v
  | .primal _ v => v.offered ≤ nv ∧ VecOK v
  | .suffix b _ namelen tablen name table v => SufEvOK b namelen tablen name table v
  | .options opts _ _ => 6 ≤ opts.length ∧ opts.length ≤ 14     -- what `OnAMPLOptions` receives: `Options[0 .. nOpts+4]`
  | _ => True

/-- every event is `P`-good, and a vector that was not reported complete is the last event
of a run that ended with an error -/
def EvsInv (P : Event → Prop) : List Event → Code → Prop
  | [], _ => True
  | e :: es, c => P e ∧ (∀ v, e.vec? = some v → ¬ v.complete → es = [] ∧ c ≠ .ok) ∧ EvsInv P es c

theorem evsInv_split {P : Event → Prop} {pre post : List Event} {e : Event} {c : Code}
    (h : EvsInv P (pre ++ e :: post) c) :
    P e ∧ ∀ v, e.vec? = some v → ¬ v.complete → post = [] ∧ c ≠ .ok := by
  induction pre with
  | nil => exact ⟨h.1, h.2.1⟩
  | cons x xs ih => exact ih h.2.2

/-- the error predicate of the parts of the reader that do not depend on `fx` -/
abbrev Doc (c : Code) : Prop := c.documented = true

/-- the codes the reader can end with (`fuel` is not among them) -/
inductive CodeOK (fx : Bool) (c : Code) : Prop
  | doc (h : Doc c)
  /-- without the bounds checks, the undefined behaviours as well -/
  | ub (hfx : fx = false) (h : c.isUb = true)

theorem CodeOK.ne_fuel {fx : Bool} {c : Code} (h : CodeOK fx c) : c ≠ .fuel := by
  rintro rfl; cases h <;> contradiction

theorem CodeOK.documented {c : Code} : CodeOK true c → c.documented = true
  | .doc h => h

theorem CodeOK.not_ub {c : Code} (h : CodeOK true c) : c.isUb = false := by
  have := h.documented; revert this; cases c <;> decide

structure RInv (fx fm : Bool) (P : Event → Prop) (r : Result) : Prop where
  code : CodeOK fx r.code
  /-- for `fm = false` the Bad_Options return of `preCheck` is the one error without a message -/
  msg : r.code ≠ .ok → (r.code ≠ .badOptions ∨ fm = true) → r.hasMsg = true
  evs : EvsInv P r.evs r.code

/-- The error half `E` and the value half `Q` of a specification as one predicate of the computation: a single copy of the computation stays in the goal while it is taken apart. -/
def Sat {ε α : Type} (E : ε → Prop) (Q : α → Prop) : Except ε α → Prop
  | .error c => E c
  | .ok a => Q a

theorem Sat.mono {ε α : Type} {E : ε → Prop} {Q Q' : α → Prop} {e : Except ε α} (h : Sat E Q e)
    (hQ : ∀ a, Q a → Q' a) : Sat E Q' e := by
  cases e with
  | error c => exact h
  | ok a => exact hQ a h

theorem Sat.error {ε α : Type} {E : ε → Prop} {Q : α → Prop} {e : Except ε α} (h : Sat E Q e) {c : ε} (he : e = .error c) : E c := by
  rw [he] at h; exact h

theorem Sat.ok {ε α : Type} {E : ε → Prop} {Q : α → Prop} {e : Except ε α} (h : Sat E Q e) {a : α} (he : e = .ok a) : Q a := by
  rw [he] at h; exact h

theorem rinv_err {fx fm : Bool} {P : Event → Prop} {c : Code} (h : CodeOK fx c) : RInv fx fm P (err c) :=
  ⟨h, by simp [err], by simp [err, EvsInv]⟩

theorem rinv_done {fx fm : Bool} {P : Event → Prop} : RInv fx fm P done :=
  ⟨.doc rfl, by simp [done], by simp [done, EvsInv]⟩

theorem rinv_cons {fx fm : Bool} {P : Event → Prop} {e : Event} {r : Result}
    (he : P e) (hv : e.vec? = none) (hr : RInv fx fm P r) : RInv fx fm P (r.cons e) :=
  ⟨hr.code, hr.msg, by
    simp only [Result.cons, EvsInv]
    exact ⟨he, by simp [hv], hr.evs⟩⟩

theorem checkReader_cases (v : VecOut) (hok : VecOK v) :
    (∃ c, checkReader v = some c ∧ c ≠ .ok ∧ Doc c) ∨ (checkReader v = none ∧ v.complete) := by
  unfold checkReader
  split
  · exact .inl ⟨_, rfl, nofun, rfl⟩
  · split
    · exact .inl ⟨_, rfl, nofun, rfl⟩
    · split
      · exact .inl ⟨_, rfl, nofun, rfl⟩
      · split
        · rename_i h4; exact .inl ⟨_, rfl, h4, hok.rr_doc⟩
        · rename_i h3 h4; exact .inr ⟨rfl, Decidable.not_not.mp h4, Decidable.not_not.mp h3⟩

theorem rinv_vec {fx fm : Bool} {P : Event → Prop} {e : Event} {v : VecOut} {k : Unit → Result}
    (he : P e) (hv : e.vec? = some v) (hok : VecOK v)
    (hk : v.complete → RInv fx fm P (k ())) : RInv fx fm P ((afterVec v k).cons e) := by
  unfold afterVec
  rcases checkReader_cases v hok with ⟨c, h, h1, h2⟩ | ⟨h, hc⟩
  · rw [h]
    have hr : RInv fx fm P (err c) := rinv_err (.doc h2)
    exact ⟨hr.code, hr.msg, he, fun _ _ _ => ⟨rfl, h1⟩, trivial⟩
  · rw [h]
    have hr := hk hc
    refine ⟨hr.code, hr.msg, he, ?_, hr.evs⟩
    intro v' hv' hn
    rw [hv] at hv'; cases hv'
    exact absurd hc hn

theorem msgText_sat {f : Nat} {inp : Bytes} {st : MsgState} (hf : inp.length < f) :
    Sat Doc (fun _ => True) (msgText f inp st) := by
  induction f generalizing inp st with
  | zero => omega
  | succ f ih =>
    unfold msgText
    split
    · rfl
    · rename_i chunk rest hg
      have := fgets_rest_lt (by omega) hg
      -- the eliminator, here and below: unlike `split`, it leaves the two branches as they are
      exact iteInduction (fun _ => trivial) fun _ => ih (by omega)

theorem binChunks_sat {f L : Nat} {inp : Bytes} {st : MsgState} (hf : inp.length < f) (hL : L ≠ 0) :
    Sat Doc (fun r => r.2.length < inp.length) (binChunks f L inp st) := by
  induction f generalizing L inp st with
  | zero => omega
  | succ f ih =>
    unfold binChunks
    dsimp only
    split
    · rfl
    · rename_i buf rest hr
      have h1 := fread_some hr
      have hn : 0 < min L 512 := by omega
      refine iteInduction (fun _ => ?_) (fun hne => ?_)
      · dsimp only [Sat]; omega
      · exact (ih (by omega) hne).mono fun _ h => by omega

theorem msgBin_sat {f : Nat} {inp : Bytes} {st : MsgState} (hf : inp.length < f) :
    Sat Doc (fun _ => True) (msgBin f inp st) := by
  induction f generalizing inp st with
  | zero => omega
  | succ f ih =>
    unfold msgBin
    split
    · rfl
    · rename_i L r1 h1
      have l1 := readU32_some h1
      have hch : Sat Doc (fun r => r.2.length ≤ r1.length)
          (if L = 0 then Except.ok (st, r1) else binChunks (r1.length + 1) L r1 st) :=
        iteInduction (fun _ => Nat.le_refl _)
          (fun hL => (binChunks_sat (by omega) hL).mono fun _ => Nat.le_of_lt)
      split
      · rename_i hc; exact hch.error hc
      · rename_i st' r2 hc
        have l2 : r2.length ≤ r1.length := hch.ok hc
        split
        · rfl
        · rename_i L' r3 h3
          have l3 := readU32_some h3
          exact iteInduction (fun _ => rfl) fun _ => iteInduction (fun _ => trivial) fun _ => ih (by omega)

theorem readIntLine_sat (inp : Bytes) : Sat Doc (fun _ => True) (readIntLine inp) := by
  unfold readIntLine
  split
  · rfl
  · exact iteInduction (fun _ => rfl) fun _ => trivial

theorem readIntLines_sat (k : Nat) (inp : Bytes) :
    Sat Doc (fun r => r.1.length = k) (readIntLines k inp) := by
  induction k generalizing inp with
  | zero => exact rfl
  | succ k ih =>
    unfold readIntLines
    split
    · rename_i hc; exact (readIntLine_sat inp).error hc
    · rename_i v r hv
      split
      · rename_i hc; exact (ih r).error hc
      · rename_i hc; exact congrArg (· + 1) ((ih r).ok hc)

theorem optHeader_bound {o0 o2 : Int} {n : Nat} {vb : Bool} (h : optHeader o0 o2 = some (n, vb)) : 1 ≤ n ∧ n ≤ 9 := by
  unfold optHeader at h
  split at h
  · simp at h
  · split at h <;> simp at h <;> omega

/-- an accepted options block: `nOpts + 5` integers were stored, inside the array `Long Options[14]` -/
def OptsOK (o : Opts) : Prop := o.opts.length = o.nOpts + 5 ∧ o.nOpts + 5 ≤ 14 ∧ 1 ≤ o.nOpts

theorem optsText_sat (inp : Bytes) : Sat Doc (fun r => OptsOK r.1) (optsText inp) := by
  unfold optsText
  have h4 := readIntLines_sat 4 inp
  split
  · rename_i hc; exact h4.error hc
  · rename_i o4 r1 hc
    have l4 : o4.length = 4 := h4.ok hc
    dsimp only
    split
    · rfl
    · rename_i nOpts vb hh
      have hb := optHeader_bound hh
      have hm := readIntLines_sat (nOpts + 1) r1
      split
      · rename_i hc; exact hm.error hc
      · rename_i more r2 hc
        have lm : more.length = nOpts + 1 := hm.ok hc
        have hok : ∀ vb t, OptsOK ⟨o4 ++ more, nOpts, vb, t⟩ := fun _ _ => by
          simp only [OptsOK, List.length_append, l4, lm]; omega
        refine iteInduction (fun _ => ?_) (fun _ => hok _ _)
        split
        · rfl
        · exact iteInduction (fun _ => rfl) fun _ => hok _ _

theorem i32s_length (k : Nat) (b : Bytes) : (i32s k b).length = k := by
  induction k generalizing b with
  | zero => simp [i32s]
  | succ k ih => simp [i32s, ih]

theorem optsBin_sat (L : Nat) (inp : Bytes) : Sat Doc (fun r => OptsOK r.1) (optsBin L inp) := by
  unfold optsBin
  split
  · rfl
  · refine iteInduction (fun _ => rfl) (fun _ => iteInduction (fun _ => rfl) (fun _ => iteInduction (fun _ => ?_) (fun _ => ?_)))
    · exact iteInduction (fun _ => rfl) (fun _ => rfl)
    · dsimp only
      split
      · rfl
      · rename_i nOpts vb hh
        have hb := optHeader_bound hh
        refine iteInduction (fun _ => rfl) (fun _ => iteInduction (fun _ => ?_) (fun _ => ?_))
        · exact iteInduction (fun _ => rfl) (fun _ => rfl)
        · split
          · rfl
          · split
            · rfl
            · refine iteInduction (fun _ => rfl) (fun _ => ?_)
              dsimp only [Sat, OptsOK]
              simp only [List.length_append, i32s_length]
              omega

end MpVerif.C14
