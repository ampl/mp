import MpVerif.C14.LemmasInv
/-! # C14 — what the pieces of the text suffix reader can return: `Lget`, `sufheadcheck`, the 512-byte line buffer, table lines, `gsufBody` -/
namespace MpVerif.C14

theorem lgetDigits_fx (s : Bytes) (acc : Nat) : lgetDigits true s acc ≠ .ub := by
  induction s generalizing acc with
  | nil => simp [lgetDigits]
  | cons c cs ih =>
    unfold lgetDigits
    split
    · simp only [if_true]
      split
      · simp
      · exact ih _
    · simp

@[simp] theorem lget_fx (s : Bytes) : lget true s ≠ .ub := by
  intro h
  unfold lget at h
  split at h
  · simp at h
  · split at h
    · simp at h
    · split at h
      · simp at h
      · rename_i hd; exact lgetDigits_fx _ _ hd
      · repeat' split at h
        all_goals simp at h

theorem lget5_err {fx : Bool} {s : Bytes} {c : Code} (h : lget5 fx s = .error c) :
    c = .badLine ∨ (c = .ubOverflow ∧ fx = false) := by
  unfold lget5 at h
  -- for `fx = true` the `.ub` arms are refuted by `lget_fx`
  cases fx <;> (repeat' split at h) <;> simp_all

/-- with the sizes bounded by the second test of `sufheadcheck true` no `int` computation of `sufheadcheck` overflows -/
theorem sufheadcheck_ub {fx : Bool} {k n nl tl tls : Int} (h : sufheadcheck fx k n nl tl tls = .ub) : fx = false := by
  cases fx
  · rfl
  unfold sufheadcheck at h
  obtain ⟨c1, h⟩ := of_ite_ne h (by decide)
  obtain ⟨c2, h⟩ := of_ite_ne h (by decide)
  have c2' : nl ≤ 268435455 ∧ tl ≤ 268435455 := by simp only [true_and] at c2; omega
  rw [if_neg (by omega)] at h
  obtain ⟨-, h⟩ := of_ite_ne h (by decide)
  rw [if_neg (by omega)] at h
  cases h

theorem writeAt_length (region : Bytes) (off : Nat) (data : Bytes) (h : off + data.length ≤ region.length) :
    (writeAt region off data).length = region.length := by
  simp [writeAt, List.length_append, List.length_take, List.length_drop]; omega

theorem bufStore_length (buf : Buf) (chunk : Bytes) (h : chunk.length < buf.length) :
    (bufStore buf chunk).length = buf.length := by
  simp [bufStore, List.length_append, List.length_drop]; omega

theorem bufCstr_set_le (buf : Buf) (i : Nat) (h : i < buf.length) :
    (bufCstr (buf.set i (some 0))).length ≤ i := by
  induction buf generalizing i with
  | nil => simp at h
  | cons x xs ih =>
    cases i with
    | zero => simp [bufCstr]
    | succ i =>
      simp only [List.set_cons_succ]
      cases x with
      | none => simp [bufCstr]
      | some c =>
        simp only [bufCstr]
        split
        · simp
        · have := ih i (by simpa using h); simp; omega

theorem getD_store (chunk : Bytes) (rest : Buf) (i : Nat) (hi : i ≤ chunk.length) :
    ∃ v, (chunk.map some ++ some 0 :: rest).getD i none = some v := by
  induction chunk generalizing i with
  | nil =>
    have : i = 0 := by simpa using hi
    subst this; exact ⟨0, by simp⟩
  | cons c cs ih =>
    cases i with
    | zero => exact ⟨c, by simp⟩
    | succ i =>
      have := ih i (by simpa using hi)
      simpa using this

theorem bufRead_store (buf : Buf) (chunk : Bytes) (i : Nat) (hi : i ≤ chunk.length) (hc : chunk.length ≤ 510) :
    ∃ v, bufRead (bufStore buf chunk) i = .ok v := by
  unfold bufRead bufStore
  have h1 : ¬ i ≥ 512 := by omega
  simp only [h1, if_false]
  obtain ⟨v, hv⟩ := getD_store chunk (buf.drop (chunk.length + 1)) i hi
  rw [hv]; exact ⟨v, rfl⟩

theorem bufRead_sat (buf : Buf) (i : Nat) :
    Sat (fun c => c.isUb = true ∧ (c = .ubOob → 512 ≤ i)) (fun _ => i < buf.length) (bufRead buf i) := by
  unfold bufRead
  refine iteInduction (fun h => ⟨rfl, fun _ => h⟩) (fun _ => ?_)
  split
  · exact ⟨rfl, nofun⟩
  · rename_i hr
    exact Nat.lt_of_not_le fun hle => by simp [List.getD_eq_getElem?_getD, List.getElem?_eq_none hle] at hr

/-- a byte that was read back lies inside the list that models the array: so the NUL that ends the name is stored -/
theorem nameEnd_sat (buf : Buf) (namelen : Nat) :
    Sat (fun c => c.isUb = true ∧ (c = .ubOob → 512 ≤ namelen)) (fun _ => namelen - 1 < buf.length) (nameEnd buf namelen) := by
  unfold nameEnd
  have h1 := bufRead_sat buf (namelen - 1)
  split
  · rename_i hc; exact ⟨(h1.error hc).1, fun h => by have := (h1.error hc).2 h; omega⟩
  · rename_i hc
    refine iteInduction (fun _ => h1.ok hc) fun _ => iteInduction (fun _ => h1.ok hc) fun _ => ?_
    split
    · rename_i hc; exact (bufRead_sat buf namelen).error hc
    · exact h1.ok hc

theorem nameEnd_fx (buf : Buf) (chunk : Bytes) (namelen : Nat) (hc : chunk.length ≤ 510)
    (hn : namelen ≤ (cstr chunk).length) (c : Code) : nameEnd (bufStore buf chunk) namelen ≠ .error c := by
  have hl := cstr_length_le chunk
  obtain ⟨v1, h1⟩ := bufRead_store buf chunk (namelen - 1) (by omega) hc
  obtain ⟨v2, h2⟩ := bufRead_store buf chunk namelen (by omega) hc
  unfold nameEnd
  rw [h1]
  dsimp only
  split
  · simp
  · split
    · simp
    · rw [h2]; simp

theorem tabLines_sat (k : Nat) (region : Bytes) (s se : Nat) (inp : Bytes) (hs : s < se) (hlen : region.length = se) :
    Sat (· = .earlyEof) (fun r => r.2.2.length ≤ inp.length ∧ r.1.length = se ∧ r.2.1 < se) (tabLines k region s se inp) := by
  induction k generalizing region s inp with
  | zero => exact ⟨Nat.le_refl _, hlen, hs⟩
  | succ k ih =>
    unfold tabLines
    split
    · exact rfl
    · rename_i chunk rest hg
      have hf := fgets_some hg
      have hcl := cstr_length_le chunk
      have hw : (writeAt region s (chunk ++ [0])).length = se := by
        rw [writeAt_length _ _ _ (by simp; omega)]; exact hlen
      exact (ih (writeAt region s (chunk ++ [0])) (s + (cstr chunk).length) rest (by omega) hw).mono
        fun _ h => ⟨by omega, h.2⟩

theorem tabLast_le (region l : Bytes) (s tablen L' : Nat) (hr : region.length = tablen) (hL : L' ≤ l.length - 1)
    (hfit : l.length - 1 < tablen - s) :
    (cstr (if L' = 0 then region else writeAt region s (l.take L'))).length ≤ tablen := by
  refine Nat.le_trans (cstr_length_le _) ?_
  split
  · omega
  · rw [writeAt_length]
    · omega
    · simp only [List.length_take]; omega

theorem gsufBody_sat {fx : Bool} (buf : Buf) (namelen tablen tablines : Nat) (inp : Bytes) :
    Sat (fun c => CodeOK fx c ∧ (c = .ubOob → 512 ≤ namelen))
      (fun r => r.2.2.1.length ≤ inp.length ∧ r.1.length ≤ namelen - 1 ∧ r.2.1.length ≤ tablen)
      (gsufBody fx buf namelen tablen tablines inp) := by
  unfold gsufBody
  split
  · exact ⟨.doc rfl, nofun⟩
  · rename_i chunk inp1 hg
    have hf := fgets_some hg
    dsimp only
    refine iteInduction (fun _ => ⟨.doc rfl, nofun⟩) (fun hfx => ?_)
    split
    · rename_i c' hne
      cases fx
      · exact have h := (nameEnd_sat _ namelen).error hne; ⟨.ub rfl h.1, h.2⟩
      · exact absurd hne (nameEnd_fx buf chunk namelen (by omega) (by simp at hfx; omega) _)
    · exact ⟨.doc rfl, nofun⟩
    · rename_i hne
      have hname := bufCstr_set_le (bufStore buf chunk) (namelen - 1) ((nameEnd_sat _ namelen).ok hne)
      refine iteInduction (fun _ => ?_) (fun htl => ?_)
      · exact ⟨by dsimp only; omega, hname, Nat.zero_le _⟩
      · have htab := tabLines_sat (tablines - 1) (List.replicate tablen 0) 0 tablen inp1 (by omega) List.length_replicate
        split
        · rename_i c' hc
          exact htab.error hc ▸ ⟨.doc rfl, nofun⟩
        · rename_i region s inp2 hc
          have ht : inp2.length ≤ inp1.length ∧ region.length = tablen ∧ s < tablen := htab.ok hc
          split
          · exact ⟨.doc rfl, nofun⟩
          · rename_i chunk2 inp3 hg2
            have hf2 := fgets_some hg2
            refine iteInduction (fun _ => ⟨.doc rfl, nofun⟩) (fun _ => iteInduction (fun _ => ⟨.doc rfl, nofun⟩) (fun _ => iteInduction (fun _ => ⟨.doc rfl, nofun⟩) (fun hL => ?_)))
            dsimp only [Sat]
            refine ⟨by omega, hname, tabLast_le region (cstr chunk2) s tablen _ ht.2.1 ?_ (by omega)⟩
            split <;> omega

end MpVerif.C14
