import MpVerif.C03.ModelIntended
import MpVerif.C03.LemmasContract
import MpVerif.C03.LemmasNum
/-! # C03 — `events` (what the reader is proved to deliver) equals `intended` (what the property demands), up to the sign of
zero, outside the two exception classes -/
namespace MpVerif.C03

/-- the number hypotheses: what comes back for a written double is the double, up to the sign of zero -/
structure NumOK (cd : Codec) (o : Opts) : Prop where
  rd : ∀ x, (cd.rd x).normZero = x.normZero
  nv : ∀ x, (numVal cd o x).normZero = x.normZero
  vb : ∀ x, (cd.vb x).normZero = x.normZero

theorem NumOK.of_rd {cd : Codec} {o : Opts} (hrd : ∀ x, (cd.rd x).normZero = x.normZero)
    (hvb : ∀ x, (cd.vb x).normZero = x.normZero) : NumOK cd o := ⟨hrd, numVal_exact hrd o, hvb⟩

theorem isZero_of_nz {a b : Dbl} (h : a.normZero = b.normZero) : a.isZero = b.isZero := by
  unfold Dbl.normZero at h
  cases ha : a.isZero <;> cases hb : b.isZero <;> simp [ha, hb] at h ⊢
  · subst h; simp [Dbl.isZero, Dbl.zero] at ha
  · subst h; simp [Dbl.isZero, Dbl.zero] at hb

theorem neZero_of_nz {a b : Dbl} (h : a.normZero = b.normZero) : a.neZero = b.neZero := by
  simp [Dbl.neZero, isZero_of_nz h]

section
variable {cd : Codec} {o : Opts} (ok : NumOK cd o) (nv : Nat)
include ok

theorem plVals_nz : ∀ l : List Expr, (plVals cd o l).map Dbl.normZero = (plNumbers l).map Dbl.normZero
  | [] => by simp [plVals, plNumbers]
  | e :: r => by cases e <;> simp [plVals, plNumbers, ok.nv, plVals_nz r]

mutual
theorem hE_mE : (e : Expr) → ∀ md : Mode, (hE cd o nv md e).nz = (mE nv md e).nz
  | .num x => by
    intro md
    by_cases hm : md = .log
    · have hz := isZero_of_nz (ok.nv x)
      simp [hE, mE, hm, HE.nz, HE.nzs, Dbl.neZero, hz]
      cases x.isZero <;> simp
    · simp [hE, mE, hm, HE.nz, HE.nzs, ok.nv x]
  | .var i d => by intro md; simp [hE, mE, refHE]
  | .str s => by intro md; simp [hE, mE]
  | .call f d args => by
    intro md
    have := hEs_mEs args .sym 0
    simp [hE, mE, HE.nz, this]
  | .op1 oc d a => by
    intro md
    cases hw : writerInfo oc with
    | none => simp [hE, mE, hw]
    | some p =>
      obtain ⟨k, cls⟩ := p
      cases cls <;> simp [hE, mE, hw, opShape, fixedArity, opNode, HE.nz, HE.nzs, hE_mE a]
  | .op2 oc d a b => by
    intro md
    cases hw : writerInfo oc with
    | none => simp [hE, mE, hw]
    | some p =>
      obtain ⟨k, cls⟩ := p
      cases cls <;> simp [hE, mE, hw, opShape, fixedArity, opNode, HE.nz, HE.nzs, hE_mE a, hE_mE b]
  | .op3 oc d a b c => by
    intro md
    cases hw : writerInfo oc with
    | none => simp [hE, mE, hw]
    | some p =>
      obtain ⟨k, cls⟩ := p
      cases cls <;> simp [hE, mE, hw, opShape, fixedArity, opNode, HE.nz, HE.nzs, hE_mE a, hE_mE b, hE_mE c]
  | .opN oc d args => by
    intro md
    cases hw : writerInfo oc with
    | none => simp [hE, mE, hw]
    | some p =>
      obtain ⟨k, cls⟩ := p
      have ss := fun md => hEs_mEs args md 0
      have hp := plVals_nz ok args.dropLast
      -- every iterated class has a constant `argMode`, so `ss` rewrites the argument lists; left over is `plterm`, whose
      -- two sides end in the same `match args.getLast?`, written once in `hE` and once in `mE`: equal by unfolding
      cases cls <;> simp [hE, mE, hw, opShape, isIterated, opNode, HE.nz, HE.nzs, ss, hp, refHE]
      rfl
theorem hEs_mEs : (es : List Expr) → ∀ (md : Mode) (i : Nat),
    HE.nzs (hEs cd o nv md es) = HE.nzs (mEs nv (fun _ => md) i es)
  | [] => by intro md i; simp [hEs, mEs, HE.nzs]
  | e :: es => by
    intro md i
    simp [hEs, mEs, HE.nzs, hE_mE e md, hEs_mEs es md (i + 1)]
end

theorem hTop_mTop (e : Expr) : (hTop cd o nv e).nz = (mTop nv e).nz := by
  cases e with
  | num x =>
    have hz := isZero_of_nz (ok.nv x)
    simp only [hTop, mTop, hz]
    split
    · rfl
    · simp [HE.nz, HE.nzs, ok.nv x]
  | _ => exact hE_mE ok nv _ .num

omit ok in
theorem evFuncs_eq : ∀ (l : List Func) (i : Nat), evFuncs i l = inFuncs i l
  | [], _ => rfl
  | f :: r, i => by simp [evFuncs, inFuncs, evFuncs_eq r (i + 1)]

omit ok in
theorem evSparseI_eq : ∀ l : List (Nat × Int), evSparseI l = l.map fun p => Ev.svalI p.1 p.2
  | [] => rfl
  | (i, v) :: r => by simp [evSparseI, evSparseI_eq r]

theorem evSparseD_nz (mk : Nat → Dbl → Ev) (hmk : ∀ i x y, x.normZero = y.normZero → (mk i x).nz = (mk i y).nz) :
    ∀ l : List (Nat × Dbl), (evSparseD cd mk l).map Ev.nz = (inSparse mk l).map Ev.nz
  | [] => rfl
  | (i, x) :: r => by
    have ih := evSparseD_nz mk hmk r
    simp only [inSparse] at ih ⊢
    simp [evSparseD, hmk i _ _ (ok.rd x), ih]

theorem evSuffix_nz (s : Suffix) : (evSuffix cd s).map Ev.nz = (inSuffix s).map Ev.nz := by
  unfold evSuffix inSuffix
  cases hv : s.vals with
  | ints l =>
    cases l with
    | nil => simp
    | cons a r => simp [evSparseI_eq, Ev.nz]
  | dbls l =>
    cases l with
    | nil => simp
    | cons a r =>
      have := evSparseD_nz ok Ev.svalD (fun _ _ _ h => by simp [Ev.nz, h]) (a :: r)
      simp only [inSparse] at this
      simp [Ev.nz, this]

theorem evSuffixes_nz : ∀ l : List Suffix, (evSuffixes cd l).map Ev.nz = (l.flatMap inSuffix).map Ev.nz
  | [] => rfl
  | s :: r => by simp [evSuffixes, List.flatMap_cons, evSuffix_nz ok s, evSuffixes_nz r]

omit ok in
theorem nz_of_ieeeEq {L U : Dbl} (h : L.ieeeEq U = true) : L.normZero = U.normZero := by
  simp only [Dbl.ieeeEq, Bool.and_eq_true, Bool.or_eq_true, beq_iff_eq] at h
  rcases h.2 with h1 | h2
  · rw [h1]
  · simp [Dbl.normZero, h2.1, h2.2]

omit ok in
theorem nz_negInf : Dbl.negInf.normZero = Dbl.negInf := by decide
omit ok in
theorem nz_posInf : Dbl.posInf.normZero = Dbl.posInf := by decide

/-- one bound line, outside the exception class -/
theorem evBnd_nz (isCon : Bool) (i c : Nat) (L U : Dbl)
    (hL : (!L.leNegMax || L == Dbl.negInf) = true) (hU : (!U.geMax || U == Dbl.posInf) = true) :
    (evBnd cd isCon i L U 0 c).nz = (if isCon then Ev.cb i L U else Ev.vb i L U).nz := by
  unfold evBnd
  by_cases h1 : L.leNegMax = true
  · obtain rfl : L = Dbl.negInf := by simpa [h1] using hL
    by_cases h2 : U.geMax = true
    · obtain rfl : U = Dbl.posInf := by simpa [h2] using hU
      cases isCon <;> simp [h1, h2]
    · cases isCon <;> simp [h1, h2, Ev.nz, ok.rd U]
  · by_cases h2 : U.geMax = true
    · obtain rfl : U = Dbl.posInf := by simpa [h2] using hU
      cases isCon <;> simp [h1, h2, Ev.nz, ok.rd L]
    · by_cases h3 : L.ieeeEq U = true
      · have e := nz_of_ieeeEq h3
        cases isCon <;> simp [h1, h2, h3, Ev.nz, ok.rd L, e]
      · cases isCon <;> simp [h1, h2, h3, Ev.nz, ok.rd L, ok.rd U]

theorem evVarBnds_nz : ∀ (l : List (Dbl × Dbl)) (i : Nat),
    (l.all fun p => (!p.1.leNegMax || p.1 == Dbl.negInf) && (!p.2.geMax || p.2 == Dbl.posInf)) = true →
    (evVarBnds cd i l).map Ev.nz = (inVarBounds i l).map Ev.nz
  | [], _, _ => rfl
  | (a, b) :: r, i, h => by
    simp only [List.all_cons, Bool.and_eq_true] at h
    have e1 := evBnd_nz ok false i 0 a b h.1.1 h.1.2
    have ih := evVarBnds_nz r (i + 1) h.2
    simp at e1
    simp [evVarBnds, inVarBounds, e1, ih]

theorem evConBnds_nz : ∀ (l : List ConBnd) (i : Nat) (nvv : Nat),
    (l.all fun b => b.k != 0 || ((!b.L.leNegMax || b.L == Dbl.negInf) && (!b.U.geMax || b.U == Dbl.posInf))) = true →
    cbOk nvv l = true →
    (evConBnds cd i l).map Ev.nz = (inConBounds i l).map Ev.nz
  | [], _, _, _, _ => rfl
  | b :: r, i, nvv, h, hc => by
    simp only [List.all_cons, Bool.and_eq_true] at h
    simp [cbOk] at hc
    have ih := evConBnds_nz r (i + 1) nvv h.2 hc.2
    by_cases hk : b.k = 0
    · have x := h.1
      simp only [hk, bne_self_eq_false, Bool.false_or, Bool.and_eq_true] at x
      have e1 := evBnd_nz ok true i b.cvar b.L b.U x.1 x.2
      simp at e1
      simp [evConBnds, inConBounds, hk, e1, ih]
    · have hk3 : b.k ≤ 3 := by
        cases hc.1 with
        | inl q => exact absurd q hk
        | inr q => exact q.1
      have : b.k % 4 = b.k := by omega
      simp [evConBnds, inConBounds, evBnd, hk, this, ih]

theorem evInit_nz (mk : Nat → Dbl → Ev) (hmk : ∀ i x y, x.normZero = y.normZero → (mk i x).nz = (mk i y).nz)
    (x : Option (List (Nat × Dbl))) : (evInit cd mk x).map Ev.nz = (inInit mk x).map Ev.nz := by
  cases x with
  | none => rfl
  | some l => simpa [evInit, inInit] using evSparseD_nz ok mk hmk l

theorem evDefVars_nz (pos : Nat) : ∀ l : List DefVar,
    (evDefVars cd o nv pos l).map Ev.nz = (inDefVars nv pos l).map Ev.nz
  | [] => rfl
  | d :: r => by
    have ih := evDefVars_nz pos r
    have e := evSparseD_nz ok Ev.cterm (fun _ _ _ h => by simp [Ev.nz, h]) d.lin
    simp only [inDefVars] at ih ⊢
    simp [evDefVars, evDefVar, inDefVar, List.flatMap_cons, Ev.nz, e, hE_mE ok nv d.e .num, ih]

theorem evACons_nz : ∀ (l : List (List DefVar × Con)) (i : Nat),
    (evACons cd o nv i l).map Ev.nz = (inCons nv i l).map Ev.nz
  | [], _ => rfl
  | (dvs, c) :: r, i => by
    simp [evACons, inCons, evDefVars_nz ok nv (i + 1) dvs, Ev.nz, hTop_mTop ok nv c.e, evACons_nz r (i + 1)]

theorem evLCons_nz (nac : Nat) : ∀ (l : List (List DefVar × Con)) (j : Nat),
    (evLCons cd o nv nac j l).map Ev.nz = (inLCons nv nac j l).map Ev.nz
  | [], _ => rfl
  | (dvs, c) :: r, j => by
    simp [evLCons, inLCons, evDefVars_nz ok nv (nac + j + 1) dvs, Ev.nz, hE_mE ok nv c.e .log, evLCons_nz nac r (j + 1)]

theorem evObjs_nz (ncon : Nat) (h : Hdr) : ∀ (l : List (List DefVar × Obj)) (i : Nat), objsOk h l = true →
    (evObjs cd o nv ncon i l).map Ev.nz = (inObjs nv ncon i l).map Ev.nz
  | [], _, _ => rfl
  | (dvs, ob) :: r, i, hok => by
    simp [objsOk] at hok
    have ht : (if ob.type ≠ 0 then 1 else 0) = ob.type := by have := hok.1.2; split <;> omega
    simp [evObjs, inObjs, evDefVars_nz ok nv (ncon + i + 1) dvs, Ev.nz, hTop_mTop ok nv ob.e, ht, evObjs_nz ncon h r (i + 1) hok.2]

theorem evLin_cons_nz (beg : Nat → Nat → Ev) (mk : Nat → Dbl → Ev) (hb : ∀ i n, (beg i n).nz = beg i n)
    (hmk : ∀ i x y, x.normZero = y.normZero → (mk i x).nz = (mk i y).nz) (i : Nat) (l : List (Nat × Dbl))
    (rows : List (List (Nat × Dbl))) :
    (evLin cd beg mk i l).map Ev.nz ++ (inRows beg mk (i + 1) rows).map Ev.nz = (inRows beg mk i (l :: rows)).map Ev.nz := by
  cases l with
  | nil => simp [evLin, inRows]
  | cons a r =>
    have := evSparseD_nz ok mk hmk (a :: r)
    simp [evLin, inRows, hb, this]

theorem evLin_nz (beg : Nat → Nat → Ev) (mk : Nat → Dbl → Ev) (hb : ∀ i n, (beg i n).nz = beg i n)
    (hmk : ∀ i x y, x.normZero = y.normZero → (mk i x).nz = (mk i y).nz) (i : Nat) (l : List (Nat × Dbl)) (rest : List Ev) :
    (evLin cd beg mk i l).map Ev.nz ++ rest = (inRows beg mk i [l]).map Ev.nz ++ rest := by
  rw [← evLin_cons_nz ok beg mk hb hmk i l []]
  simp [inRows]

theorem evJ_nz : ∀ (l : List (List DefVar × Con)) (i : Nat),
    (evJ cd i l).map Ev.nz = (inRows Ev.jbeg Ev.jterm i (l.map (·.2.lin))).map Ev.nz
  | [], _ => rfl
  | (dvs, c) :: r, i => by
    simp only [evJ, List.map_cons, List.map_append, evJ_nz r (i + 1)]
    exact evLin_cons_nz ok Ev.jbeg Ev.jterm (fun _ _ => rfl) (fun _ _ _ h => by simp [Ev.nz, h]) i c.lin _

theorem evG_nz : ∀ (l : List (List DefVar × Obj)) (i : Nat),
    (evG cd i l).map Ev.nz = (inRows Ev.gbeg Ev.gterm i (l.map (·.2.lin))).map Ev.nz
  | [], _ => rfl
  | (dvs, c) :: r, i => by
    simp only [evG, List.map_cons, List.map_append, evG_nz r (i + 1)]
    exact evLin_cons_nz ok Ev.gbeg Ev.gterm (fun _ _ => rfl) (fun _ _ _ h => by simp [Ev.nz, h]) i c.lin _

omit ok in
theorem vbtol_cond (h : Hdr) (hlen : h.opts.length = 9) :
    ((h.opts.take h.nopts ++ hdr0.opts.drop (h.opts.take h.nopts).length)[1]? = some (3 : Int) ∧ h.opts[1]? = some (3 : Int)) ↔
    (h.nopts ≥ 2 ∧ h.opts[1]? = some (3 : Int)) := by
  match hq : h.opts, hlen with
  | [a0, a1, a2, a3, a4, a5, a6, a7, a8], _ =>
    match hn : h.nopts with
    | 0 => simp [hdr0]
    | 1 => simp [hdr0]
    | n + 2 => simp

omit ok in
theorem readBackHdr_vbtol (h : Hdr) (hlen : h.opts.length = 9) :
    (readBackHdr cd h o).vbtol = if h.nopts ≥ 2 ∧ h.opts[1]? = some (3 : Int) then cd.vb h.vbtol else Dbl.zero := by
  simp only [readBackHdr, vbtol_cond h hlen]

theorem header_nz (h : Hdr) (hlen : h.opts.length = 9) (hext : h.flags ≠ 0 ∨ h.arith ≠ 0) :
    (Ev.header (readBackHdr cd h o)).nz = (Ev.header (intendedHdr h o)).nz := by
  simp only [Ev.nz, readBackHdr, intendedHdr, vbtol_cond h hlen]
  simp [hext, apply_ite Dbl.normZero, ok.vb h.vbtol]

end

/-- **`events` is `intended`** (up to the sign of zero) for every model satisfying the feeder contract that is outside the two
    exception classes, whenever written numbers come back as themselves up to the sign of zero -/
theorem events_intended (cd : Codec) (m : Model) (o : Opts) (ok : NumOK cd o) (hwf : wellFormed m o = true)
    (hne : noException m = true) : (events cd m o).map Ev.nz = (intended m o).map Ev.nz := by
  obtain ⟨hh, hbin, hcs, hfl, hfo, hsu, hpl, hvbl, hcbl, hcbo, hx0, hd0, hdv0, hacl, haco, hlcl, hlco, hobl, hobo, hcsl⟩ :=
    (wellFormed_iff m o).1 hwf
  simp only [noException, Bool.and_eq_true, decide_eq_true_eq] at hne
  obtain ⟨⟨hvq, hcq⟩, hext⟩ := hne
  obtain ⟨-, -, hlen, -⟩ := (hdrOk_iff (effHdr m)).1 ((hdrOk_eff m).trans hh)
  have hhd := header_nz (o := o) ok (effHdr m) hlen hext
  have e1 := evFuncs_eq m.funcs 0
  have e2 := evSuffixes_nz ok m.sufs
  have e3 := evSuffixes_nz ok (plsosSuffixes m)
  have e4 := evVarBnds_nz ok m.vb 0 hvq
  have e5 := evConBnds_nz ok m.cb 0 m.hdr.nv hcq hcbo
  have e6 := evInit_nz ok Ev.x0 (fun _ _ _ h => by simp [Ev.nz, h]) m.x0
  have e7 := evInit_nz ok Ev.d0 (fun _ _ _ h => by simp [Ev.nz, h]) m.d0
  have e8 := evDefVars_nz ok m.hdr.nv 0 m.dv0
  have e9 := evACons_nz ok m.hdr.nv m.cons 0
  have e10 := fun nac => evLCons_nz ok m.hdr.nv nac m.lcons 0
  have e11 := fun ncon => evObjs_nz ok m.hdr.nv ncon m.hdr m.objs 0 hobo
  have e12 := evJ_nz ok m.cons 0
  have e13 := evG_nz ok m.objs 0
  have hcsz : (o.colSizes = 1 ∨ o.colSizes = 2) ↔ ¬ o.colSizes = 0 := by omega
  simp only [events, intended, evBody, intendedBody, List.map_cons, List.map_append, hhd, List.flatMap_append, evColSizes]
  cases o.boundsFirst <;>
    simp [hcsz, e1, e2, e3, e4, e5, e6, e7, e8, e9, e10, e11, e12, e13, List.map_append, Ev.nz, apply_ite (List.map Ev.nz)]

end MpVerif.C03
