import MpVerif.C03.LemmasExpr2
/-! # C03 — lemmas: the segment loops (one step per segment, fuel) and `Reads`, the composable statement that a chunk of
segments is read back as its events -/
namespace MpVerif.C03

theorem readLinTerms_wSparseD (cd : Codec) (nv : Nat) (mk : Nat → Dbl → Ev) :
    ∀ (l : List (Nat × Dbl)) (rest : List Tok), sparseOk nv l = true →
      readLinTerms cd nv mk l.length (wSparseD l ++ rest) = .ok (evSparseD cd mk l, rest)
  | [], rest, _ => by simp [readLinTerms, wSparseD, evSparseD]
  | (i, x) :: l, rest, h => by
    simp [sparseOk] at h
    have ih := readLinTerms_wSparseD cd nv mk l rest h.2
    simp [readLinTerms, wSparseD, evSparseD, readUIntLt_nat h.1, ih]

theorem readInitItems_eq (cd : Codec) (n : Nat) (mk : Nat → Dbl → Ev) (k : Nat) (ts : List Tok) :
    readInitItems cd n mk k ts = readLinTerms cd n mk k ts := by
  induction k generalizing ts <;> simp [readInitItems, readLinTerms, *]

theorem readSufD_eq (cd : Codec) (n k : Nat) (ts : List Tok) : readSufD cd n k ts = readLinTerms cd n Ev.svalD k ts := by
  induction k generalizing ts <;> simp [readSufD, readLinTerms, *]

theorem readSufI_wSparseI (o : Opts) (n : Nat) :
    ∀ (l : List (Nat × Int)) (rest : List Tok), sparseOk n l = true →
      readSufI n l.length (wSparseI o l ++ rest) = .ok (evSparseI l, rest)
  | [], rest, _ => by simp [readSufI, wSparseI, evSparseI]
  | (i, v) :: l, rest, h => by
    simp [sparseOk] at h
    have ih := readSufI_wSparseI o n l rest h.2
    simp [readSufI, wSparseI, wIntTok, evSparseI, readUIntLt_nat h.1, ih]

theorem fuel_le {P : Nat → Prop} (step : ∀ f, P f → P (f + 1)) {f g : Nat} (hle : f ≤ g) (h : P f) : P g := by
  induction hle with
  | refl => exact h
  | step _ ih => exact step _ ih

theorem readSegs_step (cd : Codec) (h : Hdr) {t : Tag} (ht : t ≠ .segb) {ts ts' : List Tok} {l : List Ev}
    (hs : readSeg cd h t ts = .ok (l, ts')) (f : Nat) (nb : Bool) :
    readSegs cd h (f + 1) nb (.ch t :: ts) =
      (match readSegs cd h f nb ts' with
       | .error e => .error e
       | .ok r => .ok (l ++ r)) := by
  -- `eq_4`: the arm `.ch t :: ts` overlaps the arm `.ch .segb :: ts` before it, so its equation comes with the hypothesis `t ≠ .segb`
  rw [readSegs.eq_4 _ _ _ _ _ _ ht, hs]; rfl

/- More fuel does no harm: induction along the loop's own recursion.  Only where the loop has called itself and succeeded is the
   induction hypothesis needed; everywhere else the result does not depend on the fuel. -/
theorem readSegs_mono (cd : Codec) (h : Hdr) (f : Nat) (nb : Bool) (ts : List Tok) :
    ∀ r, readSegs cd h f nb ts = .ok r → readSegs cd h (f + 1) nb ts = .ok r := by
  fun_induction readSegs cd h f nb ts with
  | case7 f ts ts1 h1 l ts2 h2 r' h3 ih => simp [readSegs, h1, h2, ih _ h3]  -- the `b` segment, then the rest
  | case11 f nb t ts ht l ts' hs r' h3 ih =>  -- any other segment, then the rest
    intro r hr; rw [readSegs_step cd h ht hs, ih _ h3]; exact hr
  | _ => simp [readSegs, *]

/-! ## the two passes of `READ_BOUNDS_FIRST` step over a non-`b` segment like the main loop does -/

theorem readUntilB_step (cd : Codec) (h : Hdr) {t : Tag} (ht : t ≠ .segb) {ts ts' : List Tok} {l : List Ev}
    (hs : readSeg cd h t ts = .ok (l, ts')) (f : Nat) :
    readUntilB cd h (f + 1) (.ch t :: ts) = readUntilB cd h f ts' := by
  rw [readUntilB.eq_4 _ _ _ _ _ ht, hs]

theorem readSkipB_step (cd : Codec) (h : Hdr) {t : Tag} (ht : t ≠ .segb) {ts ts' : List Tok} {l : List Ev}
    (hs : readSeg cd h t ts = .ok (l, ts')) (f : Nat) (aft : Option (List Tok)) :
    readSkipB cd h (f + 1) aft (.ch t :: ts) =
      (match readSkipB cd h f aft ts' with
       | .error e => .error e
       | .ok r => .ok (l ++ r)) := by
  rw [readSkipB.eq_5 _ _ _ _ _ _ ht, hs]; rfl

theorem readUntilB_mono (cd : Codec) (h : Hdr) (f : Nat) (ts : List Tok) (r : List Ev × List Tok) :
    readUntilB cd h f ts = .ok r → readUntilB cd h (f + 1) ts = .ok r := by
  fun_induction readUntilB cd h f ts with
  | case6 f t ts ht l ts' hs ih => rw [readUntilB_step cd h ht hs]; exact ih  -- a segment before `b`
  | _ => simp [readUntilB, *]

theorem readSkipB_mono (cd : Codec) (h : Hdr) (f : Nat) (aft : Option (List Tok)) (ts : List Tok) :
    ∀ r, readSkipB cd h f aft ts = .ok r → readSkipB cd h (f + 1) aft ts = .ok r := by
  fun_induction readSkipB cd h f aft ts with
  | case3 f tail r ih => simpa [readSkipB] using ih  -- the jump at `b`
  | case7 f aft t ts ht l ts' hs r' h3 ih =>  -- any other segment, then the rest
    intro r hr; rw [readSkipB_step cd h ht hs, ih _ h3]; exact hr
  | _ => simp [readSkipB, *]

/-- `Reads n nb nb' toks evs`: the segment loop, started with `read_bounds = nb` in front of `toks ++ rest`, delivers
    `evs`, leaves `read_bounds = nb'` and continues with `rest`; the fuel it needs beyond what `rest` needs is at most
    the number of tokens consumed.  (`n` is only a label: the number of segments.)  For chunks without a `b` segment
    (`nb = nb'`) the same holds for the two passes of `READ_BOUNDS_FIRST`: the first pass steps over the chunk silently, the
    second delivers `evs`. -/
def Reads (cd : Codec) (h : Hdr) (_n : Nat) (nb nb' : Bool) (toks : List Tok) (evs : List Ev) : Prop :=
  (∀ (f : Nat) (rest : List Tok) (r : List Ev),
    readSegs cd h f nb' rest = .ok r →
      ∃ g, g ≤ f + toks.length ∧ readSegs cd h g nb (toks ++ rest) = .ok (evs ++ r)) ∧
  (nb = nb' ∨ (nb = true ∧ nb' = false)) ∧
  (nb = nb' →
    (∀ (f : Nat) (rest : List Tok) (r : List Ev × List Tok), readUntilB cd h f rest = .ok r →
      ∃ g, g ≤ f + toks.length ∧ readUntilB cd h g (toks ++ rest) = .ok r) ∧
    (∀ (f : Nat) (aft : Option (List Tok)) (rest : List Tok) (r : List Ev), readSkipB cd h f aft rest = .ok r →
      ∃ g, g ≤ f + toks.length ∧ readSkipB cd h g aft (toks ++ rest) = .ok (evs ++ r)))

section
variable {cd : Codec} {h : Hdr} {n : Nat} {nb nb' : Bool} {toks : List Tok} {evs : List Ev}

theorem Reads.segs (hr : Reads cd h n nb nb' toks evs) {f F : Nat} {rest : List Tok} {r : List Ev}
    (h0 : readSegs cd h f nb' rest = .ok r) (hF : f + toks.length ≤ F) :
    readSegs cd h F nb (toks ++ rest) = .ok (evs ++ r) := by
  obtain ⟨g, hg, h1⟩ := hr.1 f rest r h0
  exact fuel_le (fun f => readSegs_mono cd h f nb _ _) (Nat.le_trans hg hF) h1

theorem Reads.untilB (hr : Reads cd h n nb nb toks evs) {f F : Nat} {rest : List Tok} {r : List Ev × List Tok}
    (h0 : readUntilB cd h f rest = .ok r) (hF : f + toks.length ≤ F) :
    readUntilB cd h F (toks ++ rest) = .ok r := by
  obtain ⟨g, hg, h1⟩ := (hr.2.2 rfl).1 f rest r h0
  exact fuel_le (fun f => readUntilB_mono cd h f _ r) (Nat.le_trans hg hF) h1

theorem Reads.skipB (hr : Reads cd h n nb nb toks evs) {f F : Nat} {aft : Option (List Tok)} {rest : List Tok} {r : List Ev}
    (h0 : readSkipB cd h f aft rest = .ok r) (hF : f + toks.length ≤ F) :
    readSkipB cd h F aft (toks ++ rest) = .ok (evs ++ r) := by
  obtain ⟨g, hg, h1⟩ := (hr.2.2 rfl).2 f aft rest r h0
  exact fuel_le (fun f => readSkipB_mono cd h f aft _ _) (Nat.le_trans hg hF) h1

end

theorem Reads.nil (cd : Codec) (h : Hdr) (nb : Bool) : Reads cd h 0 nb nb [] [] := by
  refine ⟨?_, Or.inl rfl, fun _ => ⟨?_, ?_⟩⟩
  · intro f rest r hr; exact ⟨f, by simp, by simpa using hr⟩
  · intro f rest r hr; exact ⟨f, by simp, by simpa using hr⟩
  · intro f aft rest r hr; exact ⟨f, by simp, by simpa using hr⟩

theorem Reads.append {cd : Codec} {h : Hdr} {n1 n2 : Nat} {b1 b2 b3 : Bool} {t1 t2 : List Tok} {e1 e2 : List Ev}
    (h1 : Reads cd h n1 b1 b2 t1 e1) (h2 : Reads cd h n2 b2 b3 t2 e2) :
    Reads cd h (n2 + n1) b1 b3 (t1 ++ t2) (e1 ++ e2) := by
  refine ⟨?_, ?_, ?_⟩
  · intro f rest r hr
    obtain ⟨g2, hg2, a⟩ := h2.1 f rest r hr
    obtain ⟨g1, hg1, b⟩ := h1.1 g2 (t2 ++ rest) (e2 ++ r) a
    refine ⟨g1, by simp; omega, ?_⟩
    simpa [List.append_assoc] using b
  · have a := h1.2.1; have b := h2.2.1
    cases b1 <;> cases b2 <;> cases b3 <;> simp_all
  · intro hb
    have a := h1.2.1; have b := h2.2.1
    have e12 : b1 = b2 := by cases b1 <;> cases b2 <;> cases b3 <;> simp_all
    have e23 : b2 = b3 := by cases b1 <;> cases b2 <;> cases b3 <;> simp_all
    subst e12 e23
    refine ⟨?_, ?_⟩
    · intro f rest r hr
      obtain ⟨g2, hg2, a⟩ := (h2.2.2 rfl).1 f rest r hr
      obtain ⟨g1, hg1, b⟩ := (h1.2.2 rfl).1 g2 (t2 ++ rest) r a
      refine ⟨g1, by simp; omega, ?_⟩
      simpa [List.append_assoc] using b
    · intro f aft rest r hr
      obtain ⟨g2, hg2, a⟩ := (h2.2.2 rfl).2 f aft rest r hr
      obtain ⟨g1, hg1, b⟩ := (h1.2.2 rfl).2 g2 aft (t2 ++ rest) (e2 ++ r) a
      refine ⟨g1, by simp; omega, ?_⟩
      simpa [List.append_assoc] using b

theorem Reads.seg {cd : Codec} {h : Hdr} {t : Tag} (ht : t ≠ .segb) {body : List Tok} {l : List Ev}
    (hs : ∀ rest, readSeg cd h t (body ++ rest) = .ok (l, rest)) (nb : Bool) :
    Reads cd h 1 nb nb (.ch t :: body) l := by
  refine ⟨?_, Or.inl rfl, fun _ => ⟨?_, ?_⟩⟩
  · intro f rest r hr
    have := readSegs_step cd h ht (hs rest) f nb
    refine ⟨f + 1, by simp, ?_⟩
    simp only [List.cons_append]
    rw [this, hr]
  · intro f rest r hr
    refine ⟨f + 1, by simp, ?_⟩
    simp only [List.cons_append]
    rw [readUntilB_step cd h ht (hs rest), hr]
  · intro f aft rest r hr
    refine ⟨f + 1, by simp, ?_⟩
    simp only [List.cons_append]
    rw [readSkipB_step cd h ht (hs rest), hr]

theorem Reads.relabel {cd : Codec} {h : Hdr} {n : Nat} {b1 b2 : Bool} {t : List Tok} {e : List Ev} (n' : Nat)
    (h1 : Reads cd h n b1 b2 t e) : Reads cd h n' b1 b2 t e := h1

theorem Reads.weaken {cd : Codec} {h : Hdr} {n : Nat} {b1 b2 : Bool} {t : List Tok} {e : List Ev} (k : Nat)
    (h1 : Reads cd h n b1 b2 t e) : Reads cd h (n + k) b1 b2 t e := h1.relabel _

theorem Reads.unless {cd : Codec} {h : Hdr} {nb : Bool} {c : Prop} [Decidable c] {t : List Tok} {e : List Ev}
    (hr : ¬ c → Reads cd h 1 nb nb t e) : Reads cd h 1 nb nb (if c then [] else t) (if c then [] else e) := by
  split
  · exact Reads.weaken 1 (Reads.nil cd h nb)
  · exact hr ‹_›

end MpVerif.C03
