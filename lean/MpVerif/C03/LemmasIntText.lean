import MpVerif.C03.ModelIntText
import MpVerif.C03.LemmasNum
/-! # C03 — the integer text path: `strtodInt (gfmtInt v) = v` for every non-zero integer, by way of the
little-endian digit lists (`ofLE (digitsLE f n) = n`, stripping trailing zeros = dividing by a power of ten); the codec this path
defines (`intPathRd`) and what is assumed of the real one on integer data (`FollowsIntPath`) -/
namespace MpVerif.C03

theorem ofLE_digitsLE (f n : Nat) : n ≤ f → ofLE (digitsLE f n) = n := by
  fun_induction digitsLE f n <;> simp_all [ofLE] <;> omega

theorem stripZ_spec (f n : Nat) : (stripZ f n).1 * 10 ^ (stripZ f n).2 = n := by
  fun_induction stripZ f n <;> simp_all [Nat.pow_succ, ← Nat.mul_assoc] <;> omega

theorem stripZ_pos (f n : Nat) : 0 < n → 0 < (stripZ f n).1 := by
  fun_induction stripZ f n <;> simp_all <;> omega

theorem digitsLE_pos (f n : Nat) : 0 < n → n ≤ f → 0 < (digitsLE f n).length := by
  fun_induction digitsLE f n <;> simp_all <;> omega

theorem sign_natAbs (v : Int) : (if decide (v < 0) = true then (-1 : Int) else 1) * ((v.natAbs : Nat) : Int) = v := by
  by_cases h : v < 0 <;> simp [h] <;> omega

/-- reading back what `g_fmt` prints for a non-zero integer gives the integer -/
theorem strtod_gfmt_int (v : Int) (hv : v ≠ 0) : strtodInt (gfmtInt v) = v := by
  have hn : 0 < v.natAbs := by omega
  have hs := stripZ_spec v.natAbs v.natAbs
  have hd := ofLE_digitsLE (stripZ v.natAbs v.natAbs).1 (stripZ v.natAbs v.natAbs).1 (Nat.le_refl _)
  have hL := digitsLE_pos _ _ (stripZ_pos v.natAbs v.natAbs hn) (Nat.le_refl (stripZ v.natAbs v.natAbs).1)
  simp only [gfmtInt]
  generalize hz : (stripZ v.natAbs v.natAbs).2 = z at *
  generalize hdd : (stripZ v.natAbs v.natAbs).1 = d at *
  generalize hds : digitsLE d d = ds at *
  by_cases hc : z ≤ (if ds.reverse.length > 1 then 5 else 4)
  · rw [if_pos hc]
    simp only [strtodInt, List.reverse_reverse, hd, hs]
    exact sign_natAbs v
  · rw [if_neg hc]
    have he : (ds.reverse.length + z - 1) + 1 - ds.reverse.length = z := by
      simp only [List.length_reverse]; omega
    simp only [strtodInt, List.reverse_reverse, hd, he, hs]
    exact sign_natAbs v

/-- doubles the integer path covers: ±0, ±∞, and non-zero integers of magnitude below 10^15 -/
def IntData (x : Dbl) : Prop :=
  x.isZero = true ∨ x.isInf = true ∨ ∃ v, x.toInt? = some v ∧ v ≠ 0 ∧ v.natAbs < 10 ^ 15

/-- the text codec given by the *proved* path: `0` for ±0, the double itself for ±∞ ("Infinity"), and for an in-range integer
    `(double) strtodInt (gfmtInt v)`; the identity elsewhere (never used for integer-data models) -/
def intPathRd (x : Dbl) : Dbl :=
  if x.isZero then Dbl.zero
  else match x.toInt? with
    | some v => if v ≠ 0 ∧ v.natAbs < 10 ^ 15 then Dbl.ofInt (strtodInt (gfmtInt v)) else x
    | none => x

/-- what is assumed of the real text codec `strtod ∘ g_fmt`, and compared with the real code on every run (harness lines `Z`:
    printed text = `gfmtInt`, read-back bits = `ofInt (strtodInt …)`; fixed list for ±0, ±∞): on integer data it is the proved path -/
structure FollowsIntPath (cd : Codec) : Prop where
  int : ∀ x v, x.toInt? = some v → v ≠ 0 → v.natAbs < 10 ^ 15 → x.isZero = false → cd.rd x = Dbl.ofInt (strtodInt (gfmtInt v))
  zero : ∀ x, x.isZero = true → cd.rd x = Dbl.zero
  inf : ∀ x, x.isInf = true → cd.rd x = x

theorem intPathRd_nz (x : Dbl) : (intPathRd x).normZero = x.normZero := by
  unfold intPathRd
  by_cases hz : x.isZero = true
  · rw [if_pos hz]
    have hzz : Dbl.zero.isZero = true := by decide
    simp only [Dbl.normZero, hz, hzz, if_true]
  · simp only [hz, Bool.false_eq_true, if_false]
    cases ht : x.toInt? with
    | none => rfl
    | some v =>
      simp only
      split
      · rename_i hc
        rw [strtod_gfmt_int v hc.1]
        exact ofInt_toInt x v ht
      · rfl

theorem followsIntPath_intPathRd (vb : Dbl → Dbl) : FollowsIntPath ⟨intPathRd, vb⟩ := by
  refine ⟨?_, ?_, ?_⟩
  · intro x v h hv hr hz; simp [intPathRd, hz, h, hv, hr]
  · intro x hz; simp [intPathRd, hz]
  · intro x hi
    have hz : x.isZero = false := by
      simp only [Dbl.isInf, Bool.and_eq_true, beq_iff_eq] at hi
      simp [Dbl.isZero, hi.1]
    simp [intPathRd, hz, toInt?_of_isInf hi]

theorem FollowsIntPath.agree {cd cd' : Codec} (hf : FollowsIntPath cd) (hf' : FollowsIntPath cd') (x : Dbl) (hx : IntData x) :
    cd.rd x = cd'.rd x := by
  by_cases hz : x.isZero = true
  · rw [hf.zero x hz, hf'.zero x hz]
  · have hz' : x.isZero = false := by simpa using hz
    rcases hx with h | h | ⟨v, hv, hne, hr⟩
    · exact absurd h hz
    · rw [hf.inf x h, hf'.inf x h]
    · rw [hf.int x v hv hne hr hz', hf'.int x v hv hne hr hz']

end MpVerif.C03
