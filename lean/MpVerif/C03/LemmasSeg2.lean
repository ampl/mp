import MpVerif.C03.LemmasSeg
/-! # C03 — lemmas: each section written by `WriteNL` is read back (`Reads`) -/
namespace MpVerif.C03

/-- the reader's header `h'` has the same counts as the feeder's `h` -/
structure SameCounts (h h' : Hdr) : Prop where
  nv : h'.nv = h.nv
  nac : h'.nac = h.nac
  nlc : h'.nlc = h.nlc
  no : h'.no = h.no
  nf : h'.nf = h.nf
  nce : h'.nce = h.nce

section
variable (cd : Codec) (o : Opts) (h' : Hdr)

theorem reads_functions : ∀ (fs : List Func) (i : Nat) (nb : Bool), funcsOk fs = true → i + fs.length ≤ h'.nf →
    Reads cd h' fs.length nb nb (wFunctions i fs) (evFuncs i fs)
  | [], i, nb, _, _ => by simpa [wFunctions, evFuncs] using Reads.nil cd h' nb
  | f :: fs, i, nb, hok, hi => by
    simp [funcsOk] at hok
    have hi' : i < h'.nf := by simp at hi; omega
    have ih := reads_functions fs (i + 1) nb hok.2 (by simp at hi; omega)
    have hty : ¬ (f.type ≠ 0 ∧ f.type ≠ 1) := by omega
    have s1 : Reads cd h' 1 nb nb (.ch .segF :: [.int i, .int f.type, .int f.nargs, .name f.name, .eol]) [Ev.func i f.type f.nargs f.name] :=
      Reads.seg (by simp) (fun rest => by simp [readSeg, readUIntLt_nat hi', hty]) nb
    have := Reads.append s1 ih
    simpa [wFunctions, evFuncs] using this

theorem readBnd_one (isCon : Bool) (i n : Nat) (L U : Dbl) (k cvar : Nat) (rest : List Tok)
    (hk : k = 0 ∨ (isCon = true ∧ k ≤ 3 ∧ cvar < h'.nv)) :
    readBndItems cd h' isCon i (n + 1) (wBnd L U k cvar ++ rest) =
      (match readBndItems cd h' isCon (i + 1) n rest with
       | .error e => .error e
       | .ok (l, ts) => .ok (evBnd cd isCon i L U k cvar :: l, ts)) := by
  unfold wBnd evBnd
  by_cases hk0 : k = 0
  · simp only [hk0, if_true]
    by_cases h1 : L.leNegMax = true
    · by_cases h2 : U.geMax = true
      · simp [h1, h2, readBndItems] <;> rfl
      · simp [h1, h2, readBndItems] <;> rfl
    · by_cases h2 : U.geMax = true
      · simp [h1, h2, readBndItems] <;> rfl
      · by_cases h3 : L.ieeeEq U = true
        · simp [h1, h2, h3, readBndItems] <;> rfl
        · simp [h1, h2, h3, readBndItems] <;> rfl
  · rcases hk with hk | ⟨hc, hk3, hcv⟩
    · exact absurd hk hk0
    · subst hc
      have e1 : ((k : Int) % 4).toNat = k % 4 := by omega
      have e2 : ¬ (cvar + 1 > h'.nv) := by omega
      have e0 : ¬ (cvar + 1 = 0 ∨ cvar + 1 > h'.nv) := by omega
      have e5 : ∀ ts, readUInt (Tok.int ((cvar : Int) + 1) :: ts) = .ok (cvar + 1, ts) := by
        intro ts
        have : (0 : Int) ≤ (cvar : Int) + 1 := by omega
        simp [readUInt, this]
      simp only [hk0, if_false, List.cons_append, List.nil_append, readBndItems, if_true, readInt_int,
        readEol_eol, e0, e1, e5, Nat.add_sub_cancel]
      rfl

theorem readBnd_vars : ∀ (l : List (Dbl × Dbl)) (i : Nat) (rest : List Tok),
    readBndItems cd h' false i l.length (wVarBndItems l ++ rest) = .ok (evVarBnds cd i l, rest)
  | [], i, rest => by simp [readBndItems, wVarBndItems, evVarBnds]
  | (a, b) :: l, i, rest => by
    have ih := readBnd_vars l (i + 1) rest
    have h1 := readBnd_one cd h' false i l.length a b 0 0 (wVarBndItems l ++ rest) (Or.inl rfl)
    simp only [wVarBndItems, List.append_assoc, List.length_cons, evVarBnds]
    rw [h1, ih]

/-- the `b` segment: `read_bounds` goes from true to false -/
theorem reads_varBounds (m : Model) (hlen : m.vb.length = h'.nv) :
    Reads cd h' 1 true false (wVarBounds m o) (evVarBnds cd 0 m.vb) := by
  refine ⟨?_, Or.inr ⟨rfl, rfl⟩, fun hc => by simp at hc⟩
  intro f rest r hr
  have hb := readBnd_vars cd h' m.vb 0 rest
  rw [hlen] at hb
  refine ⟨f + 1, by simp [wVarBounds], ?_⟩
  simp [wVarBounds, readSegs, hb, hr]

theorem reads_init (t : Tag) (c : String) (n : Nat) (mk : Nat → Dbl → Ev) (nb : Bool)
    (hseg : ∀ ts, readSeg cd h' t ts = readInit cd n mk ts) (ht : t ≠ .segb)
    (x : Option (List (Nat × Dbl))) (hok : initOk n x = true) :
    Reads cd h' 1 nb nb (wInit t o c x) (evInit cd mk x) := by
  cases x with
  | none => simpa [wInit, evInit] using Reads.weaken 1 (Reads.nil cd h' nb)
  | some l =>
    simp [initOk] at hok
    refine Reads.seg ht (fun rest => ?_) nb
    have hn : ¬ l.length > n := by omega
    have hr := readLinTerms_wSparseD cd n mk l rest hok.2
    simp [hseg, readInit, hn, readInitItems_eq, hr, evInit]

theorem readCol_cum : ∀ (l : List Nat) (acc : Nat) (rest : List Tok),
    readColItems true acc l.length (wColItemsCum acc l ++ rest) = .ok (l.map Ev.cadd, rest)
  | [], acc, rest => by simp [readColItems, wColItemsCum]
  | s :: l, acc, rest => by
    have ih := readCol_cum l (acc + s) rest
    have e : ∀ ts, readUInt (Tok.int ((acc : Int) + (s : Int)) :: ts) = .ok (acc + s, ts) := by
      intro ts
      have : (0 : Int) ≤ (acc : Int) + (s : Int) := by omega
      simp [readUInt, this]
      omega
    have h1 : ¬ (acc + s < acc) := by omega
    simp only [wColItemsCum, List.length_cons, List.cons_append, List.nil_append, readColItems, e]
    simp [h1, ih]

theorem readCol_plain : ∀ (l : List Nat) (rest : List Tok),
    readColItems false 0 l.length (wColItemsPlain l ++ rest) = .ok (l.map Ev.cadd, rest)
  | [], rest => by simp [readColItems, wColItemsPlain]
  | s :: l, rest => by
    have ih := readCol_plain l rest
    simp [wColItemsPlain, readColItems, ih]

end

section
variable (cd : Codec) (o : Opts) {h h' : Hdr} (sc : SameCounts h h')
include sc

theorem rctx_eq : rctx cd h' = ⟨cd, h.nv, h.nv + h.nce, h.nf⟩ := by simp [rctx, sc.nv, sc.nce, sc.nf]

theorem sufItems_congr (k : Nat) : sufItems h' k = sufItems h k := by
  simp [sufItems, sc.nv, sc.nac, sc.nlc, sc.no]

/-- the expression readers as `readSeg` calls them: the reader's context, the remaining input's length as fuel -/
theorem readE_rctx (e : Expr) (md : Mode) (rest : List Tok) (hwf : wfE ⟨h.nv + h.nce, h.nf⟩ md e = true) :
    readE (rctx cd h') ((wE o e).length + rest.length + 1) md (wE o e ++ rest) = .ok (hE cd o h.nv md e, rest) := by
  rw [rctx_eq cd sc]
  exact readE_wE ⟨cd, h.nv, h.nv + h.nce, h.nf⟩ o e md _ rest hwf (by have := esize_le_length o e; omega)

theorem readTopNum_rctx (e : Expr) (rest : List Tok) (hwf : wfE ⟨h.nv + h.nce, h.nf⟩ .num e = true) :
    readTopNum (rctx cd h') ((wE o e).length + rest.length) (wE o e ++ rest) = .ok (hTop cd o h.nv e, rest) := by
  have he := readE_rctx cd o sc e .num rest hwf
  cases e with
  | num x =>
    obtain ⟨t, ts, h1, h2, h3⟩ := wNum_shape cd o x rest
    simp only [wE]
    rw [h1]
    rcases h2 with rfl | rfl | rfl <;> simp [readTopNum, rctx, h3, hTop]
  | str s => simp [wfE] at hwf
  | _ => simpa [readTopNum, wE, hTop] using he

theorem reads_suffix (s : Suffix) (nb : Bool) (hok : sufOk h o s = true) :
    Reads cd h' 1 nb nb (wSuffix o s) (evSuffix cd s) := by
  unfold sufOk at hok
  unfold wSuffix evSuffix
  cases hv : s.vals with
  | ints l =>
    simp [hv] at hok
    obtain ⟨⟨hk, hlen⟩, hsp⟩ := hok
    refine Reads.unless fun hl => Reads.seg (by simp) (fun rest => ?_) nb
    have hk7 : ¬ s.kind > 7 := by omega
    have hfl : ¬ (s.kind / 4 % 2 = 1) := by omega
    have hr := readSufI_wSparseI o (sufItems h s.kind) l rest hsp
    simp [readSeg, readSuffix, hk7, sufItems_congr sc, hfl, hr]
    exact ⟨fun e => hl (by simp [e]), by omega⟩
  | dbls l =>
    simp [hv] at hok
    obtain ⟨⟨hk, hlen⟩, hsp⟩ := hok
    refine Reads.unless fun hl => Reads.seg (by simp) (fun rest => ?_) nb
    have hk7 : ¬ s.kind > 7 := by omega
    have hfl : s.kind / 4 % 2 = 1 := by omega
    have hr := readLinTerms_wSparseD cd (sufItems h s.kind) Ev.svalD l rest hsp
    simp [readSeg, readSuffix, hk7, sufItems_congr sc, hfl, readSufD_eq, hr]
    exact ⟨fun e => hl (by simp [e]), by omega⟩

theorem reads_suffixes : ∀ (ss : List Suffix) (nb : Bool), sufsOk h o ss = true →
    Reads cd h' ss.length nb nb (wSuffixes o ss) (evSuffixes cd ss)
  | [], nb, _ => by simpa [wSuffixes, evSuffixes] using Reads.nil cd h' nb
  | s :: ss, nb, hok => by
    simp [sufsOk] at hok
    have := Reads.append (reads_suffix cd o sc s nb hok.1) (reads_suffixes ss nb hok.2)
    simpa [wSuffixes, evSuffixes] using this

theorem readBnd_conBnds : ∀ (l : List ConBnd) (i : Nat) (rest : List Tok), cbOk h.nv l = true →
    readBndItems cd h' true i l.length (wConBndItems l ++ rest) = .ok (evConBnds cd i l, rest)
  | [], i, rest, _ => by simp [readBndItems, wConBndItems, evConBnds]
  | b :: l, i, rest, hok => by
    simp [cbOk] at hok
    have ih := readBnd_conBnds l (i + 1) rest hok.2
    have hk : b.k = 0 ∨ (true = true ∧ b.k ≤ 3 ∧ b.cvar < h'.nv) := by
      rcases hok.1 with h0 | h3
      · exact Or.inl h0
      · exact Or.inr ⟨rfl, h3.1, by rw [sc.nv]; exact h3.2⟩
    have h1 := readBnd_one cd h' true i l.length b.L b.U b.k b.cvar (wConBndItems l ++ rest) hk
    simp only [wConBndItems, List.append_assoc, List.length_cons, evConBnds]
    rw [h1, ih]

theorem reads_conBounds (m : Model) (nb : Bool) (hlen : m.cb.length = h.nac) (hok : cbOk h.nv m.cb = true) :
    Reads cd h' 1 nb nb (wConBounds m o) (if m.hdr.nac ≠ 0 then evConBnds cd 0 m.cb else []) := by
  unfold wConBounds
  rw [ite_not, ite_not]
  refine Reads.unless fun _ => Reads.seg (by simp) (fun rest => ?_) nb
  have hb := readBnd_conBnds cd sc m.cb 0 rest hok
  rw [hlen, ← sc.nac] at hb
  simp [readSeg, hb]

theorem reads_defVar (pos : Nat) (d : DefVar) (nb : Bool) (hok : defVarOk h d = true) :
    Reads cd h' 1 nb nb (wDefVar o pos d) (evDefVar cd o h.nv pos d) := by
  simp [defVarOk] at hok
  obtain ⟨⟨⟨hlo, hhi⟩, hsp⟩, hwf⟩ := hok
  have hform : wDefVar o pos d = .ch .segV ::
      (.int d.index :: .int d.lin.length :: .int pos :: (cmtEol o d.descr ++ (wSparseD d.lin ++ wE o d.e))) := by
    simp [wDefVar]
  rw [hform]
  refine Reads.seg (by simp) (fun rest => ?_) nb
  have hrange : ¬ (d.index < h.nv ∨ d.index ≥ h.nv + h.nce) := by omega
  have hl := readLinTerms_wSparseD cd h.nv Ev.cterm d.lin (wE o d.e ++ rest) hsp
  simp only [List.append_assoc, List.cons_append]
  simp [readSeg, sc.nv, sc.nce, hrange, hl, readE_rctx cd o sc d.e .num rest hwf, evDefVar]

theorem reads_defVars (pos : Nat) : ∀ (ds : List DefVar) (nb : Bool), defVarsOk h ds = true →
    Reads cd h' ds.length nb nb (wDefVars o pos ds) (evDefVars cd o h.nv pos ds)
  | [], nb, _ => by simpa [wDefVars, evDefVars] using Reads.nil cd h' nb
  | d :: ds, nb, hok => by
    simp [defVarsOk] at hok
    have := Reads.append (reads_defVar cd o sc pos d nb hok.1) (reads_defVars pos ds nb hok.2)
    simpa [wDefVars, evDefVars] using this

theorem reads_acons : ∀ (l : List (List DefVar × Con)) (i : Nat) (nb : Bool), aconsOk h l = true → i + l.length ≤ h.nac →
    Reads cd h' l.length nb nb (wACons o i l) (evACons cd o h.nv i l)
  | [], i, nb, _, _ => by simpa [wACons, evACons] using Reads.nil cd h' nb
  | (dvs, c) :: l, i, nb, hok, hi => by
    simp [aconsOk] at hok
    obtain ⟨⟨⟨hdv, hwf⟩, _⟩, hrest⟩ := hok
    have ih := reads_acons l (i + 1) nb hrest (by simp at hi; omega)
    have hi' : i < h'.nac := by rw [sc.nac]; simp at hi; omega
    have r1 := reads_defVars cd o sc (i + 1) dvs nb hdv
    have r2 : Reads cd h' 1 nb nb (.ch .segC :: (.int (i : Int) :: (cmtEol o c.descr ++ wE o c.e))) [Ev.acon i (hTop cd o h.nv c.e)] := by
      refine Reads.seg (by simp) (fun rest => ?_) nb
      simp only [List.append_assoc, List.cons_append]
      simp [readSeg, readUIntLt_nat hi', readTopNum_rctx cd o sc c.e rest hwf]
    simpa [wACons, evACons] using (Reads.append r1 (Reads.append r2 ih)).relabel (l.length + 1)

theorem reads_lcons (nac : Nat) : ∀ (l : List (List DefVar × Con)) (j : Nat) (nb : Bool), lconsOk h l = true →
    j + l.length ≤ h.nlc →
    Reads cd h' l.length nb nb (wLCons o nac j l) (evLCons cd o h.nv nac j l)
  | [], j, nb, _, _ => by simpa [wLCons, evLCons] using Reads.nil cd h' nb
  | (dvs, c) :: l, j, nb, hok, hj => by
    simp [lconsOk] at hok
    obtain ⟨⟨hdv, hwf⟩, hrest⟩ := hok
    have ih := reads_lcons nac l (j + 1) nb hrest (by simp at hj; omega)
    have hj' : j < h'.nlc := by rw [sc.nlc]; simp at hj; omega
    have r1 := reads_defVars cd o sc (nac + j + 1) dvs nb hdv
    have r2 : Reads cd h' 1 nb nb (.ch .segL :: (.int (j : Int) :: (cmtEol o c.descr ++ wE o c.e))) [Ev.lcon j (hE cd o h.nv .log c.e)] := by
      refine Reads.seg (by simp) (fun rest => ?_) nb
      simp only [List.append_assoc, List.cons_append]
      simp [readSeg, readUIntLt_nat hj', readE_rctx cd o sc c.e .log rest hwf]
    simpa [wLCons, evLCons] using (Reads.append r1 (Reads.append r2 ih)).relabel (l.length + 1)

theorem reads_objs (ncon : Nat) : ∀ (l : List (List DefVar × Obj)) (i : Nat) (nb : Bool), objsOk h l = true →
    i + l.length ≤ h.no →
    Reads cd h' l.length nb nb (wObjs o ncon i l) (evObjs cd o h.nv ncon i l)
  | [], i, nb, _, _ => by simpa [wObjs, evObjs] using Reads.nil cd h' nb
  | (dvs, ob) :: l, i, nb, hok, hi => by
    simp [objsOk] at hok
    obtain ⟨⟨⟨⟨hdv, hwf⟩, _⟩, hty⟩, hrest⟩ := hok
    have ih := reads_objs ncon l (i + 1) nb hrest (by simp at hi; omega)
    have hi' : i < h'.no := by rw [sc.no]; simp at hi; omega
    have r1 := reads_defVars cd o sc (ncon + i + 1) dvs nb hdv
    have r2 : Reads cd h' 1 nb nb (.ch .segO :: (.int (i : Int) :: .int (ob.type : Int) :: (cmtEol o ob.descr ++ wE o ob.e)))
        [Ev.obj i (if ob.type ≠ 0 then 1 else 0) (hTop cd o h.nv ob.e)] := by
      refine Reads.seg (by simp) (fun rest => ?_) nb
      simp only [List.append_assoc, List.cons_append]
      simp [readSeg, readUIntLt_nat hi', readTopNum_rctx cd o sc ob.e rest hwf]
    simpa [wObjs, evObjs] using (Reads.append r1 (Reads.append r2 ih)).relabel (l.length + 1)

theorem reads_lin (t : Tag) (nitems : Nat) (beg : Nat → Nat → Ev) (mk : Nat → Dbl → Ev) (nb : Bool)
    (hseg : ∀ ts, readSeg cd h' t ts = readLinSeg cd h' nitems beg mk ts) (ht : t ≠ .segb)
    (i : Nat) (hi : i < nitems) (l : List (Nat × Dbl)) (hok : linOk h l = true) :
    Reads cd h' 1 nb nb (wLin t i l) (evLin cd beg mk i l) := by
  unfold wLin evLin
  simp [linOk] at hok
  refine Reads.unless fun hl => Reads.seg ht (fun rest => ?_) nb
  have hn : ¬ (l.length < 1 ∨ l.length ≥ h'.nv + 1) := by rw [sc.nv]; omega
  have hr := readLinTerms_wSparseD cd h'.nv mk l rest (by rw [sc.nv]; exact hok.2)
  simp [hseg, readLinSeg, readUIntLt_nat hi, hr]
  exact ⟨fun e => hl (by simp [e]), by omega⟩

theorem reads_J : ∀ (l : List (List DefVar × Con)) (i : Nat) (nb : Bool), aconsOk h l = true → i + l.length ≤ h.nac →
    Reads cd h' l.length nb nb (wJ i l) (evJ cd i l)
  | [], i, nb, _, _ => by simpa [wJ, evJ] using Reads.nil cd h' nb
  | (dvs, c) :: l, i, nb, hok, hi => by
    simp [aconsOk] at hok
    have ih := reads_J l (i + 1) nb hok.2 (by simp at hi; omega)
    have r1 := reads_lin cd sc .segJ h'.nac Ev.jbeg Ev.jterm nb (fun ts => by simp [readSeg]) (by simp) i
      (by rw [sc.nac]; simp at hi; omega) c.lin hok.1.2
    have := Reads.append r1 ih
    simpa [wJ, evJ] using this

theorem reads_G : ∀ (l : List (List DefVar × Obj)) (i : Nat) (nb : Bool), objsOk h l = true → i + l.length ≤ h.no →
    Reads cd h' l.length nb nb (wG i l) (evG cd i l)
  | [], i, nb, _, _ => by simpa [wG, evG] using Reads.nil cd h' nb
  | (dvs, ob) :: l, i, nb, hok, hi => by
    simp [objsOk] at hok
    have ih := reads_G l (i + 1) nb hok.2 (by simp at hi; omega)
    have r1 := reads_lin cd sc .segG h'.no Ev.gbeg Ev.gterm nb (fun ts => by simp [readSeg]) (by simp) i
      (by rw [sc.no]; simp at hi; omega) ob.lin hok.1.1.2
    have := Reads.append r1 ih
    simpa [wG, evG] using this

theorem reads_colSizes (m : Model) (nb : Bool) (hh : m.hdr = h) (hr : h.nrandv = 0) (hlen : m.colsz.length + 1 = h.nv) :
    Reads cd h' 1 nb nb (wColSizes m o) (evColSizes m o) := by
  unfold wColSizes evColSizes
  have hcast : ((m.hdr.nv : Int) + (m.hdr.nrandv : Int) - 1) = ((m.colsz.length : Nat) : Int) := by
    rw [hh, hr, ← hlen]; simp
  have hcnt : ¬ ((m.colsz.length : Int) ≠ (h'.nv : Int) - 1) := by rw [sc.nv, ← hlen]; simp
  by_cases h1 : o.colSizes = 1
  · simp only [h1, if_true, true_or]
    rw [hcast]
    refine Reads.seg (by simp) (fun rest => ?_) nb
    have := readCol_cum m.colsz 0 rest
    simp [readSeg, readColSizes, hcnt, this]
  · by_cases h2 : o.colSizes = 2
    · simp only [h2, if_true, or_true]
      rw [hcast]
      refine Reads.seg (by simp) (fun rest => ?_) nb
      have := readCol_plain m.colsz rest
      simp [readSeg, readColSizes, hcnt, this]
    · simp only [h1, h2, if_false, or_self]
      exact Reads.weaken 1 (Reads.nil cd h' nb)

end
end MpVerif.C03
