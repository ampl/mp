import MpVerif.C03.LemmasGen
import MpVerif.C03.LemmasCongr
/-!
# C03 — NL writer output is read back as the same model (text = binary)

The property theorems, with a satisfiable instance of every hypothesis at the end.  Model: `ModelWrite.lean` (`NLWriter2::WriteNL`, nl-writer2.hpp/.cc), `ModelRead.lean`
(`TextReader::ReadHeader`, `NLReader::Read`, nl-reader.h / nl-reader.cc), `ModelSpec.lean` (what a fed model means,
the feeder contract `wellFormed`).  The opcode tables in `MpVerif/Gen/OpcodesW.lean` are regenerated from
nl-opcodes.h, src/expr-info.cc and common.h on every run.

Full-strength statement of the property (NOT provable for the code as it is — see the counterexamples below):

    theorem C03_roundtrip_full (cd : Codec) (hcd : ∀ x, (cd.rd x).normZero = x.normZero) (m : Model) (o : Opts)
        (hwf : feeder contract) : readTokens cd (writeNL m o) = .ok (intended m o)   -- every item, every number as fed

What is proved instead: `C03_roundtrip` — the reader returns exactly `events cd m o` — and `C03_events_eq_intended`:
`events` equals the independently written `intended m o` (ModelIntended.lean: every item, operator and number as fed) up
to the sign of zero, so that `events` differs from "as fed" in two places only (a bound equal to ∓DBL_MAX is returned as ∓∞; a text header with
`flags = 0 ∧ arith_kind = 0` reads back the constructor defaults), each with a proved counterexample and a `…_partial`
theorem for its complement.  Both are open known findings.

Stated at full strength for the tree as it is: `ampl_vbtol` is written with `%.17g` (fe95054) and round-trips modulo the
number codec `cd.vb` (`C03_vbtol_roundtrip`); an `int` suffix value INT_MIN is printed correctly in text (f881e91), so
`wellFormed` does not restrict suffix values and `C03_roundtrip` covers them (`C03_int_suffix_any_value`); a call without
arguments is accepted by the writer (150e7c0) and covered by `C03_expr_roundtrip` (`C03_call_zero_args`).
-/
namespace MpVerif.C03
open MpVerif.Gen.OpcodesW

/-! ## opcode tables (writer nl-opcodes.h, reader src/expr-info.cc, NL grammar) -/

/-- every writer constant `mp::nl::NAME = {code, …}` is decoded by the reader as `expr::NAME`, with the argument
    shape the NL grammar gives that operator; the reader's inverse table maps it back; `decide` over the whole table -/
theorem C03_opcode_tables_agree : tablesAgree = true := by decide

/-- every opcode the reader decodes to an operator is one the writer can emit -/
theorem C03_reader_opcodes_covered : readerCovered = true := by decide

/-- what the round trip uses, per opcode, derived from the generated tables -/
theorem C03_opcode_facts {oc k : Nat} {cls : OpClass} (h : writerInfo oc = some (k, cls)) : OpOK oc k cls :=
  opOK_of_writerInfo h

/-! ## expressions: every opcode, every arity, every nesting -/

/-- an expression fed through `ExprWriter` (any tree over `NPut`/`VPut`/`StrPut`/`FuncPut`/`OPut1/2/3/N` that obeys the
    NL grammar), written in text or binary and followed by anything, is read back by `ReadNumericExpr` /
    `ReadLogicalExpr` / `ReadSymbolicExpr` as exactly the handler tree it stands for, consuming exactly its tokens.
    Induction over the expression tree (mutual with argument lists). -/
theorem C03_expr_roundtrip (c : RCtx) (o : Opts) (e : Expr) (md : Mode) (f : Nat) (rest : List Tok)
    (hwf : wfE ⟨c.nve, c.nf⟩ md e = true) (hf : esize e ≤ f) :
    readE c f md (wE o e ++ rest) = .ok (hE c.cd o c.nv md e, rest) :=
  readE_wE c o e md f rest hwf hf

/-- `ReadHeader (WriteNLHeader h)` rebuilds `readBackHdr h` (all ten lines, optional fields included) -/
theorem C03_header_roundtrip (cd : Codec) (o : Opts) (h : Hdr) (rest : List Tok) (hok : hdrOk h = true) :
    readHeader cd (wHeader h o ++ rest) = .ok (readBackHdr cd h o, rest) :=
  readHeader_wHeader cd o h rest hok

/-- **Round trip.**  For every model satisfying the feeder contract, every writer option (text/binary, comments,
    bounds first/last, column sizes none/cumulative/plain) and every number codec, the reader's notifications for the
    written file are exactly `events cd m o`. -/
theorem C03_roundtrip (cd : Codec) (m : Model) (o : Opts) (hwf : wellFormed m o = true) :
    readTokens cd (writeNL m o) = .ok (events cd m o) :=
  roundtrip cd m o hwf

/-- **Round trip with the reader flag `READ_BOUNDS_FIRST`** (the two passes of `NLReader::Read()`: a first pass that forwards only
    `OnVarBounds` and stops after the `b` segment, a second pass that jumps over it): for every well-formed model and every
    writer option the handler is told the header, then the variable bounds, then everything else in file order. -/
theorem C03_roundtrip_bounds_first (cd : Codec) (m : Model) (o : Opts) (hwf : wellFormed m o = true) :
    readTokensBF cd (writeNL m o) = .ok (eventsBF cd m o) :=
  roundtrip_bounds_first cd m o hwf

/-- with and without the flag the handler is told the same things; only the position of the variable bounds differs -/
theorem C03_bounds_first_same_notifications (cd : Codec) (m : Model) (o : Opts) :
    events cd m o = Ev.header (readBackHdr cd (effHdr m) o) :: (evPre cd m o ++ (evVarBnds cd 0 m.vb ++ (evPost cd m o ++ [Ev.endInput]))) ∧
    eventsBF cd m o = Ev.header (readBackHdr cd (effHdr m) o) :: (evVarBnds cd 0 m.vb ++ (evPre cd m o ++ (evPost cd m o ++ [Ev.endInput]))) := by
  exact ⟨by rw [events, evBody_split], rfl⟩

/-! ## `events` is what the property demands: `intended` (ModelIntended.lean), written from the property text -/

/-- **The "two places only" sentence as a theorem.**  For every model satisfying the feeder contract that is outside the two
    documented exception classes (`noException`: no bound equal to ∓DBL_MAX on its infinite side; `flags ≠ 0 ∨ arith_kind ≠ 0`),
    and whenever a written number comes back as itself up to the sign of zero (`NumOK`), what the reader is proved to deliver is
    `intended m o` — every item and every operator as fed — up to the sign of zero. -/
theorem C03_events_eq_intended (cd : Codec) (m : Model) (o : Opts) (ok : NumOK cd o) (hwf : wellFormed m o = true)
    (hne : noException m = true) : (events cd m o).map Ev.nz = (intended m o).map Ev.nz :=
  events_intended cd m o ok hwf hne

/-- binary: in the token model the reader's `ReadDouble` returns the writer's double unchanged — that is the model's *definition*
    of "the same 8 bytes, native byte order" (`idCodec`), not a theorem about bytes; what is proved is that `nput`'s short/long
    packing and the `(double)(int)` conversion are exact, so `NumOK` holds for every `Dbl` -/
theorem C03_numok_binary (o : Opts) (hb : o.binary = true) : NumOK idCodec o :=
  .of_rd (fun _ => rfl) (fun _ => rfl)

/-- what the binary format copies — the 64-bit pattern — determines the double (the driver reads doubles as bit patterns with
    `Dbl.ofBits`; this links the printed/compared hex words to the `Dbl` values the theorems speak about) -/
theorem C03_binary_bits_roundtrip (x : Dbl) (hx : x.Valid) : Dbl.ofBits x.toBits = x := ofBits_toBits x hx

/-- **Binary round trip, as fed, with no hypothesis on numbers**: reading what was written in binary delivers exactly
    `intended m o` up to the sign of zero (outside the two exception classes). -/
theorem C03_roundtrip_binary_as_fed (m : Model) (o : Opts) (hb : o.binary = true) (hwf : wellFormed m o = true)
    (hne : noException m = true) :
    ∃ evs, readTokens idCodec (writeNL m o) = .ok evs ∧ evs.map Ev.nz = (intended m o).map Ev.nz :=
  ⟨_, roundtrip idCodec m o hwf, events_intended idCodec m o (C03_numok_binary o hb) hwf hne⟩

/-- **Text round trip, as fed — PARTIAL**: under the hypothesis that `strtod (g_fmt x)` and `strtod (printf "%.17g" x)` return `x`
    up to the sign of zero.  The hypothesis is tested on every run and is KNOWN TO BE FALSE for the real `g_fmt` on doubles whose
    upper rounding boundary is (within 1/64 ulp of) a short decimal — open finding `codec:boundary-tie-round-trip`, e.g.
    4611686018999999488 → "4.611686019e+18" → 4611686019000000512; for integer-valued doubles below 10^15 see
    `C03_roundtrip_int_text_as_fed`. -/
theorem C03_roundtrip_text_as_fed_partial (cd : Codec) (hrd : ∀ x, (cd.rd x).normZero = x.normZero)
    (hvb : ∀ x, (cd.vb x).normZero = x.normZero) (m : Model) (o : Opts) (ht : o.binary = false)
    (hwf : wellFormed m o = true) (hne : noException m = true) :
    ∃ evs, readTokens cd (writeNL m o) = .ok evs ∧ evs.map Ev.nz = (intended m o).map Ev.nz :=
  ⟨_, roundtrip cd m o hwf, events_intended cd m o (.of_rd hrd hvb) hwf hne⟩

/-- **text = binary for whole models — PARTIAL (same codec hypothesis for the text side)**: the same model written as text and
    as binary with the same other options is reported identically up to the sign of zero after the header notification, which
    the statement drops (`.tail`): the two headers differ in format and arith kind -/
theorem C03_text_eq_binary_partial (cd : Codec) (hrd : ∀ x, (cd.rd x).normZero = x.normZero)
    (hvb : ∀ x, (cd.vb x).normZero = x.normZero) (m : Model) (ot ob : Opts) (ht : ot.binary = false) (hb : ob.binary = true)
    (hbf : ot.boundsFirst = ob.boundsFirst) (hcs : ot.colSizes = ob.colSizes)
    (hwt : wellFormed m ot = true) (hwb : wellFormed m ob = true) (hne : noException m = true) :
    ((events cd m ot).map Ev.nz).tail = ((events idCodec m ob).map Ev.nz).tail := by
  rw [events_intended cd m ot (.of_rd hrd hvb) hwt hne, events_intended idCodec m ob (C03_numok_binary ob hb) hwb hne]
  simp [intended, intendedBody, hbf, hcs]

/-- `BinaryFormatter::nput` chooses `s` + int16 for integers in [-32768, 32767], `l` + int32 for the other integers in
    [-2^31, 2^31-1], and `n` + the 8 bytes otherwise (`toInt?` = "x is finite and integer valued") -/
theorem C03_nput_packing (x : Dbl) (o : Opts) (hb : o.binary = true) :
    (∀ v, x.toInt? = some v → -32768 ≤ v → v ≤ 32767 → wNum o x = [.ch .exS, .sh v, .eol]) ∧
    (∀ v, x.toInt? = some v → -2147483648 ≤ v → v ≤ 2147483647 → ¬ (-32768 ≤ v ∧ v ≤ 32767) → wNum o x = [.ch .exL, .lg v, .eol]) ∧
    (∀ v, x.toInt? = some v → ¬ (-2147483648 ≤ v ∧ v ≤ 2147483647) → wNum o x = [.ch .exN, .dbl x, .eol]) ∧
    (x.toInt? = none → wNum o x = [.ch .exN, .dbl x, .eol]) := by
  refine ⟨?_, ?_, ?_, ?_⟩
  · intro v h h1 h2
    have : -2147483648 ≤ v ∧ v ≤ 2147483647 := by omega
    simp [wNum, hb, h, this, h1, h2]
  · intro v h h1 h2 h3
    simp [wNum, hb, h, h1, h2, h3]
  · intro v h h1
    simp [wNum, hb, h, h1]
  · intro h
    simp [wNum, hb, h]

/-- **`nput` is exact** (a theorem over all doubles, hence all integers): what `ReadConstant` returns for what the binary
    `nput` wrote is the double itself up to the sign of zero — `(double)(short)v`, `(double)(int)v` rebuild the bit pattern
    of every integer-valued double that passed the `(long)x == x` test.  (`hx` is not used: the model's `toInt?` and `numVal`
    are total on bit patterns.) -/
theorem C03_nput_exact (x : Dbl) (hx : x.Valid) (o : Opts) (hb : o.binary = true) :
    (numVal idCodec o x).normZero = x.normZero :=
  numVal_exact (fun _ => rfl) o x

/-- `(double)v` of the integer value `v` of a double is that double: the conversion lemma behind `C03_nput_exact`
    (`hx` is not used) -/
theorem C03_int_double_exact (x : Dbl) (hx : x.Valid) (v : Int) (h : x.toInt? = some v) :
    (Dbl.ofInt v).normZero = x.normZero :=
  ofInt_toInt x v h

/-- one number, text vs binary: under the hypothesis that `strtod (g_fmt x)` is `x` up to the sign of zero (tested, not
    proved — and known to FAIL for the real `g_fmt` on doubles whose upper rounding boundary is a short decimal, open
    finding `codec:boundary-tie-round-trip`, e.g. 4611686018999999488), the value reported for a constant written in text equals the one reported for binary, up to the sign of zero
    (`hx` is not used) -/
theorem C03_number_text_eq_binary (cd : Codec) (hcd : ∀ x, (cd.rd x).normZero = x.normZero) (x : Dbl) (hx : x.Valid)
    (ot ob : Opts) (ht : ot.binary = false) (hb : ob.binary = true) :
    (numVal cd ot x).normZero = (numVal idCodec ob x).normZero := by
  rw [numVal_exact hcd, numVal_exact (cd := idCodec) fun _ => rfl]

/-- arithmetic of the integer text path (a lemma about the *model* `gfmtInt`/`strtodInt`, for every non-zero integer): the digits
    without trailing zeros, times the power of ten that either layout encodes, are the integer again; and converting back gives
    the double it came from.  By itself this says nothing about the real `g_fmt`/`strtod`: that `gfmtInt v` is the text `g_fmt`
    prints and `ofInt (strtodInt …)` the double `strtod` returns is compared on every run for `|v| < 10^15` (harness lines `Z`),
    and enters the theorems only through `FollowsIntPath` (LemmasIntText.lean). -/
theorem C03_int_text_path (x : Dbl) (v : Int) (h : x.toInt? = some v) (hv : v ≠ 0) :
    strtodInt (gfmtInt v) = v ∧ (Dbl.ofInt (strtodInt (gfmtInt v))).normZero = x.normZero := by
  have e := strtod_gfmt_int v hv
  exact ⟨e, by rw [e]; exact ofInt_toInt x v h⟩

/-- **Integer-data models in text format, connected to the token reader**: let the codec be *any* function that, on integer data
    (±0, ±∞, non-zero integers below 10^15), follows the proved path (`FollowsIntPath`: `0` ↦ 0, `±Infinity` ↦ itself,
    integer `v` ↦ `(double) strtodInt (gfmtInt v)`) — nothing is assumed about other doubles, so the known-false boundary cases
    are not covered by the hypothesis.  Then for every well-formed model outside the two exception classes all of whose numbers
    are integer data, `readTokens cd (writeNL m o)` is `intended m o` up to the sign of zero.  (`NumOK` is not assumed: it is
    derived for the path codec, and `events` is shown to depend on the codec only at the model's numbers.) -/
theorem C03_roundtrip_int_text_as_fed (cd : Codec) (hf : FollowsIntPath cd) (m : Model) (o : Opts) (ht : o.binary = false)
    (hwf : wellFormed m o = true) (hne : noException m = true) (hint : AllNums IntData m)
    (hvb : (cd.vb m.hdr.vbtol).normZero = m.hdr.vbtol.normZero) :
    ∃ evs, readTokens cd (writeNL m o) = .ok evs ∧ evs.map Ev.nz = (intended m o).map Ev.nz :=
  roundtrip_int_text cd hf m o hwf hne hint hvb

/-- `events` depends on the codec only at the numbers the model contains -/
theorem C03_events_codec_local {P : Dbl → Prop} {cd cd' : Codec} (hrd : ∀ x, P x → cd.rd x = cd'.rd x) (m : Model) (o : Opts)
    (hvb : cd.vb m.hdr.vbtol = cd'.vb m.hdr.vbtol) (h : AllNums P m) : events cd m o = events cd' m o :=
  events_congr hrd m o hvb h

/-! ## where `events` is not "as fed": partial theorems and counterexamples -/

/-- bounds: unless the lower bound is exactly -DBL_MAX / the upper bound exactly +DBL_MAX, a bound line comes back as the
    pair that was fed (through the number codec; `L == U` pairs come back as `(L, L)`) -/
theorem C03_bounds_partial (cd : Codec) (isCon : Bool) (i : Nat) (L U : Dbl)
    (hL : L.leNegMax = true → L = Dbl.negInf) (hU : U.geMax = true → U = Dbl.posInf)
    (hinf : cd.rd Dbl.negInf = Dbl.negInf ∧ cd.rd Dbl.posInf = Dbl.posInf) :
    evBnd cd isCon i L U 0 0 =
      (if isCon then Ev.cb i (cd.rd L) (cd.rd (if L.ieeeEq U then L else U))
       else Ev.vb i (cd.rd L) (cd.rd (if L.ieeeEq U then L else U))) := by
  -- with an infinite bound on either side `L == U` means `L = U`: the upper bound selected on the right is `U` either way
  have hsel : L.leNegMax = true ∨ U.geMax = true → (if L.ieeeEq U = true then L else U) = U := fun h => by
    split
    · exact eq_of_ieeeEq_isInf ‹_› (h.imp (fun h => hL h ▸ rfl) (fun h => hU h ▸ rfl))
    · rfl
  unfold evBnd
  by_cases h1 : L.leNegMax = true
  · rw [hsel (.inl h1)]
    obtain rfl := hL h1
    by_cases h2 : U.geMax = true
    · obtain rfl := hU h2
      simp [h1, h2, hinf]
    · simp [h1, h2, hinf]
  · by_cases h2 : U.geMax = true
    · rw [hsel (.inr h2)]
      obtain rfl := hU h2
      simp [h1, h2, hinf]
    · by_cases h3 : L.ieeeEq U = true <;> simp [h1, h2, h3]

/-- counterexample (found on the real code by the check: `bounds:dblmax-read-as-infinity`): the variable bound
    `[-DBL_MAX, 1]` is reported as `[-∞, 1]`, with an exact codec -/
theorem C03_counterexample_dblmax_bound :
    evBnd idCodec false 0 Dbl.negMaxFinite ⟨false, 1023, 0⟩ 0 0 = Ev.vb 0 Dbl.negInf ⟨false, 1023, 0⟩ ∧
    Dbl.negInf ≠ Dbl.negMaxFinite := by
  constructor
  · simp [evBnd, Dbl.negMaxFinite, Dbl.leNegMax, Dbl.geMax, idCodec]
  · decide

/-- header: with `flags ≠ 0 ∨ arith_kind ≠ 0` and an exact `%.17g` codec (`cd.vb x = x`) every header field the reader
    supports comes back as fed (format and, for text, arith kind are the written ones) -/
theorem C03_header_partial (cd : Codec) (h : Hdr) (o : Opts) (hf : h.flags ≠ 0 ∨ h.arith ≠ 0)
    (hvb : cd.vb h.vbtol = h.vbtol) (hn : 2 ≤ h.nopts) (hlen : h.opts.length = 9) (h3 : h.opts[1]? = some (3 : Int)) :
    (readBackHdr cd h o).flags = h.flags ∧ (readBackHdr cd h o).vbtol = h.vbtol ∧
    (readBackHdr cd h o).arith = (if o.binary then h.arith else 0) := by
  exact ⟨by simp [readBackHdr, hf], by rw [readBackHdr_vbtol h hlen, if_pos ⟨hn, h3⟩, hvb], by simp [readBackHdr, hf]⟩

/-- counterexample (`hdr:flags-default-when-arith-unknown`): a text header with `flags = 0`, `arith_kind = 0`
    (the documented arith kind for text) is reported with `flags = 1` -/
theorem C03_counterexample_flags_default (cd : Codec) :
    (readBackHdr cd { flags := 0, arith := 0 } { binary := false }).flags = 1 := by
  simp [readBackHdr, hdr0]

/-- **vbtol round trip**: whenever the header carries `ampl_vbtol`
    (`num_ampl_options ≥ 2`, `ampl_options[1] = 3`), the reader reports `cd.vb vbtol`, i.e. `strtod(printf("%.17g", vbtol))`;
    with an exact codec (tested by the harness with libc on every run) that is `vbtol` itself -/
theorem C03_vbtol_roundtrip (cd : Codec) (h : Hdr) (o : Opts) (hn : 2 ≤ h.nopts) (hlen : h.opts.length = 9)
    (h3 : h.opts[1]? = some (3 : Int)) :
    (readBackHdr cd h o).vbtol = cd.vb h.vbtol ∧ (cd.vb h.vbtol = h.vbtol → (readBackHdr cd h o).vbtol = h.vbtol) := by
  have e : (readBackHdr cd h o).vbtol = cd.vb h.vbtol := by rw [readBackHdr_vbtol h hlen, if_pos ⟨hn, h3⟩]
  exact ⟨e, fun hv => by rw [e, hv]⟩

/-- **INT_MIN suffix values**: an int suffix with *any* integer values, in text or binary,
    is read back value by value -/
theorem C03_int_suffix_any_value (o : Opts) (n : Nat) (l : List (Nat × Int)) (rest : List Tok) (h : sparseOk n l = true) :
    readSufI n l.length (wSparseI o l ++ rest) = .ok (evSparseI l, rest) :=
  readSufI_wSparseI o n l rest h

/-- **calls without arguments**: `f<i> 0` is read back as a call with no arguments -/
theorem C03_call_zero_args (c : RCtx) (o : Opts) (fi : Nat) (d : String) (f : Nat) (rest : List Tok) (hfi : fi < c.nf) :
    readE c (f + 1) .num (wE o (.call fi d []) ++ rest) = .ok (.node "call" [fi, 0] [] "" [], rest) := by
  have hwf : wfE ⟨c.nve, c.nf⟩ .num (.call fi d []) = true := by simp [wfE, wfEs, hfi]
  have := readE_wE c o (.call fi d []) .num (f + 1) rest hwf (by simp [esize, esizes])
  simpa [hE, hEs] using this

/-! ## ties to the source: the hand model equals what the translator extracts from the current tree
(`MpVerif/Gen/C03Writer.lean`, regenerated on every run by `translators/gen_writer_c03.py` from clang's AST of
`NLWriter2::WriteNLHeader` / `WriteBndRangeOrCompl` and from the text of `nput`, `OPut*`, `ReadBounds`) -/
open MpVerif.Gen.C03Writer in
/-- **header layout**: the ten header-line functions of the model are the evaluation of the `Printf` statements of
    `WriteNLHeader` (which count on which line, in which order, under which condition, with which format), for every header
    and both formats.  Hence every theorem about `wHeader`/`writeNL` is a theorem about the extracted statements. -/
theorem C03_gen_header (h : Hdr) (o : Opts) : HStmt.toksL h o genHeader = wHeader h o := gen_header h o

open MpVerif.Gen.C03Writer in
/-- every header field the extracted statements mention is one the evaluator knows by name (its default `0` for unknown names
    is never used): a field added to or renamed in `WriteNLHeader` breaks this -/
theorem C03_gen_header_fields_known : (HStmt.fieldsL genHeader).all (fun n => knownFields.contains n) = true := by decide

open MpVerif.Gen.C03Writer in
/-- the header round trip, stated on the statements extracted from the source -/
theorem C03_gen_header_roundtrip (cd : Codec) (o : Opts) (h : Hdr) (rest : List Tok) (hok : hdrOk h = true) :
    readHeader cd (HStmt.toksL h o genHeader ++ rest) = .ok (readBackHdr cd h o, rest) := by
  rw [gen_header]; exact readHeader_wHeader cd o h rest hok

open MpVerif.Gen.C03Writer in
/-- **bounds-type decision**: `wBnd` is the evaluation of the if/?: tree of `WriteBndRangeOrCompl` (tests `k <= 0`,
    `L <= NegInfty()`, `U >= Infty()`, `L == U`; leaves = format and arguments), for all doubles and all k, cvar -/
theorem C03_gen_bounds (L U : Dbl) (k cvar : Nat) : bndTree.eval L U k cvar = wBnd L U k cvar := gen_bounds L U k cvar

open MpVerif.Gen.C03Writer in
/-- **binary `nput`**: the model's range test uses the two constants of the source, and the three branches start with the
    letters of the three formats of the source (`s%h`, `l%l`, `n%g`; text: `n%g\n`) -/
theorem C03_gen_nput (x : Dbl) (o : Opts) (hb : o.binary = true) :
    wNum o x =
      (match x.toInt? with
       | some v =>
         if nputLo ≤ v ∧ v ≤ nputHi then
           (if -32768 ≤ v ∧ v ≤ 32767 then [.ch .exS, .sh v, .eol] else [.ch .exL, .lg v, .eol])
         else [.ch .exN, .dbl x, .eol]
       | none => [.ch .exN, .dbl x, .eol]) ∧
    nputFmtShort = [.lit Tag.exS.toChar, .dShort] ∧ nputFmtLong = [.lit Tag.exL.toChar, .dLong] ∧
    nputFmtDbl = [.lit Tag.exN.toChar, .dDbl] ∧ nputFmtText = [.lit Tag.exN.toChar, .dDbl, .nl] := by
  refine ⟨?_, by decide, by decide, by decide, by decide⟩
  simp only [wNum, hb, if_true, nputLo, nputHi]
  rfl

open MpVerif.Gen.C03Writer in
/-- **operator emission**: `OPut1/2/3` return writers for 1/2/3 arguments after `o<opcode>`; `OPutN` writes the argument count on
    its own line, halved exactly for the opcode literal of the source, which is the PL-term opcode of the generated table;
    the model's `opN` case writes that count -/
theorem C03_gen_oput (o : Opts) (oc : Nat) (d : String) (args : List Expr) :
    oputFixed.map (·.2) = [1, 2, 3] ∧
    oputFixed.map (·.1) = [[.lit 'o', .dInt, .tab, .lit '#', .dStr, .nl], [.lit 'o', .dInt, .tab, .lit '#', .dStr, .nl],
                           [.lit 'o', .dInt, .tab, .lit '#', .dStr, .nl]] ∧
    oputN.1 = [.lit 'o', .dInt, .tab, .lit '#', .dStr, .nl] ∧ oputN.2.2.2 = [.dInt, .nl] ∧
    writerKind oputN.2.1 = some MpVerif.Gen.OpcodesW.kv_PLTERM ∧
    wE o (.opN oc d args) = [.ch .exO, .int oc] ++ cmtEol o d ++
      [.int (if oc = oputN.2.1 then args.length / oputN.2.2.1 else args.length), .eol] ++ wEs o args ∧
    funcPutFmt = [.lit 'f', .dInt, .sp, .dInt, .tab, .lit '#', .dStr, .nl] ∧
    vPutFmt = [.lit 'v', .dInt, .tab, .lit '#', .dStr, .nl] ∧ strPutFmt = [.lit 'h', .dInt, .lit ':', .dStr, .nl] := by
  refine ⟨by decide, by decide, by decide, by decide, by decide, ?_, by decide, by decide, by decide⟩
  simp only [wE, oputN]
  rfl

open MpVerif.Gen.C03Writer in
/-- **every `apr` format of the writer templates** (in source order) is one the model was written against: a changed, added
    or removed format string breaks this equality -/
theorem C03_gen_formats : aprFormats =
    ["F%d %d %d %s\n", "%d %d\n", "%d %g\n", "b\t#%d bounds (on variables)\n", "r\t#%d ranges (rhs's)\n",
     "3\n", "1 %.16g\n", "2 %.16g\n", "4 %.16g\n", "0 %.16g %.16g\n", "5 %d %d\n",
     "%c%d\t#%s\n", "%c%d\t#%s\n", "%c%d %d\t#%s\n",
     "k%d\t#intermediate Jacobian column lengths\n", "k%d\t#intermediate Jacobian column lengths (cumulative)\n",
     "K%d\t#intermediate Jacobian column lengths\n", "J%d %d\n", "G%d %d\n",
     "v%d\t#%s\n", "h%d:%s\n", "f%d %d\t#%s\n", "o%d\t#%s\n", "o%d\t#%s\n", "o%d\t#%s\n", "o%d\t#%s\n", "%d\n",
     "V%d %d %d\t#%s\n", "S%d %d %s\n", "S%d %d %s\n", "R%d\t# %s\n",
     "x%d\t# initial guess\n", "d%d\t# initial dual guess\n", "%z\n", "%d\n"] := by decide

open MpVerif.Gen.C03Writer in
/-- **the reader's inverse switch** (`NLReader::ReadBounds`): the digit selects, in this order, range / upper / lower / free /
    constant / complementarity, with lb and ub read or set to ∓∞ exactly as `readBndItems` does -/
theorem C03_gen_readBounds : readBounds =
    [("RANGE", "read", "read"), ("UPPER", "neg-inf", "read"), ("LOWER", "read", "pos-inf"), ("FREE", "neg-inf", "pos-inf"),
     ("CONSTANT", "read", "same-as-lb"), ("COMPL", "compl", "compl")] ∧ inftyIsDblMax = true := by decide

open MpVerif.Gen.C03Writer in
/-- **the reader's bound switch, semantically tied**: the model's `readBndItems` (the transcription of `NLReader::ReadBounds`) equals,
    for all inputs, the table-driven reader `readBndItemsG` run with the table the translator extracts from nl-reader.h
    (`enum BoundType` order = digit; per case where `lb`/`ub` come from, in which order; the complementarity case) -/
theorem C03_gen_readBounds_sem (cd : Codec) (h : Hdr) (isCon : Bool) (n i : Nat) (ts : List Tok) :
    readBndItems cd h isCon i n ts = readBndItemsG cd h isCon readBoundsTable i n ts :=
  gen_readBndItems cd h isCon n i ts

open MpVerif.Gen.C03Writer in
/-- **bounds, both sides generated**: the reader's switch as extracted from nl-reader.h, run on the tokens the writer's decision
    tree as extracted from nl-writer2.hpp produces for one bound `(L, U, k, cvar)`, reports `evBnd` and continues — for all
    doubles, both item kinds, complementarity included -/
theorem C03_gen_bounds_roundtrip (cd : Codec) (h : Hdr) (isCon : Bool) (i n : Nat) (L U : Dbl) (k cvar : Nat) (rest : List Tok)
    (hk : k = 0 ∨ (isCon = true ∧ k ≤ 3 ∧ cvar < h.nv)) :
    readBndItemsG cd h isCon readBoundsTable i (n + 1) (bndTree.eval L U k cvar ++ rest) =
      (match readBndItemsG cd h isCon readBoundsTable (i + 1) n rest with
       | .error e => .error e
       | .ok (l, ts) => .ok (evBnd cd isCon i L U k cvar :: l, ts)) := by
  rw [gen_bounds, ← gen_readBndItems, ← gen_readBndItems]
  exact readBnd_one cd h isCon i n L U k cvar rest hk

open MpVerif.Gen.C03Writer in
/-- **column sizes, reader tied**: the model's `readColItems` (the loop of `NLReader::ReadColumnSizes<CUMULATIVE>`) equals, for
    all inputs, the reader `readColItemsG` whose `if (CUMULATIVE)` block is the statement list the translator extracts from
    nl-reader.h (`size < prev` → error; `size -= prev`; `prev += size`) -/
theorem C03_gen_colsizes_reader (cum : Bool) (prev n : Nat) (ts : List Tok) :
    readColItems cum prev n ts = readColItemsG colCumStmts cum prev n ts :=
  gen_readColItems cum n prev ts

open MpVerif.Gen.C03Writer in
/-- **column sizes, writer tied**: the model's two item writers equal, for all size lists and running sums, `ColSizeWriter::Write`
    driven by the `switch (kind_)` cases the translator extracts from nl-writer2.h (kind 1: `sum_ += s` and prints `sum_`;
    kind 2: prints `s`) -/
theorem C03_gen_colsizes_writer (l : List Nat) (acc : Nat) :
    wColItemsCum acc l = wColItemsG colWriteCases 1 acc l ∧ wColItemsPlain l = wColItemsG colWriteCases 2 acc l :=
  ⟨gen_wColItemsCum l acc, gen_wColItemsPlain l acc⟩

open MpVerif.Gen.C03Writer in
/-- **column sizes, both sides generated**: the reader with the extracted block, run on what the extracted writer cases print for
    any list of sizes, reports exactly these sizes (kind 1 read as `k`, kind 2 as `K`) and continues with the rest -/
theorem C03_gen_colsizes_roundtrip (l : List Nat) (acc : Nat) (rest : List Tok) :
    readColItemsG colCumStmts true acc l.length (wColItemsG colWriteCases 1 acc l ++ rest) = .ok (l.map Ev.cadd, rest) ∧
    readColItemsG colCumStmts false 0 l.length (wColItemsG colWriteCases 2 0 l ++ rest) = .ok (l.map Ev.cadd, rest) := by
  rw [← gen_wColItemsCum l acc, ← gen_wColItemsPlain l 0, ← gen_readColItems, ← gen_readColItems]
  exact ⟨readCol_cum l acc rest, readCol_plain l rest⟩

/-! ## non-vacuity: the contract is satisfiable and the theorem computes -/

def exModel : Model :=
  { hdr := { nv := 2, nac := 1, no := 1, nlc := 1, nf := 1, ceb := 1, flags := 1, arith := 1 }
    funcs := [⟨"f", 2, 0⟩]
    sufs := [⟨"priority", 0, .ints [(1, 7), (0, -2147483648)]⟩, ⟨"ref", 4, .dbls [(0, ⟨false, 1023, 0⟩)]⟩]
    vb := [(Dbl.negInf, Dbl.posInf), (Dbl.zero, ⟨false, 1024, 0⟩)]
    cb := [⟨Dbl.zero, Dbl.zero, 0, 0⟩]
    x0 := some [(0, ⟨false, 1023, 0⟩)]
    dv0 := [⟨2, "t", [(0, ⟨false, 1023, 0⟩)], .op1 15 "abs" (.var 1 "y")⟩]
    cons := [([], ⟨"c", [(0, ⟨false, 1023, 0⟩)], .op2 0 "+" (.var 2 "t") (.call 0 "f" [.num ⟨true, 1022, 0⟩, .str "a b"])⟩)]
    lcons := [([], ⟨"l", [], .opN 70 "forall" [.op2 23 "<=" (.var 0 "x") (.num Dbl.zero), .num ⟨false, 1023, 0⟩, .op1 34 "!" (.num Dbl.zero)]⟩)]
    objs := [([], ⟨1, "o", [(1, ⟨false, 1024, 0⟩)], .opN 64 "pl" [.num ⟨false, 1023, 0⟩, .num Dbl.zero, .num ⟨false, 1024, 0⟩, .var 0 "x"]⟩)]
    colsz := [1] }

-- C03_opcode_facts: the hypothesis holds for every writer opcode, e.g.
example : writerInfo 0 = some (kv_ADD, .binary) ∧ writerInfo 64 = some (kv_PLTERM, .plterm) ∧ writerInfo 65 = some (kv_IFSYM, .ifSym) := by decide
-- C03_expr_roundtrip: grammar-conforming trees in each of the three positions (3 variables + 1 defined variable, 1 function)
example : wfE ⟨4, 1⟩ .num (.op2 0 "+" (.var 3 "t") (.call 0 "f" [.num ⟨true, 1022, 0⟩, .str "a b", .op3 65 "ifs" (.num Dbl.zero) (.str "x") (.var 0 "")])) = true := by decide
example : wfE ⟨4, 1⟩ .log (.op2 62 "atleast" (.num ⟨false, 1023, 0⟩) (.opN 59 "count" [.op2 23 "<=" (.var 0 "x") (.num Dbl.zero), .op1 34 "!" (.num Dbl.zero)])) = true := by decide
example : wfE ⟨4, 1⟩ .sym (.str "only a string") = true ∧ wfE ⟨4, 1⟩ .num (.str "s") = false ∧ wfE ⟨4, 1⟩ .log (.var 0 "") = false := by decide
example : wfE ⟨4, 1⟩ .num (.opN 64 "pl" [.num ⟨false, 1023, 0⟩, .num Dbl.zero, .num ⟨false, 1024, 0⟩, .var 0 "x"]) = true ∧
          wfE ⟨4, 1⟩ .num (.opN 64 "pl" [.num ⟨false, 1023, 0⟩, .var 0 "x"]) = false := by decide
-- C03_gen_bounds_roundtrip: both alternatives of the hypothesis occur (ordinary bound; complementarity on a constraint)
example : ((0 : Nat) = 0 ∨ (false = true ∧ 0 ≤ 3 ∧ 0 < 2)) ∧ ((2 : Nat) = 0 ∨ (true = true ∧ 2 ≤ 3 ∧ 1 < 2)) := by decide
-- C03_gen_colsizes_*: the extracted tables compute: sizes 2,0,3 are written cumulatively as 2,2,5 and read back; a decreasing offset is the reader's error
example : wColItemsG MpVerif.Gen.C03Writer.colWriteCases 1 0 [2, 0, 3] = [.int 2, .eol, .int 2, .eol, .int 5, .eol] ∧
          wColItemsG MpVerif.Gen.C03Writer.colWriteCases 2 0 [2, 0, 3] = [.int 2, .eol, .int 0, .eol, .int 3, .eol] ∧
          readColItemsG MpVerif.Gen.C03Writer.colCumStmts true 0 3 [.int 2, .eol, .int 2, .eol, .int 5, .eol] = .ok ([.cadd 2, .cadd 0, .cadd 3], []) ∧
          readColItemsG MpVerif.Gen.C03Writer.colCumStmts true 0 2 [.int 2, .eol, .int 1, .eol] = .error .invalidColOffset := ⟨rfl, rfl, rfl, rfl⟩
-- C03_header_roundtrip / C03_gen_header_roundtrip: headers with and without logical constraints, complementarity, vbtol
example : hdrOk exModel.hdr = true := by decide
example : hdrOk { nv := 3, nac := 2, nlc := 0, ncc := 2, nnlcc := 1, ncdi := 1, nopts := 2, opts := [0, 3, 0, 0, 0, 0, 0, 0, 0], flags := 0, arith := 0 } = true := by decide
-- C03_nput_packing / C03_nput_exact / C03_int_double_exact: valid doubles in each branch: 1 (short), 32768 (long), 2^31 (double), 0.5 (not an integer)
example : (⟨false, 1023, 0⟩ : Dbl).Valid ∧ (⟨false, 1023, 0⟩ : Dbl).toInt? = some 1 ∧ (⟨false, 1038, 0⟩ : Dbl).toInt? = some 32768 ∧
          (⟨true, 1054, 0⟩ : Dbl).toInt? = some (-2147483648) ∧ (⟨false, 1054, 0⟩ : Dbl).toInt? = some 2147483648 ∧
          (⟨false, 1022, 0⟩ : Dbl).toInt? = none ∧ (⟨false, 0, 5⟩ : Dbl).Valid := by decide
-- C03_number_text_eq_binary: the hypothesis on the codec is satisfiable (and is what g_fmt/strtod satisfy outside the boundary cases)
example : ∀ x : Dbl, ((⟨Dbl.normZero, id⟩ : Codec).rd x).normZero = x.normZero := by
  intro x; simp only [Dbl.normZero]; split <;> simp_all [Dbl.isZero, Dbl.zero]
-- C03_int_text_path: both layouts occur: 1234500 is printed plain, 12000000 as 1.2e+07, 100000 as 1e+05
example : gfmtInt 1234500 = .plain false [1, 2, 3, 4, 5] 2 ∧ gfmtInt 12000000 = .sci false [1, 2] 7 ∧ gfmtInt (-100000) = .sci true [1] 5 ∧
          (⟨false, 1043, 798537499541504⟩ : Dbl).toInt? = some 1234500 := by decide
-- C03_roundtrip_int_text_as_fed: the hypotheses are satisfiable: the path codec follows the path; a model with integer data
example : FollowsIntPath ⟨intPathRd, id⟩ := followsIntPath_intPathRd id
def exIntModel : Model :=
  { hdr := { nv := 2, nac := 1, no := 0, flags := 1, arith := 1 }
    vb := [(Dbl.negInf, Dbl.posInf), (Dbl.zero, ⟨false, 1024, 0⟩)]
    cb := [⟨⟨true, 1025, 0⟩, ⟨false, 1043, 798537499541504⟩, 0, 0⟩]
    cons := [([], ⟨"c", [(0, ⟨false, 1023, 0⟩), (1, ⟨false, 1046, 1938851316629504⟩)], .op2 2 "*" (.var 0 "x") (.num ⟨false, 1024, 2251799813685248⟩)⟩)]
    colsz := [1] }
example : wellFormed exIntModel {} = true ∧ noException exIntModel = true := by decide
section
local instance (x : Dbl) : Decidable (IntData x) :=
  decidable_of_iff (x.isZero = true ∨ x.isInf = true ∨ ∃ v ∈ x.toInt?, v ≠ 0 ∧ v.natAbs < 10 ^ 15) Iff.rfl
example : AllNums IntData exIntModel := by
  simp only [AllNums, exIntModel, allSufs, allSparse, allVB, allCB, allInit, allDVs, allCons, allObjs, allE, and_true, true_and]
  decide
end
-- C03_events_eq_intended / C03_roundtrip_binary_as_fed: the example model is outside the exception classes
example : noException exModel = true := by decide
-- C03_bounds_partial: ordinary bounds [0, 1], [-∞, 1], [1, 1] with the exact codec
example : (Dbl.zero.leNegMax = true → Dbl.zero = Dbl.negInf) ∧ ((⟨false, 1023, 0⟩ : Dbl).geMax = true → (⟨false, 1023, 0⟩ : Dbl) = Dbl.posInf) ∧
          (Dbl.negInf.leNegMax = true → Dbl.negInf = Dbl.negInf) ∧ idCodec.rd Dbl.negInf = Dbl.negInf ∧ idCodec.rd Dbl.posInf = Dbl.posInf := by decide
-- C03_header_partial / C03_vbtol_roundtrip: a header that carries vbtol
example : let h : Hdr := { nopts := 3, opts := [2, 3, 3, 0, 0, 0, 0, 0, 0], vbtol := ⟨false, 1019, 4433230883192832⟩ }
          (h.flags ≠ 0 ∨ h.arith ≠ 0) ∧ 2 ≤ h.nopts ∧ h.opts.length = 9 ∧ h.opts[1]? = some (3 : Int) ∧ idCodec.vb h.vbtol = h.vbtol := by decide
-- C03_int_suffix_any_value: indices in range, values including INT_MIN and INT_MAX
example : sparseOk 3 [(0, (-2147483648 : Int)), (2, 2147483647), (1, 0)] = true := by decide
-- C03_call_zero_args: a context with one function
example : (0 : Nat) < (⟨idCodec, 2, 3, 1⟩ : RCtx).nf := by decide
-- C03_roundtrip: the feeder contract holds for a model with every kind of item, in text and binary, every option
example : wellFormed exModel {} = true := by decide
example : wellFormed exModel { binary := true, comments := true, boundsFirst := false, colSizes := 2 } = true := by decide

end MpVerif.C03
