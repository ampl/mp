import MpVerif.C03.LemmasExpr
/-! # C03 — expression round trip: `readE (wE e ++ rest) = (hE e, rest)` by induction over the expression tree -/
namespace MpVerif.C03
open MpVerif.Gen.OpcodesW

theorem read2_ok {tag : String} {ks : List Nat} {r1 r2 : List Tok → R HE} {t1 mid rest : List Tok} {A B : HE}
    (h1 : r1 t1 = .ok (A, mid)) (h2 : r2 mid = .ok (B, rest)) :
    read2 tag ks r1 r2 t1 = .ok (.node tag ks [] "" [A, B], rest) := by
  simp [read2, h1, h2]

theorem read3_ok {tag : String} {r1 r2 r3 : List Tok → R HE} {t1 m1 m2 rest : List Tok} {A B C : HE}
    (h1 : r1 t1 = .ok (A, m1)) (h2 : r2 m1 = .ok (B, m2)) (h3 : r3 m2 = .ok (C, rest)) :
    read3 tag r1 r2 r3 t1 = .ok (.node tag [] [] "" [A, B, C], rest) := by
  simp [read3, h1, h2, h3]

theorem readIterWith_ok {tag : String} {ks : List Nat} {mn n : Nat} {rdA : List Tok → R HE} {body rest : List Tok}
    {As : List HE} (hn : mn ≤ n) (h : readArgsWith rdA n body = .ok (As, rest)) :
    readIterWith tag ks mn rdA (.int (n : Int) :: .eol :: body) = .ok (.node tag (ks ++ [n]) [] "" As, rest) := by
  have : ¬ n < mn := by omega
  simp [readIterWith, readNumArgs, this, h]

theorem readCountWith_eq (rd : List Tok → R HE) : readCountWith rd = readIterWith "cnt" [] 1 rd := rfl

/-- reading the first argument apart (the source passes it to `BeginNumberOf`) and then `n - 1` more is reading `n ≥ 1`
    arguments: `numberof` is an iterated operator like the others -/
theorem readNumberOfWith_eq (tag : String) (rd : List Tok → R HE) (ts : List Tok) :
    readNumberOfWith tag rd ts = readIterWith tag [] 1 rd ts := by
  unfold readNumberOfWith readIterWith readNumArgs
  -- split along the calls both sides make in the same order; `simp only []` reduces a `match` on `.ok`
  rcases readUInt ts with _ | ⟨_ | n, ts⟩ <;> try rfl
  simp only [Nat.lt_one_iff, Nat.add_one_ne_zero, if_false, Nat.add_sub_cancel, readArgsWith]
  rcases readEol ts with _ | ts <;> try rfl
  simp only []
  rcases rd ts with _ | ⟨a, ts⟩ <;> try rfl
  simp only []
  rcases readArgsWith rd n ts with _ | _ <;> rfl

theorem readRef_ok (nv : Nat) {nve i : Nat} (hi : i < nve) (o : Opts) (d : String) (rest : List Tok) :
    readRef nv nve (.int (i : Int) :: (cmtEol o d ++ rest)) = .ok (refHE nv i, rest) := by
  simp [readRef, readUIntLt_nat hi, refHE]

section
variable (c : RCtx) (o : Opts)

theorem readE_op {oc k : Nat} {cls : OpClass} (hok : OpOK oc k cls) (md : Mode) (f : Nat) (d : String) (body : List Tok) :
    readE c (f + 1) md (.ch .exO :: .int (oc : Int) :: (cmtEol o d ++ body)) =
      if md = .log then readLogOp (readE c f) oc body
      else if md = .sym ∧ cls = .ifSym then read3 "ifs" (readE c f .log) (readE c f .sym) (readE c f .sym) body
      else readNumOp c (readE c f) oc body := by
  have hi : cls = .ifSym ↔ (oc : Int) = ifsymOpcode := hok.ifsym
  cases md <;> simp [readE, readNumCode, readOpCode_ok hok.le, ← hi]

theorem ne_log_of {md : Mode} (h : (md != Mode.log) = true) : md ≠ .log := by
  cases md <;> simp_all

theorem allNum_cons {e : Expr} {l : List Expr} (h : allNum (e :: l) = true) : ∃ x, e = .num x ∧ allNum l = true := by
  cases e <;> simp_all [allNum, isNum]

theorem plLoop (cd : Codec) : ∀ (n : Nat) (l : List Expr), allNum l = true → l.length = 2 * n + 1 → ∀ rest,
    ∃ ps s mid, readPLPairs cd n (wEs o l ++ rest) = .ok (ps, mid) ∧ readConstantC cd mid = .ok (s, rest) ∧
      ps ++ [s] = plVals cd o l := by
  intro n
  induction n with
  | zero =>
    intro l hl hlen rest
    match l, hl, hlen with
    | [.num x], _, _ =>
      exact ⟨[], numVal cd o x, wEs o [.num x] ++ rest, by simp [readPLPairs],
        by simpa [wEs, wE] using readConstantC_wNum cd o x rest, by simp [plVals]⟩
  | succ n ih =>
    intro l hl hlen rest
    rcases l with _ | ⟨e1, _ | ⟨e2, l'⟩⟩
    · simp at hlen
    · simp at hlen
    obtain ⟨x, rfl, hl1⟩ := allNum_cons hl
    obtain ⟨y, rfl, hl'⟩ := allNum_cons hl1
    have hlen' : l'.length = 2 * n + 1 := by simp at hlen; omega
    obtain ⟨ps, s, mid, h1, h2, h3⟩ := ih l' hl' hlen' rest
    refine ⟨numVal cd o x :: numVal cd o y :: ps, s, mid, ?_, h2, by simp [plVals, h3]⟩
    have e1 := readConstantC_wNum cd o x (wNum o y ++ (wEs o l' ++ rest))
    have e2 := readConstantC_wNum cd o y (wEs o l' ++ rest)
    simp [wEs, wE, readPLPairs, e1, e2, h1]

end

section
variable (c : RCtx) (o : Opts)

theorem readE_num_const {md : Mode} (f : Nat) (x : Dbl) (rest : List Tok) :
    readE c (f + 1) md (wNum o x ++ rest) = .ok (hE c.cd o c.nv md (.num x), rest) := by
  obtain ⟨t, ts, h1, h2, h3⟩ := wNum_shape c.cd o x rest
  rw [h1]
  cases md <;> rcases h2 with rfl | rfl | rfl <;> simp [readE, readNumCode, h3, hE]

mutual
theorem readE_wE : (e : Expr) → (md : Mode) → (f : Nat) → ∀ (rest : List Tok),
    wfE ⟨c.nve, c.nf⟩ md e = true → esize e ≤ f →
    readE c f md (wE o e ++ rest) = .ok (hE c.cd o c.nv md e, rest)
  | .num x, md, f' + 1 => by
    intro rest _ _
    simpa [wE] using readE_num_const c o f' x rest
  | .var i d, md, f' + 1 => by
    intro rest hwf _
    simp [wfE] at hwf
    have hr := readRef_ok c.nv hwf.2 o d rest
    cases md with
    | log => simp at hwf
    | num => simp [wE, readE, readNumCode, hr, hE]
    | sym => simp [wE, readE, readNumCode, hr, hE]
  | .str s, md, f' + 1 => by
    intro rest hwf _
    simp [wfE] at hwf
    subst hwf
    simp [wE, readE, hE]
  | .call fi d args, md, f' + 1 => by
    intro rest hwf hf
    simp only [esize] at hf
    simp [wfE] at hwf
    obtain ⟨⟨hmd, hfi⟩, hargs⟩ := hwf
    have ih := readEs_wEs args .sym f' rest hargs (by omega)
    cases md with
    | log => simp at hmd
    | num => simp [wE, readE, readNumCode, readUIntLt_nat hfi, ih, hE]
    | sym => simp [wE, readE, readNumCode, readUIntLt_nat hfi, ih, hE]
  | .op1 oc d a, md, f' + 1 => by
    intro rest hwf hf
    simp only [esize] at hf
    cases hw : writerInfo oc with
    | none => simp [wfE, hw] at hwf
    | some p =>
      obtain ⟨k, cls⟩ := p
      have hok := opOK_of_writerInfo hw
      cases cls <;> simp [wfE, hw] at hwf
      case unary | notE =>
        have ih := readE_wE a _ f' rest hwf.2 (by omega)
        simp only [wE, List.append_assoc, List.cons_append, List.nil_append]
        rw [readE_op c o hok]
        simp [hwf.1, readNumOp, readLogOp, hok.rinfo, ih, hE, hw]
  | .op2 oc d a b, md, f' + 1 => by
    intro rest hwf hf
    simp only [esize] at hf
    have hfa : esize a ≤ f' := by omega
    have hfb : esize b ≤ f' := by omega
    cases hw : writerInfo oc with
    | none => simp [wfE, hw] at hwf
    | some p =>
      obtain ⟨k, cls⟩ := p
      have hok := opOK_of_writerInfo hw
      cases cls <;> simp [wfE, hw] at hwf
      case binary | binLogical | relational =>
        obtain ⟨⟨hmd, hwa⟩, hwb⟩ := hwf
        have iha := readE_wE a _ f' (wE o b ++ rest) hwa hfa
        have ihb := readE_wE b _ f' rest hwb hfb
        simp only [wE, List.append_assoc, List.cons_append, List.nil_append]
        rw [readE_op c o hok]
        simp [hmd, readNumOp, readLogOp, hok.rinfo, read2_ok iha ihb, hE, hw]
      case logicalCount =>
        obtain ⟨⟨⟨rfl, hwa⟩, hwb⟩, hcnt⟩ := hwf
        have iha := readE_wE a .num f' (wE o b ++ rest) hwa hfa
        match b, hwb, hcnt, hfb, iha with
        | .opN oc2 d2 args2, hwb, hcnt, hfb, iha =>
          cases hw2 : writerInfo oc2 with
          | none => simp [hw2] at hcnt
          | some p2 =>
            obtain ⟨k2, cls2⟩ := p2
            simp [hw2] at hcnt
            subst hcnt
            have hok2 := opOK_of_writerInfo hw2
            simp [wfE, hw2] at hwb
            have hk2 : k2 = kv_COUNT := hok2.cnt rfl
            have ihs := readEs_wEs args2 .log f' rest hwb.2 (by simp [esize] at hfb; omega)
            have hne : ¬ oc2 = 64 := hwb.1.1
            have hcw := readIterWith_ok (tag := "cnt") (ks := []) hwb.1.2 ihs
            simp only [wE, List.append_assoc, List.cons_append, List.nil_append, hne, if_false] at iha ⊢
            rw [readE_op c o hok]
            simp [readLogOp, hok.rinfo, iha, readOpCode_ok hok2.le, hok2.rinfo, hk2, readCountWith_eq, hcw, hE, hw, hw2]
  | .op3 oc d a b e3, md, f' + 1 => by
    intro rest hwf hf
    simp only [esize] at hf
    cases hw : writerInfo oc with
    | none => simp [wfE, hw] at hwf
    | some p =>
      obtain ⟨k, cls⟩ := p
      have hok := opOK_of_writerInfo hw
      cases cls <;> simp [wfE, hw] at hwf
      case ifE | implication | ifSym =>
        obtain ⟨⟨⟨hmd, hwa⟩, hwb⟩, hwc⟩ := hwf
        have iha := readE_wE a _ f' (wE o b ++ (wE o e3 ++ rest)) hwa (by omega)
        have ihb := readE_wE b _ f' (wE o e3 ++ rest) hwb (by omega)
        have ihc := readE_wE e3 _ f' rest hwc (by omega)
        simp only [wE, List.append_assoc, List.cons_append, List.nil_append]
        rw [readE_op c o hok]
        simp [hmd, readNumOp, readLogOp, hok.rinfo, read3_ok iha ihb ihc, hE, hw]
  | .opN oc d args, md, f' + 1 => by
    intro rest hwf hf
    simp only [esize] at hf
    have hfs : esizes args ≤ f' := by omega
    cases hw : writerInfo oc with
    | none => simp [wfE, hw] at hwf
    | some p =>
      obtain ⟨k, cls⟩ := p
      have hok := opOK_of_writerInfo hw
      cases cls <;> simp [wfE, hw] at hwf
      case vararg | sum | count | numberof | numberofSym | iterLogical | pairwise =>
        obtain ⟨⟨⟨hmd, hne⟩, hlen⟩, hwa⟩ := hwf
        have ihs := readEs_wEs args _ f' rest hwa hfs
        simp only [wE, List.append_assoc, List.cons_append, List.nil_append, hne, if_false]
        rw [readE_op c o hok]
        simp [hmd, readNumOp, readLogOp, hok.rinfo, readCountWith_eq, readNumberOfWith_eq, readIterWith_ok hlen ihs, hE, hw]
      case plterm =>
        -- the arguments are `ys ++ [var]`: `plLoop` reads the slopes and breakpoints `ys`, `readRef_ok` the variable
        obtain ⟨⟨⟨⟨⟨hmd, h64⟩, hlen⟩, heven⟩, hnum⟩, hlast⟩ := hwf
        subst h64
        cases hgl : args.getLast? with
        | none => simp [hgl] at hlast
        | some lastE =>
          cases lastE with
          | var i dv =>
            simp [hgl] at hlast
            obtain ⟨ys, rfl⟩ := List.getLast?_eq_some_iff.mp hgl
            simp only [List.dropLast_concat] at hnum
            have hdl : ys.length = 2 * ((ys ++ [Expr.var i dv]).length / 2 - 1) + 1 := by
              simp at hlen heven ⊢; omega
            obtain ⟨ps, s, mid, h1, h2, h3⟩ :=
              plLoop o c.cd ((ys ++ [Expr.var i dv]).length / 2 - 1) ys hnum hdl
                (wE o (.var i dv) ++ rest)
            have hr := readRef_ok c.nv hlast o dv rest
            have hns : ¬ ((ys ++ [Expr.var i dv]).length / 2 ≤ 1) := by simp at hlen heven ⊢; omega
            simp only [wE, wEs_append, wEs, List.append_assoc, List.cons_append, List.nil_append, if_true,
              List.append_nil] at h1 h2 ⊢
            rw [readE_op c o hok]
            have hcast : (((ys ++ [Expr.var i dv]).length : Int) / 2) = (((ys ++ [Expr.var i dv]).length / 2 : Nat) : Int) := by
              simp
            rw [hcast]
            simp only [hE, hw, hgl, List.dropLast_concat]
            generalize (ys ++ [Expr.var i dv]).length / 2 = N at h1 hns ⊢
            simp [hmd, readNumOp, hok.rinfo, hns, h1, h2, hr, h3]
          | _ => simp [hgl] at hlast
  | e, _, 0 => by intro _ _ hf; cases e <;> simp [esize] at hf
theorem readEs_wEs : (es : List Expr) → ∀ (md : Mode) (f : Nat) (rest : List Tok),
    wfEs ⟨c.nve, c.nf⟩ md es = true → esizes es ≤ f →
    readArgsWith (readE c f md) es.length (wEs o es ++ rest) = .ok (hEs c.cd o c.nv md es, rest)
  | [] => by intro md f rest _ _; simp [readArgsWith, wEs, hEs]
  | e :: es => by
    intro md f rest hwf hf
    simp [wfEs] at hwf
    have ih1 := readE_wE e md f (wEs o es ++ rest) hwf.1 (by simp [esizes] at hf; omega)
    have ih2 := readEs_wEs es md f rest hwf.2 (by simp [esizes] at hf; omega)
    simp [readArgsWith, wEs, hEs, ih1, ih2]
end

end
end MpVerif.C03
