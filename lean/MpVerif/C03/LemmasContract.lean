import MpVerif.C03.ModelSpec
/-! # C03 — the feeder contracts `hdrOk` and `wellFormed` as flat conjunctions; `hdrOk` does not look at the name lengths that
`effHdr` fills in -/
namespace MpVerif.C03

theorem hdrOk_iff (h : Hdr) : hdrOk h = true ↔
    1 ≤ h.nv ∧ h.nopts ≤ 9 ∧ h.opts.length = 9 ∧
    h.nrandv = 0 ∧ h.nrandce = 0 ∧ h.nrandc = 0 ∧ h.nrando = 0 ∧ h.nrandcalls = 0 ∧ h.nstages ≤ 1 ∧
    h.nnlcc ≤ h.ncc ∧ (h.ncc = 0 → h.ncdi = 0 ∧ h.ncnz = 0) ∧ h.arith ≤ 5 ∧ h.nv + h.nce ≤ 2147483647 := by
  simp only [hdrOk, Bool.and_eq_true, decide_eq_true_eq, and_assoc]

theorem wellFormed_iff (m : Model) (o : Opts) : wellFormed m o = true ↔
    hdrOk m.hdr = true ∧ (o.binary = true → m.hdr.arith = 1) ∧ o.colSizes ≤ 2 ∧
    m.funcs.length = m.hdr.nf ∧ funcsOk m.funcs = true ∧
    sufsOk m.hdr o m.sufs = true ∧ sufsOk m.hdr o (plsosSuffixes m) = true ∧
    m.vb.length = m.hdr.nv ∧ m.cb.length = m.hdr.nac ∧ cbOk m.hdr.nv m.cb = true ∧
    initOk m.hdr.nv m.x0 = true ∧ initOk m.hdr.nac m.d0 = true ∧ defVarsOk m.hdr m.dv0 = true ∧
    m.cons.length = m.hdr.nac ∧ aconsOk m.hdr m.cons = true ∧
    m.lcons.length = m.hdr.nlc ∧ lconsOk m.hdr m.lcons = true ∧
    m.objs.length = m.hdr.no ∧ objsOk m.hdr m.objs = true ∧ m.colsz.length + 1 = m.hdr.nv := by
  simp only [wellFormed, Bool.and_eq_true, decide_eq_true_eq, and_assoc]

theorem hdrOk_eff (m : Model) : hdrOk (effHdr m) = hdrOk m.hdr := rfl

end MpVerif.C03
