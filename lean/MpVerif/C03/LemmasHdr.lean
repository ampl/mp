import MpVerif.C03.LemmasContract
import MpVerif.C03.LemmasExpr
/-! # C03 — lemma: the header written by `WriteNLHeader` is rebuilt by `ReadHeader` -/
namespace MpVerif.C03

@[simp] theorem readOptUInt_nat (n : Nat) (ts : List Tok) : readOptUInt (.int (n : Int) :: ts) = (some n, ts) := by
  simp [readOptUInt]

@[simp] theorem readOptUInt_zero (ts : List Tok) : readOptUInt (.int 0 :: ts) = (some 0, ts) := by
  simp [readOptUInt]

@[simp] theorem readOptUInt_cmt (s : String) (ts : List Tok) : readOptUInt (.cmt s :: ts) = (none, .cmt s :: ts) := by
  simp [readOptUInt]

@[simp] theorem skipLine_cmt (s : String) (ts : List Tok) : skipLine (.cmt s :: .eol :: ts) = .ok ts := by
  simp [skipLine]

@[simp] theorem skipLine_vbt (x : Dbl) (s : String) (ts : List Tok) : skipLine (.vbt x :: .cmt s :: .eol :: ts) = .ok ts := by
  simp [skipLine]

theorem readOpts_map (cd : Codec) : ∀ (l : List Int) (n : Nat) (ts : List Tok), l.length = n →
    readOpts cd n (l.map (fun v => Tok.int v) ++ ts) = (l, ts)
  | [], n, ts, hn => by
    subst hn
    simp [readOpts]
  | v :: l, n, ts, hn => by
    subst hn
    have ih := readOpts_map cd l l.length ts rfl
    simp [readOpts, ih]

section
variable (cd : Codec) (o : Opts)

theorem readH1_ok (h : Hdr) (rest : List Tok) (hnopts : h.nopts ≤ 9) (hlen : h.opts.length = 9) :
    readH1 cd (wH1 h o ++ rest) =
      .ok ({ hdr0 with format := if o.binary then 1 else 0, nopts := h.nopts,
                       opts := h.opts.take h.nopts ++ hdr0.opts.drop (h.opts.take h.nopts).length,
                       vbtol := if (h.opts.take h.nopts ++ hdr0.opts.drop (h.opts.take h.nopts).length)[1]? = some (3 : Int) ∧
                                   h.opts[1]? = some (3 : Int) then cd.vb h.vbtol else Dbl.zero }, rest) := by
  have hl : (h.opts.take h.nopts).length = h.nopts := by simp [List.length_take]; omega
  have hgt : ¬ h.nopts > 9 := by omega
  generalize hol : h.opts.take h.nopts = ol at hl ⊢
  have hr := fun ts => readOpts_map cd ol h.nopts ts hl
  by_cases hA : h.opts[1]? = some (3 : Int) <;>
    by_cases hB : (ol ++ List.drop ol.length [(1 : Int), 1, 0, 0, 0, 0, 0, 0, 0])[1]? = some (3 : Int) <;>
    simp [readH1, wH1, hol, hA, hB, hgt, hr, hdr0]

theorem readH2_ok (h0 h : Hdr) (rest : List Tok) (hrv : h.nrandv = 0) :
    readH2 h0 (wH2 h ++ rest) =
      .ok ({ h0 with nv := h.nv, nac := h.nac, no := h.no, nr := h.nr, ne := h.ne, nlc := h.nlc }, rest) := by
  by_cases hc : h.nlc = 0 <;> simp [readH2, readUInts, wH2, hrv, hc]

theorem readH3_ok (h0 h : Hdr) (rest : List Tok) (hrc : h.nrandc = 0) (hro : h.nrando = 0) (hle : h.nnlcc ≤ h.ncc)
    (hz : h.ncc = 0 → h.ncdi = 0 ∧ h.ncnz = 0) :
    readH3 h0 (wH3 h ++ rest) =
      .ok ({ h0 with nnlc := h.nnlc, nnlo := h.nnlo, ncc := h.ncc, nnlcc := h.nnlcc, ncdi := h.ncdi, ncnz := h.ncnz }, rest) := by
  by_cases hc : h.ncc = 0
  · have h1 : h.nnlcc = 0 := by omega
    obtain ⟨h2, h3⟩ := hz hc
    simp [readH3, readUInts, wH3, hrc, hro, hc, h1, h2, h3]
  · have e : ((h.ncc : Int) - (h.nnlcc : Int)) = ((h.ncc - h.nnlcc : Nat) : Int) := by omega
    simp only [readH3, readUInts, wH3, hrc, hro, hc, ne_eq, not_false_eq_true, or_false, if_true, not_true_eq_false, if_false,
      List.append_nil, List.cons_append, List.nil_append, e, readUInt_nat, readOptUInt_nat, Option.isSome_some,
      and_self, skipLine_cmt, Option.getD_some]
    have : h.ncc - h.nnlcc + h.nnlcc = h.ncc := by omega
    simp [this]

theorem readH4_ok (h0 h : Hdr) (rest : List Tok) (hst : h.nstages ≤ 1) :
    readH4 h0 (wH4 h ++ rest) = .ok ({ h0 with nnnc := h.nnnc, nlnc := h.nlnc }, rest) := by
  have : ¬ h.nstages > 1 := by omega
  simp [readH4, readUInts, wH4, this]

theorem readH5_ok (h0 h : Hdr) (rest : List Tok) :
    readH5 h0 (wH5 h ++ rest) = .ok (({ h0 with nlvc := h.nlvc, nlvo := h.nlvo, nlvb := h.nlvb }, true), rest) := by
  simp [readH5, readUInts, wH5]

theorem readH6_ok (h0 h : Hdr) (rest : List Tok) (hrv : h.nrandv = 0) (har : h.arith ≤ 5) :
    readH6 h0 (wH6 h o ++ rest) =
      .ok ({ h0 with nlnv := h.nlnv, nf := h.nf,
                     arith := if h.flags ≠ 0 ∨ h.arith ≠ 0 then (if o.binary then h.arith else 0) else h0.arith,
                     flags := if h.flags ≠ 0 ∨ h.arith ≠ 0 then h.flags else h0.flags }, rest) := by
  by_cases he : h.flags ≠ 0 ∨ h.arith ≠ 0
  · cases hb : o.binary with
    | true =>
      have : ¬ h.arith > 5 := by omega
      simp [readH6, readUInts, wH6, hrv, he, hb, this]
    | false => simp [readH6, readUInts, wH6, hrv, he, hb]
  · simp [readH6, readUInts, wH6, hrv, he]

theorem readH7_ok (h0 h : Hdr) (rest : List Tok) :
    readH7 h0 true (wH7 h ++ rest) =
      .ok ({ h0 with nlbv := h.nlbv, nliv := h.nliv, nnlib := h.nnlib, nnlic := h.nnlic, nnlio := h.nnlio }, rest) := by
  simp [readH7, readUInts, wH7]

theorem readH8_ok (h0 h : Hdr) (rest : List Tok) :
    readH8 h0 (wH8 h ++ rest) = .ok ({ h0 with nzc := h.nzc, nzo := h.nzo }, rest) := by
  simp [readH8, readUInts, wH8]

theorem readH9_ok (h0 h : Hdr) (rest : List Tok) :
    readH9 h0 (wH9 h ++ rest) = .ok ({ h0 with mcl := h.mcl, mvl := h.mvl }, rest) := by
  simp [readH9, readUInts, wH9]

theorem readH10_ok (h0 h : Hdr) (rest : List Tok) (hrce : h.nrandce = 0)
    (hsum : h0.nv + h.ceb + h.cec + h.ceo + h.cesc + h.ceso ≤ 2147483647) :
    readH10 h0 (wH10 h ++ rest) =
      .ok ({ h0 with ceb := h.ceb, cec := h.cec, ceo := h.ceo, cesc := h.cesc, ceso := h.ceso }, rest) := by
  have : ¬ (h0.nv + h.ceb + h.cec + h.ceo + h.cesc + h.ceso > 2147483647) := by omega
  simp [readH10, readUInts, wH10, hrce, this]

theorem readHeader_wHeader (h : Hdr) (rest : List Tok) (hok : hdrOk h = true) :
    readHeader cd (wHeader h o ++ rest) = .ok (readBackHdr cd h o, rest) := by
  obtain ⟨hnv, hnopts, hlen, hrv, hrce, hrc, hro, hrcalls, hst, hcc, hcc0, har, hsum⟩ := (hdrOk_iff h).1 hok
  unfold readHeader wHeader
  simp only [List.append_assoc]
  -- `readHeader` binds the result of each line in a `match`: rewrite line k, let `simp only []` reduce the `match` on `.ok`,
  -- and line k+1 stands in front
  rw [readH1_ok cd o h _ hnopts hlen]
  simp only []
  rw [readH2_ok _ h _ hrv]
  simp only []
  rw [readH3_ok _ h _ hrc hro hcc hcc0]
  simp only []
  rw [readH4_ok _ h _ hst]
  simp only []
  rw [readH5_ok]
  simp only []
  rw [readH6_ok o _ h _ hrv har]
  simp only []
  rw [readH7_ok]
  simp only []
  rw [readH8_ok]
  simp only []
  rw [readH9_ok]
  simp only []
  rw [readH10_ok _ h _ hrce (by simp [Hdr.nce] at hsum ⊢; omega)]
  congr 1
  cases h
  simp [readBackHdr, hdr0] at *

end
end MpVerif.C03
