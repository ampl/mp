import MpVerif.Gen.C03Writer
import MpVerif.C03.GenIRRead
/-! # C03 — the hand model equals what the translator extracts from the source: the header lines, the bounds decision tree,
the reader's bound switch and the column-size loops -/
namespace MpVerif.C03
open MpVerif.Gen.C03Writer

theorem toksL_append (h : Hdr) (o : Opts) (a b : List HStmt) :
    HStmt.toksL h o (a ++ b) = HStmt.toksL h o a ++ HStmt.toksL h o b := by
  induction a with
  | nil => simp [HStmt.toksL]
  | cons s r ih => simp [HStmt.toksL, ih]

/-- One term, so that the string comparisons that decide a name are elaborated once for all conjuncts; as `simp` lemmas
    they resolve a name without unfolding `Hdr.field`. -/
@[simp] theorem Hdr.field_known (h : Hdr) :
    h.field "num_ampl_options" = h.nopts ∧ h.field "num_vars" = h.nv ∧ h.field "num_algebraic_cons" = h.nac ∧
    h.field "num_objs" = h.no ∧ h.field "num_ranges" = h.nr ∧ h.field "num_eqns" = h.ne ∧
    h.field "num_logical_cons" = h.nlc ∧ h.field "num_rand_vars" = h.nrandv ∧
    h.field "num_rand_common_exprs" = h.nrandce ∧ h.field "num_rand_cons" = h.nrandc ∧
    h.field "num_rand_objs" = h.nrando ∧ h.field "num_rand_calls" = h.nrandcalls ∧
    h.field "num_stages" = h.nstages ∧ h.field "num_nl_cons" = h.nnlc ∧ h.field "num_nl_objs" = h.nnlo ∧
    h.field "num_compl_conds" = h.ncc ∧ h.field "num_nl_compl_conds" = h.nnlcc ∧
    h.field "num_compl_dbl_ineqs" = h.ncdi ∧ h.field "num_compl_vars_with_nz_lb" = h.ncnz ∧
    h.field "num_nl_net_cons" = h.nnnc ∧ h.field "num_linear_net_cons" = h.nlnc ∧
    h.field "num_nl_vars_in_cons" = h.nlvc ∧ h.field "num_nl_vars_in_objs" = h.nlvo ∧
    h.field "num_nl_vars_in_both" = h.nlvb ∧ h.field "num_linear_net_vars" = h.nlnv ∧
    h.field "num_funcs" = h.nf ∧ h.field "arith_kind" = h.arith ∧ h.field "flags" = h.flags ∧
    h.field "num_linear_binary_vars" = h.nlbv ∧ h.field "num_linear_integer_vars" = h.nliv ∧
    h.field "num_nl_integer_vars_in_both" = h.nnlib ∧ h.field "num_nl_integer_vars_in_cons" = h.nnlic ∧
    h.field "num_nl_integer_vars_in_objs" = h.nnlio ∧ h.field "num_con_nonzeros" = h.nzc ∧
    h.field "num_obj_nonzeros" = h.nzo ∧ h.field "max_con_name_len" = h.mcl ∧
    h.field "max_var_name_len" = h.mvl ∧ h.field "num_common_exprs_in_both" = h.ceb ∧
    h.field "num_common_exprs_in_cons" = h.cec ∧ h.field "num_common_exprs_in_objs" = h.ceo ∧
    h.field "num_common_exprs_in_single_cons" = h.cesc ∧ h.field "num_common_exprs_in_single_objs" = h.ceso :=
  ⟨rfl, rfl, rfl, rfl, rfl, rfl, rfl, rfl, rfl, rfl, rfl, rfl, rfl, rfl, rfl, rfl, rfl, rfl, rfl, rfl, rfl, rfl, rfl, rfl, rfl, rfl, rfl, rfl, rfl, rfl, rfl, rfl, rfl, rfl, rfl, rfl, rfl, rfl, rfl, rfl, rfl, rfl⟩

section
variable (h : Hdr) (o : Opts)

theorem HExpr.eval_sub (a b : HExpr) : (HExpr.bin "-" a b).eval h o = a.eval h o - b.eval h o := rfl

/-! `|`, `>` and `==` only occur as conditions -/
theorem HExpr.eval_or (a b : HExpr) : (HExpr.bin "|" a b).eval h o ≠ 0 ↔ a.eval h o ≠ 0 ∨ b.eval h o ≠ 0 := by
  simp [HExpr.eval]
  omega
theorem HExpr.eval_gt (a b : HExpr) : (HExpr.bin ">" a b).eval h o ≠ 0 ↔ a.eval h o > b.eval h o := by
  simp [HExpr.eval]
theorem HExpr.eval_eq (a b : HExpr) : (HExpr.bin "==" a b).eval h o ≠ 0 ↔ a.eval h o = b.eval h o := by
  simp [HExpr.eval]

theorem HStmt.toks_printf_cond (c : HExpr) (a b : HFmt) (args : List HExpr) :
    HStmt.toks h o (.printf (.cond c a b) args) =
      if c.eval h o ≠ 0 then HStmt.toks h o (.printf a args) else HStmt.toks h o (.printf b args) := by
  simp only [HStmt.toks, HFmt.eval]; split <;> rfl

theorem opt1_iff : ((h.opts[1]?).getD 0 = 3) ↔ h.opts[1]? = some (3 : Int) := by
  cases h.opts[1]? <;> simp

/- Each header line is evaluated by `simp` with the equations of the evaluators; the lemmas above take precedence (`↓`) over
   unfolding `HExpr.eval` on an operator and `HStmt.toks` on a format selection.  What is left is an `if` whose branches
   are the same lists up to where `++` sits. -/
attribute [local simp] HStmt.toksL HStmt.toks HFmt.eval HExpr.eval hdrPrintf
attribute [local simp ↓] HExpr.eval_sub HExpr.eval_or HExpr.eval_gt HExpr.eval_eq HStmt.toks_printf_cond

theorem gen_hdr1 : HStmt.toksL h o hdrLine1 = wH1 h o := by
  simp [hdrLine1, wH1, fmt_gl_1__short, fmt_gl_1a, ← List.map_eq_flatMap, opt1_iff]

theorem gen_hdr2 : HStmt.toksL h o hdrLine2 = wH2 h := by
  simp [hdrLine2, wH2, fmt_gl_2a, fmt_gl_2]

theorem gen_hdr3 : HStmt.toksL h o hdrLine3 = wH3 h := by
  simp [hdrLine3, wH3, fmt_gl_3, fmt_gl_3c, or_assoc]
  split <;> rfl

theorem gen_hdr4 : HStmt.toksL h o hdrLine4 = wH4 h := by
  have e : (1 : Int) < h.nstages ↔ 1 < h.nstages := by omega
  simp [hdrLine4, wH4, fmt_gl_4, fmt_gl_4r, e]
  split <;> rfl

theorem gen_hdr5 : HStmt.toksL h o hdrLine5 = wH5 h := by
  simp [hdrLine5, wH5, fmt_gl_5]

theorem gen_hdr6 : HStmt.toksL h o hdrLine6 = wH6 h o := by
  cases hb : o.binary <;> simp [hdrLine6, wH6, fmt_gl_6, fmt_gl_6x, fmt_gl_6y, hb] <;>
    (split
     · split <;> rfl  -- `nrandv = 0`: the second test, on `flags` and `arith`
     · rfl)

theorem gen_hdr7 : HStmt.toksL h o hdrLine7 = wH7 h := by
  simp [hdrLine7, wH7, fmt_gl_7]

theorem gen_hdr8 : HStmt.toksL h o hdrLine8 = wH8 h := by
  simp [hdrLine8, wH8, fmt_gl_8]

theorem gen_hdr9 : HStmt.toksL h o hdrLine9 = wH9 h := by
  simp [hdrLine9, wH9, fmt_gl_9]

theorem gen_hdr10 : HStmt.toksL h o hdrLine10 = wH10 h := by
  simp [hdrLine10, wH10, fmt_gl_10]

end

/-- the statements of `WriteNLHeader`, as extracted from the source -/
def genHeader : List HStmt :=
  hdrLine1 ++ (hdrLine2 ++ (hdrLine3 ++ (hdrLine4 ++ (hdrLine5 ++ (hdrLine6 ++ (hdrLine7 ++ (hdrLine8 ++ (hdrLine9 ++ hdrLine10))))))))

theorem gen_header (h : Hdr) (o : Opts) : HStmt.toksL h o genHeader = wHeader h o := by
  simp only [genHeader, toksL_append, gen_hdr1, gen_hdr2, gen_hdr3, gen_hdr4, gen_hdr5, gen_hdr6, gen_hdr7, gen_hdr8, gen_hdr9,
    gen_hdr10, wHeader]

theorem gen_bounds (L U : Dbl) (k cvar : Nat) : bndTree.eval L U k cvar = wBnd L U k cvar := by
  simp [bndTree, BndTree.eval, bndToks, wBnd]

/-- the model's `ReadBounds` is the table-driven one with the table extracted from nl-reader.h -/
theorem gen_readBndItems (cd : Codec) (h : Hdr) (isCon : Bool) :
    ∀ (n i : Nat) (ts : List Tok), readBndItems cd h isCon i n ts = readBndItemsG cd h isCon readBoundsTable i n ts := by
  intro n
  induction n with
  | zero => intro i ts; simp [readBndItems, readBndItemsG]
  | succ n ih =>
    intro i ts
    rcases ts with _ | ⟨t, r⟩
    · simp [readBndItems, readBndItemsG]
    cases t with
    | bt c =>
      rcases c with _ | _ | _ | _ | _ | _ | c <;>
        simp only [readBndItems, readBndItemsG, readBoundsTable, List.getElem?_cons_succ, List.getElem?_cons_zero,
          List.getElem?_nil, readBndSrc, ih]
      all_goals rfl
    | _ => simp [readBndItems, readBndItemsG]

/-- the model's column-size reader is the one driven by the statements extracted from `ReadColumnSizes` -/
theorem gen_readColItems (cum : Bool) : ∀ (n prev : Nat) (ts : List Tok),
    readColItems cum prev n ts = readColItemsG colCumStmts cum prev n ts := by
  intro n
  induction n with
  | zero => intro prev ts; simp [readColItems, readColItemsG]
  | succ n ih =>
    intro prev ts
    simp only [readColItems, readColItemsG]
    cases hr : readUInt ts with
    | error e => rfl
    | ok p =>
      obtain ⟨s, ts1⟩ := p
      simp only
      cases cum with
      | false =>
        simp only [Bool.false_eq_true, false_and, if_false, ih]
        rfl
      | true =>
        by_cases hlt : s < prev
        · simp [colCumStmts, CStmt.run, hlt]
        · have e : prev + (s - prev) = s := by omega
          simp only [colCumStmts, CStmt.run, hlt, true_and, if_true, if_false, e, ih]
          rfl

/-- the model's column-size writers are `ColSizeWriter::Write` as extracted (kind 1 accumulates and prints the sum, kind 2 prints the size) -/
theorem gen_wColItemsCum : ∀ (l : List Nat) (acc : Nat), wColItemsCum acc l = wColItemsG colWriteCases 1 acc l
  | [], acc => by simp [wColItemsCum, wColItemsG]
  | s :: r, acc => by simp [wColItemsCum, wColItemsG, colWriteCases, gen_wColItemsCum r]

theorem gen_wColItemsPlain : ∀ (l : List Nat) (acc : Nat), wColItemsPlain l = wColItemsG colWriteCases 2 acc l
  | [], acc => by simp [wColItemsPlain, wColItemsG]
  | s :: r, acc => by
    have h := gen_wColItemsPlain r acc
    simp only [colWriteCases] at h
    simp [wColItemsPlain, wColItemsG, colWriteCases, ← h]

end MpVerif.C03
