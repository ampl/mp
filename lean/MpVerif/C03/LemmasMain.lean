import MpVerif.C03.LemmasHdr
import MpVerif.C03.LemmasSeg2
/-! # C03 — composition: `readTokens (writeNL m o) = events m o`, and the same for the two passes of `READ_BOUNDS_FIRST` -/
namespace MpVerif.C03

theorem sameCounts_readBack (cd : Codec) (m : Model) (o : Opts) : SameCounts m.hdr (readBackHdr cd (effHdr m) o) := by
  constructor <;> simp [readBackHdr, effHdr, Hdr.nce]

theorem writeNL_split (m : Model) (o : Opts) :
    writeNL m o = wHeader (effHdr m) o ++ (wPre m o ++ (wVarBounds m o ++ wPost m o)) := by
  cases hb : o.boundsFirst <;> simp [writeNL, wPre, wPost, hb, List.append_assoc]

theorem evBody_split (cd : Codec) (m : Model) (o : Opts) :
    evBody cd m o = evPre cd m o ++ (evVarBnds cd 0 m.vb ++ (evPost cd m o ++ [Ev.endInput])) := by
  cases hb : o.boundsFirst <;> simp [evBody, evPre, evPost, hb, List.append_assoc]

theorem reads_pre_post (cd : Codec) (m : Model) (o : Opts) (hwf : wellFormed m o = true) :
    (∃ n, Reads cd (readBackHdr cd (effHdr m) o) n true true (wPre m o) (evPre cd m o)) ∧
    (∃ n, Reads cd (readBackHdr cd (effHdr m) o) n false false (wPost m o) (evPost cd m o)) ∧
    (∀ rest, readBndItems cd (readBackHdr cd (effHdr m) o) false 0 (readBackHdr cd (effHdr m) o).nv (wVarBndItems m.vb ++ rest) =
      .ok (evVarBnds cd 0 m.vb, rest)) ∧
    Reads cd (readBackHdr cd (effHdr m) o) 1 true false (wVarBounds m o) (evVarBnds cd 0 m.vb) := by
  have sc := sameCounts_readBack cd m o
  obtain ⟨hh, hbin, hcs, hfl, hfo, hsu, hpl, hvbl, hcbl, hcbo, hx0, hd0, hdv0, hacl, haco, hlcl, hlco, hobl, hobo, hcsl⟩ :=
    (wellFormed_iff m o).1 hwf
  obtain ⟨-, -, -, hrv, -⟩ := (hdrOk_iff m.hdr).1 hh
  obtain ⟨h', hh'eq⟩ : ∃ h', h' = readBackHdr cd (effHdr m) o := ⟨_, rfl⟩
  rw [← hh'eq] at sc ⊢
  have hvbl' : m.vb.length = h'.nv := by rw [sc.nv]; exact hvbl
  -- each section for either value of `read_bounds`: the chunk before `b` is read with `true`, the chunk after it with `false`
  have rF := fun nb => reads_functions cd h' m.funcs 0 nb hfo (by rw [sc.nf, hfl]; omega)
  have rS := fun nb => reads_suffixes cd o sc m.sufs nb hsu
  have rP := fun nb => reads_suffixes cd o sc (plsosSuffixes m) nb hpl
  have rX := fun nb => reads_init cd o h' .segx "initial guess" h'.nv Ev.x0 nb (fun ts => by simp [readSeg]) (by simp) m.x0
    (by rw [sc.nv]; exact hx0)
  have rD := fun nb => reads_init cd o h' .segd "initial dual guess" h'.nac Ev.d0 nb (fun ts => by simp [readSeg]) (by simp) m.d0
    (by rw [sc.nac]; exact hd0)
  have rCB := fun nb => reads_conBounds cd o sc m nb hcbl hcbo
  have rE := fun nb => Reads.append (reads_defVars cd o sc 0 m.dv0 nb hdv0)
    (Reads.append (reads_acons cd o sc m.cons 0 nb haco (by omega))
      (Reads.append (reads_lcons cd o sc m.hdr.nac m.lcons 0 nb hlco (by omega))
        (reads_objs cd o sc (m.hdr.nac + m.hdr.nlc) m.objs 0 nb hobo (by omega))))
  have rT := Reads.append (reads_colSizes cd o sc m false rfl hrv hcsl)
    (Reads.append (reads_J cd sc m.cons 0 false haco (by omega)) (reads_G cd sc m.objs 0 false hobo (by omega)))
  refine ⟨?_, ?_, fun rest => hvbl' ▸ readBnd_vars cd h' m.vb 0 rest, reads_varBounds cd o h' m hvbl'⟩
  · unfold wPre evPre
    cases o.boundsFirst with
    | true => exact ⟨_, (rF true).append ((rS true).append ((rP true).append (Reads.nil cd h' true)))⟩
    | false =>
      exact ⟨_, by simpa only [List.append_assoc, Bool.false_eq_true, if_false] using (rF true).append ((rS true).append ((rP true).append
        ((rE true).append ((rD true).append ((rX true).append (rCB true))))))⟩
  · unfold wPost evPost
    cases o.boundsFirst with
    | true => exact ⟨_, (((rX false).append ((rCB false).append (rD false))).append (rE false)).append rT⟩
    | false => exact ⟨_, (Reads.nil cd h' false).append rT⟩

theorem readHeader_writeNL (cd : Codec) (m : Model) (o : Opts) (hwf : wellFormed m o = true) :
    readHeader cd (writeNL m o) = .ok (readBackHdr cd (effHdr m) o, wPre m o ++ (wVarBounds m o ++ wPost m o)) ∧
    ¬ ((readBackHdr cd (effHdr m) o).format = 1 ∧ (readBackHdr cd (effHdr m) o).arith ≠ 1) := by
  obtain ⟨hh, hbin, -⟩ := (wellFormed_iff m o).1 hwf
  refine ⟨writeNL_split m o ▸ readHeader_wHeader cd o (effHdr m) _ ((hdrOk_eff m).trans hh), ?_⟩
  cases hb : o.binary with
  | false => simp [readBackHdr, hb]
  | true =>
    have := hbin hb
    simp [readBackHdr, effHdr, hb, this]

theorem roundtrip (cd : Codec) (m : Model) (o : Opts) (hwf : wellFormed m o = true) :
    readTokens cd (writeNL m o) = .ok (events cd m o) := by
  obtain ⟨⟨_, hpre⟩, ⟨_, hpost⟩, _, hvb⟩ := reads_pre_post cd m o hwf
  obtain ⟨e1, hfa⟩ := readHeader_writeNL cd m o hwf
  have hlen := congrArg List.length (writeNL_split m o)
  -- the end of the input needs one unit of fuel, `Reads` adds the length of the body; `readTokens` runs with `|file| + 1`
  have hrun := (hpre.append (hvb.append hpost)).segs (f := 1) (F := (writeNL m o).length + 1) (rest := []) (r := [Ev.endInput])
    (by simp [readSegs]) (by simp at hlen ⊢; omega)
  simp only [List.append_nil] at hrun
  unfold readTokens
  rw [e1]
  simp only [hfa, if_false]
  rw [hrun]
  simp [events, evBody_split]

/-- **`READ_BOUNDS_FIRST`**: the two-pass reader on the writer's output delivers the header, then the variable bounds, then
    everything else in file order -/
theorem roundtrip_bounds_first (cd : Codec) (m : Model) (o : Opts) (hwf : wellFormed m o = true) :
    readTokensBF cd (writeNL m o) = .ok (eventsBF cd m o) := by
  obtain ⟨⟨n1, hpre⟩, ⟨n2, hpost⟩, hvb, _⟩ := reads_pre_post cd m o hwf
  obtain ⟨e1, hfa⟩ := readHeader_writeNL cd m o hwf
  generalize hH : readBackHdr cd (effHdr m) o = H at *
  have hlen := congrArg List.length (writeNL_split m o)
  simp only [List.length_append] at hlen
  have hvbpos : 1 ≤ (wVarBounds m o).length := by simp [wVarBounds]
  -- first pass: at `b` it delivers the variable bounds and stops (`hbase1`); before that it steps over `wPre` silently
  have hbase1 : readUntilB cd H 1 (wVarBounds m o ++ wPost m o) = .ok (evVarBnds cd 0 m.vb, wPost m o) := by
    simp [wVarBounds, readUntilB, hvb]
  have hm1 := hpre.untilB hbase1 (F := (writeNL m o).length + 1) (by omega)
  -- second pass, put together from the end of the input backwards: `wPost`, the jump over `b` to what follows it, `wPre`
  have hbase2 : readSkipB cd H 1 none [] = .ok [Ev.endInput] := by simp [readSkipB]
  have hk2 := hpost.skipB hbase2 (Nat.le_refl _)
  simp only [List.append_nil] at hk2
  have hb2 : readSkipB cd H (1 + (wPost m o).length + 1) (some (wPost m o)) (wVarBounds m o ++ wPost m o) =
      .ok (evPost cd m o ++ [Ev.endInput]) := by
    simp [wVarBounds, readSkipB, hk2]
  have hm3 := hpre.skipB hb2 (F := (writeNL m o).length + 2) (by omega)
  unfold readTokensBF
  rw [e1]
  simp only [hfa, if_false]
  rw [hm1]
  simp only []
  rw [hm3]
  simp [eventsBF, hH]

end MpVerif.C03
