import MpVerif.C03.LemmasIntended
import MpVerif.C03.LemmasIntText
import MpVerif.C03.LemmasMain
/-!
# C03 — `events` depends on the codec only at the numbers the model contains

`AllNums P m`: every double fed with `m` (bounds, coefficients, suffix values, initial values, constants, PL slopes/breakpoints)
satisfies `P`; vbtol, which goes through `cd.vb`, is not among them.  If two codecs agree on all doubles satisfying `P` and on
vbtol, they give the same `events` for such a model.
Used at the end (`roundtrip_int_text`) to instantiate the codec with the *proved* integer text path (LemmasIntText.lean) for
integer-data models.
-/
namespace MpVerif.C03

variable (P : Dbl → Prop)

def allSparse : List (Nat × Dbl) → Prop
  | [] => True
  | (_, x) :: r => P x ∧ allSparse r

mutual
def allE : Expr → Prop
  | .num x => P x
  | .var _ _ => True
  | .str _ => True
  | .call _ _ args => allEs args
  | .op1 _ _ a => allE a
  | .op2 _ _ a b => allE a ∧ allE b
  | .op3 _ _ a b c => allE a ∧ allE b ∧ allE c
  | .opN _ _ args => allEs args
def allEs : List Expr → Prop
  | [] => True
  | e :: r => allE e ∧ allEs r
end

def allSuf (s : Suffix) : Prop := match s.vals with | .ints _ => True | .dbls l => allSparse P l
def allSufs : List Suffix → Prop
  | [] => True
  | s :: r => allSuf P s ∧ allSufs r
def allVB : List (Dbl × Dbl) → Prop
  | [] => True
  | (a, b) :: r => P a ∧ P b ∧ allVB r
def allCB : List ConBnd → Prop
  | [] => True
  | b :: r => P b.L ∧ P b.U ∧ allCB r
def allInit : Option (List (Nat × Dbl)) → Prop
  | none => True
  | some l => allSparse P l
def allDVs : List DefVar → Prop
  | [] => True
  | d :: r => allSparse P d.lin ∧ allE P d.e ∧ allDVs r
def allCons : List (List DefVar × Con) → Prop
  | [] => True
  | (dvs, c) :: r => allDVs P dvs ∧ allSparse P c.lin ∧ allE P c.e ∧ allCons r
def allObjs : List (List DefVar × Obj) → Prop
  | [] => True
  | (dvs, c) :: r => allDVs P dvs ∧ allSparse P c.lin ∧ allE P c.e ∧ allObjs r

/-- every double of the model that goes through `cd.rd` (all but vbtol) satisfies `P` -/
def AllNums (m : Model) : Prop :=
  allSufs P m.sufs ∧ allSparse P m.sosref ∧ allVB P m.vb ∧ allCB P m.cb ∧ allInit P m.x0 ∧ allInit P m.d0 ∧
  allDVs P m.dv0 ∧ allCons P m.cons ∧ allCons P m.lcons ∧ allObjs P m.objs

section
variable {P} {cd cd' : Codec} (hrd : ∀ x, P x → cd.rd x = cd'.rd x) (o : Opts) (nv : Nat)
include hrd

theorem numVal_congr (x : Dbl) (hx : P x) : numVal cd o x = numVal cd' o x := by
  unfold numVal
  split
  · split
    · split <;> simp [hrd x hx]
    · exact hrd x hx
  · exact hrd x hx

theorem plVals_congr : ∀ l : List Expr, allEs P l → plVals cd o l = plVals cd' o l
  | [], _ => rfl
  | e :: r, h => by
    have ih := plVals_congr r h.2
    cases e with
    | num x => simp [plVals, numVal_congr hrd o x h.1, ih]
    | _ => simpa [plVals] using ih

omit hrd in
theorem allEs_dropLast : ∀ l : List Expr, allEs P l → allEs P l.dropLast
  | [], _ => by simp [allEs]
  | [_], _ => by simp [allEs]
  | a :: b :: r, h => by
    have := allEs_dropLast (b :: r) h.2
    simp only [List.dropLast_cons_cons] at this ⊢
    exact ⟨h.1, this⟩

mutual
theorem hE_congr : (e : Expr) → allE P e → ∀ md, hE cd o nv md e = hE cd' o nv md e
  | .num x, h => by intro md; simp [hE, numVal_congr hrd o x h]
  | .var _ _, _ => by intro md; simp [hE]
  | .str _, _ => by intro md; simp [hE]
  | .call f d args, h => by intro md; simp [hE, hEs_congr args h .sym]
  | .op1 oc d a, h => by intro md; simp only [hE, hE_congr a h]
  | .op2 oc d a b, h => by intro md; simp only [hE, hE_congr a h.1, hE_congr b h.2]
  | .op3 oc d a b c, h => by intro md; simp only [hE, hE_congr a h.1, hE_congr b h.2.1, hE_congr c h.2.2]
  | .opN oc d args, h => by
    intro md; simp only [hE, hEs_congr args h, plVals_congr hrd o args.dropLast (allEs_dropLast args h)]
theorem hEs_congr : (es : List Expr) → allEs P es → ∀ md, hEs cd o nv md es = hEs cd' o nv md es
  | [], _ => by intro md; simp [hEs]
  | e :: r, h => by intro md; simp [hEs, hE_congr e h.1 md, hEs_congr r h.2 md]
end

theorem hTop_congr (e : Expr) (h : allE P e) : hTop cd o nv e = hTop cd' o nv e := by
  cases e with
  | num x => simp [hTop, numVal_congr hrd o x h]
  | _ => exact hE_congr hrd o nv _ h .num

theorem evSparseD_congr (mk : Nat → Dbl → Ev) : ∀ l, allSparse P l → evSparseD cd mk l = evSparseD cd' mk l
  | [], _ => rfl
  | (i, x) :: r, h => by simp [evSparseD, hrd x h.1, evSparseD_congr mk r h.2]

theorem evSuffixes_congr : ∀ l, allSufs P l → evSuffixes cd l = evSuffixes cd' l
  | [], _ => rfl
  | s :: r, h => by
    have ih := evSuffixes_congr r h.2
    have h1 := h.1
    unfold allSuf at h1
    simp only [evSuffixes, ih]
    congr 1
    unfold evSuffix
    cases hv : s.vals with
    | ints l => rfl
    | dbls l =>
      rw [hv] at h1
      simp [evSparseD_congr hrd Ev.svalD l h1]

theorem evBnd_congr (isCon : Bool) (i : Nat) (L U : Dbl) (k c : Nat) (hL : P L) (hU : P U) :
    evBnd cd isCon i L U k c = evBnd cd' isCon i L U k c := by
  simp [evBnd, hrd L hL, hrd U hU]

theorem evVarBnds_congr : ∀ l i, allVB P l → evVarBnds cd i l = evVarBnds cd' i l
  | [], _, _ => rfl
  | (a, b) :: r, i, h => by simp [evVarBnds, evBnd_congr hrd false i a b 0 0 h.1 h.2.1, evVarBnds_congr r (i + 1) h.2.2]

theorem evConBnds_congr : ∀ l i, allCB P l → evConBnds cd i l = evConBnds cd' i l
  | [], _, _ => rfl
  | b :: r, i, h => by simp [evConBnds, evBnd_congr hrd true i b.L b.U b.k b.cvar h.1 h.2.1, evConBnds_congr r (i + 1) h.2.2]

theorem evInit_congr (mk : Nat → Dbl → Ev) (x : Option (List (Nat × Dbl))) (h : allInit P x) : evInit cd mk x = evInit cd' mk x := by
  cases x with
  | none => rfl
  | some l => exact evSparseD_congr hrd mk l h

theorem evDefVars_congr (pos : Nat) : ∀ l, allDVs P l → evDefVars cd o nv pos l = evDefVars cd' o nv pos l
  | [], _ => rfl
  | d :: r, h => by
    simp [evDefVars, evDefVar, evSparseD_congr hrd Ev.cterm d.lin h.1, hE_congr hrd o nv d.e h.2.1 .num, evDefVars_congr pos r h.2.2]

theorem evACons_congr : ∀ l i, allCons P l → evACons cd o nv i l = evACons cd' o nv i l
  | [], _, _ => rfl
  | (dvs, c) :: r, i, h => by
    simp [evACons, evDefVars_congr hrd o nv (i + 1) dvs h.1, hTop_congr hrd o nv c.e h.2.2.1, evACons_congr r (i + 1) h.2.2.2]

theorem evLCons_congr (nac : Nat) : ∀ l j, allCons P l → evLCons cd o nv nac j l = evLCons cd' o nv nac j l
  | [], _, _ => rfl
  | (dvs, c) :: r, j, h => by
    simp [evLCons, evDefVars_congr hrd o nv (nac + j + 1) dvs h.1, hE_congr hrd o nv c.e h.2.2.1 .log, evLCons_congr nac r (j + 1) h.2.2.2]

theorem evObjs_congr (ncon : Nat) : ∀ l i, allObjs P l → evObjs cd o nv ncon i l = evObjs cd' o nv ncon i l
  | [], _, _ => rfl
  | (dvs, c) :: r, i, h => by
    simp [evObjs, evDefVars_congr hrd o nv (ncon + i + 1) dvs h.1, hTop_congr hrd o nv c.e h.2.2.1, evObjs_congr ncon r (i + 1) h.2.2.2]

theorem evJ_congr : ∀ l i, allCons P l → evJ cd i l = evJ cd' i l
  | [], _, _ => rfl
  | (dvs, c) :: r, i, h => by
    simp [evJ, evLin, evSparseD_congr hrd Ev.jterm c.lin h.2.1, evJ_congr r (i + 1) h.2.2.2]

theorem evG_congr : ∀ l i, allObjs P l → evG cd i l = evG cd' i l
  | [], _, _ => rfl
  | (dvs, c) :: r, i, h => by
    simp [evG, evLin, evSparseD_congr hrd Ev.gterm c.lin h.2.1, evG_congr r (i + 1) h.2.2.2]

end

/-- two codecs that agree on every double of the model (and on its vbtol) give the same notifications -/
theorem events_congr {P : Dbl → Prop} {cd cd' : Codec} (hrd : ∀ x, P x → cd.rd x = cd'.rd x)
    (m : Model) (o : Opts) (hvb : cd.vb m.hdr.vbtol = cd'.vb m.hdr.vbtol) (h : AllNums P m) : events cd m o = events cd' m o := by
  obtain ⟨h1, h2, h3, h4, h5, h6, h7, h8, h9, h10⟩ := h
  have hp : allSufs P (plsosSuffixes m) := by simp [plsosSuffixes, allSufs, allSuf, h2]
  have hvb' : cd.vb (effHdr m).vbtol = cd'.vb (effHdr m).vbtol := hvb
  simp only [events, evBody, readBackHdr, hvb',
    evSuffixes_congr hrd m.sufs h1, evSuffixes_congr hrd _ hp, evVarBnds_congr hrd m.vb 0 h3, evConBnds_congr hrd m.cb 0 h4,
    evInit_congr hrd Ev.x0 m.x0 h5, evInit_congr hrd Ev.d0 m.d0 h6, evDefVars_congr hrd o m.hdr.nv 0 m.dv0 h7,
    evACons_congr hrd o m.hdr.nv m.cons 0 h8, evLCons_congr hrd o m.hdr.nv m.hdr.nac m.lcons 0 h9,
    evObjs_congr hrd o m.hdr.nv (m.hdr.nac + m.hdr.nlc) m.objs 0 h10, evJ_congr hrd m.cons 0 h8, evG_congr hrd m.objs 0 h10]

/-- **integer-data models**: with a codec that follows the proved integer path on integer data (nothing assumed about other
    doubles) the token reader delivers `intended m o` up to the sign of zero.  The format plays no part (`numVal_exact`); the
    text format is where such a codec is what one has. -/
theorem roundtrip_int_text (cd : Codec) (hf : FollowsIntPath cd) (m : Model) (o : Opts)
    (hwf : wellFormed m o = true) (hne : noException m = true) (hint : AllNums IntData m)
    (hvb : (cd.vb m.hdr.vbtol).normZero = m.hdr.vbtol.normZero) :
    ∃ evs, readTokens cd (writeNL m o) = .ok evs ∧ evs.map Ev.nz = (intended m o).map Ev.nz := by
  let cd' : Codec := ⟨intPathRd, fun x => if x = m.hdr.vbtol then cd.vb x else x⟩
  have hc : events cd m o = events cd' m o :=
    events_congr (P := IntData) (cd := cd) (cd' := cd') (hf.agree (followsIntPath_intPathRd _)) m o (by simp [cd']) hint
  have ok : NumOK cd' o := .of_rd intPathRd_nz fun x => by by_cases e : x = m.hdr.vbtol <;> simp [cd', e, hvb]
  refine ⟨_, roundtrip cd m o hwf, ?_⟩
  rw [hc]
  exact events_intended cd' m o ok hwf hne

end MpVerif.C03
