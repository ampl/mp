import MpVerif.C03.ModelSpec
/-! # C03 — numbers: `BinaryFormatter::nput` packs integer-valued doubles into short/long exactly; the text side under a
codec hypothesis; a valid double is determined by its 64-bit pattern -/
namespace MpVerif.C03

/-- the integer test of `nput` and the conversion back `(double)(int)` are inverse to each other:
    if `x` is the double with integer value `v` then `(double)v` is `x` again (up to the sign of zero) -/
theorem ofInt_toInt (x : Dbl) (v : Int) (h : x.toInt? = some v) :
    (Dbl.ofInt v).normZero = x.normZero := by
  obtain ⟨neg, ex, man⟩ := x
  unfold Dbl.toInt? at h
  simp only at h
  by_cases hman : man ≥ 2 ^ 52
  · rw [if_pos hman] at h; simp at h
  rw [if_neg hman] at h
  have hx2 : man < 2 ^ 52 := by omega
  by_cases h0 : ex = 0
  · subst h0
    by_cases hm : man = 0
    · subst hm
      simp at h
      subst h
      simp [Dbl.ofInt, Dbl.normZero, Dbl.isZero, Dbl.zero]
    · simp [hm] at h
  · have hb0 : (ex == 0) = false := by simp [h0]
    simp only [hb0, Bool.false_eq_true, if_false] at h
    by_cases h1 : ex ≥ 2047
    · simp [h1] at h
    · simp only [h1, if_false] at h
      by_cases h2 : ex > 1075
      · simp [h2] at h
      · simp only [h2, if_false] at h
        by_cases h3 : 1075 - ex ≤ 52 ∧ (2 ^ 52 + man) % 2 ^ (1075 - ex) = 0
        · rw [if_pos h3] at h
          obtain ⟨hk, hdiv⟩ := h3
          generalize hkdef : 1075 - ex = k at *
          have hex : ex = 1075 - k := by omega
          have hmul : (2 ^ 52 + man) / 2 ^ k * 2 ^ k = 2 ^ 52 + man :=
            Nat.div_mul_cancel (Nat.dvd_of_mod_eq_zero hdiv)
          generalize ha : (2 ^ 52 + man) / 2 ^ k = a at *
          have hpk : 0 < 2 ^ k := Nat.two_pow_pos _
          have hlo : 2 ^ (52 - k) ≤ a := by
            have : 2 ^ (52 - k) * 2 ^ k ≤ a * 2 ^ k := by rw [Nat.pow_sub_mul_pow 2 hk, hmul]; omega
            exact Nat.le_of_mul_le_mul_right this hpk
          have hhi : a < 2 ^ (52 - k + 1) := by
            have : a * 2 ^ k < 2 ^ (52 - k + 1) * 2 ^ k := by
              rw [Nat.pow_succ, Nat.mul_right_comm, Nat.pow_sub_mul_pow 2 hk, hmul]; omega
            exact Nat.lt_of_mul_lt_mul_right this
          have hapos : a ≠ 0 := by
            have : 0 < 2 ^ (52 - k) := Nat.two_pow_pos _
            omega
          have hlog : a.log2 = 52 - k := (Nat.log2_eq_iff hapos).mpr ⟨hlo, hhi⟩
          have hsub : 52 - (52 - k) = k := by omega
          have hv : v = if neg = true then -(a : Int) else (a : Int) := by simpa using h.symm
          have hvne : v ≠ 0 := by
            rw [hv]; split <;> omega
          have hnat : v.natAbs = a := by
            rw [hv]; split <;> simp
          have hneg : decide (v < 0) = neg := by
            rw [hv]
            cases neg <;> simp <;> omega
          have hnz : (Dbl.mk neg ex man).isZero = false := by simp [Dbl.isZero, h0]
          have hres : Dbl.ofInt v = ⟨neg, ex, man⟩ := by
            unfold Dbl.ofInt Dbl.ofNatPos
            have e1 : 52 - k + 1023 = ex := by omega
            have e2 : 2 ^ 52 + man - 2 ^ 52 = man := Nat.add_sub_cancel_left (2 ^ 52) man
            rw [if_neg hvne, hnat, hlog, hsub, hneg, hmul, e1, e2]
          rw [hres]
        · rw [if_neg h3] at h; simp at h

theorem toInt?_of_isInf {x : Dbl} (h : x.isInf = true) : x.toInt? = none := by
  simp only [Dbl.isInf, Bool.and_eq_true, beq_iff_eq] at h
  simp [Dbl.toInt?, h.1, h.2]

/-- C++ `==` with an infinity on either side holds only between identical doubles -/
theorem eq_of_ieeeEq_isInf {L U : Dbl} (h : L.ieeeEq U = true) (hi : L.isInf = true ∨ U.isInf = true) : L = U := by
  simp only [Dbl.ieeeEq, Bool.and_eq_true, Bool.or_eq_true, beq_iff_eq] at h
  rcases h.2 with h1 | h2 <;> simp_all [Dbl.isInf, Dbl.isZero]

/-- **`nput` is exact**, in either format: whatever `nput` wrote for `x` — text `n%g`, binary `s` + int16, `l` + int32 or `n` + 8 bytes —
    `ReadConstant` returns `x` up to the sign of zero as soon as `ReadDouble` does; the short/long packing adds no condition,
    since `(double)(int)v` rebuilds every integer-valued double (`ofInt_toInt`).  With `idCodec` the hypothesis is `rfl`. -/
theorem numVal_exact {cd : Codec} (hrd : ∀ x, (cd.rd x).normZero = x.normZero) (o : Opts) (x : Dbl) :
    (numVal cd o x).normZero = x.normZero := by
  unfold numVal
  split
  · split
    · split
      · exact ofInt_toInt x _ ‹_›
      · exact hrd x
    · exact hrd x
  · exact hrd x

/-- the 64-bit pattern of a binary64 determines it: what the binary format copies (8 bytes) is the number -/
theorem ofBits_toBits (x : Dbl) (hx : x.Valid) : Dbl.ofBits x.toBits = x := by
  obtain ⟨neg, ex, man⟩ := x
  simp only [Dbl.Valid] at hx
  obtain ⟨h1, h2⟩ := hx
  cases neg <;> simp only [Dbl.ofBits, Dbl.toBits, Dbl.mk.injEq, Bool.false_eq_true, if_false, if_true, decide_eq_false_iff_not,
    decide_eq_true_eq] <;> refine ⟨?_, ?_, ?_⟩ <;> omega
end MpVerif.C03
