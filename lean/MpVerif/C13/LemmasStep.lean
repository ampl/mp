import MpVerif.C13.Lemmas
/-! # C13 — what the step control guarantees: every accepted step passed the error test, and the error test
dominates the error at every candidate point (core Lean only) -/
namespace MpVerif.C13

/-- the step of the fold in `errMaxOf` (`errMaxOf_eq`) -/
def emStep (o : FOps) (errMax : Rat) (fy : Rat × Rat) : Rat :=
  if errMax < pointErr o fy.1 fy.2 then pointErr o fy.1 fy.2 else errMax

theorem errMaxOf_eq (o : FOps) (pts : List (Rat × Rat)) : errMaxOf o pts = pts.foldl (emStep o) 0 := rfl

theorem foldl_emStep_ge (o : FOps) : ∀ (pts : List (Rat × Rat)) (acc : Rat),
    acc ≤ pts.foldl (emStep o) acc ∧ ∀ p ∈ pts, pointErr o p.1 p.2 ≤ pts.foldl (emStep o) acc := by
  intro pts
  induction pts with
  | nil => intro acc; exact ⟨Rat.le_refl, fun p hp => by cases hp⟩
  | cons q qs ih =>
    intro acc
    simp only [List.foldl_cons]
    obtain ⟨h1, h2⟩ := ih (emStep o acc q)
    have ha : acc ≤ emStep o acc q := by
      unfold emStep; split
      · exact Rat.le_of_lt ‹_›
      · exact Rat.le_refl
    have hq : pointErr o q.1 q.2 ≤ emStep o acc q := by
      unfold emStep; split
      · exact Rat.le_refl
      · exact Rat.not_lt.mp ‹_›
    refine ⟨Rat.le_trans ha h1, ?_⟩
    intro p hp
    simp only [List.mem_cons] at hp
    rcases hp with rfl | hp
    · exact Rat.le_trans hq h1
    · exact h2 p hp

theorem errMaxOf_ge (o : FOps) (pts : List (Rat × Rat)) :
    0 ≤ errMaxOf o pts ∧ ∀ p ∈ pts, pointErr o p.1 p.2 ≤ errMaxOf o pts :=
  errMaxOf_eq o pts ▸ foldl_emStep_ge o pts 0

theorem addCand_prefix {o : FOps} {f : Fn} {x0 y0 s : Rat} {pts pts' : List (Rat × Rat)} {xm : OV}
    (h : addCand o f x0 y0 s pts xm = .ok pts') : pts <+: pts' := by
  unfold addCand at h
  split at h
  · split at h
    · exact pure_ok h ▸ List.prefix_append _ _
    · exact (throw_ne_ok h).elim
    · exact pure_ok h ▸ List.prefix_refl _
  · exact pure_ok h ▸ List.prefix_refl _
  · exact (throw_ne_ok h).elim
  · exact (throw_ne_ok h).elim

theorem addCand_fin {o : FOps} {f : Fn} {x0 y0 s : Rat} {pts pts' : List (Rat × Rat)} {x fv : Rat}
    (hf : f.eval x = .fin fv) (h : addCand o f x0 y0 s pts (.fin x) = .ok pts') :
    (fv, fadd o y0 (fmul o (fsub o x x0) s)) ∈ pts' := by
  simp only [addCand, hf] at h
  exact pure_ok h ▸ List.mem_append_right _ List.mem_cons_self

theorem addTilted_prefix {o : FOps} {f : Fn} {i : Int} {x0 y0 s : Rat} {fp0 fp1 : OV} {t : Rat}
    {pts pts' : List (Rat × Rat)} (h : addTilted o f i x0 y0 s fp0 fp1 t pts = .ok pts') : pts <+: pts' := by
  unfold addTilted at h
  split at h
  · exact addCand_prefix h
  · exact pure_ok h ▸ List.prefix_refl _

theorem addPreim_prefix {o : FOps} {f : Fn} {i : Int} {x0 y0 x1 s c : Rat} {cross : Bool}
    {pts pts' : List (Rat × Rat)} (h : addPreim o f i x0 y0 x1 s c cross pts = .ok pts') : pts <+: pts' := by
  unfold addPreim at h
  split at h
  · split at h
    · split at h
      · exact (throw_ne_ok h).elim
      · exact pure_ok h ▸ List.prefix_append _ _
    · exact (throw_ne_ok h).elim
    · exact (throw_ne_ok h).elim
  · exact pure_ok h ▸ List.prefix_refl _

theorem candRest_prefix {o : FOps} {f : Fn} {ubErr : Rat} {i : Int} {x0 y0 x1 s f0 f1 : Rat}
    {pts pts' : List (Rat × Rat)} (h : candRest o f ubErr i x0 y0 x1 s f0 f1 pts = .ok pts') : pts <+: pts' := by
  unfold candRest at h
  dsimp only at h
  -- the end-point derivatives and their ordered pair recur in every stage: name them, or `h` is slow to take apart
  generalize f.d1 x0 = a, f.d1 x1 = b at h
  generalize (if OV.lt b a = true then b else a) = fp0, (if OV.lt b a = true then a else b) = fp1 at h
  split at h
  · exact (throw_ne_ok h).elim
  · obtain ⟨p1, h1, h⟩ := bind_ok h
    obtain ⟨p2, h2, h⟩ := bind_ok h
    obtain ⟨p3, h3, h⟩ := bind_ok h
    have m2 : p1 <+: p2 := by
      split at h2
      · split at h2
        · exact (throw_ne_ok h2).elim
        · exact addTilted_prefix h2
      · exact pure_ok h2 ▸ List.prefix_refl _
    exact (addTilted_prefix h1).trans (m2.trans ((addPreim_prefix h3).trans (addPreim_prefix h)))

theorem candPoints_spec {o : FOps} {f : Fn} {ubErr : Rat} {i : Int} {x0 y0 x1 y1 : Rat} {pts : List (Rat × Rat)}
    (h : candPoints o f ubErr i x0 y0 x1 y1 = .ok pts) :
    x0 < x1 ∧ 0 < ubErr ∧ ∃ f0 f1, f.eval x0 = .fin f0 ∧ f.eval x1 = .fin f1 ∧
      (f0, y0) ∈ pts ∧ (f1, y1) ∈ pts ∧
      ∀ xm fm, f.invd1 i (slopeOf o x0 y0 x1 y1) = .fin xm → f.eval xm = .fin fm →
        (fm, fadd o y0 (fmul o (fsub o xm x0) (slopeOf o x0 y0 x1 y1))) ∈ pts := by
  unfold candPoints at h
  split at h
  · exact (throw_ne_ok h).elim
  · rename_i hx
    split at h
    · exact (throw_ne_ok h).elim
    · rename_i hu
      obtain ⟨f0, hf0, h⟩ := bind_ok h
      obtain ⟨f1, hf1, h⟩ := bind_ok h
      split at h
      · exact (throw_ne_ok h).elim
      · obtain ⟨p1, h1, h⟩ := bind_ok h
        have hm := (candRest_prefix h).subset
        have hs := (addCand_prefix h1).subset
        exact ⟨by simpa using hx, by simpa using hu, f0, f1, getFin_ok hf0, getFin_ok hf1,
          hm (hs List.mem_cons_self), hm (hs (List.mem_cons_of_mem _ List.mem_cons_self)),
          fun xm fm hxm hfm => hm (addCand_fin hfm (hxm ▸ h1))⟩

theorem cmpCode_pos_iff (err ub : Rat) : 0 < cmpCode err ub ↔ ub < err := by
  unfold cmpCode
  split
  · exact ⟨fun h => absurd h (by decide), fun h => absurd (Std.lt_trans h ‹_›) Std.lt_irrefl⟩
  · split
    · exact ⟨fun _ => ‹_›, fun _ => by decide⟩
    · exact ⟨fun h => absurd h (by decide), fun h => absurd h ‹_›⟩

/-- **the step returned by `DecreaseStepWhileErrorTooBig` passed the error test** (or the function value did not
change at all, in which case the C++ does not call the test) -/
theorem decStep_accept {o : FOps} (f : Fn) (ubErr : Rat) (i : Int) (x0 f0 : Rat) :
    ∀ (fuel : Nat) (dx r : Rat), decStep o f ubErr i x0 f0 fuel dx = .ok r →
      ∃ f1, f.eval (fadd o x0 r) = .fin f1 ∧
        (f1 = f0 ∨ ∃ pts, candPoints o f ubErr i x0 f0 (fadd o x0 r) f1 = .ok pts ∧ errMaxOf o pts ≤ ubErr) := by
  intro fuel
  induction fuel with
  | zero => intro dx r h; exact (throw_ne_ok h).elim
  | succ n ih =>
    intro dx r h
    unfold decStep at h
    dsimp only at h
    obtain ⟨f1, hf1, h⟩ := bind_ok h
    split at h
    · rename_i heq
      simp only [pure_bind, Bool.false_eq_true, if_false] at h
      exact pure_ok h ▸ ⟨f1, getFin_ok hf1, Or.inl heq⟩
    · obtain ⟨c, hc, h⟩ := bind_ok h
      simp only [pure_bind, decide_eq_true_eq] at h
      split at h
      · exact ih _ _ h
      · rename_i hns
        obtain ⟨err, herr, hc⟩ := bind_ok hc
        obtain ⟨pts, hpts, herr⟩ := bind_ok herr
        obtain rfl := pure_ok herr
        obtain rfl := pure_ok hc
        exact pure_ok h ▸ ⟨f1, getFin_ok hf1, Or.inr ⟨pts, hpts, Rat.not_lt.mp fun hlt => hns ((cmpCode_pos_iff _ _).mpr hlt)⟩⟩

end MpVerif.C13
