import MpVerif.C13.ChordRun
import Mathlib.Analysis.SpecialFunctions.ExpDeriv
/-!
# C13 — the accepted step with APPROXIMATE oracles (proof-only; Mathlib)

`ChordRun.lean` assumes that the model's oracle values ARE the values of the real function (`heval : F q = v`).  Since the
model's numbers are rationals, that is satisfiable only for functions that are rational at rational points (`x^a` with
integer `a`), not for exp / log / trigonometric / hyperbolic functions.  This file removes that restriction: the oracle
values are only assumed to be within `δ` of `F` at the three points the test looks at (`x0`, `x1`, `xm`), and the
middle-value point `xm` only has to satisfy `|F' xm − slope| ≤ δ1` (an approximate `inverse_1st`).  Conclusion:

    |F x − PL x| ≤ ubErr · max 1 |fm| + (x1 − x0)·δ1 + 5·δ      for every real x of the accepted segment,

where `PL` is the segment the MODEL produces (through the model's `(x0, y0)`, `(x1, f1)`), and `fm` the oracle value at `xm`.
Satisfiable for all 17 function types (rationals are dense); a concrete instance for `exp` with `δ = 1/1000`,
`δ1 = 1/100` is `C13_exp_step_instance` below.  Still: exact arithmetic for `+ − × ÷`, one accepted step (not the stored PL after
the merge rule / snap), `F'` strictly monotone on the segment.
-/
namespace MpVerif.C13.Chord
open Set MpVerif.C13

/-- **Chord lemma with an approximate middle-value point**: if `|F' xm − slope| ≤ η` then on the whole segment
`|F − chord| ≤ |F xm − chord xm| + (b − a)·η`. -/
theorem C13_chord_bound_approx {F F' : ℝ → ℝ} {a b : ℝ} (hab : a < b)
    (hF : ∀ x ∈ Icc a b, HasDerivAt F (F' x) x)
    (hmono : StrictMonoOn F' (Icc a b) ∨ StrictAntiOn F' (Icc a b))
    {xm η : ℝ} (hxm : xm ∈ Icc a b) (hη : |F' xm - (F b - F a) / (b - a)| ≤ η) :
    ∀ x ∈ Icc a b, |F x - chord F a b x| ≤ |F xm - chord F a b xm| + (b - a) * η := by
  obtain ⟨c, hc, hcs, -, hmax⟩ := chord_error_max hab hF hmono
  have hcI : c ∈ Icc a b := Ioo_subset_Icc_self hc
  have hsub : uIcc xm c ⊆ Icc a b := uIcc_subset_Icc hxm hcI
  -- `F'` is monotone, so between `xm` and the exact maximiser `c` it stays within `η` of `F' c = slope`; the mean value
  -- inequality then bounds the deviation at `c` by that at `xm` plus `η·|c − xm|`
  have hbd : ∀ ξ ∈ uIcc xm c, ‖F' ξ - (F b - F a) / (b - a)‖ ≤ η := by
    intro ξ hξ
    have hmem : F' ξ ∈ uIcc (F' xm) (F' c) := by
      rcases hmono with h | h
      · exact (h.monotoneOn.mono hsub).mapsTo_uIcc hξ
      · exact (h.antitoneOn.mono hsub).mapsTo_uIcc hξ
    rw [hcs, uIcc_comm] at hmem
    exact (abs_sub_left_of_mem_uIcc hmem).trans hη
  have hdiff := (convex_uIcc xm c).norm_image_sub_le_of_norm_hasDerivWithin_le
    (fun ξ hξ => ((hF ξ (hsub hξ)).sub (hasDerivAt_chord F a b ξ)).hasDerivWithinAt) hbd left_mem_uIcc right_mem_uIcc
  have hlen : |c - xm| ≤ b - a := abs_le.mpr ⟨by linarith only [hcI.1, hxm.2], by linarith only [hcI.2, hxm.1]⟩
  intro x hx
  have h3 := abs_sub_abs_le_abs_sub (F c - chord F a b c) (F xm - chord F a b xm)
  have h4 := mul_le_mul_of_nonneg_left hlen ((abs_nonneg _).trans hη)
  simp only [Real.norm_eq_abs, Pi.sub_apply] at hdiff
  linarith only [hmax x hx, h3, h4, hdiff]

theorem line_diff_le {a b ya yb za zb δ : ℝ} (hab : a < b) (h0 : |ya - za| ≤ δ) (h1 : |yb - zb| ≤ δ) :
    ∀ x ∈ Icc a b, |lineThrough a ya b yb x - lineThrough a za b zb x| ≤ δ := by
  intro x hx
  have hba : 0 < b - a := sub_pos.mpr hab
  have ht0 : 0 ≤ (x - a) / (b - a) := div_nonneg (sub_nonneg.mpr hx.1) hba.le
  have ht1 : (x - a) / (b - a) ≤ 1 := (div_le_one hba).mpr (sub_le_sub_right hx.2 a)
  have e : lineThrough a ya b yb x - lineThrough a za b zb x =
      (1 - (x - a) / (b - a)) * (ya - za) + (x - a) / (b - a) * (yb - zb) := by
    simp only [lineThrough]; ring
  rw [e]
  exact abs_le.mpr (convex_Icc (-δ) δ (abs_le.mp h0) (abs_le.mp h1) (sub_nonneg.mpr ht1) ht0 (sub_add_cancel 1 _))

/-- **Real-analysis core with approximate data**: the produced segment through `(a, ya)`, `(b, yb)`; oracle values within `δ`
of `F` at `a`, `b`, `xm`; `|F' xm − (yb − ya)/(b − a)| ≤ δ1`; measured deviation at `xm`: `|fm − line xm| ≤ T`.  Then
`|F x − line x| ≤ T + (b − a)·δ1 + 5·δ` on the whole segment. -/
theorem C13_segment_bound_approx {F F' : ℝ → ℝ} {a b : ℝ} (hab : a < b)
    (hF : ∀ x ∈ Icc a b, HasDerivAt F (F' x) x)
    (hmono : StrictMonoOn F' (Icc a b) ∨ StrictAntiOn F' (Icc a b))
    {ya yb xm fm δ δ1 T : ℝ} (hxm : xm ∈ Icc a b)
    (ha : |F a - ya| ≤ δ) (hb : |F b - yb| ≤ δ) (hm : |F xm - fm| ≤ δ)
    (hsl : |F' xm - (yb - ya) / (b - a)| ≤ δ1)
    (hT : |fm - lineThrough a ya b yb xm| ≤ T) :
    ∀ x ∈ Icc a b, |F x - lineThrough a ya b yb x| ≤ T + (b - a) * δ1 + 5 * δ := by
  have hba : 0 < b - a := sub_pos.mpr hab
  have hline : ∀ x ∈ Icc a b, |chord F a b x - lineThrough a ya b yb x| ≤ δ := line_diff_le hab ha hb
  -- stated as a product with `b − a`: that product is the atom `linarith` meets in `hcore` below
  have hsl2 : (b - a) * |(yb - ya) / (b - a) - (F b - F a) / (b - a)| ≤ 2 * δ := by
    rw [← sub_div, abs_div, abs_of_pos hba, mul_div_cancel₀ _ hba.ne']
    have h1 := abs_le.mp ha
    have h2 := abs_le.mp hb
    exact abs_le.mpr ⟨by linarith only [h1.1, h2.2], by linarith only [h1.2, h2.1]⟩
  have hcore := C13_chord_bound_approx hab hF hmono hxm ((abs_sub_le _ _ _).trans (add_le_add hsl le_rfl))
  have h3 := abs_le.mp (hline xm hxm)
  have h4 := abs_le.mp hm
  have h5 := abs_le.mp hT
  have hmid : |F xm - chord F a b xm| ≤ T + 2 * δ :=
    abs_le.mpr ⟨by linarith only [h3.2, h4.1, h5.1], by linarith only [h3.1, h4.2, h5.2]⟩
  intro x hx
  have h1 := abs_le.mp ((hcore x hx).trans (add_le_add hmid le_rfl))
  have h2 := abs_le.mp (hline x hx)
  exact abs_le.mpr ⟨by linarith only [h1.1, h2.1, hsl2], by linarith only [h1.2, h2.2, hsl2]⟩

/-- **The segment accepted by the model's step control, approximate oracles** (`decStep`, exact `+ − × ÷`): the model's
values `y0`, `f1`, `fm` are within `δ` of `F` at `x0`, `x1 = x0 + r`, `xm`, and `xm = inverse_1st(slope)` satisfies
`|F' xm − slope| ≤ δ1` for the MODEL's slope; `F'` strictly monotone on the segment.  Then the segment the model produces
(through `(x0, y0)`, `(x1, f1)`) satisfies `|F x − PL x| ≤ ubErr·max 1 |fm| + (x1 − x0)·δ1 + 5δ` at every real `x` of it. -/
theorem C13_accepted_step_error_bound_approx (sq : ℚ → ℚ) (f : Fn) (ubErr : ℚ) (i : Int) (x0 y0 dx r : ℚ) (fuel : Nat)
    (hdec : decStep (exactOps sq) f ubErr i x0 y0 fuel dx = .ok r)
    (F F' : ℝ → ℝ)
    (f1 : ℚ) (hf1e : f.eval (x0 + r) = .fin f1) (hchanged : f1 ≠ y0)
    (xm fm : ℚ)
    (hxm : f.invd1 i (slopeOf (exactOps sq) x0 y0 (x0 + r) f1) = .fin xm)
    (hfm : f.eval xm = .fin fm)
    (δ δ1 : ℝ)
    (h0 : |F x0 - y0| ≤ δ) (h1 : |F ((x0 + r : ℚ) : ℝ) - f1| ≤ δ) (hm : |F xm - fm| ≤ δ)
    (hsl : |F' (xm : ℝ) - ((slopeOf (exactOps sq) x0 y0 (x0 + r) f1 : ℚ) : ℝ)| ≤ δ1)
    (hF : ∀ x ∈ Icc (x0 : ℝ) ((x0 + r : ℚ) : ℝ), HasDerivAt F (F' x) x)
    (hmono : StrictMonoOn F' (Icc (x0 : ℝ) ((x0 + r : ℚ) : ℝ)) ∨ StrictAntiOn F' (Icc (x0 : ℝ) ((x0 + r : ℚ) : ℝ)))
    (hxmI : (xm : ℝ) ∈ Icc (x0 : ℝ) ((x0 + r : ℚ) : ℝ)) :
    ∀ x ∈ Icc (x0 : ℝ) ((x0 + r : ℚ) : ℝ),
      |F x - lineThrough (x0 : ℝ) (y0 : ℝ) ((x0 + r : ℚ) : ℝ) (f1 : ℝ) x|
        ≤ (ubErr : ℝ) * max 1 |(fm : ℝ)| + (((x0 + r : ℚ) : ℝ) - x0) * δ1 + 5 * δ := by
  obtain ⟨hab, hub, htest⟩ := accepted_step_real sq hdec hf1e hchanged hxm hfm
  exact C13_segment_bound_approx hab hF hmono hxmI h0 h1 hm (slopeOf_cast sq ▸ hsl) (errMeasure_le_imp hub.le htest)

/-! ### a transcendental instance: `exp` on `[0, 1/4]`, tolerance `1/100`, oracle values within `1/1000` -/

/-- tabulated oracles of `exp` (rational approximations; `inverse_1st` answers `1/8` for the slope of the segment and
nothing else) -/
def expFn : Fn :=
  { eval := fun x => if x = 0 then .fin 1 else if x = 1/4 then .fin (1284/1000) else if x = 1/8 then .fin (11331/10000) else .nan,
    inv := fun _ _ => .nan,
    d1 := fun x => if x = 0 then .fin 1 else .fin (1284/1000),
    invd1 := fun _ s => if s = 142/125 then .fin (1/8) else .nan,
    d2 := fun _ => .fin 1, dom := ⟨-10, 10, -100, 100⟩, accLb := -1000, accUb := 1000,
    monotone := true, periodic := false, perLb := -1000, perUb := 1000, bps := [-10, 10] }

theorem exp_step_accepted : decStep (exactOps id) expFn (1/100) 0 0 1 5 (1/4) = .ok (1/4) := by decide +kernel

theorem exp_quarter_near : |Real.exp (1/4) - 1284/1000| ≤ 1/1000 := by
  have hl := Real.sum_le_exp_of_nonneg (x := (1/4 : ℝ)) (by norm_num) 4
  have hu := Real.exp_bound' (x := (1/4 : ℝ)) (by norm_num) (by norm_num) (n := 4) (by norm_num)
  norm_num [Finset.sum_range_succ, Nat.factorial] at hl hu
  exact abs_le.mpr ⟨by linarith only [hl], by linarith only [hu]⟩

theorem exp_eighth_near : |Real.exp (1/8) - 11331/10000| ≤ 1/1000 ∧ |Real.exp (1/8) - 142/125| ≤ 1/100 := by
  have hl := Real.sum_le_exp_of_nonneg (x := (1/8 : ℝ)) (by norm_num) 4
  have hu := Real.exp_bound' (x := (1/8 : ℝ)) (by norm_num) (by norm_num) (n := 4) (by norm_num)
  norm_num [Finset.sum_range_succ, Nat.factorial] at hl hu
  exact ⟨abs_le.mpr ⟨by linarith only [hl], by linarith only [hu]⟩,
    abs_le.mpr ⟨by linarith only [hl], by linarith only [hu]⟩⟩

/-- **`C13_accepted_step_error_bound_approx` applies to `exp`** (which no rational-valued oracle can represent exactly): on
the accepted segment `[0, 1/4]` the produced chord through `(0, 1)`, `(1/4, 1.284)` is within
`0.01·1.1331 + 0.25·0.01 + 5·0.001` of `exp`. -/
theorem C13_exp_step_instance : ∀ x ∈ Icc ((0 : ℚ) : ℝ) (((0 : ℚ) + 1/4 : ℚ) : ℝ),
    |Real.exp x - lineThrough ((0 : ℚ) : ℝ) ((1 : ℚ) : ℝ) (((0 : ℚ) + 1/4 : ℚ) : ℝ) ((1284/1000 : ℚ) : ℝ) x|
      ≤ ((1/100 : ℚ) : ℝ) * max 1 |((11331/10000 : ℚ) : ℝ)| + ((((0 : ℚ) + 1/4 : ℚ) : ℝ) - ((0 : ℚ) : ℝ)) * (1/100) + 5 * (1/1000) := by
  have e4 : (((0 : ℚ) + 1/4 : ℚ) : ℝ) = 1/4 := by push_cast; norm_num
  have e8 : ((1/8 : ℚ) : ℝ) = 1/8 := by push_cast; norm_num
  refine C13_accepted_step_error_bound_approx id expFn (1/100) 0 0 1 (1/4) (1/4) 5 exp_step_accepted
    Real.exp Real.exp (1284/1000) (by decide +kernel) (by decide +kernel) (1/8) (11331/10000)
    (by decide +kernel) (by decide +kernel) (1/1000) (1/100) ?_ ?_ ?_ ?_
    (fun x _ => Real.hasDerivAt_exp x) (Or.inl (Real.exp_strictMono.strictMonoOn _)) ?_
  · simp
  · rw [e4]; push_cast; exact exp_quarter_near
  · rw [e8]; push_cast; exact exp_eighth_near.1
  · have hs : slopeOf (exactOps id) 0 1 (0 + 1/4) (1284/1000) = 142/125 := by decide +kernel
    rw [hs, e8]; push_cast; exact exp_eighth_near.2
  · constructor <;> push_cast <;> norm_num

end MpVerif.C13.Chord
