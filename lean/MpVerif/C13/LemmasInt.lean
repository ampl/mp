import MpVerif.C13.Lemmas
/-! # C13 — exactness at the integers of the integrality shortcut (core Lean only) -/
namespace MpVerif.C13

/-- value at `t` of the piecewise-linear function through the points of a `PL` (stored back to front):
linear interpolation on the last segment whose left end is `≤ t`; the first segment is extended to the left,
the last to the right -/
def plEvalR : PL → Rat → Rat
  | [], _ => 0
  | [(_, y)], _ => y
  | (x1, y1) :: (x0, y0) :: rest, t =>
    if x0 ≤ t ∨ rest.isEmpty then y0 + (y1 - y0) * (t - x0) / (x1 - x0)
    else plEvalR ((x0, y0) :: rest) t

theorem flat_seg (y t a b : Rat) : y + (y - y) * (t - a) / (b - a) = y := by
  have : y - y = 0 := by grind
  rw [this, Rat.zero_mul, Rat.div_def, Rat.zero_mul]; grind

theorem unit_seg_right (a b ya yb : Rat) (h : b - a = 1) : ya + (yb - ya) * (b - a) / (b - a) = yb := by
  rw [h]; grind

theorem seg_left (a b ya yb : Rat) : ya + (yb - ya) * (a - a) / (b - a) = ya := by
  have : a - a = 0 := by grind
  rw [this, Rat.mul_zero, Rat.div_def, Rat.zero_mul]; grind

theorem cast_succ (m : Nat) : ((m + 1 : Nat) : Rat) = (m : Rat) + 1 := by
  rw [Rat.natCast_add]; rfl

/-- invariant of the integrality shortcut after the points `x0, x0+1, …, x0+m` have been offered -/
def InvI (f : Fn) (x0 : Rat) (m : Nat) (pl : PL) : Prop :=
  ∃ y rest, pl = (x0 + (m : Rat), y) :: rest ∧ f.eval (x0 + (m : Rat)) = .fin y ∧
    (∀ b ∈ rest, b.1 < x0 + (m : Rat)) ∧ (rest = [] → m = 0) ∧
    ∀ j : Nat, j ≤ m → ∃ v, f.eval (x0 + (j : Rat)) = .fin v ∧ plEvalR pl (x0 + (j : Rat)) = v

theorem invI_base (o : FOps) (f : Fn) (x0 y : Rat) (h : f.eval (x0 + ((0 : Nat) : Rat)) = .fin y) :
    InvI f x0 0 (addPoint o [] (x0 + ((0 : Nat) : Rat)) y) := by
  refine ⟨y, [], rfl, h, ?_, fun _ => rfl, ?_⟩
  · intro b hb; cases hb
  · intro j hj
    have : j = 0 := by omega
    subst this
    exact ⟨y, h, rfl⟩

theorem invI_step (o : FOps) (f : Fn) (x0 : Rat) (m : Nat) (pl : PL) (y' : Rat)
    (hcond : keepCond o (x0 + (m : Rat)) (x0 + ((m + 1 : Nat) : Rat)))
    (hi : InvI f x0 m pl) (he : f.eval (x0 + ((m + 1 : Nat) : Rat)) = .fin y') :
    InvI f x0 (m + 1) (addPoint o pl (x0 + ((m + 1 : Nat) : Rat)) y') := by
  obtain ⟨y, rest, rfl, hy, hord, hsing, hall⟩ := hi
  have hc := cast_succ m
  have hlt : x0 + (m : Rat) < x0 + ((m + 1 : Nat) : Rat) := by rw [hc]; grind
  have hpush : InvI f x0 (m + 1) ((x0 + ((m + 1 : Nat) : Rat), y') :: (x0 + (m : Rat), y) :: rest) := by
    refine ⟨y', _, rfl, he, ?_, fun h => (List.cons_ne_nil _ _ h).elim, ?_⟩
    · intro b hb
      rcases List.mem_cons.mp hb with rfl | hb
      · exact hlt
      · exact Std.lt_trans (hord b hb) hlt
    · intro j hj
      by_cases hjm : j = m + 1
      · subst hjm
        refine ⟨y', he, ?_⟩
        simp only [plEvalR, Rat.le_of_lt hlt, true_or, if_true]
        exact unit_seg_right _ _ _ _ (by rw [hc]; grind)
      · by_cases hjm2 : j = m
        · subst hjm2
          refine ⟨y, hy, ?_⟩
          simp only [plEvalR, Rat.le_refl, true_or, if_true]
          exact seg_left _ _ _ _
        · obtain ⟨v, hv1, hv2⟩ := hall j (by omega)
          refine ⟨v, hv1, ?_⟩
          have hjlt : (j : Rat) < (m : Rat) := Rat.natCast_lt_natCast.mpr (by omega)
          have hnc : ¬ (x0 + (m : Rat) ≤ x0 + (j : Rat) ∨ rest.isEmpty = true) := by
            rintro (h | h)
            · grind
            · exact absurd (hsing (List.isEmpty_iff.mp h)) (by omega)
          rw [plEvalR]
          simp only [hnc, if_false]
          exact hv2
  simp only [addPoint, if_pos hcond]
  split
  · rename_i x2 y2 rest2
    split
    · -- `AddPoint` merges: the flat last segment only gets longer
      rename_i hmerge
      obtain ⟨rfl, rfl⟩ := hmerge
      have hx2 : x2 < x0 + (m : Rat) := hord (x2, y2) List.mem_cons_self
      refine ⟨y2, (x2, y2) :: rest2, rfl, he, fun b hb => Std.lt_trans (hord b hb) hlt, fun h => (List.cons_ne_nil _ _ h).elim, ?_⟩
      intro j hj
      by_cases hjm : j = m + 1
      · subst hjm
        refine ⟨y2, he, ?_⟩
        have hc2 : x2 ≤ x0 + ((m + 1 : Nat) : Rat) := by grind
        simp only [plEvalR, hc2, true_or, if_true]
        exact flat_seg _ _ _ _
      · obtain ⟨v, hv1, hv2⟩ := hall j (by omega)
        refine ⟨v, hv1, ?_⟩
        simp only [plEvalR] at hv2 ⊢
        by_cases hcnd : x2 ≤ x0 + (j : Rat) ∨ rest2.isEmpty = true
        · simp only [hcnd, if_true] at hv2 ⊢
          rw [flat_seg] at hv2 ⊢
          exact hv2
        · simp only [hcnd, if_false] at hv2 ⊢
          exact hv2
    · exact hpush
  · exact hpush

/-- exactness of the integer arithmetic and of the keep test on the points `x0, …, x0+B` -/
structure IntOK (o : FOps) (x0 : Rat) (B : Nat) : Prop where
  add : ∀ j : Nat, j ≤ B → fadd o x0 (j : Rat) = x0 + (j : Rat)
  keep : ∀ j : Nat, j + 1 ≤ B → keepCond o (x0 + (j : Rat)) (x0 + ((j + 1 : Nat) : Rat))

theorem intOK_exact (sq : Rat → Rat) (x0 : Rat) (B : Nat) : IntOK (exactOps sq) x0 B := by
  constructor
  · intro j _; rfl
  · intro j _
    unfold keepCond
    simp only [fadd, exactOps, id]
    rw [cast_succ]; have := eps4_lt_one; grind

theorem intPoints_invI {o : FOps} {f : Fn} {x0 : Rat} {B : Nat} (hok : IntOK o x0 B) {n m : Nat} {pl r : PL}
    (hB : m + n ≤ B) (hi : InvI f x0 m pl) (h : intPoints o f x0 n (m + 1) pl = .ok r) : InvI f x0 (m + n) r := by
  induction n generalizing m pl with
  | zero => simp [intPoints] at h; have := pure_ok h; subst this; simpa using hi
  | succ n ih =>
    unfold intPoints at h
    obtain ⟨y, hy, h⟩ := bind_ok h
    have hx : fadd o x0 ((m + 1 : Nat) : Rat) = x0 + ((m + 1 : Nat) : Rat) := hok.add (m + 1) (by omega)
    rw [hx] at h hy
    have := ih (by omega) (invI_step o f x0 m pl y (hok.keep m (by omega)) hi (getFin_ok hy)) h
    have e : m + 1 + n = m + (n + 1) := by omega
    rw [e] at this
    exact this

theorem truncInt_intCast (n : Int) (h : 0 ≤ n) : truncInt (n : Rat) = n := by
  unfold truncInt
  have h0 : (0 : Rat) ≤ (n : Rat) := by exact_mod_cast h
  have : ¬ ((n : Rat) < 0) := by grind
  rw [if_neg this, Rat.floor_intCast]

theorem intCount_exact (sq : Rat → Rat) (lbx ubx : Rat) :
    intCount (exactOps sq) lbx ubx = ((ubx.floor - lbx.ceil + 1 : Int) : Rat) := by
  simp only [intCount, fadd, fsub, exactOps, id]
  push_cast
  rfl

end MpVerif.C13
