import MpVerif.C13.Model
/-! # C13 — what `AddPoint` and the loops of `run` preserve (the strictly-increasing invariant, the first point), the
arithmetic of the periodic reduction, the Boolean validator.  Core Lean only. -/
namespace MpVerif.C13

theorem bind_ok {ε α β : Type} {x : Except ε α} {f : α → Except ε β} {r : β}
    (h : (x >>= f) = .ok r) : ∃ a, x = .ok a ∧ f a = .ok r := by
  cases x with
  | error e => simp [bind, Except.bind] at h
  | ok a => exact ⟨a, rfl, h⟩

theorem pure_ok {ε α : Type} {a r : α} (h : (pure a : Except ε α) = .ok r) : a = r := by
  simp [pure, Except.pure] at h; exact h

theorem throw_ne_ok {α : Type} {e : Status} {r : α} (h : (throw e : Except Status α) = .ok r) : False := by
  simp [throw, throwThe, MonadExceptOf.throw] at h

theorem getFin_ok {v : OV} {q : Rat} (h : getFin v = .ok q) : v = .fin q := by
  cases v with
  | fin a => exact congrArg OV.fin (pure_ok h)
  | _ => exact (throw_ne_ok h).elim

theorem eps4_pos : (0 : Rat) < eps4 := by decide +kernel
theorem eps4_lt_one : eps4 < (1 : Rat) := by decide +kernel

/-- what is assumed of the rounding functions: round-to-nearest is monotone and idempotent, and a float
is a double.  Proved for `rnd = id` (`Lawful.exact`) and for the driver's IEEE instance (`C13_lawful_ieee` in
`PropsIEEE.lean`, from the lemmas of `Rounding.lean`). -/
structure Lawful (o : FOps) : Prop where
  mono : ∀ a b : Rat, a ≤ b → o.rnd a ≤ o.rnd b
  idem : ∀ a : Rat, o.rnd (o.rnd a) = o.rnd a
  toF_fix : ∀ a : Rat, o.rnd (o.toF a) = o.toF a

/-- `q` is a value of the working format -/
def Fx (o : FOps) (q : Rat) : Prop := o.rnd q = q

theorem Lawful.exact (sq : Rat → Rat) : Lawful (exactOps sq) :=
  ⟨fun _ _ h => h, fun _ => rfl, fun _ => rfl⟩

theorem fx_fadd {o : FOps} (h : Lawful o) (a b : Rat) : Fx o (fadd o a b) := h.idem _
theorem fx_toF {o : FOps} (h : Lawful o) (a : Rat) : Fx o (o.toF a) := h.toF_fix _

theorem le_fadd {o : FOps} (h : Lawful o) {a c : Rat} (ha : Fx o a) (hc : 0 ≤ c) : a ≤ fadd o a c := by
  have h2 := h.mono a (a + c) (by grind)
  rwa [ha] at h2

/-- strictly increasing abscissae (the list is stored back to front, so each later entry is smaller) -/
def Inc (pl : PL) : Prop := pl.Pairwise (fun p q => q.1 < p.1)

/-- invariant of every `AddPoint` sequence -/
def Inv (o : FOps) (pl : PL) : Prop := Inc pl ∧ ∀ p ∈ pl, Fx o p.1

theorem inv_nil (o : FOps) : Inv o [] := ⟨List.Pairwise.nil, fun _ hp => nomatch hp⟩

theorem inv_cons {o : FOps} {pl : PL} {x : Rat} (hi : Inv o pl) (hx : Fx o x) (hlt : ∀ p ∈ pl, p.1 < x) (y : Rat) :
    Inv o ((x, y) :: pl) :=
  ⟨List.pairwise_cons.mpr ⟨hlt, hi.1⟩, List.forall_mem_cons.mpr ⟨hx, hi.2⟩⟩

theorem addPoint_inv {o : FOps} (h : Lawful o) {pl : PL} (hi : Inv o pl) {x : Rat} (hx : Fx o x) (y : Rat) :
    Inv o (addPoint o pl x y) := by
  match pl, hi with
  | [], hi => exact inv_cons hi hx (fun _ hp => nomatch hp) y
  | (bx, byy) :: rest, hi =>
    simp only [addPoint]
    split
    · rename_i hk
      have hbx : bx < x := Std.lt_of_le_of_lt (le_fadd h (hi.2 _ List.mem_cons_self) (Rat.le_of_lt eps4_pos)) hk
      have hall : ∀ p ∈ (bx, byy) :: rest, p.1 < x := by
        intro p hp
        rcases List.mem_cons.mp hp with rfl | hp
        · exact hbx
        · exact Std.lt_trans ((List.pairwise_cons.mp hi.1).1 p hp) hbx
      have hrest : Inv o rest := ⟨(List.pairwise_cons.mp hi.1).2, fun p hp => hi.2 p (List.mem_cons_of_mem _ hp)⟩
      split
      · split
        · exact inv_cons hrest hx (fun p hp => hall p (List.mem_cons_of_mem _ hp)) byy
        · exact inv_cons hi hx hall y
      · exact inv_cons hi hx hall y
    · exact hi

theorem addPoint_ne_nil (o : FOps) (pl : PL) (x y : Rat) : addPoint o pl x y ≠ [] := by
  unfold addPoint
  split
  · simp
  · split
    · split
      · split <;> simp
      · simp
    · simp

theorem addPoint_getLast (o : FOps) (pl : PL) (hne : pl ≠ []) (x y : Rat) :
    (addPoint o pl x y).getLast? = pl.getLast? := by
  unfold addPoint
  match pl, hne with
  | (bx, byy) :: rest, _ =>
    simp only
    split
    · match rest with
      | [] => simp
      | (x2, y2) :: rest2 =>
        simp only
        split
        · simp [List.getLast?_cons_cons]
        · simp [List.getLast?_cons_cons]
    · rfl

/-- the first point (the last entry of the list, which is stored back to front) never changes -/
theorem first_addPoint {o : FOps} {pl : PL} {p : Rat × Rat} (h : pl.getLast? = some p) (x y : Rat) :
    (addPoint o pl x y).getLast? = some p :=
  (addPoint_getLast o pl (fun hn => nomatch hn ▸ h) x y).trans h

/-- The loops touch the stored points only through `AddPoint`, and every abscissa they offer is a sum `x0 ⊕ dx` or a
breakpoint: hence `hadd`, `hsum`, `hub`. -/
theorem subLoop_preserves {o : FOps} {P : PL → Prop} {Q : Rat → Prop}
    (hadd : ∀ pl x y, P pl → Q x → P (addPoint o pl x y)) (hsum : ∀ a b, Q (fadd o a b))
    {f : Fn} {ubErr : Rat} {i : Int} {ub : Rat} (hub : Q ub) {stepFuel fuel : Nat} {x0 f0 : Rat} {pl r : PL} (hP : P pl)
    (h : subLoop o f ubErr i ub stepFuel fuel x0 f0 pl = .ok r) : P r := by
  induction fuel generalizing x0 f0 pl with
  | zero => exact (throw_ne_ok h).elim
  | succ n ih =>
    unfold subLoop at h
    obtain ⟨dx1, _, h⟩ := bind_ok h
    obtain ⟨dx2, _, h⟩ := bind_ok h
    obtain ⟨dx3, _, h⟩ := bind_ok h
    have hx1 : Q (if snapCond o ub (fadd o x0 dx3) then ub else fadd o x0 dx3) := by
      split
      · exact hub
      · exact hsum _ _
    dsimp only at h
    generalize (if snapCond o ub (fadd o x0 dx3) then ub else fadd o x0 dx3) = x1 at h hx1
    obtain ⟨f1, _, h⟩ := bind_ok h
    have hP' := hadd pl x1 f1 hP hx1
    split at h
    · exact ih hP' h
    · exact pure_ok h ▸ hP'

theorem subintervals_preserves {o : FOps} {P : PL → Prop} {Q : Rat → Prop}
    (hadd : ∀ pl x y, P pl → Q x → P (addPoint o pl x y)) (hsum : ∀ a b, Q (fadd o a b))
    {f : Fn} {ubErr : Rat} {bps : List Rat} (hb : ∀ b ∈ bps, Q b) {fuel n i : Nat} {pl r : PL} (hP : P pl)
    (h : subintervals o f ubErr bps fuel n i pl = .ok r) : P r := by
  induction n generalizing i pl with
  | zero => exact pure_ok h ▸ hP
  | succ n ih =>
    unfold subintervals at h
    obtain ⟨pl', h1, h⟩ := bind_ok h
    have hP' : P pl' := by
      unfold approxSub at h1
      split at h1
      · exact (throw_ne_ok h1).elim
      · split at h1
        · exact (throw_ne_ok h1).elim
        · rename_i ub hub
          exact subLoop_preserves hadd hsum (hb ub (List.mem_of_getElem? hub)) hP h1
    split at h
    · exact ih hP' h
    · exact pure_ok h ▸ hP'

theorem intPoints_inv {o : FOps} (hl : Lawful o) {f : Fn} {x0 : Rat} {n k : Nat} {pl r : PL} (hinv : Inv o pl)
    (h : intPoints o f x0 n k pl = .ok r) : Inv o r := by
  induction n generalizing k pl with
  | zero => exact pure_ok h ▸ hinv
  | succ n ih =>
    unfold intPoints at h
    obtain ⟨y, _, h⟩ := bind_ok h
    exact ih (addPoint_inv hl hinv (fx_fadd hl _ _) y) h

theorem considerIntegrality_inv {o : FOps} (hl : Lawful o) {f : Fn} {isInt usePeriod : Bool} {d : Dom}
    {pl r : PL} (hinv : Inv o pl) (h : considerIntegrality o f isInt usePeriod d pl = .ok r) : Inv o r := by
  unfold considerIntegrality at h
  split at h
  · dsimp only at h
    split at h
    · obtain ⟨_, hthrow, -⟩ := bind_ok h
      exact (throw_ne_ok hthrow).elim
    · split at h
      · exact (throw_ne_ok h).elim
      · split at h
        · exact intPoints_inv hl (inv_nil o) h
        · exact pure_ok h ▸ hinv
  · exact pure_ok h ▸ hinv

theorem mem_insertU {x a : Rat} : ∀ {l : List Rat}, a ∈ insertU x l → a = x ∨ a ∈ l
  | [], h => Or.inl (List.mem_singleton.mp h)
  | y :: ys, h => by
    unfold insertU at h
    split at h
    · exact List.mem_cons.mp h
    · split at h
      · exact Or.inr h
      · rcases List.mem_cons.mp h with h | h
        · exact Or.inr (h ▸ List.mem_cons_self)
        · exact (mem_insertU h).imp_right (List.mem_cons_of_mem _)

theorem mem_toSet {a : Rat} {l : List Rat} (h : a ∈ toSet l) : a ∈ l :=
  List.foldlRecOn (motive := fun s => ∀ a ∈ s, a ∈ l) l _ (fun _ h => (List.not_mem_nil h).elim)
    (fun _ ih _ hx a ha => (mem_insertU ha).elim (· ▸ hx) (ih a)) a h

theorem bpsNonPeriodic_fx {o : FOps} (hl : Lawful o) (f : Fn) (lbx ubx : Rat) :
    ∀ b ∈ bpsNonPeriodic o f lbx ubx, Fx o b := by
  intro b hb
  unfold bpsNonPeriodic at hb
  simp only [] at hb
  split at hb
  · simp at hb; subst hb; exact fx_toF hl _
  · simp only [List.cons_append, List.mem_cons, List.mem_append, List.mem_filter] at hb
    rcases hb with hb | hb | hb
    · subst hb; exact fx_toF hl _
    · have := mem_toSet hb.1
      simp only [List.mem_map] at this
      obtain ⟨c, _, hc⟩ := this
      subst hc; exact fx_toF hl _
    · split at hb
      · simp at hb; subst hb; exact fx_toF hl _
      · cases hb

theorem mainLoop_inv {o : FOps} (hl : Lawful o) {f : Fn} {p : Params} {fuel : Nat} {d : Dom} {res1 : Res}
    {bps : List Rat} (hb : ∀ b ∈ bps, Fx o b) {r : Res} (h : mainLoop o f p fuel d res1 bps = .ok r) :
    Inv o r.pl := by
  unfold mainLoop at h
  split at h
  · exact (throw_ne_ok h).elim
  · rename_i x0 rest
    obtain ⟨f0, _, h⟩ := bind_ok h
    obtain ⟨pl1, h1, h⟩ := bind_ok h
    obtain ⟨pl2, h2, h⟩ := bind_ok h
    have := pure_ok h; subst this
    have hx0 : Fx o x0 := hb x0 (by simp)
    have i0 := addPoint_inv hl (inv_nil o) hx0 f0
    have i1 := subintervals_preserves (P := Inv o) (fun _ _ y hi hx => addPoint_inv hl hi hx y) (fx_fadd hl) hb i0 h1
    exact considerIntegrality_inv hl i1 h2

theorem run_inv {o : FOps} (hl : Lawful o) (f : Fn) (hb : ∀ b ∈ f.bps, Fx o b) (p : Params) (fuel : Nat)
    (r : Res) (h : run o f p fuel = .ok r) : Inv o r.pl := by
  unfold run at h
  obtain ⟨d, _, h⟩ := bind_ok h
  split at h
  · exact (throw_ne_ok h).elim
  · split at h
    · unfold trivialRes at h
      obtain ⟨v, _, h⟩ := bind_ok h
      exact pure_ok h ▸ addPoint_inv hl (inv_nil o) (hl.idem _) v
    · obtain ⟨rb, hrb, h⟩ := bind_ok h
      refine mainLoop_inv hl ?_ h
      split at hrb
      · unfold initPeriodic at hrb
        dsimp only at hrb
        split at hrb
        · exact (throw_ne_ok hrb).elim
        · split at hrb
          · have := pure_ok hrb; subst this; exact hb
          · exact (throw_ne_ok hrb).elim
      · unfold initNonPeriodic at hrb
        dsimp only at hrb
        split at hrb
        · exact (throw_ne_ok hrb).elim
        · have := pure_ok hrb; subst this; exact bpsNonPeriodic_fx hl f _ _

theorem mainLoop_first {o : FOps} {f : Fn} {p : Params} {fuel : Nat} {d : Dom} {res1 : Res} {x0 : Rat} {bps : List Rat}
    {r : Res} (hint : p.isInt = false) (h : mainLoop o f p fuel d res1 (x0 :: bps) = .ok r) :
    ∃ f0, r.pl.getLast? = some (x0, f0) ∧ r.domOut = res1.domOut := by
  simp only [mainLoop] at h
  obtain ⟨f0, _, h⟩ := bind_ok h
  obtain ⟨pl1, h1, h⟩ := bind_ok h
  obtain ⟨pl2, h2, h⟩ := bind_ok h
  obtain rfl := pure_ok h
  have hf1 := subintervals_preserves (P := fun pl => pl.getLast? = some (x0, f0)) (Q := fun _ => True)
    (fun _ x y h _ => first_addPoint h x y) (fun _ _ => trivial) (fun _ _ => trivial) rfl h1
  have : pl2 = pl1 := by
    unfold considerIntegrality at h2
    simp [hint, pure, Except.pure] at h2
    exact h2.symm
  exact ⟨f0, this ▸ hf1, rfl⟩

theorem bpsNonPeriodic_head {o : FOps} (f : Fn) {lbx ubx : Rat} (hord : ¬ o.toF ubx < o.toF lbx) :
    ∃ t, bpsNonPeriodic o f lbx ubx = o.toF lbx :: t :=
  ⟨_, by simp only [bpsNonPeriodic, if_neg hord, List.cons_append]; rfl⟩

theorem div_le_div_right {a b c : Rat} (h : a ≤ b) (hc : 0 < c) : a / c ≤ b / c := by
  rw [Rat.div_def, Rat.div_def]
  exact Rat.mul_le_mul_of_nonneg_right h (Rat.le_of_lt (Rat.inv_pos.mpr hc))

theorem periodic_cover_arith (lbx ubx pl pu x : Rat) (hp : pl < pu) (hl : lbx ≤ x) (hu : x ≤ ubx) :
    ∃ n : Int, ((lbx - pl) / (pu - pl)).floor ≤ n ∧ n ≤ ((ubx - pl) / (pu - pl)).ceil ∧
      pl ≤ x - (n : Rat) * (pu - pl) ∧ x - (n : Rat) * (pu - pl) < pu := by
  have hL : 0 < pu - pl := by grind
  have hL0 : pu - pl ≠ 0 := by grind
  refine ⟨((x - pl) / (pu - pl)).floor, ?_, ?_, ?_, ?_⟩
  · exact Rat.floor_monotone (div_le_div_right (by grind) hL)
  · exact_mod_cast Rat.le_trans (Rat.le_trans (Rat.floor_le _) (div_le_div_right (by grind : x - pl ≤ ubx - pl) hL))
      Rat.le_ceil
  · have h1 : ((((x - pl) / (pu - pl)).floor : Int) : Rat) ≤ (x - pl) / (pu - pl) := Rat.floor_le _
    have h2 := Rat.mul_le_mul_of_nonneg_right h1 (Rat.le_of_lt hL)
    rw [Rat.div_mul_cancel hL0] at h2
    grind
  · have h1 : (x - pl) / (pu - pl) < ((((x - pl) / (pu - pl)).floor + 1 : Int) : Rat) := Rat.lt_floor_add_one _
    have h2 := Rat.mul_lt_mul_of_pos_right h1 hL
    rw [Rat.div_mul_cancel hL0] at h2
    have h3 : ((((x - pl) / (pu - pl)).floor + 1 : Int) : Rat) = ((((x - pl) / (pu - pl)).floor : Int) : Rat) + 1 := by
      simp [Rat.intCast_add]
    rw [h3] at h2
    grind

theorem incB_sound : ∀ (l : List Rat), incB l = true → l.Pairwise (· < ·) := by
  intro l
  induction l with
  | nil => intro _; exact List.Pairwise.nil
  | cons a t ih =>
    intro h
    match t, ih, h with
    | [], _, _ => simp
    | b :: t', ih, h =>
      simp only [incB, Bool.and_eq_true, decide_eq_true_eq] at h
      have hp := ih h.2
      rw [List.pairwise_cons]
      refine ⟨?_, hp⟩
      intro c hc
      simp only [List.mem_cons] at hc
      rcases hc with hc | hc
      · subst hc; exact h.1
      · rw [List.pairwise_cons] at hp
        have := hp.1 c hc
        grind

end MpVerif.C13
