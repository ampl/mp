import Mathlib.Analysis.Calculus.Deriv.MeanValue
import Mathlib.Analysis.Calculus.LocalExtr.Basic
import Mathlib.Analysis.Calculus.Deriv.Inv
/-!
# C13 — the chord-error lemma over ℝ (proof-only file; Mathlib; not imported by the driver)

`maxErrorAbs` / `maxErrorRelAbove1` of `src/mp/flat/piecewise_linear.cpp` estimate the deviation between a
function and a candidate linear segment by looking at the end points and at the "middle-value point"
`xMid = inverse_1st(slope)`, the point where `f'` equals the chord slope, *assuming `f'` is monotone on the
subinterval*.  This file proves what that assumption buys over the reals:

* `C13_chord_error_max` / `C13_chord_error_max_anti`: if `f'` is strictly monotone on `[a,b]`, the maximum of
  `|f − chord|` over `[a,b]` is attained at exactly one point, the unique point where `f' = slope`;
* `C13_chord_bound`: hence checking the **absolute** error at that single point bounds it on the whole segment;
* `C13_rel_error_stationary` / `C13_rel_error_tilted_slope`: for the **relative** error `(f − chord)/f` an
  interior extremum with value `δ` sits where `f' = slope/(1−δ)`.  The code evaluates the relative error at the
  two points where `f' = slope/(1±ubErr)`, i.e. where an extremum of value *exactly* `∓ubErr` would sit.  That is
  a necessary condition for a borderline extremum, not a bound: an extremum with another value lies at a point
  the code does not look at.  The relative test is therefore a heuristic (and is treated as such by the check:
  the tolerance clause is explored numerically, not claimed).
-/
namespace MpVerif.C13.Chord
open Set

/-- the chord through `(a, f a)` and `(b, f b)` -/
noncomputable def chord (f : ℝ → ℝ) (a b x : ℝ) : ℝ := f a + (f b - f a) / (b - a) * (x - a)

theorem chord_left (f : ℝ → ℝ) (a b : ℝ) : chord f a b a = f a := by simp [chord]

theorem chord_right (f : ℝ → ℝ) {a b : ℝ} (hab : a < b) : chord f a b b = f b := by
  have : b - a ≠ 0 := (sub_pos.mpr hab).ne'
  simp only [chord]; field_simp; ring

theorem hasDerivAt_chord (f : ℝ → ℝ) (a b x : ℝ) : HasDerivAt (chord f a b) ((f b - f a) / (b - a)) x := by
  have h := (((hasDerivAt_id x).sub_const a).const_mul ((f b - f a) / (b - a))).const_add (f a)
  rwa [mul_one] at h

/-- **Chord-error lemma** (strictly increasing derivative): there is exactly one point `c ∈ (a,b)` with
`f' c = slope`; `f` lies below its chord; `|f − chord|` is maximal at `c` and nowhere else. -/
theorem C13_chord_error_max {f f' : ℝ → ℝ} {a b : ℝ} (hab : a < b)
    (hf : ∀ x ∈ Icc a b, HasDerivAt f (f' x) x) (hmono : StrictMonoOn f' (Icc a b)) :
    ∃ c ∈ Ioo a b, f' c = (f b - f a) / (b - a) ∧
      (∀ x ∈ Icc a b, f' x = (f b - f a) / (b - a) → x = c) ∧
      (∀ x ∈ Icc a b, f x ≤ chord f a b x) ∧
      (∀ x ∈ Icc a b, |f x - chord f a b x| ≤ |f c - chord f a b c|) ∧
      (∀ x ∈ Icc a b, |f x - chord f a b x| = |f c - chord f a b c| → x = c) := by
  set s := (f b - f a) / (b - a) with hs
  have hfc : ContinuousOn f (Icc a b) := fun x hx => (hf x hx).continuousAt.continuousWithinAt
  obtain ⟨c, hc, hfc'⟩ := exists_hasDerivAt_eq_slope f f' hab hfc (fun x hx => hf x (Ioo_subset_Icc_self hx))
  have hcI : c ∈ Icc a b := Ioo_subset_Icc_self hc
  let g : ℝ → ℝ := fun x => f x - chord f a b x
  have hg : ∀ x ∈ Icc a b, HasDerivAt g (f' x - s) x := fun x hx => (hf x hx).sub (hasDerivAt_chord f a b x)
  have hga : g a = 0 := by simp [g, chord_left]
  have hgb : g b = 0 := by simp [g, chord_right f hab]
  have hgc : ContinuousOn g (Icc a b) := fun x hx => (hg x hx).continuousAt.continuousWithinAt
  -- `g' = f' − s` is negative before `c` and positive after it, so `g` falls on `[a,c]` and rises on `[c,b]`
  have hanti : StrictAntiOn g (Icc a c) :=
    strictAntiOn_of_deriv_neg (convex_Icc a c) (hgc.mono (Icc_subset_Icc le_rfl hc.2.le)) fun x hx => by
      rw [interior_Icc] at hx
      have hxI : x ∈ Icc a b := ⟨hx.1.le, (hx.2.trans hc.2).le⟩
      rw [(hg x hxI).deriv]
      exact sub_neg.mpr ((hmono hxI hcI hx.2).trans_eq hfc')
  have hmonoG : StrictMonoOn g (Icc c b) :=
    strictMonoOn_of_deriv_pos (convex_Icc c b) (hgc.mono (Icc_subset_Icc hc.1.le le_rfl)) fun x hx => by
      rw [interior_Icc] at hx
      have hxI : x ∈ Icc a b := ⟨(hc.1.trans hx.1).le, hx.2.le⟩
      rw [(hg x hxI).deriv]
      exact sub_pos.mpr (hfc'.symm.trans_lt (hmono hcI hxI hx.1))
  have hle0 : ∀ x ∈ Icc a b, g x ≤ 0 := by
    intro x hx
    rcases le_total x c with h | h
    · exact (hanti.antitoneOn (⟨le_rfl, hc.1.le⟩ : a ∈ Icc a c) (⟨hx.1, h⟩ : x ∈ Icc a c) hx.1).trans_eq hga
    · exact (hmonoG.monotoneOn (⟨h, hx.2⟩ : x ∈ Icc c b) (⟨hc.2.le, le_rfl⟩ : b ∈ Icc c b) hx.2).trans_eq hgb
  have hlt : ∀ x ∈ Icc a b, x ≠ c → g c < g x := by
    intro x hx hne
    rcases lt_or_gt_of_ne hne with h | h
    · exact hanti ⟨hx.1, h.le⟩ ⟨hc.1.le, le_rfl⟩ h
    · exact hmonoG ⟨le_rfl, hc.2.le⟩ ⟨h.le, hx.2⟩ h
  have habs : ∀ x ∈ Icc a b, |f x - chord f a b x| = -g x := fun x hx => abs_of_nonpos (hle0 x hx)
  refine ⟨c, hc, hfc', fun x hx hxs => hmono.injOn hx hcI (hxs.trans hfc'.symm),
    fun x hx => sub_nonpos.mp (hle0 x hx), ?_, ?_⟩
  · intro x hx
    rw [habs x hx, habs c hcI, neg_le_neg_iff]
    rcases eq_or_ne x c with rfl | hne
    · exact le_rfl
    · exact (hlt x hx hne).le
  · intro x hx he
    rw [habs x hx, habs c hcI, neg_inj] at he
    by_contra hne
    exact (hlt x hx hne).ne' he

theorem chord_neg (f : ℝ → ℝ) (a b x : ℝ) : chord (fun t => -f t) a b x = -chord f a b x := by
  simp only [chord]; ring

/-- **Chord-error lemma**, strictly decreasing derivative (concave case). -/
theorem C13_chord_error_max_anti {f f' : ℝ → ℝ} {a b : ℝ} (hab : a < b)
    (hf : ∀ x ∈ Icc a b, HasDerivAt f (f' x) x) (hanti : StrictAntiOn f' (Icc a b)) :
    ∃ c ∈ Ioo a b, f' c = (f b - f a) / (b - a) ∧
      (∀ x ∈ Icc a b, f' x = (f b - f a) / (b - a) → x = c) ∧
      (∀ x ∈ Icc a b, chord f a b x ≤ f x) ∧
      (∀ x ∈ Icc a b, |f x - chord f a b x| ≤ |f c - chord f a b c|) ∧
      (∀ x ∈ Icc a b, |f x - chord f a b x| = |f c - chord f a b c| → x = c) := by
  have H := C13_chord_error_max (f := fun t => -f t) (f' := fun x => -f' x) hab (fun x hx => (hf x hx).neg)
    (fun x hx y hy h => neg_lt_neg (hanti hx hy h))
  simp only [chord_neg, ← neg_sub', neg_div, neg_inj, abs_neg, neg_le_neg_iff] at H
  exact H

theorem chord_error_max {f f' : ℝ → ℝ} {a b : ℝ} (hab : a < b)
    (hf : ∀ x ∈ Icc a b, HasDerivAt f (f' x) x)
    (hmono : StrictMonoOn f' (Icc a b) ∨ StrictAntiOn f' (Icc a b)) :
    ∃ c ∈ Ioo a b, f' c = (f b - f a) / (b - a) ∧
      (∀ x ∈ Icc a b, f' x = (f b - f a) / (b - a) → x = c) ∧
      (∀ x ∈ Icc a b, |f x - chord f a b x| ≤ |f c - chord f a b c|) := by
  rcases hmono with h | h
  · obtain ⟨c, hc, h1, h2, _, h4, _⟩ := C13_chord_error_max hab hf h; exact ⟨c, hc, h1, h2, h4⟩
  · obtain ⟨c, hc, h1, h2, _, h4, _⟩ := C13_chord_error_max_anti hab hf h; exact ⟨c, hc, h1, h2, h4⟩

/-- **What the algorithm uses** (absolute error): with a strictly monotone derivative (either direction), if
the deviation at *a* point `xm` of the segment where `f' xm = slope` is at most `ε`, it is at most `ε` on the
whole segment. -/
theorem C13_chord_bound {f f' : ℝ → ℝ} {a b : ℝ} (hab : a < b)
    (hf : ∀ x ∈ Icc a b, HasDerivAt f (f' x) x)
    (hmono : StrictMonoOn f' (Icc a b) ∨ StrictAntiOn f' (Icc a b))
    {xm ε : ℝ} (hxm : xm ∈ Icc a b) (hslope : f' xm = (f b - f a) / (b - a))
    (herr : |f xm - chord f a b xm| ≤ ε) :
    ∀ x ∈ Icc a b, |f x - chord f a b x| ≤ ε := by
  obtain ⟨c, _, _, huniq, hmax⟩ := chord_error_max hab hf hmono
  obtain rfl := huniq xm hxm hslope
  exact fun x hx => (hmax x hx).trans herr

/-- **Relative error, necessary condition**: at an interior local extremum `x` of the relative deviation
`(f − chord)/f` (where `f x ≠ 0`), `f' x · chord x = slope · f x`. -/
theorem C13_rel_error_stationary {f : ℝ → ℝ} {f'x a b x : ℝ}
    (hf : HasDerivAt f f'x x) (hfx : f x ≠ 0)
    (hext : IsLocalExtr (fun t => (f t - chord f a b t) / f t) x) :
    f'x * chord f a b x = (f b - f a) / (b - a) * f x := by
  have hd := ((hf.sub (hasDerivAt_chord f a b x)).div hf hfx)
  have h0 := hext.hasDerivAt_eq_zero hd
  have hne : f x ^ 2 ≠ 0 := pow_ne_zero 2 hfx
  rw [div_eq_zero_iff] at h0
  rcases h0 with h0 | h0
  · simp only [Pi.sub_apply] at h0
    linarith
  · exact absurd h0 hne

/-- … equivalently: an extremum of the relative deviation with value `δ ≠ 1` sits where `f' = slope/(1−δ)`.
The code's candidates `f' = slope/(1 ± ubErr)` are the positions of extrema of value exactly `∓ubErr` only. -/
theorem C13_rel_error_tilted_slope {f : ℝ → ℝ} {f'x a b x δ : ℝ}
    (hf : HasDerivAt f f'x x) (hfx : f x ≠ 0)
    (hext : IsLocalExtr (fun t => (f t - chord f a b t) / f t) x)
    (hδ : (f x - chord f a b x) / f x = δ) (hδ1 : δ ≠ 1) :
    f'x = (f b - f a) / (b - a) / (1 - δ) := by
  have h := C13_rel_error_stationary hf hfx hext
  have hch : f x - chord f a b x = δ * f x := (div_eq_iff hfx).mp hδ
  rw [eq_div_iff (sub_ne_zero.mpr (Ne.symm hδ1))]
  exact mul_right_cancel₀ hfx (by linear_combination h + f'x * hch)

end MpVerif.C13.Chord
