import MpVerif.C13.LemmasInt
import MpVerif.C13.LemmasStep
/-!
# C13 — piecewise-linear approximations: what is proved

The model (`Model.lean`) is the generator skeleton `BasicPLApproximator<FuncCon>::Run()` + `PLPoints::AddPoint`
over an **abstract function record** `Fn`
(arbitrary oracles for `eval`, `inverse`, `eval_1st`, `inverse_1st`, `eval_2nd`, arbitrary domain,
period, default breakpoints) and an abstract arithmetic `FOps`.  The theorems about `run` below (`C13_increasing*`)
quantify over *all* function records, all argument intervals, tolerances, integrality flags and all amounts of fuel;
the others say in their statements what they quantify over.

`Lawful o` is the only assumption on the arithmetic: rounding is monotone and idempotent and a float is a
double.  It is proved for exact arithmetic (`Lawful.exact`) and for the driver instance `ieee`
(`PropsIEEE.lean`: `C13_lawful_ieee`, `C13_increasing_ieee`; proof in `Rounding.lean`, which uses Mathlib).
The chord-error lemma over ℝ is in `Chord.lean`.

The tolerance clause of C13 ("|f − PL| ≤ tol at every real point") is **not** a theorem about this
algorithm and is not claimed: the real code violates it (see `C13_endpoints_counterexample_skip` for the
mechanism, and the check's exploration oracle for the failing inputs on the real code).
-/
namespace MpVerif.C13

/-- abscissae of a result in their natural order (first breakpoint first) -/
def Res.xs (r : Res) : List Rat := r.pl.reverse.map Prod.fst

theorem inc_natural {pl : PL} (h : Inc pl) : (pl.reverse.map Prod.fst).Pairwise (· < ·) :=
  List.pairwise_map.mpr (List.pairwise_reverse.mpr h)

/-- Invariant over `AddPoint` sequences: whatever points (representable abscissae, arbitrary ordinates, in any
order, with repetitions) are offered to `AddPoint`, starting from the empty PL, the stored abscissae are
strictly increasing. -/
theorem C13_addPoint_increasing (o : FOps) (hl : Lawful o) (pts : List (Rat × Rat))
    (hpts : ∀ p ∈ pts, Fx o p.1) :
    ((pts.foldl (fun pl p => addPoint o pl p.1 p.2) []).reverse.map Prod.fst).Pairwise (· < ·) :=
  inc_natural (List.foldlRecOn pts _ (inv_nil o) fun _ hi p hp => addPoint_inv hl hi (hpts p hp) p.2).1

/-- **Breakpoints are strictly increasing for every run of the skeleton**: any function record (any oracles,
domain, period, default breakpoints that are representable numbers), any interval, tolerance, integrality,
fuel; trivial domain, periodic and non-periodic path, integrality shortcut included. -/
theorem C13_increasing (o : FOps) (hl : Lawful o) (f : Fn) (hb : ∀ b ∈ f.bps, Fx o b) (p : Params)
    (fuel : Nat) (r : Res) (h : run o f p fuel = .ok r) : r.xs.Pairwise (· < ·) :=
  inc_natural (run_inv hl f hb p fuel r h).1

/-- the same over exact rational arithmetic, with no assumption at all -/
theorem C13_increasing_exact (sq : Rat → Rat) (f : Fn) (p : Params) (fuel : Nat) (r : Res)
    (h : run (exactOps sq) f p fuel = .ok r) : r.xs.Pairwise (· < ·) :=
  C13_increasing (exactOps sq) (Lawful.exact sq) f (fun _ _ => rfl) p fuel r h

/-! ## the step control: an accepted step passed the error test

(What the test guarantees about the TRUE error on the accepted segment is in `ChordRun.lean`:
`C13_accepted_step_mid_test_exact`, `C13_accepted_step_error_bound_exact`, `C13_accepted_step_tolerance_exact`.) -/

/-- **Every step accepted by the step control passed the generator's error test**, for every arithmetic and every
function record: the step `r` returned by `DecreaseStepWhileErrorTooBig` either left the function value unchanged
(the C++ then skips the test), or the candidate list of `maxErrorRelAbove1` on the segment `[x0, x0 ⊕ r]` — both ends,
the middle-value point `inverse_1st(slope)`, tilted-slope points, pre-images of ±1 — has every per-point error
(absolute inside `[-1,1]`, relative outside) `≤ ubErr`; the segment is non-degenerate and `ubErr > 0`. -/
theorem C13_accepted_step_passed_test (o : FOps) (f : Fn) (ubErr : Rat) (i : Int) (x0 f0 : Rat) (fuel : Nat) (dx r : Rat)
    (h : decStep o f ubErr i x0 f0 fuel dx = .ok r) :
    ∃ f1, f.eval (fadd o x0 r) = .fin f1 ∧
      (f1 = f0 ∨ ∃ pts, candPoints o f ubErr i x0 f0 (fadd o x0 r) f1 = .ok pts ∧
        (∀ p ∈ pts, pointErr o p.1 p.2 ≤ ubErr) ∧ (f1, f1) ∈ pts ∧ x0 < fadd o x0 r ∧ 0 < ubErr ∧
        ∀ xm fm, f.invd1 i (slopeOf o x0 f0 (fadd o x0 r) f1) = .fin xm → f.eval xm = .fin fm →
          pointErr o fm (fadd o f0 (fmul o (fsub o xm x0) (slopeOf o x0 f0 (fadd o x0 r) f1))) ≤ ubErr) := by
  obtain ⟨f1, hf1, hor⟩ := decStep_accept f ubErr i x0 f0 fuel dx r h
  refine ⟨f1, hf1, ?_⟩
  rcases hor with hflat | ⟨pts, hpts, hle⟩
  · exact Or.inl hflat
  · obtain ⟨hlt, hub, _, f1', _, he1, _, hm1, hmid⟩ := candPoints_spec hpts
    obtain rfl : f1 = f1' := OV.fin.inj (hf1.symm.trans he1)
    have hall : ∀ p ∈ pts, pointErr o p.1 p.2 ≤ ubErr := fun p hp => Rat.le_trans ((errMaxOf_ge o pts).2 p hp) hle
    exact Or.inr ⟨pts, hpts, hall, hm1, hlt, hub, fun xm fm hxm hfm => hall (fm, _) (hmid xm fm hxm hfm)⟩

/-- … and every iteration of the breakpoint loop of `ApproximateSubinterval` offers to `AddPoint` exactly the end of
such an accepted step (or the subinterval end `ub`, when the step ends within `1e-6` of it) -/
theorem C13_subLoop_step_tested (o : FOps) (f : Fn) (ubErr : Rat) (i : Int) (ub : Rat) (sf fuel : Nat)
    (x0 f0 : Rat) (pl r : PL) (h : subLoop o f ubErr i ub sf (fuel + 1) x0 f0 pl = .ok r) :
    ∃ dx1 dx2 dx3 f1, initStep o f ubErr ub x0 = .ok dx1 ∧ incStep o f ubErr i ub x0 f0 sf dx1 = .ok dx2 ∧
      decStep o f ubErr i x0 f0 sf dx2 = .ok dx3 ∧
      f.eval (if snapCond o ub (fadd o x0 dx3) then ub else fadd o x0 dx3) = .fin f1 ∧
      (r = addPoint o pl (if snapCond o ub (fadd o x0 dx3) then ub else fadd o x0 dx3) f1 ∨
       subLoop o f ubErr i ub sf fuel (if snapCond o ub (fadd o x0 dx3) then ub else fadd o x0 dx3) f1
         (addPoint o pl (if snapCond o ub (fadd o x0 dx3) then ub else fadd o x0 dx3) f1) = .ok r) := by
  unfold subLoop at h
  obtain ⟨dx1, h1, h⟩ := bind_ok h
  obtain ⟨dx2, h2, h⟩ := bind_ok h
  obtain ⟨dx3, h3, h⟩ := bind_ok h
  dsimp only at h
  refine ⟨dx1, dx2, dx3, ?_⟩
  generalize (if snapCond o ub (fadd o x0 dx3) then ub else fadd o x0 dx3) = x1 at h ⊢
  obtain ⟨f1, hf1, h⟩ := bind_ok h
  refine ⟨f1, h1, h2, h3, getFin_ok hf1, ?_⟩
  split at h
  · exact Or.inr h
  · exact Or.inl (pure_ok h).symm

/-! ## first / last breakpoint versus the reported domain

Full-strength statement (C13: "start and end at the reported domain"), **false for the code as it exists**:

    theorem C13_endpoints … (h : run o f p fuel = .ok r) (non-periodic, non-trivial, no integrality) :
        r.xs.head? = some r.domOut.lbx ∧ r.xs.getLast? = some r.domOut.ubx

Two independent reasons, each with a proved counterexample below:
 * the breakpoints pass through `std::set<float>`, so the first one is `float(lbx)`  (`…_float`);
 * `AddPoint` drops a point that is within `1e-4` of the previous one, also when it is the end of the
   domain (`…_skip`).
What does hold is `C13_endpoints_partial`. -/

/-- The first breakpoint is the reported lower end **rounded to float**, for every non-periodic,
non-trivial run without the integrality shortcut. -/
theorem C13_endpoints_partial (o : FOps) (f : Fn) (p : Params) (fuel : Nat) (d : Dom) (r : Res)
    (hper : f.periodic = false) (hint : p.isInt = false)
    (hd : clipDomain f p = .ok d)
    (hnontriv : domainClass o d.lbx d.ubx = 2) (hord : ¬ o.toF d.ubx < o.toF d.lbx)
    (h : run o f p fuel = .ok r) :
    r.xs.head? = some (o.toF d.lbx) ∧ r.domOut = d := by
  unfold run at h
  obtain ⟨d', hd', h⟩ := bind_ok h
  obtain rfl : d = d' := Except.ok.inj (hd.symm.trans hd')
  rw [if_neg (by rw [hnontriv]; decide), if_neg (by rw [hnontriv]; decide)] at h
  obtain ⟨rb, hrb, h⟩ := bind_ok h
  simp only [hper, Bool.false_eq_true, if_false, initNonPeriodic] at hrb
  split at hrb
  · exact (throw_ne_ok hrb).elim
  · obtain rfl := pure_ok hrb
    obtain ⟨t, ht⟩ := bpsNonPeriodic_head f hord
    rw [ht] at h
    obtain ⟨f0, hf, hdom⟩ := mainLoop_first hint h
    refine ⟨?_, hdom⟩
    simp only [Res.xs, List.map_reverse, List.head?_reverse, List.getLast?_map]
    exact congrArg (Option.map Prod.fst) hf

/-- a concrete function record: `f(x) = x` on `[-10,10]`, `f' = 1`, `f'' = 0`, `inverse_1st` undefined -/
def idFn : Fn :=
  { eval := fun x => .fin x, inv := fun _ y => .fin y, d1 := fun _ => .fin 1, invd1 := fun _ _ => .nan,
    d2 := fun _ => .fin 0, dom := ⟨-10, 10, -10, 10⟩, accLb := -1000, accUb := 1000,
    monotone := false, periodic := false, perLb := -1000, perUb := 1000, bps := [-10, 10] }

/-- the double nearest to `0.1` -/
def dbl0_1 : Rat := 3602879701896397 / 36028797018963968

/-- **Counterexample (float rounding of the ends)**: with IEEE arithmetic, `x ∈ [0.1, 1]`, tolerance `1e-2`,
the reported domain starts at `0.1` but the first breakpoint is `float(0.1) = 0.100000001490116… > 0.1`. -/
theorem C13_endpoints_counterexample_float :
    (run ieee idFn { dom := ⟨dbl0_1, 1, -10, 10⟩, isInt := false, ubErr := 1/100 } 60).toOption.map
        (fun r => (r.xs, r.domOut.lbx)) = some ([13421773/134217728, 1], dbl0_1)
    ∧ (13421773/134217728 : Rat) ≠ dbl0_1 := by
  constructor
  · decide +kernel
  · decide +kernel

/-- **Counterexample (the 1e-4 merge rule drops the end of the domain)**, already over exact arithmetic:
`x ∈ [0, 5e-5]` (wider than the `1e-6` "single point" threshold): the PL is the single point `(0, f(0))`,
the reported domain is `[0, 5e-5]`; the last breakpoint is not the reported upper end and the function is
approximated by a constant. -/
theorem C13_endpoints_counterexample_skip :
    (run (exactOps id) idFn { dom := ⟨0, 1/20000, -10, 10⟩, isInt := false, ubErr := 1/100 } 60).toOption.map
        (fun r => (r.pl, r.domOut.ubx)) = some ([(0, 0)], 1/20000) := by
  decide +kernel

/-- **Periodic cover, exact arithmetic only** (with rounding, `floor`/`ceil` of a rounded quotient can be off by one at
an exact multiple of the period, so the statement is not claimed for the IEEE instance; the check's oracle tests the
cover on every periodic output of the real code): the factor range reported by `InitPeriodic` is wide enough: every
`x` of the requested interval is `n·period + rem` with `n` an integer inside the reported factor range and
`rem` inside the base period `[perLb, perUb)`. -/
theorem C13_periodic_cover_exact (sq : Rat → Rat) (f : Fn) (d : Dom) (res : Res) (bps : List Rat)
    (h : initPeriodic (exactOps sq) f d = .ok (res, bps)) (hp : f.perLb < f.perUb)
    (x : Rat) (hl : d.lbx ≤ x) (hu : x ≤ d.ubx) :
    ∃ n : Int, res.facLb ≤ (n : Rat) ∧ (n : Rat) ≤ res.facUb ∧
      f.perLb ≤ x - (n : Rat) * res.periodLength ∧ x - (n : Rat) * res.periodLength < f.perUb ∧
      res.usePeriod = true := by
  unfold initPeriodic at h
  dsimp only at h
  split at h
  · exact (throw_ne_ok h).elim
  · split at h
    · obtain ⟨n, h1, h2, h3, h4⟩ := periodic_cover_arith d.lbx d.ubx f.perLb f.perUb x hp hl hu
      obtain rfl := (Prod.mk.inj (pure_ok h)).1
      exact ⟨n, Rat.intCast_le_intCast.mpr h1, Rat.intCast_le_intCast.mpr h2, h3, h4, rfl⟩
    · exact (throw_ne_ok h).elim

/-- **Exactness at the integers**, for every arithmetic whose integer steps are exact on the points concerned
(`IntOK o x0 N`: `x0 ⊕ j = x0 + j` and the 1e-4 keep test passes between consecutive integers — proved for exact
arithmetic, `intOK_exact`, and for the IEEE instance on integers below 2^52, `C13_intOK_ieee`): the point list built by
the integrality shortcut of `ConsiderIntegrality` — `AddPoint(x0+k, f(x0+k))` for `k = 0 … N-1`, *including* `AddPoint`'s rule that merges
runs of equal ordinates — represents `f` exactly at every integer `x0 + j`, `j < N`: the piecewise-linear
function through the stored points takes the value `f(x0+j)` there. -/
theorem C13_int_exact_lawful (o : FOps) (f : Fn) (x0 : Rat) (N : Nat) (hok : IntOK o x0 N) (r : PL)
    (h : intPoints o f x0 N 0 [] = .ok r) (j : Nat) (hj : j < N) :
    ∃ v, f.eval (x0 + (j : Rat)) = .fin v ∧ plEvalR r (x0 + (j : Rat)) = v := by
  match N, hok, h, hj with
  | n + 1, hok, h, hj =>
    unfold intPoints at h
    obtain ⟨y, hy, h⟩ := bind_ok h
    have hx : fadd o x0 ((0 : Nat) : Rat) = x0 + ((0 : Nat) : Rat) := hok.add 0 (by omega)
    rw [hx] at h hy
    have hI := intPoints_invI hok (by omega) (invI_base o f x0 y (getFin_ok hy)) h
    obtain ⟨_, _, _, _, _, _, hall⟩ := hI
    exact hall j (by omega)

/-- the same over exact arithmetic, with no hypothesis on the arithmetic -/
theorem C13_int_exact (sq : Rat → Rat) (f : Fn) (x0 : Rat) (N : Nat) (r : PL)
    (h : intPoints (exactOps sq) f x0 N 0 [] = .ok r) (j : Nat) (hj : j < N) :
    ∃ v, f.eval (x0 + (j : Rat)) = .fin v ∧ plEvalR r (x0 + (j : Rat)) = v :=
  C13_int_exact_lawful (exactOps sq) f x0 N (intOK_exact sq x0 N) r h j hj

/-- **Exactness at every integer of the reported domain** (exact arithmetic), stated on `ConsiderIntegrality` itself:
when it decides for one breakpoint per integer (`N ≤` current number of breakpoints, `N > 0`), the returned point
list represents `f` exactly at *every* integer `t` with `lbx ≤ t ≤ ubx`; and when the domain holds no integer it
reports infeasibility (`C13_int_no_integer_infeasible`). -/
theorem C13_int_exact_domain (sq : Rat → Rat) (f : Fn) (d : Dom) (pl r : PL)
    (h : considerIntegrality (exactOps sq) f true false d pl = .ok r)
    (hdec : intDecision (d.ubx.floor - d.lbx.ceil + 1) (pl.length : Int) = 1)
    (t : Int) (hl : d.lbx ≤ (t : Rat)) (hu : (t : Rat) ≤ d.ubx) :
    ∃ v, f.eval (t : Rat) = .fin v ∧ plEvalR r (t : Rat) = v := by
  have hNpos : 0 < d.ubx.floor - d.lbx.ceil + 1 := by
    unfold intDecision at hdec
    split at hdec
    · cases hdec
    · omega
  unfold considerIntegrality at h
  simp only [Bool.not_false, Bool.and_self, if_true] at h
  rw [intCount_exact, truncInt_intCast _ (by omega)] at h
  simp only [hdec] at h
  split at h
  · exact (throw_ne_ok h).elim
  · have h : intPoints (exactOps sq) f ((d.lbx.ceil : Int) : Rat) (d.ubx.floor - d.lbx.ceil + 1).toNat 0 [] = .ok r := by
      simpa using h
    have hc : d.lbx.ceil ≤ t := Rat.ceil_le_iff.mpr hl
    have hf : t ≤ d.ubx.floor := Rat.le_floor_iff.mpr hu
    have hj : (t - d.lbx.ceil).toNat < (d.ubx.floor - d.lbx.ceil + 1).toNat := by omega
    obtain ⟨v, hv1, hv2⟩ := C13_int_exact sq f _ _ r h _ hj
    have hx : ((d.lbx.ceil : Int) : Rat) + (((t - d.lbx.ceil).toNat : Nat) : Rat) = (t : Rat) := by
      exact_mod_cast (by omega : d.lbx.ceil + ((t - d.lbx.ceil).toNat : Int) = t)
    rw [hx] at hv1 hv2
    exact ⟨v, hv1, hv2⟩

/-- error branch: an integer argument whose clipped domain contains no integer is reported infeasible, for every
arithmetic -/
theorem C13_int_no_integer_infeasible (o : FOps) (f : Fn) (d : Dom) (pl : PL)
    (hr : ¬ (intCount o d.lbx d.ubx ≥ 2147483648 ∨ intCount o d.lbx d.ubx ≤ -2147483649))
    (hn : truncInt (intCount o d.lbx d.ubx) ≤ 0) :
    considerIntegrality o f true false d pl = .error .infeas := by
  unfold considerIntegrality
  simp only [Bool.not_false, Bool.and_self, if_true]
  rw [if_neg hr]
  have : intDecision (truncInt (intCount o d.lbx d.ubx)) (pl.length : Int) = 0 := by
    unfold intDecision; rw [if_pos hn]
  simp [this, throw, throwThe, MonadExceptOf.throw]

/-! ## the validator run on every output of the real code -/

/-- `checkPL` is sound: an output it accepts has as many ordinates as abscissae, at least one point, and
strictly increasing abscissae. -/
theorem C13_checkPL_sound (out : Output) (h : checkPL out = true) :
    out.xs.length = out.ys.length ∧ out.xs ≠ [] ∧ out.xs.Pairwise (· < ·) := by
  unfold checkPL at h
  simp only [Bool.and_eq_true, beq_iff_eq, Bool.not_eq_true', List.isEmpty_eq_false_iff] at h
  exact ⟨h.1.1, h.1.2, incB_sound _ h.2⟩

/-- `checkEnds` is sound: first / last breakpoint are exactly the reported domain ends. -/
theorem C13_checkEnds_sound (out : Output) (h : checkEnds out = true) :
    out.xs.head? = some out.lbx ∧ out.xs.getLast? = some out.ubx := by
  unfold checkEnds at h
  simp only [Bool.and_eq_true, beq_iff_eq] at h
  exact h

/-! ## non-vacuity: concrete, non-trivial instances meeting the hypotheses of the theorems above -/

/-- `C13_addPoint_increasing`: an offered sequence with a repetition, a point closer than 1e-4, an out-of-order
point and a run of equal ordinates; 3 of the 7 points survive -/
example : ((([(0, 5), (0, 5), (1/100000, 6), (1, 7), (1/2, 0), (2, 7), (3, 7)] : List (Rat × Rat)).foldl
    (fun pl p => addPoint (exactOps id) pl p.1 p.2) []).reverse.map Prod.fst) = [0, 1, 3] := by decide +kernel

/-- `C13_endpoints_partial`: every hypothesis holds for the float-rounding counterexample instance -/
example : idFn.periodic = false ∧
    (clipDomain idFn { dom := ⟨dbl0_1, 1, -10, 10⟩, isInt := false, ubErr := 1/100 }).toOption = some ⟨dbl0_1, 1, -10, 10⟩ ∧
    domainClass ieee dbl0_1 1 = 2 ∧ ¬ ieee.toF 1 < ieee.toF dbl0_1 := by
  refine ⟨rfl, ?_, ?_, ?_⟩ <;> decide +kernel

/-- a periodic function record (period `[0,2]`, breakpoints `0,1,2`) -/
def perFn : Fn := { idFn with periodic := true, perLb := 0, perUb := 2, bps := [0, 1, 2], dom := ⟨-1000, 1000, -10, 10⟩ }

/-- `C13_periodic_cover_exact`: `InitPeriodic` succeeds on `[-3, 5]` with factor range `[-2, 3]`, and e.g. `x = 9/2` is
`2·2 + 1/2` -/
example : (initPeriodic (exactOps id) perFn ⟨-3, 5, -10, 10⟩).toOption.map
    (fun rb => (rb.1.periodLength, rb.1.facLb, rb.1.facUb, rb.1.usePeriod)) = some (2, -2, 3, true) := by decide +kernel

/-- `C13_int_exact`: the shortcut on `x0 = -1`, `N = 4` for `f(x) = x` -/
example : (intPoints (exactOps id) idFn (-1) 4 0 []).toOption = some [(2, 2), (1, 1), (0, 0), (-1, -1)] := by
  decide +kernel

/-- … and with a run of equal ordinates merged (`f = 7` constant): two points represent four integers -/
example : (intPoints (exactOps id) { idFn with eval := fun _ => .fin 7 } (-1) 4 0 []).toOption
    = some [(2, 7), (-1, 7)] := by decide +kernel

/-- `C13_int_exact_domain` / `C13_int_no_integer_infeasible`: integer `x ∈ [-1/2, 5/2]` with 4 breakpoints already
present takes the shortcut (3 integers); integer `x ∈ [1/5, 4/5]` is infeasible -/
example : (considerIntegrality (exactOps id) idFn true false ⟨-1/2, 5/2, -10, 10⟩ [(3, 3), (2, 2), (1, 1), (0, 0)]).toOption
    = some [(2, 2), (1, 1), (0, 0)] := by decide +kernel
example : considerIntegrality (exactOps id) idFn true false ⟨1/5, 4/5, -10, 10⟩ [(1, 1), (0, 0)] = .error .infeas :=
  C13_int_no_integer_infeasible (exactOps id) idFn ⟨1/5, 4/5, -10, 10⟩ _ (by decide +kernel) (by decide +kernel)

/-! ## non-vacuity of `run` -/

/-- the skeleton does produce multi-point results (here: 3 breakpoints through 0 on `[-1, 1]`) -/
example : (run (exactOps id) { idFn with bps := [-10, 0, 10] }
    { dom := ⟨-1, 1, -10, 10⟩, isInt := false, ubErr := 1/100 } 60).toOption.map (fun r => r.xs)
    = some [-1, 0, 1] := by decide +kernel

/-- the validator accepts some outputs and rejects others -/
example : checkPL { xs := [0, 1, 2], ys := [0, 1, 4], lbx := 0, ubx := 2 } = true := by decide +kernel
example : checkPL { xs := [0, 1, 1], ys := [0, 1, 4], lbx := 0, ubx := 2 } = false := by decide +kernel

end MpVerif.C13
