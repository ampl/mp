import MpVerif.C13.Model
import MpVerif.Gen.C13Gen
/-!
# C13 — the hand model's decision / arithmetic functions equal the definitions GENERATED from the C++ source

`MpVerif/Gen/C13Gen.lean` is regenerated on every run by `translators/gen_c13.py` from the clang AST of
`src/mp/flat/piecewise_linear.cpp` and `include/mp/flat/constr_functional.h` (semantics of the translation:
`translators/tr_c13.py`).  The `C13_gen_*` theorems below state that the function the model (`Model.lean`) actually uses
is the generated one, for all arguments and every arithmetic `o` (the shrink factor: for `ieee`, see
`C13_gen_step_constants`); so every property theorem about the model speaks about the code as it is now, and a change
of any translated function breaks a proof here.  Three are tripwires on extracted tables (`C13_gen_cand_order`,
`C13_gen_approximators`, `C13_gen_option_plumbing`).  Core Lean only.
-/
namespace MpVerif.C13

/-- `f(x) = x` on `[-10,10]` (a concrete record for the examples of this file) -/
def idFnG : Fn :=
  { eval := fun x => .fin x, inv := fun _ y => .fin y, d1 := fun _ => .fin 1, invd1 := fun _ _ => .nan,
    d2 := fun _ => .fin 0, dom := ⟨-10, 10, -10, 10⟩, accLb := -1000, accUb := 1000,
    monotone := false, periodic := false, perLb := -1000, perUb := 1000, bps := [-10, 10] }

theorem eps100_lit : eps100 = (492525077454931 : Rat) /
    (4925250774549309901534880012517951725634967408808180833493536675530715221437151326426783281860614455100828498788352 : Rat) := by
  decide +kernel

/-- `CompareError` -/
theorem C13_gen_compareError (o : FOps) (err ub x0 y0 x1 y1 : Rat) :
    cmpCode err ub = Gen.C13.compareError o err ub x0 y0 x1 y1 := rfl

/-- `ComputeInitialStepLength` (finite second derivative) -/
theorem C13_gen_initialStep (o : FOps) (d2 : Rat → Rat) (ubErr ub x0 : Rat) :
    initStepFin o (d2 x0) ubErr ub x0 = Gen.C13.initialStep o d2 ubErr ub x0 := by
  unfold initStepFin Gen.C13.initialStep
  rw [eps100_lit, eps10]

/-- `CheckDomainReturnFalseIfTrivial`: infeasible / trivial / proceed, and the trivial point -/
theorem C13_gen_checkDomain (o : FOps) (lbx ubx : Rat) :
    domainClass o lbx ubx = Gen.C13.checkDomain o lbx ubx ∧ trivialMid o lbx ubx = Gen.C13.trivialMid o lbx ubx := by
  unfold domainClass Gen.C13.checkDomain MpVerif.C13.trivialMid Gen.C13.trivialMid
  rw [eps6]
  exact ⟨rfl, rfl⟩

theorem max_eq_ite (a b : Rat) : max a b = if a < b then b else a := by
  rw [Rat.max_def]; split <;> split <;> grind
theorem min_eq_ite (a b : Rat) : min a b = if b < a then b else a := by
  rw [Rat.min_def]; split <;> split <;> grind

/-- `FuncGraphDomain::intersect` -/
theorem C13_gen_intersect (a b : Dom) : a.intersect b = Gen.C13.intersect a b := by
  unfold Dom.intersect Gen.C13.intersect
  simp only [max_eq_ite, min_eq_ite]

/-- `ClipWithFunctionValues`, all four oracle values finite -/
theorem C13_gen_clipWithFunctionValues (o : FOps) (eval inverse : Rat → Rat) (d : Dom) :
    clipValsFin d (eval d.lbx) (eval d.ubx) (inverse d.lby) (inverse d.uby) =
      Gen.C13.clipWithFunctionValues o eval inverse d := by
  unfold clipValsFin Gen.C13.clipWithFunctionValues
  simp only [max_eq_ite, min_eq_ite]

theorem ovMin_fin (c e : Rat) : ovMin (.fin c) (.fin e) = .ok (.fin (min c e)) := by
  simp only [min_eq_ite, ovMin, OV.lt, decide_eq_true_eq, apply_ite OV.fin]; rfl
theorem ovMax_fin (c e : Rat) : ovMax (.fin c) (.fin e) = .ok (.fin (max c e)) := by
  simp only [max_eq_ite, ovMax, OV.lt, decide_eq_true_eq, apply_ite OV.fin]; rfl
theorem maxFin_fin (x q : Rat) : maxFin x (.fin q) = max x q := (max_eq_ite x q).symm
theorem minFin_fin (x q : Rat) : minFin x (.fin q) = min x q := (min_eq_ite x q).symm

/-- … and the model's `clipVals` (which also handles infinite pre-images) is `clipValsFin` on finite values -/
theorem C13_clipVals_finite (f : Fn) (d : Dom) (a b c e : Rat)
    (h1 : f.eval d.lbx = .fin a) (h2 : f.eval d.ubx = .fin b) (h3 : f.inv (-100) d.lby = .fin c)
    (h4 : f.inv (-100) d.uby = .fin e) : clipVals f d = .ok (clipValsFin d a b c e) := by
  have hne : ∀ q : Rat, ((OV.fin q == OV.pinf) = false) ∧ ((OV.fin q == OV.ninf) = false) := fun _ => ⟨rfl, rfl⟩
  simp only [clipVals, clipValsFin, h1, h2, h3, h4, getFin, ovMin_fin, ovMax_fin, maxFin_fin, minFin_fin, hne,
    bind, Except.bind, pure, Except.pure, Bool.or_self, Bool.false_eq_true, if_false]

/-- **`ClipFuncGraphDomain`** (incl. its statement order: the reported domain `grDomOut` and the interval `lbx_, ubx_`
the approximation is built on are all taken AFTER the clipping through function values): the model's `clipDomain`
yields `d` (used by `run` as reported domain and as `[lbx_, ubx_]`) exactly when the generated function yields
`(d, d.lbx, d.ubx)`; `clip` is whatever `ClipWithFunctionValues` computes on the intersected domain when the record is
monotone (tied separately: `C13_gen_clipWithFunctionValues`, `C13_clipVals_finite`). -/
theorem C13_gen_clipFuncGraphDomain (f : Fn) (p : Params) (clip : Dom → Dom)
    (hclip : f.monotone = true → clipVals f (p.dom.intersect f.dom) = .ok (clip (p.dom.intersect f.dom))) :
    (clipDomain f p).toOption.map (fun d => (d, d.lbx, d.ubx)) =
      Gen.C13.clipFuncGraphDomain f.accLb f.accUb f.dom (f.monotone = true) clip p.dom := by
  unfold clipDomain Gen.C13.clipFuncGraphDomain
  rw [← C13_gen_intersect]
  by_cases hacc : f.accLb ≤ p.dom.lbx ∧ p.dom.ubx ≤ f.accUb
  · by_cases hm : f.monotone = true
    · simp [hacc, hm, hclip hm, Except.toOption]
    · simp [hacc, hm, Except.toOption, pure, Except.pure]
  · simp [hacc, bind, Except.bind, Except.toOption, throw, throwThe, MonadExceptOf.throw]

/-- non-vacuity: a monotone record whose result bound cuts the argument (`y ≤ 4` for `f(x) = x` on `[-3, 8]`) -/
example : (clipDomain { idFnG with monotone := true } { dom := ⟨-3, 8, -10, 4⟩, isInt := false, ubErr := 1/100 }).toOption
    = some ⟨-3, 4, -3, 4⟩ := by decide +kernel

/-- locals of `maxErrorRelAbove1`: slope, the two tilted slopes, the per-point error measure -/
theorem C13_gen_maxErr_locals (o : FOps) (x0 y0 x1 y1 s ubErr fv y : Rat) :
    slopeOf o x0 y0 x1 y1 = Gen.C13.slope o x0 y0 x1 y1 ∧ tiltAway o s ubErr = Gen.C13.slopeTiltedAway o s ubErr ∧
    tiltTo o s ubErr = Gen.C13.slopeTiltedTo o s ubErr ∧ pointErr o fv y = Gen.C13.pointErr o fv y :=
  ⟨rfl, rfl, rfl, rfl⟩

/-! ### candidate collection of `maxErrorRelAbove1` (guards, ordinates, pre-image assertion) -/

/-- a candidate at abscissa `x` is `(eval x, y0 + (x-x0)*slope)` -/
theorem C13_gen_cand_ordinate (o : FOps) (f : Fn) (x0 y0 s : Rat) (pts : List (Rat × Rat)) (x fv : Rat)
    (h : f.eval x = .fin fv) :
    addCand o f x0 y0 s pts (.fin x) = .ok (pts ++ [(fv, Gen.C13.candOrdinate o x0 y0 s x)]) := by
  unfold addCand Gen.C13.candOrdinate
  simp only [h]
  rfl

instance (s a b : Rat) : Decidable (Gen.C13.tiltedInRange s a b) := by unfold Gen.C13.tiltedInRange; infer_instance
instance (x0 x1 xp : Rat) : Decidable (Gen.C13.preimInside x0 x1 xp) := by unfold Gen.C13.preimInside; infer_instance

/-- a tilted slope yields a candidate iff it lies between the (finite) end-point derivatives -/
theorem C13_gen_cand_tilted (o : FOps) (f : Fn) (i : Int) (x0 y0 slope a b s : Rat) (pts : List (Rat × Rat)) :
    addTilted o f i x0 y0 slope (.fin a) (.fin b) s pts =
      if Gen.C13.tiltedInRange s a b then addCand o f x0 y0 slope pts (f.invd1 i s) else pure pts := by
  unfold addTilted Gen.C13.tiltedInRange
  simp only [OV.le, Bool.and_eq_true, decide_eq_true_eq]

/-- the pre-image candidate: asserted to lie strictly inside the segment, ordinate on the chord -/
theorem C13_gen_cand_preim (o : FOps) (f : Fn) (i : Int) (x0 y0 x1 slope c : Rat) (pts : List (Rat × Rat)) (xp : Rat)
    (h : f.inv i c = .fin xp) :
    addPreim o f i x0 y0 x1 slope c true pts =
      if Gen.C13.preimInside x0 x1 xp then .ok (pts ++ [(c, Gen.C13.candOrdinate o x0 y0 slope xp)]) else .error .preim := by
  unfold addPreim Gen.C13.preimInside Gen.C13.candOrdinate
  simp only [h, if_true]
  by_cases hin : x0 < xp ∧ xp < x1
  · simp [hin]; rfl
  · simp [hin]; rfl

/-- the guards of the candidate collection and the two entry assertions -/
theorem C13_gen_cand_guards (a b f0 f1 ubErr x0 x1 : Rat) :
    (OV.lt (.fin b) (.fin a) = true ↔ Gen.C13.derivSwap a b) ∧
    ((f0 < 1 ∧ 1 < f1) ↔ Gen.C13.crossesUp1 f0 f1) ∧ ((f0 < -1 ∧ -1 < f1) ↔ Gen.C13.crossesUpM1 f0 f1) ∧
    (ubErr ≠ 1 ↔ Gen.C13.useTiltedTo ubErr) ∧ (x0 < x1 ↔ Gen.C13.segmentOk x0 x1) ∧ (0 < ubErr ↔ Gen.C13.tolOk ubErr) := by
  refine ⟨?_, Iff.rfl, Iff.rfl, ?_, Iff.rfl, Iff.rfl⟩
  · unfold Gen.C13.derivSwap; simp [OV.lt]
  · unfold Gen.C13.useTiltedTo; exact ⟨fun h => fun e => h e.symm, fun h => fun e => h e.symm⟩

instance (a b : Rat) : Decidable (Gen.C13.derivSwap a b) := by unfold Gen.C13.derivSwap; infer_instance
instance (u : Rat) : Decidable (Gen.C13.useTiltedTo u) := by unfold Gen.C13.useTiltedTo; infer_instance
instance (a b : Rat) : Decidable (Gen.C13.crossesUp1 a b) := by unfold Gen.C13.crossesUp1; infer_instance
instance (a b : Rat) : Decidable (Gen.C13.crossesUpM1 a b) := by unfold Gen.C13.crossesUpM1; infer_instance

/-- **the candidate collection after the middle-value point, in terms of the generated guards** (finite end-point
derivatives): swap, tilted-away candidate, tilted-to candidate unless `ubErr = 1`, pre-images of `+1` and `-1` -/
theorem C13_gen_candRest_finite (o : FOps) (f : Fn) (ubErr : Rat) (i : Int) (x0 y0 x1 s f0 f1 a b : Rat)
    (pts : List (Rat × Rat)) (ha : f.d1 x0 = .fin a) (hb : f.d1 x1 = .fin b) :
    candRest o f ubErr i x0 y0 x1 s f0 f1 pts =
      (addTilted o f i x0 y0 s (.fin (if Gen.C13.derivSwap a b then b else a)) (.fin (if Gen.C13.derivSwap a b then a else b))
          (Gen.C13.slopeTiltedAway o s ubErr) pts >>= fun pts =>
        (if Gen.C13.useTiltedTo ubErr then
            (if fsub o 1 ubErr = 0 then throw .nonfinite
             else addTilted o f i x0 y0 s (.fin (if Gen.C13.derivSwap a b then b else a))
                    (.fin (if Gen.C13.derivSwap a b then a else b)) (Gen.C13.slopeTiltedTo o s ubErr) pts)
          else pure pts) >>= fun pts =>
        addPreim o f i x0 y0 x1 s 1 (decide (Gen.C13.crossesUp1 f0 f1)) pts >>= fun pts =>
        addPreim o f i x0 y0 x1 s (-1) (decide (Gen.C13.crossesUpM1 f0 f1)) pts) := by
  have hsw : OV.lt (.fin b) (.fin a) = decide (Gen.C13.derivSwap a b) := by
    unfold Gen.C13.derivSwap; simp [OV.lt]
  have hne : ((OV.fin a == OV.miss) || (OV.fin b == OV.miss)) = false := rfl
  have hu : ubErr ≠ 1 ↔ Gen.C13.useTiltedTo ubErr := ne_comm
  simp only [candRest, ha, hb, hne, hsw, hu, apply_ite OV.fin, decide_eq_true_eq, Bool.false_eq_true, if_false]
  rfl

/-- tripwire: order and first components of the 7 candidates in the source -/
theorem C13_gen_cand_order :
    Gen.C13.candHeads = ["f0", "f1", "(eval xm)", "(eval xm)", "(eval xm)", "(1 : Rat)", "(-(1 : Rat))"] := by decide

/-- `ConsiderIntegrality`: the count `xN - x0 + 1`, the decisions `N <= 0` (infeasible) /
`N <= size` (one breakpoint per integer), the first abscissa and the abscissa of the k-th point -/
theorem C13_gen_integrality (o : FOps) (lbx ubx x0 : Rat) (n size : Int) (k : Nat) :
    intCount o lbx ubx = Gen.C13.intCount o lbx ubx ∧ intDecision n size = Gen.C13.intDecision n size ∧
    (((lbx.ceil : Int) : Rat) = Gen.C13.intFirst lbx) ∧ fadd o x0 (k : Rat) = Gen.C13.intPointX o x0 (k : Rat) :=
  ⟨rfl, rfl, rfl, rfl⟩

/-- `InitPeriodic`: period length and the arguments of `floor` / `ceil` of the factor range -/
theorem C13_gen_periodic (o : FOps) (lbx ubx perLb perUb len : Rat) :
    periodLen o perLb perUb = Gen.C13.periodLength o perLb perUb ∧
    facArg o lbx perLb len = Gen.C13.factorLbArg o lbx ubx perLb len ∧
    facArg o ubx perLb len = Gen.C13.factorUbArg o lbx ubx perLb len :=
  ⟨rfl, rfl, rfl⟩

/-- step control constants and the end-of-subinterval snap.  The compiler folds `1.0/1.1` to a double, which is what the
model holds as `cInv1_1` for every `o`; the generated quotient is therefore evaluated in `ieee`. -/
theorem C13_gen_step_constants (o : FOps) (ub x : Rat) :
    (snapCond o ub x ↔ Gen.C13.snapCond o ub x) ∧ c1_2 = Gen.C13.growFactor o ∧ cInv1_1 = Gen.C13.shrinkFactor ieee := by
  refine ⟨?_, rfl, ?_⟩
  · unfold MpVerif.C13.snapCond Gen.C13.snapCond; rw [eps6]
  · decide +kernel

theorem two_le_intCast {n : Int} : (2 : Rat) ≤ (n : Rat) ↔ 2 ≤ n := Rat.intCast_le_intCast (a := 2)

/-- `PLPoints::AddPoint`: the keep test -/
theorem C13_gen_addPoint_keep (o : FOps) (back x : Rat) :
    (keepCond o back x ↔ Gen.C13.addPointKeep o False back x) ∧ Gen.C13.addPointKeep o True back x := by
  unfold keepCond Gen.C13.addPointKeep
  rw [eps4]
  exact ⟨by simp, Or.inl trivial⟩

/-- `PLPoints::AddPoint`: the equal-ordinate merge test, for a stored PL with at least two points (last ordinates `yl`, `yp`) -/
theorem C13_gen_addPoint_merge (o : FOps) (size : Int) (hs : 2 ≤ size) (yAt : Rat → Rat) (yl yp y : Rat)
    (h1 : yAt ((size : Rat) - 1) = yl) (h2 : yAt ((size : Rat) - 2) = yp) :
    (yl = y ∧ yp = y) ↔ Gen.C13.addPointMerge o size yAt y := by
  unfold Gen.C13.addPointMerge
  rw [h1, h2]
  exact ⟨fun h => ⟨⟨two_le_intCast.mpr hs, h.1⟩, h.2⟩, fun h => ⟨h.1.2, h.2⟩⟩

/-- non-vacuity of `C13_gen_addPoint_merge`: three stored ordinates `5, 7, 7` and a new `7` -/
example : Gen.C13.addPointMerge ieee 3 (fun i => if i = 0 then 5 else 7) 7 :=
  (C13_gen_addPoint_merge ieee 3 (by decide) _ 7 7 7 (by decide +kernel) (by decide +kernel)).mp ⟨rfl, rfl⟩

/-- the merge test is off for fewer than two stored points -/
theorem C13_gen_addPoint_merge_small (o : FOps) (size : Int) (hs : size < 2) (yAt : Rat → Rat) (y : Rat) :
    ¬ Gen.C13.addPointMerge o size yAt y := by
  unfold Gen.C13.addPointMerge
  exact fun h => absurd (two_le_intCast.mp h.1.1) (by omega)

/-- the effect of an `AddPoint` action on the stored points (kept back to front) -/
def applyAction (a : Nat) (pl : PL) (x y : Rat) : PL :=
  match a, pl with
  | 0, pl => pl
  | 1, (_, byy) :: rest => (x, byy) :: rest
  | 1, [] => []
  | _, pl => (x, y) :: pl

/-- abscissa of the last stored point (`x_.back()`; arbitrary on the empty PL, where the C++ does not read it) -/
def backX (pl : PL) : Rat := (pl.head?.map Prod.fst).getD 0

/-- `y_[i]` for the two indices `AddPoint` reads: `size-1` and `size-2` (the generated code computes indices as exact
rationals) -/
def yAtOf (pl : PL) (i : Rat) : Rat :=
  if i = ((pl.length : Int) : Rat) - (1 : Rat) then ((pl[0]?).map Prod.snd).getD 0
  else if i = ((pl.length : Int) : Rat) - (2 : Rat) then ((pl[1]?).map Prod.snd).getD 0 else 0

theorem backX_cons (p : Rat × Rat) (pl : PL) : backX (p :: pl) = p.1 := rfl

/-- **the whole of `PLPoints::AddPoint`** (branch structure and both effects, not only its two tests): the model's `addPoint`
is the generated action applied to the stored points, for every PL, point and arithmetic -/
theorem C13_gen_addPoint_action (o : FOps) (pl : PL) (x y : Rat) :
    addPoint o pl x y =
      applyAction (Gen.C13.addPointAction o (pl = []) (backX pl) x (pl.length : Int) (yAtOf pl) y) pl x y := by
  unfold Gen.C13.addPointAction
  rw [← eps4]
  match pl with
  | [] =>
    have h0 : ¬ (2 : Int) ≤ (([] : PL).length : Nat) := by decide
    simp only [two_le_intCast, h0, true_or, false_and, if_true, if_false]
    rfl
  | [(bx, byy)] =>
    have h1 : ¬ (2 : Int) ≤ (([(bx, byy)] : PL).length : Nat) := by rw [List.length_singleton]; decide
    simp only [two_le_intCast, h1, reduceCtorEq, false_or, false_and, if_false, addPoint, keepCond, backX_cons]
    by_cases hk : fadd o bx eps4 < x <;> simp only [hk, if_true, if_false] <;> rfl
  | (bx, byy) :: (x2, y2) :: rest =>
    have hlen : (2 : Int) ≤ (((bx, byy) :: (x2, y2) :: rest).length : Nat) := by simp only [List.length_cons]; omega
    have e1 : yAtOf ((bx, byy) :: (x2, y2) :: rest)
        ((((((bx, byy) :: (x2, y2) :: rest).length : Nat) : Int) : Rat) - (1 : Rat)) = byy := by
      unfold yAtOf; rw [if_pos rfl]; rfl
    have e2 : yAtOf ((bx, byy) :: (x2, y2) :: rest)
        ((((((bx, byy) :: (x2, y2) :: rest).length : Nat) : Int) : Rat) - (2 : Rat)) = y2 := by
      unfold yAtOf
      rw [if_neg (by intro h; grind), if_pos rfl]; rfl
    simp only [two_le_intCast, e1, e2, hlen, reduceCtorEq, false_or, true_and, addPoint, keepCond, backX_cons]
    by_cases hk : fadd o bx eps4 < x <;> by_cases hm : byy = y ∧ y2 = y <;> simp only [hk, hm, if_true, if_false] <;> rfl

/-- the 17 function types the model's harness covers, with the flags that select `ClipWithFunctionValues`
(monotone) and the periodic path -/
def knownApproximators : List (String × Bool × Bool) :=
  [("ExpConstraint", true, false), ("LogConstraint", true, false), ("ExpAConstraint", true, false),
   ("LogAConstraint", true, false), ("PowConstraint", false, false), ("SinConstraint", false, true),
   ("CosConstraint", false, true), ("TanConstraint", false, true), ("AsinConstraint", false, false),
   ("AcosConstraint", false, false), ("AtanConstraint", false, false), ("SinhConstraint", true, false),
   ("CoshConstraint", false, false), ("TanhConstraint", true, false), ("AsinhConstraint", false, false),
   ("AcoshConstraint", false, false), ("AtanhConstraint", false, false)]

/-- **structure tie**: the set of `PLApproximator<…>` specialisations in the source, their monotone / periodic
flags and the explicit instantiations are exactly the 17 the check exercises -/
theorem C13_gen_approximators :
    Gen.C13.approximators = knownApproximators ∧ Gen.C13.instantiated = knownApproximators.map (·.1) := by
  decide

/-- which quantity of `FuncConConverter_MIP_CRTP::Convert` an option (given by one of its names) ends up in, composed from
the three generated tables: `AddOption` binding → accessor returning that member → where `Convert` stores the accessor -/
def optionFeeds (opts : List (List String × String)) (accs uses : List (String × String)) (name : String) : Option String :=
  match opts.find? (fun o => o.1.contains name) with
  | none => none
  | some o =>
    match accs.find? (fun a => a.2 == o.2) with
    | none => none
    | some a => (uses.find? (fun u => u.2 == a.1)).map (·.1)

/-- **option plumbing (structure tie)**: in the current source `cvt:plapprox:reltol` (and its aliases) is bound to the
member returned by `PLApproxRelTol()`, which `Convert` stores into `laPrm.ubErr` (the requested tolerance), and
`cvt:plapprox:domain` (and aliases) to the member returned by `PLApproxDomain()`, which `Convert` uses as the graph
limit `dm`; the two options are bound to different members -/
theorem C13_gen_option_plumbing :
    Gen.C13.plOptions = [(["cvt:plapprox:reltol", "plapprox:reltol", "plapproxreltol"], "PLApproxRelTol_"),
                         (["cvt:plapprox:domain", "plapprox:domain", "plapproxdomain"], "PLApproxDomain_")] ∧
    Gen.C13.plAccessors = [("PLApproxRelTol", "PLApproxRelTol_"), ("PLApproxDomain", "PLApproxDomain_")] ∧
    Gen.C13.plUses = [("dm", "PLApproxDomain"), ("laPrm.ubErr", "PLApproxRelTol")] ∧
    (∀ n ∈ ["cvt:plapprox:reltol", "plapprox:reltol", "plapproxreltol"],
      optionFeeds Gen.C13.plOptions Gen.C13.plAccessors Gen.C13.plUses n = some "laPrm.ubErr") ∧
    (∀ n ∈ ["cvt:plapprox:domain", "plapprox:domain", "plapproxdomain"],
      optionFeeds Gen.C13.plOptions Gen.C13.plAccessors Gen.C13.plUses n = some "dm") := by
  decide

end MpVerif.C13
