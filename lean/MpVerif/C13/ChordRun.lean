import MpVerif.C13.Props
import MpVerif.C13.Chord
/-!
# C13 — the chord lemma connected to the model's step control (proof-only; Mathlib)

`LemmasStep.lean` (core) proves, for every arithmetic: the step returned by `decStep`
(`DecreaseStepWhileErrorTooBig`) either saw no change of the function value, or the candidate list of its last
error test has `errMaxOf ≤ ubErr`, and that value dominates the error measure at both ends and at the middle-value
point `inverse_1st(slope)`.  This file uses it as `C13_accepted_step_passed_test` (`Props.lean`), read at the
middle-value point (`decStep_mid_test`).

This file states what that buys for the TRUE error, over exact arithmetic, when the oracles are those of a real
function `F` with strictly monotone derivative on the accepted segment (the assumption written in the C++ comment
"Assuming f' is monotone on the subinterval"):

* `C13_mid_test_bound`: if the error measure at the point `xm` with `F' xm = slope` is `≤ tol`, then on the whole segment
  `|F − chord| ≤ tol · max 1 |F xm|`;
* `C13_mid_test_tolerance`: if moreover `|F xm| ≤ 1` (the extremum is measured absolutely), the property's own error
  measure (absolute where `|F| ≤ 1`, relative elsewhere) is `≤ tol` at EVERY point of the segment;
* `C13_accepted_step_mid_test_exact`: the segment `[x0, x0+r]` accepted by the model's `decStep` passed that test at
  `xm` with `tol = ubErr`; hence `C13_accepted_step_error_bound_exact` (the bound of `C13_mid_test_bound`) and
  `C13_accepted_step_tolerance_exact` (the conclusion of `C13_mid_test_tolerance` when `|F xm| ≤ 1`).

What this does **not** give (and the real code violates, see the known findings): the stored PL segment is the accepted
one only if `AddPoint` stores its end point — the 1e-4 merge rule drops points, so a stored segment can span several
accepted steps (`C13_endpoints_counterexample_skip`); the end point may be snapped to `ub_sub()` (within 1e-6) after
the test; a step with unchanged function value is accepted without any test; for `|F xm| > 1` only the weaker bound
`tol·|F xm|` follows for points of smaller magnitude — there the C++ relies on the tilted-slope candidates, which are a
heuristic (`C13_rel_error_tilted_slope`); and all of it is over exact arithmetic with exact oracles, not libm.
-/
namespace MpVerif.C13.Chord
open Set MpVerif.C13

/-- the property's error measure over the reals: absolute where `|f| ≤ 1`, relative elsewhere -/
noncomputable def errMeasure (f y : ℝ) : ℝ := if |f| ≤ 1 then |f - y| else |f - y| / |f|

noncomputable def lineThrough (a ya b yb x : ℝ) : ℝ := ya + (yb - ya) / (b - a) * (x - a)

theorem chord_eq_line (F : ℝ → ℝ) (a b x : ℝ) : chord F a b x = lineThrough a (F a) b (F b) x := rfl

theorem errMeasure_le_imp {f y tol : ℝ} (htol : 0 ≤ tol) (h : errMeasure f y ≤ tol) : |f - y| ≤ tol * max 1 |f| := by
  unfold errMeasure at h
  split at h
  · exact h.trans (le_mul_of_one_le_right htol (le_max_left _ _))
  · rename_i h1
    exact ((div_le_iff₀ (one_pos.trans (not_le.mp h1))).mp h).trans (mul_le_mul_of_nonneg_left (le_max_right _ _) htol)

theorem errMeasure_le_abs (f y : ℝ) : errMeasure f y ≤ |f - y| := by
  unfold errMeasure
  split
  · exact le_rfl
  · rename_i h1
    exact div_le_self (abs_nonneg _) (not_le.mp h1).le

/-- **Middle-value test ⇒ bound on the whole segment.** -/
theorem C13_mid_test_bound {F F' : ℝ → ℝ} {a b : ℝ} (hab : a < b)
    (hF : ∀ x ∈ Icc a b, HasDerivAt F (F' x) x)
    (hmono : StrictMonoOn F' (Icc a b) ∨ StrictAntiOn F' (Icc a b))
    {xm tol : ℝ} (hxm : xm ∈ Icc a b) (hslope : F' xm = (F b - F a) / (b - a)) (htol : 0 ≤ tol)
    (htest : errMeasure (F xm) (chord F a b xm) ≤ tol) :
    ∀ x ∈ Icc a b, |F x - chord F a b x| ≤ tol * max 1 |F xm| :=
  C13_chord_bound hab hF hmono hxm hslope (errMeasure_le_imp htol htest)

/-- **… and when the extremum is measured absolutely, the tolerance clause holds at every point of the segment.** -/
theorem C13_mid_test_tolerance {F F' : ℝ → ℝ} {a b : ℝ} (hab : a < b)
    (hF : ∀ x ∈ Icc a b, HasDerivAt F (F' x) x)
    (hmono : StrictMonoOn F' (Icc a b) ∨ StrictAntiOn F' (Icc a b))
    {xm tol : ℝ} (hxm : xm ∈ Icc a b) (hslope : F' xm = (F b - F a) / (b - a)) (htol : 0 ≤ tol)
    (hsmall : |F xm| ≤ 1) (htest : errMeasure (F xm) (chord F a b xm) ≤ tol) :
    ∀ x ∈ Icc a b, errMeasure (F x) (chord F a b x) ≤ tol := by
  intro x hx
  have hb := C13_mid_test_bound hab hF hmono hxm hslope htol htest x hx
  rw [max_eq_left hsmall, mul_one] at hb
  exact (errMeasure_le_abs _ _).trans hb

theorem rabs_eq_abs (q : ℚ) : rabs q = |q| := by
  unfold rabs
  split
  · exact (abs_of_neg ‹_›).symm
  · exact (abs_of_nonneg (not_lt.mp ‹_›)).symm

theorem pointErr_cast (sq : ℚ → ℚ) (fv y : ℚ) :
    ((pointErr (exactOps sq) fv y : ℚ) : ℝ) = errMeasure (fv : ℝ) (y : ℝ) := by
  have h : (-1 ≤ fv ∧ fv ≤ 1) ↔ |(fv : ℝ)| ≤ 1 := by rw [abs_le]; norm_cast
  simp only [pointErr, errMeasure, fsub, fdiv, exactOps, id, rabs_eq_abs, h]
  split_ifs <;> push_cast <;> rfl

theorem decStep_mid_test {o : FOps} {f : Fn} {ubErr : Rat} {i : Int} {x0 f0 : Rat} {fuel : Nat} {dx r : Rat}
    (h : decStep o f ubErr i x0 f0 fuel dx = .ok r) {f1 : Rat} (hf1 : f.eval (fadd o x0 r) = .fin f1) (hne : f1 ≠ f0)
    {xm fm : Rat} (hxm : f.invd1 i (slopeOf o x0 f0 (fadd o x0 r) f1) = .fin xm) (hfm : f.eval xm = .fin fm) :
    x0 < fadd o x0 r ∧ 0 < ubErr ∧
      pointErr o fm (fadd o f0 (fmul o (fsub o xm x0) (slopeOf o x0 f0 (fadd o x0 r) f1))) ≤ ubErr := by
  obtain ⟨f1', hf1', hor⟩ := C13_accepted_step_passed_test o f ubErr i x0 f0 fuel dx r h
  obtain rfl : f1 = f1' := OV.fin.inj (hf1.symm.trans hf1')
  rcases hor with hflat | ⟨_, _, _, _, hlt, hub, hmid⟩
  · exact absurd hflat hne
  · exact ⟨hlt, hub, hmid xm fm hxm hfm⟩

theorem slopeOf_cast (sq : ℚ → ℚ) {x0 y0 x1 y1 : ℚ} :
    ((slopeOf (exactOps sq) x0 y0 x1 y1 : ℚ) : ℝ) = ((y1 : ℝ) - y0) / ((x1 : ℝ) - x0) := by
  simp only [slopeOf, fsub, fdiv, exactOps, id]
  push_cast; rfl

theorem accepted_step_real (sq : ℚ → ℚ) {f : Fn} {ubErr : ℚ} {i : Int} {x0 y0 dx r : ℚ} {fuel : Nat}
    (hdec : decStep (exactOps sq) f ubErr i x0 y0 fuel dx = .ok r)
    {f1 : ℚ} (hf1e : f.eval (x0 + r) = .fin f1) (hchanged : f1 ≠ y0)
    {xm fm : ℚ} (hxm : f.invd1 i (slopeOf (exactOps sq) x0 y0 (x0 + r) f1) = .fin xm) (hfm : f.eval xm = .fin fm) :
    (x0 : ℝ) < ((x0 + r : ℚ) : ℝ) ∧ (0 : ℝ) < (ubErr : ℝ) ∧
    errMeasure (fm : ℝ) (lineThrough (x0 : ℝ) (y0 : ℝ) ((x0 + r : ℚ) : ℝ) (f1 : ℝ) xm) ≤ (ubErr : ℝ) := by
  obtain ⟨hlt, hub, hle⟩ := decStep_mid_test hdec hf1e hchanged hxm hfm
  have hcast : ((pointErr (exactOps sq) fm _ : ℚ) : ℝ) ≤ (ubErr : ℝ) := Rat.cast_le.mpr hle
  rw [pointErr_cast] at hcast
  refine ⟨Rat.cast_lt.mpr hlt, Rat.cast_pos.mpr hub, ?_⟩
  convert hcast using 2
  simp only [lineThrough, slopeOf, fadd, fmul, fsub, fdiv, exactOps, id]
  push_cast; ring

/-- **Every step accepted by the model's step control passed the middle-value test** (`decStep`, exact arithmetic,
`eval` the values of a real function `F`, function value changed): the segment is non-degenerate, the tolerance is
positive, the property's error measure at `xm = inverse_1st(slope)` is `≤ ubErr`, and `F' xm` is the chord slope. -/
theorem C13_accepted_step_mid_test_exact (sq : ℚ → ℚ) (f : Fn) (ubErr : ℚ) (i : Int) (x0 y0 dx r : ℚ) (fuel : Nat)
    (hdec : decStep (exactOps sq) f ubErr i x0 y0 fuel dx = .ok r)
    (F F' : ℝ → ℝ)
    (hy0 : F x0 = y0)
    (heval : ∀ q v : ℚ, f.eval q = .fin v → F q = v)
    (f1 : ℚ) (hf1e : f.eval (x0 + r) = .fin f1) (hchanged : f1 ≠ y0)
    (xm fm : ℚ)
    (hxm : f.invd1 i (slopeOf (exactOps sq) x0 y0 (x0 + r) f1) = .fin xm)
    (hfm : f.eval xm = .fin fm)
    (hsl : F' (xm : ℝ) = ((slopeOf (exactOps sq) x0 y0 (x0 + r) f1 : ℚ) : ℝ)) :
    (x0 : ℝ) < ((x0 + r : ℚ) : ℝ) ∧ (0 : ℝ) < (ubErr : ℝ) ∧
    errMeasure (F xm) (chord F (x0 : ℝ) ((x0 + r : ℚ) : ℝ) xm) ≤ (ubErr : ℝ) ∧
    F' xm = (F ((x0 + r : ℚ) : ℝ) - F x0) / (((x0 + r : ℚ) : ℝ) - x0) := by
  obtain ⟨hab, hub, htest⟩ := accepted_step_real sq hdec hf1e hchanged hxm hfm
  rw [chord_eq_line, heval _ _ hfm, heval _ _ hf1e, hy0]
  exact ⟨hab, hub, htest, hsl.trans (slopeOf_cast sq)⟩

/-- **The segment accepted by the model's step control**, `F'` strictly monotone on it and `xm` inside it:
`|F − chord| ≤ ubErr · max 1 |F xm|` at every real point of `[x0, x0 + r]`. -/
theorem C13_accepted_step_error_bound_exact (sq : ℚ → ℚ) (f : Fn) (ubErr : ℚ) (i : Int) (x0 y0 dx r : ℚ) (fuel : Nat)
    (hdec : decStep (exactOps sq) f ubErr i x0 y0 fuel dx = .ok r)
    (F F' : ℝ → ℝ)
    (hy0 : F x0 = y0)
    (heval : ∀ q v : ℚ, f.eval q = .fin v → F q = v)
    (f1 : ℚ) (hf1e : f.eval (x0 + r) = .fin f1) (hchanged : f1 ≠ y0)
    (xm fm : ℚ)
    (hxm : f.invd1 i (slopeOf (exactOps sq) x0 y0 (x0 + r) f1) = .fin xm)
    (hfm : f.eval xm = .fin fm)
    (hsl : F' (xm : ℝ) = ((slopeOf (exactOps sq) x0 y0 (x0 + r) f1 : ℚ) : ℝ))
    (hF : ∀ x ∈ Icc (x0 : ℝ) ((x0 + r : ℚ) : ℝ), HasDerivAt F (F' x) x)
    (hmono : StrictMonoOn F' (Icc (x0 : ℝ) ((x0 + r : ℚ) : ℝ)) ∨ StrictAntiOn F' (Icc (x0 : ℝ) ((x0 + r : ℚ) : ℝ)))
    (hxmI : (xm : ℝ) ∈ Icc (x0 : ℝ) ((x0 + r : ℚ) : ℝ)) :
    ∀ x ∈ Icc (x0 : ℝ) ((x0 + r : ℚ) : ℝ),
      |F x - chord F (x0 : ℝ) ((x0 + r : ℚ) : ℝ) x| ≤ (ubErr : ℝ) * max 1 |F xm| := by
  obtain ⟨hab, hub, hcast, hslope⟩ := C13_accepted_step_mid_test_exact sq f ubErr i x0 y0 dx r fuel hdec F F' hy0 heval
    f1 hf1e hchanged xm fm hxm hfm hsl
  exact C13_mid_test_bound hab hF hmono hxmI hslope hub.le hcast

/-- **The tolerance clause on an accepted segment**: if moreover `|F xm| ≤ 1`, the property's error measure (absolute
where `|F| ≤ 1`, relative elsewhere) between `F` and the chord is `≤ ubErr` at EVERY real point of the accepted segment. -/
theorem C13_accepted_step_tolerance_exact (sq : ℚ → ℚ) (f : Fn) (ubErr : ℚ) (i : Int) (x0 y0 dx r : ℚ) (fuel : Nat)
    (hdec : decStep (exactOps sq) f ubErr i x0 y0 fuel dx = .ok r)
    (F F' : ℝ → ℝ)
    (hy0 : F x0 = y0)
    (heval : ∀ q v : ℚ, f.eval q = .fin v → F q = v)
    (f1 : ℚ) (hf1e : f.eval (x0 + r) = .fin f1) (hchanged : f1 ≠ y0)
    (xm fm : ℚ)
    (hxm : f.invd1 i (slopeOf (exactOps sq) x0 y0 (x0 + r) f1) = .fin xm)
    (hfm : f.eval xm = .fin fm)
    (hsl : F' (xm : ℝ) = ((slopeOf (exactOps sq) x0 y0 (x0 + r) f1 : ℚ) : ℝ))
    (hF : ∀ x ∈ Icc (x0 : ℝ) ((x0 + r : ℚ) : ℝ), HasDerivAt F (F' x) x)
    (hmono : StrictMonoOn F' (Icc (x0 : ℝ) ((x0 + r : ℚ) : ℝ)) ∨ StrictAntiOn F' (Icc (x0 : ℝ) ((x0 + r : ℚ) : ℝ)))
    (hxmI : (xm : ℝ) ∈ Icc (x0 : ℝ) ((x0 + r : ℚ) : ℝ)) (hsmall : |F xm| ≤ 1) :
    ∀ x ∈ Icc (x0 : ℝ) ((x0 + r : ℚ) : ℝ),
      errMeasure (F x) (chord F (x0 : ℝ) ((x0 + r : ℚ) : ℝ) x) ≤ (ubErr : ℝ) := by
  obtain ⟨hab, hub, hcast, hslope⟩ := C13_accepted_step_mid_test_exact sq f ubErr i x0 y0 dx r fuel hdec F F' hy0 heval
    f1 hf1e hchanged xm fm hxm hfm hsl
  exact C13_mid_test_tolerance hab hF hmono hxmI hslope hub.le hsmall hcast

/-! ### non-vacuity: `F = x²` on `[0,4]` (the function of synthetic records 6 and 7 of `harness/h_pl.cc`; `eval_2nd`,
`inverse` and the y-range are not theirs), tolerance 1/16; the step 1/2 is given to `decStep` directly -/

/-- oracles of `x²`: `eval`, `eval_1st`, `inverse_1st`, `eval_2nd` exact; `inverse` is a placeholder (not consulted: the
accepted step does not cross `±1`) -/
def sqFn : Fn :=
  { eval := fun x => .fin (x * x), inv := fun _ y => .fin y, d1 := fun x => .fin (2 * x), invd1 := fun _ s => .fin (s / 2),
    d2 := fun _ => .fin 2, dom := ⟨0, 4, -100, 100⟩, accLb := -1000, accUb := 1000,
    monotone := false, periodic := false, perLb := -1000, perUb := 1000, bps := [0, 4] }

theorem sq_step_accepted : decStep (exactOps id) sqFn (1/16) 0 0 0 50 (1/2) = .ok (1/2) := by decide +kernel

theorem hasDerivAt_sq (x : ℝ) : HasDerivAt (fun t : ℝ => t * t) (2 * x) x := by
  have h := (hasDerivAt_id' x).mul (hasDerivAt_id' x)
  exact h.congr_deriv (by ring)

/-- `C13_chord_bound` has non-trivial instances: `x²` on `[0,1]` … -/
example : ∀ x ∈ Icc (0 : ℝ) 1, |x * x - chord (fun t => t * t) 0 1 x| ≤ 1 / 4 := by
  refine C13_chord_bound (f := fun t => t * t) (f' := fun x => 2 * x) (by norm_num) (fun x _ => hasDerivAt_sq x)
    (Or.inl (fun x _ y _ h => by show 2 * x < 2 * y; linarith)) (xm := 1 / 2) (ε := 1 / 4)
    ⟨by norm_num, by norm_num⟩ (by norm_num) ?_
  norm_num [chord, abs_le]

/-- … and `C13_accepted_step_error_bound_exact` applies to the accepted step above: `|x² − x/2| ≤ 1/16` on `[0, 1/2]` -/
example : ∀ x ∈ Icc ((0 : ℚ) : ℝ) (((0 : ℚ) + 1/2 : ℚ) : ℝ),
    |x * x - chord (fun t => t * t) ((0 : ℚ) : ℝ) (((0 : ℚ) + 1/2 : ℚ) : ℝ) x| ≤ ((1/16 : ℚ) : ℝ) * max 1 |(((1/4 : ℚ) : ℝ)) * ((1/4 : ℚ) : ℝ)| :=
  C13_accepted_step_error_bound_exact id sqFn (1/16) 0 0 0 (1/2) (1/2) 50 sq_step_accepted
    (fun t => t * t) (fun x => 2 * x)
    (by norm_num)
    (by intro q v h; simp only [sqFn] at h; cases h; push_cast; ring)
    (1/4) (by decide +kernel) (by decide +kernel) (1/4) (1/16) (by decide +kernel) (by decide +kernel)
    (by
      have : slopeOf (exactOps id) 0 0 (0 + 1/2) (1/4) = 1/2 := by decide +kernel
      rw [this]; push_cast; norm_num)
    (fun x _ => hasDerivAt_sq x)
    (Or.inl (fun x _ y _ h => by show 2 * x < 2 * y; linarith))
    (by constructor <;> push_cast <;> norm_num)

end MpVerif.C13.Chord
