import MpVerif.C13.Arith
import Mathlib.Data.Rat.Floor
import Mathlib.Algebra.Order.Field.Power
/-!
# C13 — the concrete rounding functions of the model are monotone and idempotent (proof-only; Mathlib)

`rndP` rounds a positive number to the grid of multiples of `2^u` (`rgrid u`), `u` the unit exponent of its binade.  A power of two
is a point of every finer grid, so rounding never crosses it: that gives monotonicity across binades, and the fixed
points are the multiples of their own unit.  Negative arguments follow by oddness.
-/
namespace MpVerif.C13

theorem pow2_eq (e : Int) : pow2 e = (2 : ℚ) ^ e := by
  unfold pow2
  split
  · rename_i h
    obtain ⟨n, rfl⟩ := Int.eq_ofNat_of_zero_le h
    simp [zpow_natCast]
  · rename_i h
    have hn : ((-e).toNat : ℤ) = -e := Int.toNat_of_nonneg (by omega)
    have : (2 : ℚ) ^ e = ((2 : ℚ) ^ ((-e).toNat))⁻¹ := by
      rw [← zpow_natCast, hn, zpow_neg, inv_inv]
    rw [this]; push_cast; rw [one_div]

theorem pow2_pos (e : Int) : 0 < pow2 e := by rw [pow2_eq]; positivity

/-- `roundHE q` is an integer nearest to `q`; monotonicity needs nothing else, in particular not the tie rule -/
theorem roundHE_near (q : ℚ) : (roundHE q : ℚ) - 1/2 ≤ q ∧ q ≤ (roundHE q : ℚ) + 1/2 := by
  have h1 := Int.floor_le q
  have h2 := Int.lt_floor_add_one q
  unfold roundHE; dsimp only
  rw [show q.floor = ⌊q⌋ from rfl]
  split_ifs <;> push_cast <;> constructor <;> linarith

theorem roundHE_int (n : ℤ) : roundHE (n : ℚ) = n := by
  unfold roundHE; dsimp only
  rw [Rat.floor_intCast]
  simp

theorem roundHE_mono {a b : ℚ} (h : a ≤ b) : roundHE a ≤ roundHE b := by
  by_contra hlt
  have h1 : (roundHE b : ℚ) + 1 ≤ roundHE a := by exact_mod_cast Int.add_one_le_iff.mpr (not_le.mp hlt)
  have := (roundHE_near a).1
  have := (roundHE_near b).2
  -- `a ≥ roundHE a − 1/2 ≥ roundHE b + 1/2 ≥ b`: so `a = b`, where a function takes one value
  exact hlt (le_antisymm h (by linarith) ▸ le_rfl)

theorem two_zpow_pos (k : ℤ) : (0 : ℚ) < (2 : ℚ) ^ k := by positivity

theorem log2_bounds {n : ℕ} (hn : n ≠ 0) :
    (2 : ℚ) ^ (Nat.log2 n : ℤ) ≤ n ∧ (n : ℚ) < (2 : ℚ) ^ ((Nat.log2 n : ℤ) + 1) := by
  constructor
  · rw [zpow_natCast]; exact_mod_cast Nat.log2_self_le hn
  · have : (n : ℚ) < (2 : ℚ) ^ (Nat.log2 n + 1) := by exact_mod_cast (Nat.lt_log2_self (n := n))
    rwa [← zpow_natCast, Nat.cast_add, Nat.cast_one] at this

theorem ilog2_spec {a : ℚ} (ha : 0 < a) :
    (2 : ℚ) ^ (ilog2 a) ≤ a ∧ a < (2 : ℚ) ^ (ilog2 a + 1) := by
  have hnum : 0 < a.num := Rat.num_pos.mpr ha
  have hadn : a = (a.num.toNat : ℚ) / (a.den : ℚ) := by
    rw [show ((a.num.toNat : ℕ) : ℚ) = ((a.num : ℤ) : ℚ) by exact_mod_cast Int.toNat_of_nonneg hnum.le, Rat.num_div_den]
  have hdq : (0 : ℚ) < a.den := by exact_mod_cast a.den_pos
  obtain ⟨n1, n2⟩ := log2_bounds (n := a.num.toNat) (by omega)
  obtain ⟨d1, d2⟩ := log2_bounds a.den_nz
  unfold ilog2
  simp only [pow2_eq]
  generalize (Nat.log2 a.num.toNat : ℤ) = ln at n1 n2 ⊢
  generalize (Nat.log2 a.den : ℤ) = ld at d1 d2 ⊢
  -- numerator in `[2^ln, 2^(ln+1))`, denominator in `[2^ld, 2^(ld+1))`: the quotient is in `(2^(ln-ld-1), 2^(ln-ld+1))`
  have up : a < (2 : ℚ) ^ (ln - ld + 1) := by
    rw [hadn, div_lt_iff₀ hdq]
    calc _ < (2 : ℚ) ^ (ln - ld + 1) * (2 : ℚ) ^ ld := by
          rwa [← zpow_add₀ two_ne_zero, show ln - ld + 1 + ld = ln + 1 by ring]
      _ ≤ _ := mul_le_mul_of_nonneg_left d1 (two_zpow_pos _).le
  have lo : (2 : ℚ) ^ (ln - ld - 1) < a := by
    rw [hadn, lt_div_iff₀ hdq]
    calc _ < (2 : ℚ) ^ (ln - ld - 1) * (2 : ℚ) ^ (ld + 1) := mul_lt_mul_of_pos_left d2 (two_zpow_pos _)
      _ ≤ _ := by rwa [← zpow_add₀ two_ne_zero, show ln - ld - 1 + (ld + 1) = ln by ring]
  split
  · exact ⟨‹_›, up⟩
  · exact ⟨lo.le, by rw [sub_add_cancel]; exact not_le.mp ‹_›⟩

theorem zpow_le_iff2 {m n : ℤ} : (2 : ℚ) ^ m ≤ (2 : ℚ) ^ n ↔ m ≤ n :=
  zpow_le_zpow_iff_right₀ (by norm_num)

theorem zpow_lt_iff2 {m n : ℤ} : (2 : ℚ) ^ m < (2 : ℚ) ^ n ↔ m < n :=
  zpow_lt_zpow_iff_right₀ (by norm_num)

theorem zpow_nonneg_int {k : ℤ} (hk : 0 ≤ k) : (2 : ℚ) ^ k = (((2 : ℤ) ^ k.toNat : ℤ) : ℚ) := by
  obtain ⟨n, rfl⟩ := Int.eq_ofNat_of_zero_le hk
  simp [zpow_natCast]

theorem zpow_eq_int_mul {u k : ℤ} (h : u ≤ k) :
    (2 : ℚ) ^ k = (((2 : ℤ) ^ (k - u).toNat : ℤ) : ℚ) * (2 : ℚ) ^ u := by
  rw [← zpow_nonneg_int (sub_nonneg.mpr h), ← zpow_add₀ two_ne_zero, sub_add_cancel]

noncomputable def rgrid (u : ℤ) (x : ℚ) : ℚ := (roundHE (x / (2 : ℚ) ^ u) : ℚ) * (2 : ℚ) ^ u

theorem rgrid_mono (u : ℤ) {x y : ℚ} (h : x ≤ y) : rgrid u x ≤ rgrid u y :=
  mul_le_mul_of_nonneg_right (Int.cast_le.mpr (roundHE_mono (div_le_div_of_nonneg_right h (two_zpow_pos u).le)))
    (two_zpow_pos u).le

theorem rgrid_int (u k : ℤ) : rgrid u ((k : ℚ) * (2 : ℚ) ^ u) = (k : ℚ) * (2 : ℚ) ^ u := by
  unfold rgrid; rw [mul_div_cancel_right₀ _ (two_zpow_pos u).ne', roundHE_int]

theorem rgrid_pow {u k : ℤ} (h : u ≤ k) : rgrid u ((2 : ℚ) ^ k) = (2 : ℚ) ^ k := by
  rw [zpow_eq_int_mul h]; exact rgrid_int u _

/-- exponent of the unit in the last place used for a positive `a` -/
noncomputable def ulpExp (p : Nat) (emin : Int) (a : ℚ) : Int := max (ilog2 a - ((p : Int) - 1)) emin

/-- the rounding of a positive rational -/
noncomputable def rpos (p : Nat) (emin : Int) (a : ℚ) : ℚ := rgrid (ulpExp p emin a) a

theorem rndP_of_pos (p : Nat) (emin : Int) {q : ℚ} (hq : 0 < q) : rndP p emin q = rpos p emin q := by
  unfold rndP rpos ulpExp rgrid
  simp only [pow2_eq, hq.ne', not_lt.mpr hq.le, if_false]

theorem rndP_of_neg (p : Nat) (emin : Int) {q : ℚ} (hq : q < 0) : rndP p emin q = -rpos p emin (-q) := by
  unfold rndP rpos ulpExp rgrid
  simp only [pow2_eq, hq.ne, hq, if_false, if_true]

theorem rndP_zero (p : Nat) (emin : Int) : rndP p emin 0 = 0 := by
  unfold rndP; simp

theorem rndP_neg (p : Nat) (emin : Int) (q : ℚ) : rndP p emin (-q) = -rndP p emin q := by
  rcases lt_trichotomy q 0 with h | h | h
  · rw [rndP_of_neg p emin h, rndP_of_pos p emin (neg_pos.mpr h), neg_neg]
  · subst h; simp [rndP_zero]
  · rw [rndP_of_pos p emin h, rndP_of_neg p emin (neg_neg_of_pos h), neg_neg]

/-- the result of rounding a positive number is `m·2^u` with `0 ≤ m ≤ 2^p`, `emin ≤ u` -/
theorem rpos_form (p : Nat) (emin : Int) {a : ℚ} (ha : 0 < a) :
    0 ≤ roundHE (a / (2 : ℚ) ^ ulpExp p emin a) ∧
    roundHE (a / (2 : ℚ) ^ ulpExp p emin a) ≤ (2 : ℤ) ^ p ∧ emin ≤ ulpExp p emin a := by
  obtain ⟨h1, h2⟩ := ilog2_spec ha
  set u := ulpExp p emin a with hu
  have hue : ilog2 a - ((p : Int) - 1) ≤ u := le_max_left _ _
  refine ⟨?_, ?_, le_max_right _ _⟩
  · exact (roundHE_int 0).symm.trans_le (roundHE_mono (by simpa using div_nonneg ha.le (two_zpow_pos u).le))
  · -- `a < 2^(ilog2 a + 1) ≤ 2^(p + u)`, which is a point of the grid
    have h := (rgrid_mono u (h2.le.trans (zpow_le_iff2.mpr (by omega)))).trans_eq (rgrid_pow (k := (p : ℤ) + u) (by omega))
    rw [zpow_add₀ two_ne_zero, zpow_natCast] at h
    exact_mod_cast le_of_mul_le_mul_right h (two_zpow_pos u)

theorem rpos_nonneg (p : Nat) (emin : Int) {a : ℚ} (ha : 0 < a) : 0 ≤ rpos p emin a :=
  mul_nonneg (by exact_mod_cast (rpos_form p emin ha).1) (two_zpow_pos _).le

theorem rpos_fix (p : Nat) (emin : Int) (hp : 1 ≤ p) (m w : ℤ) (hm0 : 0 < m) (hm : m ≤ (2 : ℤ) ^ p)
    (hw : emin ≤ w) : rpos p emin ((m : ℚ) * (2 : ℚ) ^ w) = (m : ℚ) * (2 : ℚ) ^ w := by
  generalize hr : (m : ℚ) * (2 : ℚ) ^ w = r
  have hrpos : 0 < r := hr ▸ mul_pos (by exact_mod_cast hm0) (two_zpow_pos w)
  obtain ⟨h1, -⟩ := ilog2_spec hrpos
  have hrle : r ≤ (2 : ℚ) ^ ((p : ℤ) + w) := by
    rw [← hr, zpow_add₀ two_ne_zero, zpow_natCast]
    exact mul_le_mul_of_nonneg_right (by exact_mod_cast hm) (two_zpow_pos w).le
  have he : ilog2 r ≤ (p : ℤ) + w := zpow_le_iff2.mp (h1.trans hrle)
  have hu : ulpExp p emin r = max (ilog2 r - ((p : ℤ) - 1)) emin := rfl
  unfold rpos
  generalize ulpExp p emin r = u at hu ⊢
  suffices h : ∃ k : ℤ, r = (k : ℚ) * (2 : ℚ) ^ u by
    obtain ⟨k, rfl⟩ := h
    exact rgrid_int u k
  rcases eq_or_lt_of_le he with heq | hlt
  · exact ⟨_, (le_antisymm hrle (heq ▸ h1)).trans (zpow_eq_int_mul (by omega))⟩
  · exact ⟨m * (2 : ℤ) ^ (w - u).toNat, by rw [← hr, zpow_eq_int_mul (show u ≤ w by omega)]; push_cast; ring⟩

theorem rpos_mono (p : Nat) (emin : Int) (hp : 1 ≤ p) {a b : ℚ} (ha : 0 < a) (hab : a ≤ b) :
    rpos p emin a ≤ rpos p emin b := by
  obtain ⟨a1, a2⟩ := ilog2_spec ha
  obtain ⟨b1, b2⟩ := ilog2_spec (ha.trans_le hab)
  have hee : ilog2 a < ilog2 b + 1 := zpow_lt_iff2.mp ((a1.trans hab).trans_lt b2)
  have hua : ulpExp p emin a = max (ilog2 a - ((p : ℤ) - 1)) emin := rfl
  have hub : ulpExp p emin b = max (ilog2 b - ((p : ℤ) - 1)) emin := rfl
  unfold rpos
  rcases eq_or_lt_of_le (show ulpExp p emin a ≤ ulpExp p emin b by omega) with heq | hlt
  · rw [heq]; exact rgrid_mono _ hab
  · -- different units, hence different binades: `2^(ilog2 b)` lies on both grids and separates the two results
    exact ((rgrid_mono _ (a2.le.trans (zpow_le_iff2.mpr (by omega)))).trans_eq (rgrid_pow (by omega))).trans
      ((rgrid_pow (by omega)).symm.trans_le (rgrid_mono _ b1))

theorem rndP_nonneg (p : Nat) (emin : Int) {q : ℚ} (h : 0 ≤ q) : 0 ≤ rndP p emin q := by
  rcases h.eq_or_lt with rfl | h
  · rw [rndP_zero]
  · rw [rndP_of_pos p emin h]; exact rpos_nonneg p emin h

theorem rndP_mono (p : Nat) (emin : Int) (hp : 1 ≤ p) {a b : ℚ} (hab : a ≤ b) :
    rndP p emin a ≤ rndP p emin b := by
  rcases lt_or_ge 0 a with ha | ha
  · rw [rndP_of_pos p emin ha, rndP_of_pos p emin (ha.trans_le hab)]
    exact rpos_mono p emin hp ha hab
  · rcases le_or_gt 0 b with hb | hb
    · have := rndP_nonneg p emin (neg_nonneg.mpr ha)
      rw [rndP_neg] at this
      exact (neg_nonneg.mp this).trans (rndP_nonneg p emin hb)
    · have := rpos_mono p emin hp (neg_pos.mpr hb) (neg_le_neg hab)
      rw [← rndP_of_pos p emin (neg_pos.mpr hb), ← rndP_of_pos p emin (neg_pos.mpr (hab.trans_lt hb)),
        rndP_neg, rndP_neg] at this
      exact neg_le_neg_iff.mp this

theorem rndP_fix (p : Nat) (emin : Int) (hp : 1 ≤ p) (m w : ℤ) (hm : |m| ≤ (2 : ℤ) ^ p) (hw : emin ≤ w) :
    rndP p emin ((m : ℚ) * (2 : ℚ) ^ w) = (m : ℚ) * (2 : ℚ) ^ w := by
  have hpos : ∀ {m : ℤ}, 0 < m → m ≤ (2 : ℤ) ^ p → rndP p emin ((m : ℚ) * (2 : ℚ) ^ w) = (m : ℚ) * (2 : ℚ) ^ w :=
    fun h hm => (rndP_of_pos p emin (mul_pos (by exact_mod_cast h) (two_zpow_pos w))).trans (rpos_fix p emin hp _ w h hm hw)
  rcases lt_trichotomy m 0 with h | rfl | h
  · have := hpos (neg_pos.mpr h) (abs_of_neg h ▸ hm)
    rwa [Int.cast_neg, neg_mul, rndP_neg, neg_inj] at this
  · simp [rndP_zero]
  · exact hpos h (abs_of_pos h ▸ hm)

theorem rndP_repr (p : Nat) (emin : Int) (q : ℚ) :
    ∃ m w : ℤ, rndP p emin q = (m : ℚ) * (2 : ℚ) ^ w ∧ |m| ≤ (2 : ℤ) ^ p ∧ emin ≤ w := by
  have hpos : ∀ {q : ℚ}, 0 < q → ∃ m w : ℤ, rndP p emin q = (m : ℚ) * (2 : ℚ) ^ w ∧ |m| ≤ (2 : ℤ) ^ p ∧ emin ≤ w := by
    intro q h
    obtain ⟨h0, h1, h2⟩ := rpos_form p emin h
    exact ⟨_, _, rndP_of_pos p emin h, by rwa [abs_of_nonneg h0], h2⟩
  rcases lt_trichotomy q 0 with h | rfl | h
  · obtain ⟨m, w, e, hm, hw⟩ := hpos (neg_pos.mpr h)
    exact ⟨-m, w, by rw [← neg_neg q, rndP_neg, e]; push_cast; ring, by rwa [abs_neg], hw⟩
  · exact ⟨0, emin, by simp [rndP_zero], by simp, le_rfl⟩
  · exact hpos h

theorem rndP_idem (p : Nat) (emin : Int) (hp : 1 ≤ p) (q : ℚ) :
    rndP p emin (rndP p emin q) = rndP p emin q := by
  obtain ⟨m, w, h, hm, hw⟩ := rndP_repr p emin q
  rw [h]; exact rndP_fix p emin hp m w hm hw

theorem rndD_intCast (m : Int) (hm : |m| ≤ (2 : Int) ^ 53) : rndD (m : Rat) = (m : Rat) := by
  have := rndP_fix 53 (-1074) (by norm_num) m 0 hm (by norm_num)
  simpa [rndD] using this

theorem rndD_half (m : Int) (hm : |2 * m + 1| ≤ (2 : Int) ^ 53) : rndD ((m : Rat) + 1/2) = (m : Rat) + 1/2 := by
  have h := rndP_fix 53 (-1074) (by norm_num) (2 * m + 1) (-1) hm (by norm_num)
  have e : ((2 * m + 1 : Int) : Rat) * (2 : Rat) ^ (-1 : Int) = (m : Rat) + 1/2 := by
    push_cast; rw [zpow_neg_one]; ring
  rw [e] at h
  exact h

end MpVerif.C13
