import MpVerif.C13.Props
import MpVerif.C13.Rounding
/-!
# C13 — the structural theorems for the IEEE instance of the model, with no assumption on the arithmetic
(proof-only file: uses `Rounding.lean`, which needs Mathlib; not imported by the driver)

`Rounding.lean` proves that the model's `rndP` is monotone and idempotent for every precision, with the form of its
values (`rndP_repr`) and its fixed points (`rndP_fix`).  Here these are read at the *concrete* rounding functions the
driver executes (`rndD`: binary64 round-to-nearest-even with gradual underflow; `rndS`: binary32 with overflow to a
sentinel); a binary32 value is a binary64 value.  Hence `Lawful ieee`, and
`C13_increasing` holds for exactly the model instance that the correspondence compares bit for bit with the
compiled code.
-/
namespace MpVerif.C13

/-- binary64 rounding is monotone (all rationals, including the subnormal range) -/
theorem C13_rndD_mono {a b : Rat} (h : a ≤ b) : rndD a ≤ rndD b := rndP_mono 53 (-1074) (by norm_num) h

/-- binary64 rounding is idempotent -/
theorem C13_rndD_idem (q : Rat) : rndD (rndD q) = rndD q := rndP_idem 53 (-1074) (by norm_num) q

/-- a value that went through `std::set<float>` (a binary32 value, or the float-infinity sentinel `±2^128`) is a double -/
theorem C13_rndS_is_double (q : Rat) : rndD (rndS q) = rndS q := by
  have hInf : rndD fltInf = fltInf := by
    have := rndP_fix 53 (-1074) (by norm_num) 1 128 (by norm_num) (by norm_num)
    unfold rndD fltInf; rw [pow2_eq]; simpa using this
  have hNInf : rndD (-fltInf) = -fltInf := by
    unfold rndD at *; rw [rndP_neg, hInf]
  unfold rndS
  simp only
  split
  · exact hInf
  · split
    · exact hNInf
    · obtain ⟨m, w, h, hm, hw⟩ := rndP_repr 24 (-149) q
      rw [h]
      exact rndP_fix 53 (-1074) (by norm_num) m w (hm.trans (by norm_num)) (by omega)

/-- the IEEE instance satisfies the arithmetic assumptions of `C13_increasing` -/
theorem C13_lawful_ieee : Lawful ieee :=
  ⟨fun _ _ h => C13_rndD_mono h, C13_rndD_idem, C13_rndS_is_double⟩

/-- **Breakpoints strictly increasing, IEEE instance, no hypothesis on the arithmetic**: for every function
record whose default breakpoints are doubles, every interval, tolerance, integrality flag and fuel. -/
theorem C13_increasing_ieee (f : Fn) (hb : ∀ b ∈ f.bps, rndD b = b) (p : Params) (fuel : Nat) (r : Res)
    (h : run ieee f p fuel = .ok r) : r.xs.Pairwise (· < ·) :=
  C13_increasing ieee C13_lawful_ieee f hb p fuel r h

/-- `AddPoint` sequences over doubles, IEEE instance -/
theorem C13_addPoint_increasing_ieee (pts : List (Rat × Rat)) (hpts : ∀ p ∈ pts, rndD p.1 = p.1) :
    ((pts.foldl (fun pl p => addPoint ieee pl p.1 p.2) []).reverse.map Prod.fst).Pairwise (· < ·) :=
  C13_addPoint_increasing ieee C13_lawful_ieee pts hpts

/-- **The IEEE instance computes the integrality shortcut exactly** on integers of magnitude below `2^52`:
`x0 ⊕ j = x0 + j` and consecutive integers pass the `1e-4` keep test -/
theorem C13_intOK_ieee (z : Int) (B : Nat) (hb : |z| + (B : Int) < (2 : Int) ^ 52) : IntOK ieee (z : Rat) B := by
  obtain ⟨hz1, hz2⟩ := abs_lt.mp (show |z| < (2 : Int) ^ 52 - (B : Int) by omega)
  have e : ∀ j : Nat, (z : Rat) + (j : Rat) = ((z + (j : Int) : Int) : Rat) := fun j => by push_cast; rfl
  constructor
  · intro j hj
    show rndD ((z : Rat) + (j : Rat)) = (z : Rat) + (j : Rat)
    rw [e]
    exact rndD_intCast _ (abs_le.mpr ⟨by omega, by omega⟩)
  · intro j hj
    show rndD ((z : Rat) + (j : Rat) + eps4) < (z : Rat) + ((j + 1 : Nat) : Rat)
    -- `x + 1e-4 ≤ x + 1/2`, which is a double and lies below `x + 1`
    have hle : (z : Rat) + (j : Rat) + eps4 ≤ ((z + (j : Int) : Int) : Rat) + 1/2 := by
      have : eps4 ≤ (1/2 : Rat) := by decide +kernel
      rw [e]; exact (add_le_add_iff_left _).mpr this
    have h1 := C13_rndD_mono hle
    rw [rndD_half _ (abs_le.mpr ⟨by omega, by omega⟩)] at h1
    exact lt_of_le_of_lt h1 (by push_cast; linarith only [])

/-- **Exactness at the integers for the arithmetic the driver executes**: integer `x0`, `|x0| + N < 2^52` -/
theorem C13_int_exact_ieee (f : Fn) (z : Int) (N : Nat) (hb : |z| + (N : Int) < (2 : Int) ^ 52) (r : PL)
    (h : intPoints ieee f (z : Rat) N 0 [] = .ok r) (j : Nat) (hj : j < N) :
    ∃ v, f.eval ((z : Rat) + (j : Rat)) = .fin v ∧ plEvalR r ((z : Rat) + (j : Rat)) = v :=
  C13_int_exact_lawful ieee f (z : Rat) N (C13_intOK_ieee z N hb) r h j hj

/-- non-vacuity: the IEEE shortcut on `x0 = -1`, `N = 4` for `f(x) = x` -/
example : (intPoints ieee idFn ((-1 : Int) : Rat) 4 0 []).toOption = some [(2, 2), (1, 1), (0, 0), (-1, -1)] := by
  decide +kernel

/-- non-vacuity of `C13_increasing_ieee`: the breakpoints of the concrete record `idFn` are doubles (a successful run of
`ieee` on it is `C13_endpoints_counterexample_float`) -/
example : ∀ b ∈ idFn.bps, rndD b = b := by
  intro b hb
  simp only [idFn, List.mem_cons, List.mem_nil_iff, or_false] at hb
  rcases hb with rfl | rfl <;> decide +kernel
end MpVerif.C13
