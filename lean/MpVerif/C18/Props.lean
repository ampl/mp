import MpVerif.C18.GenTie
import MpVerif.C18.Frozen
/-!
# C18 — Expression equality is a structural equivalence consistent with hashing

Property theorems about the model in `Model.lean` (`equalX` = `mp::Equal`, `hashX` =
`std::hash<mp::Expr>`), for **all** trees `E C` (unbounded depth and arity, every kind the
factory can store), all constants types `C` with a symmetric, transitive `==` (`NumOps`; IEEE
doubles are the instance `ieee`) and all primitive hashers `Prims`.

Full-strength statements that are *false* for the code as it exists are kept in comments next to
the proved `_partial` variants and the proved counterexamples (`C18_counterexample_*`).
-/
namespace MpVerif.C18
variable {C : Type} (N : NumOps C) (P : Prims C)

/-! ## Equivalence -/

/-- Symmetry, at full strength and for the whole outcome (value, exception or crash):
`Equal(a, b)` and `Equal(b, a)` behave identically. -/
theorem C18_symm (a b : E C) : equalX N a b = equalX N b a := equalX_symm N a b

/-- Transitivity, at full strength. -/
theorem C18_trans (a b c : E C) (hab : equalX N a b = .tt) (hbc : equalX N b c = .tt) :
    equalX N a c = .tt := by
  have h1 := sound N a b hab
  have h2 := sound N b c hbc
  exact complete N a c (sim_trans N a b c h1.1 h2.1) h1.2

/- Reflexivity at full strength:
     theorem C18_refl (a : E C) : equalX N a a = .tt
   is FALSE for the code as it exists: see C18_counterexample_refl_nan (a NaN constant),
   C18_counterexample_symbolic_* and C18_counterexample_call_arg_symbolic_if (kinds that throw).  Proved: reflexivity on
   trees without NaN constants all of whose nodes the comparator handles. -/
theorem C18_refl_partial (a : E C) (hn : noNaN N a = true) (hs : okC a = true) :
    equalX N a a = .tt :=
  complete N a a (sim_refl N a hn) hs

/-- On comparator-supported trees reflexivity fails *exactly* at NaN constants. -/
theorem C18_refl_iff_noNaN_partial (a : E C) (hs : okC a = true) :
    equalX N a a = .tt ↔ noNaN N a = true :=
  ⟨fun h => sim_noNaN N a a (sound N a a h).1, fun hn => C18_refl_partial N a hn hs⟩

/-- ... and there the answer is `false` (not an exception). -/
theorem C18_refl_nan_is_false_partial (a : E C) (hs : okC a = true) (hn : noNaN N a = false) :
    equalX N a a = .ff := by
  have h := C18_refl_iff_noNaN_partial N a hs
  exact (R.isBool_iff.mp (total N a a hs)).resolve_left fun e => by rw [h.mp e] at hn; cases hn

/-- Composition: on the comparator-supported NaN-free trees, "`Equal` returns true" is an equivalence
relation (reflexive, symmetric, transitive together, any number of steps). -/
theorem C18_equivalence_partial :
    Equivalence (fun (a b : {a : E C // okC a = true ∧ noNaN N a = true}) => equalX N a.1 b.1 = .tt) where
  refl a := C18_refl_partial N a.1 a.2.2 a.2.1
  symm h := by rw [C18_symm]; exact h
  trans h1 h2 := C18_trans N _ _ _ h1 h2

/-! ## Equality is structural identity -/

/-- `Equal` returns true only for structurally identical trees (full strength). -/
theorem C18_true_only_if_structural (a b : E C) (h : equalX N a b = .tt) : Sim N a b :=
  (sound N a b h).1

/-- The kind test comes first: different kinds compare unequal without looking further. -/
theorem C18_kind_first (a b : E C) (h : a.kind ≠ b.kind) : equalX N a b = .ff :=
  equalX_of_kind_ne N a b h

/- Full strength:
     theorem C18_iff_structural (a b : E C) : equalX N a b = .tt ↔ Sim N a b
   is FALSE (right-to-left) on kinds that make `Equal` throw; proved when one operand
   is comparator-supported. -/
theorem C18_iff_structural_partial (a b : E C) (hs : okC a = true ∨ okC b = true) :
    equalX N a b = .tt ↔ Sim N a b :=
  ⟨fun h => (sound N a b h).1, fun h => hs.elim (complete N a b h) fun hb =>
    (equalX_symm N a b).trans (complete N b a (sim_symm N a b h) hb)⟩

/-- Two trees that compare equal are both comparator-supported (no kind that throws, string
literals only as call arguments). -/
theorem C18_true_implies_supported (a b : E C) (h : equalX N a b = .tt) :
    okC a = true ∧ okC b = true :=
  ⟨(sound N a b h).2, (sound N b a (by rw [equalX_symm]; exact h)).2⟩

/-! ## Hash congruence -/

/-- Equal trees have a hash (the hasher does not throw on them) and it is the same value, for
every choice of primitive hashers such that `==` constants hash alike (true of
`std::hash<double>`: ±0 ↦ 0; checked at run time).  Full strength. -/
theorem C18_hash_congr (hc : ∀ x y, N.feq x y = true → P.hDbl x = P.hDbl y)
    (a b : E C) (h : equalX N a b = .tt) :
    hashX P a = hashX P b ∧ (hashX P a).isSome = true := by
  have h1 := sound N a b h
  exact ⟨sim_hash N P hc a b h1.1, by rw [hash_isSome]; exact okC_okH a h1.2⟩

/-- Structurally identical trees hash alike even when the comparator cannot handle them. -/
theorem C18_hash_structural (hc : ∀ x y, N.feq x y = true → P.hDbl x = P.hDbl y)
    (a b : E C) (h : Sim N a b) : hashX P a = hashX P b :=
  sim_hash N P hc a b h

/-- The hasher throws exactly on trees that contain IFSYM or NUMBEROF_SYM. -/
theorem C18_hash_defined_iff (a : E C) : (hashX P a).isSome = okH a := hash_isSome P a

/-! ## Outcomes other than true/false -/

/- Full strength ("terminates without memory errors on every expression the factory can build",
   and returns a verdict):
     theorem C18_total (a b : E C) : equalX N a b = .tt ∨ equalX N a b = .ff
   is FALSE: C18_counterexample_symbolic_* / _call_arg_symbolic_if (throws). -/
theorem C18_total_partial (a b : E C) (hs : okC a = true ∨ okC b = true) :
    equalX N a b = .tt ∨ equalX N a b = .ff :=
  hs.elim (fun ha => R.isBool_iff.mp (total N a b ha)) fun hb =>
    equalX_symm N b a ▸ R.isBool_iff.mp (total N b a hb)

/-- No null dereference, at full strength. -/
theorem C18_no_ub (a b : E C) : equalX N a b ≠ .ub := no_ub N a b

/-! ## Tie to the source by translation

`lean/MpVerif/Gen/C18.lean` is regenerated on every run by `translators/gen_expr_c18.py` from clang's typed
AST of the instantiated `src/expr.cc`: entry of `mp::Equal` / `std::hash<mp::Expr>`, the dispatch of all 71
kinds through `BasicExprVisitor` to the terminal handler of `ExprComparator` / `ExprHasher`, the body of every
handler — loop-free ones as conjunctions / hash chains (which fields, in which order, through which overload of
`HashCombine`, i.e. which `std::hash<T>`), the four loop-carrying ones as index loops —, the seed of `Hash(e)` and
the arithmetic of `HashCombine`.  `C18_gen_equal_step` / `C18_gen_hash_step`: the hand model `equalX` / `hashX`
satisfies the recursion equations of that generated description (meaning in `GenSem.lean`); `C18_gen_equal_unique` /
`C18_gen_hash_unique`: nothing else does.  So every theorem above is a theorem about *the* function the translated
code defines.  `C18_gen_helper_*` and `C18_gen_hashCombine_instances` are tripwires (comparison with a committed
expectation: they detect a change of the small `expr.h` members whose meaning `GenSem` assumes, they prove nothing). -/
section gen
open MpVerif.Gen.C18

theorem C18_gen_hashCombine (s h : UInt64) : combine s h = hashCombine s h := rfl

theorem C18_gen_equal_step (a b : E C) :
    equalX N a b = equalStep N equalEntry cmpBody (equalX N) a b := by
  rw [cmpBody_eq]
  induction a, b using E.pairInduction with
  | diff a b h => rw [equalX_of_kind_ne N a b h, equalStep_of_kind_ne N _ _ h]
  | ref k i j => rw [equalX_ref, equalStep_of_kind_eq N] <;> rfl
  | un k a b => rw [equalX_un, equalStep_of_kind_eq N] <;> rfl
  | bin k l r l' r' => rw [equalX_bin, equalStep_of_kind_eq N] <;> rfl
  | ite k c t e c' t' e' => rw [equalX_ite]; cases k <;> rfl
  | pl sb last arg sb' last' arg' => exact tie_cmp_pl N (equalX N) sb sb' last last' arg arg'
  | call f as g bs => exact tie_cmp_call N f g as bs
  | iter k as bs => rw [equalX_iter]; cases k <;> first | exact tie_cmp_vararg N _ as bs | rfl
  | num | bool | str => rfl

theorem gen_equal_step_diag_un (k k' : UnK) (a b : E C) :
    equalX N (.un k a) (.un k' b) = equalStep N equalEntry cmpBody (equalX N) (.un k a) (.un k' b) :=
  C18_gen_equal_step N _ _

theorem gen_equal_step_diag_bin (k k' : BinK) (l r l' r' : E C) :
    equalX N (.bin k l r) (.bin k' l' r') = equalStep N equalEntry cmpBody (equalX N) (.bin k l r) (.bin k' l' r') :=
  C18_gen_equal_step N _ _

theorem C18_gen_hash_step (a : E C) :
    hashX P a = hashStep P hashEntry hashBody hashCombine hashSeed (hashX P) a := by
  rw [hashBody_eq]
  cases a with
  | pl sb last arg => exact tie_hash_pl P sb last arg _
  | call f as => exact tie_hash_call P f as _
  | iter k as => rw [hashX]; cases k <;> first | exact tie_hash_vararg P _ as _ | rfl
  | str s => exact tie_hash_str P s _
  | bin k l r =>
    simp only [hashX, hashStep, hashEntry, hashByLayout, E.kind, chainSem, child]
    cases hashX P l <;> cases hashX P r <;> rfl
  | ite k c t e =>
    cases k <;> simp only [hashX, hashStep, hashEntry, hashByLayout, E.kind, chainSem, child] <;>
      cases hashX P c <;> cases hashX P t <;> cases hashX P e <;> rfl
  | num | ref | un | bool => rfl

/-! members of the handle classes (include/mp/expr.h) that the loop-carrying handlers call, against `Frozen.lean` -/

theorem C18_gen_helper_CallExpr_function : helperShape_CallExpr_function = Frozen.helperShape_CallExpr_function := rfl
theorem C18_gen_helper_CallExpr_num_args : helperShape_CallExpr_num_args = Frozen.helperShape_CallExpr_num_args := rfl
theorem C18_gen_helper_Function_eq : helperShape_Function_eq = Frozen.helperShape_Function_eq := rfl
theorem C18_gen_helper_Function_name : helperShape_Function_name = Frozen.helperShape_Function_name := rfl
theorem C18_gen_helper_Function_ne : helperShape_Function_ne = Frozen.helperShape_Function_ne := rfl
theorem C18_gen_helper_PLTerm_arg : helperShape_PLTerm_arg = Frozen.helperShape_PLTerm_arg := rfl
theorem C18_gen_helper_PLTerm_num_breakpoints : helperShape_PLTerm_num_breakpoints = Frozen.helperShape_PLTerm_num_breakpoints := rfl
theorem C18_gen_helper_StringLiteral_value : helperShape_StringLiteral_value = Frozen.helperShape_StringLiteral_value := rfl

/-- tripwire: the `std::hash<T>` the hasher reaches (hypothesis `hc` of `C18_hash_congr` is about `std::hash<double>`,
the function `Prim.dbl` fields go through; `P.hDbl` in `chainSem` and `evalHV`, the two places where `hashStep` hashes a
`double`) -/
theorem C18_gen_hashCombine_instances :
    hashCombineInstances = ["bool", "char", "char *const", "double", "int", "mp::Expr"] := rfl

/-! ### memory layout: what the accessors read is what the factory wrote

Generated from `PLTerm::slope/breakpoint`, `PLTermBuilder::AddSlope/AddBreakpoint`, `BeginPLTerm`, the `Impl`
field declarations, `MakeStringLiteral` and `BasicExprFactory::Copy` (include/mp/expr.h).  `GenSem`'s `dAt`
(`slope(i)` = i-th slope given to the builder) and `strOf` (`value()` = the bytes up to the first NUL of what was
passed to `MakeStringLiteral`) rest on these facts. -/

/-- `slope(k)` / `breakpoint(k)` read the cell the k-th `AddSlope` / `AddBreakpoint` wrote, for every k. -/
theorem C18_gen_pl_read_is_write (k : Nat) :
    plSlopeRead k = plSlopeWrite k ∧ plBreakpointRead k = plBreakpointWrite k := by
  simp only [plSlopeRead, plSlopeWrite, plBreakpointRead, plBreakpointWrite, and_self]

/-- No write clobbers another: slope cells and breakpoint cells are disjoint and each family is injective. -/
theorem C18_gen_pl_writes_disjoint (i j : Nat) :
    plSlopeWrite i ≠ plBreakpointWrite j ∧ (plSlopeWrite i = plSlopeWrite j → i = j) ∧
      (plBreakpointWrite i = plBreakpointWrite j → i = j) := by
  simp only [plSlopeWrite, plBreakpointWrite]
  omega

/-- Every cell read for a term with `n` breakpoints (slopes 0..n, breakpoints 0..n-1) lies inside the
`sizeof(Impl)`-inline array plus the extra bytes `BeginPLTerm(n)` asked for (`sizeof(double)` = 8). -/
theorem C18_gen_pl_in_bounds (n i : Nat) :
    (i ≤ n → 8 * (plSlopeRead i + 1) ≤ 8 * plInlineDoubles + plExtraBytes n) ∧
      (i < n → 8 * (plBreakpointRead i + 1) ≤ 8 * plInlineDoubles + plExtraBytes n) := by
  simp only [plSlopeRead, plBreakpointRead, plInlineDoubles, plExtraBytes]
  omega

/-- … and the allocation is tight: the last slope uses the last cell (nothing is allocated that is never written). -/
theorem C18_gen_pl_allocation_tight (n : Nat) :
    8 * (plSlopeRead n + 1) = 8 * plInlineDoubles + plExtraBytes n := by
  simp only [plSlopeRead, plInlineDoubles, plExtraBytes]
  omega

/-- Whatever the allocator left in the storage, after `Copy` the C string that `StringLiteral::value()` exposes
(bytes up to the first NUL) is the C string of the source: the terminator is always written, also for the empty
string (seeded change C18-6 breaks exactly this). -/
theorem C18_gen_copy_terminated (src buf : List UInt8) (h : src.length < buf.length) :
    cstr (copyRun factoryCopy src buf) = cstr src := by
  simp only [factoryCopy, copyRun, copy_then_nul src buf h, cstr]
  exact takeWhile_append_stop _ src 0 _ (by decide)

/-- The storage `MakeStringLiteral` allocates has room for the bytes and the terminator (hypothesis of
`C18_gen_copy_terminated`). -/
theorem C18_gen_string_capacity (size : Nat) : size < stringInlineBytes + stringExtraBytes size := by
  simp only [stringInlineBytes, stringExtraBytes]
  omega

/-- non-vacuity: an empty and a non-empty source into dirty storage -/
example : cstr (copyRun factoryCopy [] [0x41, 0x42]) = [] ∧
    cstr (copyRun factoryCopy [0x61, 0x62] [0x58, 0x58, 0x58, 0x58]) = [0x61, 0x62] := by decide

/-! ### argument arrays of calls and iterated expressions

Generated from `CallExpr::arg/begin/end`, `BasicIteratedExpr::begin/end` (every instantiation), `ExprIterator::operator*`/`++`,
`BasicIteratedExprBuilder::AddArg`, `BeginIterated<ExprType>`, `BeginCall` and the `Impl::args` declarations.  `GenSem`'s `argAt`
(`arg(i)` / the i-th iterator position = i-th argument given to the builder) and the translator's reading of the iterator loops as
index loops over `0 … num_args()-1` rest on these facts. -/

/-- `CallExpr::arg(k)` reads the cell the k-th `AddArg` wrote, for every k. -/
theorem C18_gen_args_read_is_write (k : Nat) : callArgRead k = argWrite k := by
  simp only [callArgRead, argWrite]

/-- Iteration: after k increments an iterator obtained from `begin()` dereferences the cell the k-th `AddArg` wrote, and it
compares equal to `end()` after exactly `num_args()` increments — for calls and for every iterated expression. -/
theorem C18_gen_args_iteration (n k : Nat) :
    callBeginOffset + k * iterStep + iterDerefOffset = argWrite k ∧
      iterBeginOffset + k * iterStep + iterDerefOffset = argWrite k ∧
      (callBeginOffset + k * iterStep = callEndOffset n ↔ k = n) ∧
      (iterBeginOffset + k * iterStep = iterEndOffset n ↔ k = n) := by
  simp only [callBeginOffset, iterBeginOffset, iterStep, iterDerefOffset, argWrite, callEndOffset, iterEndOffset]
  omega

/-- Every argument cell of an expression with `n` arguments lies inside the inline array plus the (possibly negative) extra
bytes `BeginIterated(kind, n)` asks for (a pointer has 8 bytes). -/
theorem C18_gen_args_in_bounds (n k : Nat) (hk : k < n) :
    (8 : Int) * ((argWrite k : Nat) + 1) ≤ 8 * (argsInline : Nat) + argsExtraBytes n := by
  simp only [argWrite, argsInline, argsExtraBytes]
  omega

/-- … and the allocation is tight, also for `n = 0` (the inline cell is given back). -/
theorem C18_gen_args_allocation_tight (n : Nat) :
    (8 : Int) * (argsInline : Nat) + argsExtraBytes n = 8 * n := by
  simp only [argsInline, argsExtraBytes]
  omega

/-- non-vacuity: the last of three arguments, and the empty argument list (negative extra bytes) -/
example : (8 : Int) * ((argWrite 2 : Nat) + 1) = 8 * (argsInline : Nat) + argsExtraBytes 3 ∧
    (8 : Int) * (argsInline : Nat) + argsExtraBytes 0 = 0 := by decide

/-- The recursion equations of the translated comparator have exactly one solution. -/
theorem C18_gen_equal_unique (f : E C → E C → R)
    (hf : ∀ a b, f a b = equalStep N equalEntry cmpBody f a b) (a b : E C) : f a b = equalX N a b := by
  rw [hf a b, C18_gen_equal_step N a b]
  exact equalStep_congr N a b fun x hx => C18_gen_equal_unique f hf x
termination_by sizeOf a
decreasing_by exact isPart_lt a x hx

/-- … and so have those of the translated hasher. -/
theorem C18_gen_hash_unique (f : E C → Option UInt64)
    (hf : ∀ a, f a = hashStep P hashEntry hashBody hashCombine hashSeed f a) (a : E C) : f a = hashX P a := by
  rw [hf a, C18_gen_hash_step P a]
  exact hashStep_congr P a fun x hx => C18_gen_hash_unique f hf x
termination_by sizeOf a
decreasing_by exact isPart_lt a x hx

end gen

/-! ## Counterexamples (replayed against the real code by the check) -/

/-- the quiet NaN 0x7ff8000000000000 -/
def qnan : UInt64 := 0x7ff8000000000000

theorem C18_counterexample_refl_nan : equalX ieee (.num qnan) (.num qnan) = .ff := by decide

theorem C18_counterexample_refl_nan_pl :
    equalX ieee (.pl [(1, qnan)] 2 (.ref .var 0)) (.pl [(1, qnan)] 2 (.ref .var 0)) = .ff := by decide

theorem C18_counterexample_symbolic_numberof (as : List (E C)) :
    equalX N (.iter .numberOfSym as) (.iter .numberOfSym as) = .unsup ∧
    hashX P (.iter .numberOfSym as) = none :=
  ⟨(equalX_iter N ..).trans (if_pos rfl), if_pos rfl⟩

theorem C18_counterexample_symbolic_if (c t e : E C) :
    equalX N (.ite .ifSym c t e) (.ite .ifSym c t e) = .unsup ∧
    hashX P (.ite .ifSym c t e) = none :=
  ⟨(equalX_ite N ..).trans (if_pos rfl), if_pos rfl⟩

/-- a string literal on its own: `Equal` throws although the hasher handles it -/
theorem C18_counterexample_string_toplevel (s : List UInt8) :
    equalX N (.str s) (.str s) = .unsup ∧ (hashX P (.str s)).isSome = true :=
  ⟨rfl, rfl⟩

/-- a call whose argument is a symbolic `if` (the NL reader builds these): reported as unsupported -/
theorem C18_counterexample_call_arg_symbolic_if (f : Nat) (c t e : E C) :
    equalX N (.call f [.ite .ifSym c t e]) (.call f [.ite .ifSym c t e]) = .unsup := by
  simp [equalX, equalArgs, E.kind, Kind.isNumeric, R.and]

/-! ## Non-vacuity -/

/-- primitive hashers meeting hypothesis `hc` of `C18_hash_congr` without being constant: ±0 ↦ 0, every
other bit pattern to itself (what libstdc++'s `std::hash<double>` does up to a bijection) -/
def samplePrims : Prims UInt64 where
  hKind _ := 7
  hDbl v := if dblIsZero v then 0 else v
  hInt i := i.toNat.toUInt64
  hBool b := if b then 1 else 0
  hChar c := c.toUInt64
  hFun f := f.toUInt64

theorem samplePrims_hc : ∀ x y, ieee.feq x y = true → samplePrims.hDbl x = samplePrims.hDbl y := by
  intro x y h
  simp only [ieee, dblEq, Bool.and_eq_true, Bool.or_eq_true, Bool.not_eq_true', beq_iff_eq] at h
  simp only [samplePrims]
  cases h.2 with
  | inl e => rw [e]
  | inr z => simp [z.1, z.2]

/-- `C18_hash_congr` applied to a pair that is equal without being identical (−0.0 vs +0.0 inside a tree) -/
example :
    hashX samplePrims (.bin .add (.num 0x8000000000000000) (.ref .var 1)) =
      hashX samplePrims (.bin .add (.num 0) (.ref .var 1)) :=
  (C18_hash_congr ieee samplePrims samplePrims_hc _ _ (by decide)).1
/-- `samplePrims` separates trees that are not equal (the hypothesis is not met by collapsing everything) -/
example : hashX samplePrims (.num 0x3ff0000000000000) ≠ hashX samplePrims (.num 0x4000000000000000) := by decide
/-- the hypotheses of `C18_trans` met by different descriptions: `a = c = abs 0`, `b = abs (-0)` -/
example : equalX ieee (.un .abs (.num 0)) (.un .abs (.num 0x8000000000000000)) = .tt ∧
    equalX ieee (.un .abs (.num 0x8000000000000000)) (.un .abs (.num 0)) = .tt := by decide
/-- `C18_iff_structural_partial`, both directions on concrete trees: a `Sim` derivation gives `tt` … -/
example : equalX ieee (.iter .sum [.num 0, .ref .var 2]) (.iter .sum [.num 0x8000000000000000, .ref .var 2]) = .tt :=
  (C18_iff_structural_partial ieee _ _ (.inl (by decide))).mpr
    (.iter (.cons (.num (by decide)) (.cons .ref .nil)))
/-- … and `tt` gives a `Sim` derivation; a non-identical pair gives `ff` -/
example : Sim ieee (.call 2 [.str [97]]) (.call 2 [.str [97, 0, 98]]) :=
  (C18_iff_structural_partial ieee _ _ (.inl (by decide))).mp (by decide)
example : equalX ieee (.call 2 [.str [97]]) (.call 1 [.str [97]]) = .ff := by decide
/-- `C18_refl_nan_is_false_partial`: hypotheses met by a supported tree with a NaN below the root -/
example : equalX ieee (.bin .mul (.ref .var 0) (.num qnan)) (.bin .mul (.ref .var 0) (.num qnan)) = .ff :=
  C18_refl_nan_is_false_partial ieee _ (by decide) (by decide)
/-- `C18_total_partial` with only the *right* operand supported, `C18_kind_first` on same-layout kinds -/
example : equalX ieee (.iter .numberOfSym [.str [97]]) (.iter .numberOf [.num 0]) = .ff := by decide
example : equalX ieee (.un .sin (.ref .var 0)) (.un .cos (.ref .var 0)) = .ff :=
  C18_kind_first ieee _ _ (by decide)

/-- a tree using every supported layout, NaN-free -/
def sample : E UInt64 :=
  .iter .sum [
    .bin .add (.un .sin (.ref .var 3)) (.num 0x3ff0000000000000),
    .ite .ifNum (.bin .lt (.ref .common 1) (.num 0)) (.pl [(0x3ff0000000000000, 0)] 0x4000000000000000 (.ref .var 0))
      (.call 2 [.str [97, 98], .num 0x8000000000000000, .iter .count [.bool true, .un .not (.bool false)]]),
    .iter .numberOf [.num 0, .ref .var 1]]

example : okC sample = true ∧ noNaN ieee sample = true := by decide
example : equalX ieee sample sample = .tt := C18_refl_partial ieee sample (by decide) (by decide)
/-- `-0.0 == 0.0`: equal trees with different bit patterns -/
example : equalX ieee (.num 0x8000000000000000) (.num 0) = .tt := by decide
/-- single-point mutants compare unequal -/
example : equalX ieee (.bin .add (.ref .var 0) (.ref .var 1)) (.bin .add (.ref .var 1) (.ref .var 0)) = .ff := by decide
example : equalX ieee (.iter .min [.ref .var 0]) (.iter .min [.ref .var 0, .ref .var 0]) = .ff := by decide
example : equalX ieee (.call 0 [.str [97]]) (.call 0 [.str [98]]) = .ff := by decide
example : equalX ieee (.call 0 [.str [97, 0, 98]]) (.call 0 [.str [97, 0, 99]]) = .tt := by decide
/-- `!alldiff` and logical call arguments are compared like everything else -/
example : equalX ieee (.iter .notAllDiff [.ref .var 0, .ref .var 1]) (.iter .notAllDiff [.ref .var 0, .ref .var 1]) = .tt := by decide
example : equalX ieee (.call 1 [.bool true]) (.call 1 [.bool true]) = .tt ∧
    equalX ieee (.call 1 [.bool true]) (.call 1 [.bool false]) = .ff := by decide

end MpVerif.C18
