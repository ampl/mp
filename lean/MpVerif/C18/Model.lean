/-!
# C18 — model of `mp::Equal` (ExprComparator) and `std::hash<mp::Expr>` (ExprHasher)

Source mirrored: `src/expr.cc`, `include/mp/expr.h`, `include/mp/basic-expr-visitor.h`,
`include/mp/utils-hash.h` (ampl/mp).  Core Lean only.

* `E C` has one constructor per C++ `Impl` layout that `BasicExprFactory` can allocate; the
  expression kind is a field drawn from the sub-enumeration of kinds legal for that layout
  (`UnK`, `BinK`, `IfK`, `IterK`, `RefK`), so every value of `E C` is something the factory's
  public API can build (modulo the numeric/logical typing of children, which the comparator
  and hasher never look at, except for call arguments — see `equalArgs`).
* `C` is the type of floating constants; `NumOps C` packages `==` on them as a *partial*
  equivalence (IEEE: symmetric, transitive, not reflexive at NaN).
* `equalX` returns an outcome `R`: `tt`/`ff` (returned `true`/`false`), `unsup` (threw
  `UnsupportedError` — kinds for which neither ExprComparator nor BasicExprVisitor defines
  anything but `VisitUnsupported`), `ub` (null dereference; produced by no path, see
  `C18_no_ub`).  `R.and` is C++ `&&`/early `return false`: the right
  operand only matters when the left one is `tt`.
* `hashX` returns `none` when ExprHasher throws `UnsupportedError`, otherwise the 64-bit value
  computed with `HashCombine`; the primitive hashers (`std::hash<int|double|bool|char|const char*>`,
  which live in libstdc++, not in ampl/mp) are parameters (`Prims`).
-/
namespace MpVerif.C18

/-- outcome of one call of `mp::Equal` -/
inductive R where
  | tt | ff | unsup | ub
  deriving DecidableEq, Repr, Inhabited

/-- C++ `a && b` / "if (!a) return false; return b": `b` matters only if `a` returned true;
an exception or a crash in `a` propagates. -/
def R.and : R → R → R
  | .tt, y => y
  | .ff, _ => .ff
  | .unsup, _ => .unsup
  | .ub, _ => .ub

def R.ofBool (b : Bool) : R := if b then .tt else .ff

def R.toStr : R → String
  | .tt => "1" | .ff => "0" | .unsup => "U" | .ub => "X"

/-- `VARIABLE`, `COMMON_EXPR` (class `Reference`) -/
inductive RefK where
  | var | common
  deriving DecidableEq, Repr

/-- `FIRST_UNARY..LAST_UNARY` (class `UnaryExpr`) and `NOT` (class `NotExpr`): `BasicUnaryExpr` -/
inductive UnK where
  | minus | abs | floor | ceil | sqrt | pow2 | exp | log | log10 | sin | sinh | cos | cosh
  | tan | tanh | asin | asinh | acos | acosh | atan | atanh | not
  deriving DecidableEq, Repr

/-- `BasicBinaryExpr` (`BinaryExpr`, `BinaryLogicalExpr`, `RelationalExpr`) and `LogicalCountExpr`
(same two-pointer layout; ExprComparator sends all four through `VisitBinary`) -/
inductive BinK where
  | add | sub | less | mul | div | truncDiv | mod | pow | powConstBase | powConstExp
  | atan2 | precision | round | trunc
  | or | and | iff
  | lt | le | eq | ge | gt | ne
  | atLeast | atMost | exactly | notAtLeast | notAtMost | notExactly
  deriving DecidableEq, Repr

/-- `BasicIfExpr`: `IF`, `IMPLICATION`, `IFSYM` -/
inductive IfK where
  | ifNum | implication | ifSym
  deriving DecidableEq, Repr

/-- `BasicIteratedExpr`: `MIN MAX SUM NUMBEROF NUMBEROF_SYM COUNT EXISTS FORALL ALLDIFF NOT_ALLDIFF` -/
inductive IterK where
  | min | max | sum | numberOf | numberOfSym | count | exists_ | forall_ | allDiff | notAllDiff
  deriving DecidableEq, Repr

/-- `expr::Kind` restricted to the values the factory can store. -/
inductive Kind where
  | number
  | ref (k : RefK)
  | un (k : UnK)
  | bin (k : BinK)
  | ifk (k : IfK)
  | plterm
  | call
  | iter (k : IterK)
  | bool
  | string
  deriving DecidableEq, Repr

/-- `internal::Is<NumericExpr>(kind)`: kind ∈ [FIRST_NUMERIC, LAST_NUMERIC] = NUMBER..COUNT -/
def Kind.isNumeric : Kind → Bool
  | .number | .ref _ | .plterm | .call => true
  | .un k => k != .not
  | .bin k => match k with
    | .add | .sub | .less | .mul | .div | .truncDiv | .mod | .pow | .powConstBase | .powConstExp
    | .atan2 | .precision | .round | .trunc => true
    | _ => false
  | .ifk k => k == .ifNum
  | .iter k => match k with
    | .min | .max | .sum | .numberOf | .numberOfSym | .count => true
    | _ => false
  | .bool | .string => false

/-- Iterated kinds that reach `VisitUnsupported` in *both* visitors: nothing is defined for
`VisitNumberOfSym`. -/
def IterK.unsupported : IterK → Bool
  | .numberOfSym => true
  | _ => false

/-- Floating constants with C++ `==`. -/
structure NumOps (C : Type) where
  feq : C → C → Bool
  symm : ∀ a b, feq a b = feq b a
  trans : ∀ a b c, feq a b = true → feq b c = true → feq a c = true

/-- Expression trees. -/
inductive E (C : Type) : Type where
  | num (v : C)                                   -- NumericConstant
  | ref (k : RefK) (i : Int)                      -- Reference
  | un (k : UnK) (a : E C)                        -- BasicUnaryExpr
  | bin (k : BinK) (l r : E C)                    -- BasicBinaryExpr / LogicalCountExpr
  | ite (k : IfK) (c t e : E C)                   -- BasicIfExpr
  | pl (sb : List (C × C)) (last : C) (arg : E C) -- PLTerm: (slope i, breakpoint i) i<n, slope n, arg
  | call (f : Nat) (args : List (E C))            -- CallExpr: f = identity of the Function object
  | iter (k : IterK) (args : List (E C))          -- BasicIteratedExpr
  | bool (v : Bool)                               -- LogicalConstant
  | str (s : List UInt8)                          -- StringLiteral: bytes copied by MakeStringLiteral
  deriving Repr

def E.kind {C} : E C → Kind
  | .num _ => .number
  | .ref k _ => .ref k
  | .un k _ => .un k
  | .bin k _ _ => .bin k
  | .ite k _ _ _ => .ifk k
  | .pl _ _ _ => .plterm
  | .call _ _ => .call
  | .iter k _ => .iter k
  | .bool _ => .bool
  | .str _ => .string

/-- what `StringLiteral::value()` shows to `strcmp` and to the hashing loop: bytes up to the first NUL -/
def cstr (s : List UInt8) : List UInt8 := s.takeWhile (· != 0)

section equal
variable {C : Type} (N : NumOps C)

/-- the loop of `VisitPLTerm` over (slope i, breakpoint i), after the length test -/
def plPairs : List (C × C) → List (C × C) → Bool
  | [], [] => true
  | p :: ps, q :: qs => (N.feq p.1 q.1 && N.feq p.2 q.2) && plPairs ps qs
  | _, _ => false

mutual
/-- `mp::Equal(e1, e2)`: kind test, then `ExprComparator(e1).Visit(e2)`.  Two trees whose
constructors differ have different kinds (`equalX_of_kind_ne`), hence the final catch-all. -/
def equalX : E C → E C → R
  | .num x, .num y => .ofBool (N.feq x y)                                  -- VisitNumericConstant
  | .ref k i, .ref k' j => if k = k' then .ofBool (i == j) else .ff          -- VisitVariable / VisitCommonExpr
  | .un k a, .un k' b => if k = k' then equalX a b else .ff                 -- VisitUnary
  | .bin k l r, .bin k' l' r' =>                                            -- VisitBinary
      if k = k' then (equalX l l').and (equalX r r') else .ff
  | .ite k c t e, .ite k' c' t' e' =>                                       -- VisitIf / VisitSymbolicIf
      if k = k' then
        (if k = .ifSym then .unsup
         else (equalX c c').and ((equalX t t').and (equalX e e')))
      else .ff
  | .pl sb last arg, .pl sb' last' arg' =>                                  -- VisitPLTerm
      if sb.length ≠ sb'.length then .ff
      else if plPairs N sb sb' = false then .ff
      else (R.ofBool (N.feq last last')).and (equalX arg arg')
  | .call f as, .call g bs =>                                               -- VisitCall
      if f ≠ g ∨ as.length ≠ bs.length then .ff else equalArgs as bs
  | .iter k as, .iter k' bs =>                                              -- VisitVarArg & co.
      if k = k' then (if k.unsupported then .unsup else equalList as bs) else .ff
  | .bool x, .bool y => .ofBool (x == y)                                   -- VisitLogicalConstant
  | .str _, .str _ => .unsup                                                -- VisitStringLiteral (base class)
  | _, _ => .ff                                                             -- e1.kind() != e2.kind()
/-- the loop of `VisitVarArg` -/
def equalList : List (E C) → List (E C) → R
  | [], [] => .tt
  | [], _ :: _ => .ff
  | _ :: _, [] => .ff
  | a :: as, b :: bs => (equalX a b).and (equalList as bs)
/-- the loop of `VisitCall` (argument counts already known to be equal) -/
def equalArgs : List (E C) → List (E C) → R
  | a :: as, b :: bs =>
      (if a.kind ≠ b.kind then R.ff
       else if a.kind.isNumeric then equalX a b
       else match a, b with
         | .str s, .str s' => R.ofBool (cstr s == cstr s')   -- strcmp(...) == 0
         | _, _ => equalX a b                                 -- neither numeric nor string: Equal(arg, other_arg)
      ).and (equalArgs as bs)
  | _, _ => .tt
end

end equal

/-! ## Hashing -/

structure Prims (C : Type) where
  hKind : Kind → UInt64     -- std::hash<int>()(e.kind())
  hDbl  : C → UInt64        -- std::hash<double>
  hInt  : Int → UInt64      -- std::hash<int>
  hBool : Bool → UInt64     -- std::hash<bool>
  hChar : UInt8 → UInt64    -- std::hash<char>
  hFun  : Nat → UInt64      -- std::hash<const char*>()(function.name())

/-- `internal::HashCombine` with `h = std::hash<T>()(v)` -/
def combine (seed h : UInt64) : UInt64 :=
  seed ^^^ (h + (0x9e3779b9 : UInt64) + (seed <<< 6) + (seed >>> 2))

section hash
variable {C : Type} (P : Prims C)

/-- `ExprHasher::Hash(Expr e)` = `HashCombine<int>(0, e.kind())` -/
def hashKind (k : Kind) : UInt64 := combine 0 (P.hKind k)

/-- slopes and breakpoints loop of `VisitPLTerm` -/
def plFold : UInt64 → List (C × C) → UInt64
  | h, [] => h
  | h, p :: ps => plFold (combine (combine h (P.hDbl p.1)) (P.hDbl p.2)) ps

def strFold (h : UInt64) (s : List UInt8) : UInt64 :=
  (cstr s).foldl (fun h c => combine h (P.hChar c)) h

mutual
/-- `std::hash<mp::Expr>()(e)` = `ExprHasher().Visit(e)`; `none` = throws UnsupportedError -/
def hashX : E C → Option UInt64
  | .num v => some (combine (hashKind P .number) (P.hDbl v))
  | .ref k i => some (combine (hashKind P (.ref k)) (P.hInt i))
  | .un k a =>
      match hashX a with
      | none => none
      | some ha => some (combine (hashKind P (.un k)) ha)
  | .bin k l r =>
      match hashX l, hashX r with
      | some hl, some hr => some (combine (combine (hashKind P (.bin k)) hl) hr)
      | _, _ => none
  | .ite k c t e =>
      if k = .ifSym then none else
      match hashX c, hashX t, hashX e with
      | some hc, some ht, some he => some (combine (combine (combine (hashKind P (.ifk k)) hc) ht) he)
      | _, _, _ => none
  | .pl sb last arg =>
      match hashX arg with
      | none => none
      | some ha => some (combine (combine (plFold P (hashKind P .plterm) sb) (P.hDbl last)) ha)
  | .call f as => hashList (combine (hashKind P .call) (P.hFun f)) as
  | .iter k as => if k.unsupported then none else hashList (hashKind P (.iter k)) as
  | .bool v => some (combine (hashKind P .bool) (P.hBool v))
  | .str s => some (strFold P (hashKind P .string) s)
def hashList : UInt64 → List (E C) → Option UInt64
  | h, [] => some h
  | h, a :: as =>
      match hashX a with
      | none => none
      | some ha => hashList (combine h ha) as
end

end hash

/-! ## Predicates used in the statements -/

section preds
variable {C : Type}

mutual
/-- every node is one ExprHasher handles (no IFSYM, NUMBEROF_SYM anywhere) -/
def okH : E C → Bool
  | .num _ | .ref _ _ | .bool _ | .str _ => true
  | .un _ a => okH a
  | .bin _ l r => okH l && okH r
  | .ite k c t e => (k != .ifSym) && (okH c && (okH t && okH e))
  | .pl _ _ arg => okH arg
  | .call _ as => okHList as
  | .iter k as => !k.unsupported && okHList as
def okHList : List (E C) → Bool
  | [] => true
  | a :: as => okH a && okHList as
end

mutual
/-- every node is one ExprComparator handles: as `okH`, and string literals occur only as call
arguments -/
def okC : E C → Bool
  | .num _ | .ref _ _ | .bool _ => true
  | .str _ => false
  | .un _ a => okC a
  | .bin _ l r => okC l && okC r
  | .ite k c t e => (k != .ifSym) && (okC c && (okC t && okC e))
  | .pl _ _ arg => okC arg
  | .call _ as => okCArgs as
  | .iter k as => !k.unsupported && okCList as
def okCList : List (E C) → Bool
  | [] => true
  | a :: as => okC a && okCList as
def okCArgs : List (E C) → Bool
  | [] => true
  | a :: as => (if a.kind.isNumeric then okC a else (a.kind == .string || okC a)) && okCArgs as
end

variable (N : NumOps C)

mutual
/-- no constant in the tree is a NaN (`c == c` holds for each) -/
def noNaN : E C → Bool
  | .num v => N.feq v v
  | .ref _ _ | .bool _ | .str _ => true
  | .un _ a => noNaN a
  | .bin _ l r => noNaN l && noNaN r
  | .ite _ c t e => noNaN c && (noNaN t && noNaN e)
  | .pl sb last arg => sb.all (fun p => N.feq p.1 p.1 && N.feq p.2 p.2) && (N.feq last last && noNaN arg)
  | .call _ as => noNaNList as
  | .iter _ as => noNaNList as
def noNaNList : List (E C) → Bool
  | [] => true
  | a :: as => noNaN a && noNaNList as
end

/-! ## Structural identity, defined without reference to `equalX`:
same constructor, same kind, same references / function, pairwise `==` constants,
children related position by position (same number of them). -/
/-- slopes and breakpoints pairwise `==`, same number of them -/
inductive PLSim : List (C × C) → List (C × C) → Prop where
  | nil : PLSim [] []
  | cons {p q ps qs} : N.feq p.1 q.1 = true → N.feq p.2 q.2 = true → PLSim ps qs → PLSim (p :: ps) (q :: qs)

mutual
inductive Sim : E C → E C → Prop where
  | num {x y} : N.feq x y = true → Sim (.num x) (.num y)
  | ref {k i} : Sim (.ref k i) (.ref k i)
  | un {k a b} : Sim a b → Sim (.un k a) (.un k b)
  | bin {k l r l' r'} : Sim l l' → Sim r r' → Sim (.bin k l r) (.bin k l' r')
  | ite {k c t e c' t' e'} : Sim c c' → Sim t t' → Sim e e' → Sim (.ite k c t e) (.ite k c' t' e')
  | pl {sb sb' last last' arg arg'} :
      PLSim N sb sb' →
      N.feq last last' = true → Sim arg arg' → Sim (.pl sb last arg) (.pl sb' last' arg')
  | call {f as bs} : SimList as bs → Sim (.call f as) (.call f bs)
  | iter {k as bs} : SimList as bs → Sim (.iter k as) (.iter k bs)
  | bool {v} : Sim (.bool v) (.bool v)
  | str {s s'} : cstr s = cstr s' → Sim (.str s) (.str s')
inductive SimList : List (E C) → List (E C) → Prop where
  | nil : SimList [] []
  | cons {a b as bs} : Sim a b → SimList as bs → SimList (a :: as) (b :: bs)
end

end preds

/-! ## IEEE-754 binary64 `==` on bit patterns (the concrete `NumOps` used by the driver) -/

def dblIsNaN (b : UInt64) : Bool :=
  ((b >>> 52) &&& 0x7ff) == 0x7ff && (b &&& 0xfffffffffffff) != 0

def dblIsZero (b : UInt64) : Bool := (b &&& 0x7fffffffffffffff) == 0

def dblEq (a b : UInt64) : Bool :=
  !dblIsNaN a && !dblIsNaN b && (a == b || (dblIsZero a && dblIsZero b))

theorem dblEq_symm (a b : UInt64) : dblEq a b = dblEq b a := by
  unfold dblEq
  rw [BEq.comm (a := a) (b := b)]
  cases dblIsNaN a <;> cases dblIsNaN b <;> cases dblIsZero a <;> cases dblIsZero b <;> simp

theorem dblEq_trans (a b c : UInt64) : dblEq a b = true → dblEq b c = true → dblEq a c = true := by
  unfold dblEq
  simp only [Bool.and_eq_true, Bool.or_eq_true, Bool.not_eq_true', beq_iff_eq]
  grind

def ieee : NumOps UInt64 := ⟨dblEq, dblEq_symm, dblEq_trans⟩

end MpVerif.C18
