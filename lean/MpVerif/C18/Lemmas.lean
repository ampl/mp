import MpVerif.C18.Model
/-! # C18 — lemmas about the model of `mp::Equal` and `std::hash<mp::Expr>` (core Lean only)

What holds of `equalX` on two arbitrary trees (`equalX_symm`, `sound`, `equalX_outcome`) goes by one induction over a pair of
trees, `E.pairInduction`; what starts from a derivation of `Sim` (`complete`, `sim_hash`, the partial equivalence) by recursion on it. -/
namespace MpVerif.C18

@[simp] theorem R.and_eq_tt {x y : R} : x.and y = .tt ↔ x = .tt ∧ y = .tt := by
  cases x <;> simp [R.and]

@[simp] theorem R.ofBool_eq_tt {b : Bool} : R.ofBool b = .tt ↔ b = true := by
  cases b <;> simp [R.ofBool]

@[simp] theorem R.tt_and (y : R) : R.tt.and y = y := rfl
@[simp] theorem R.ff_and (r : R) : R.ff.and r = .ff := rfl
@[simp] theorem R.and_tt_right (r : R) : r.and .tt = r := by cases r <;> rfl
theorem R.and_assoc (x y z : R) : (x.and y).and z = x.and (y.and z) := by cases x <;> rfl
@[simp] theorem R.ofBool_true : R.ofBool true = .tt := rfl
@[simp] theorem R.ofBool_false : R.ofBool false = .ff := rfl

theorem R.and_congr {x x' y y' : R} (hx : x = x') (hy : y = y') : x.and y = x'.and y' := hx ▸ hy ▸ rfl

/-- `x && y` is `y` when `x` returned true and `x` otherwise, so what holds of both operands holds of the conjunction. -/
theorem R.and_ind {p : R → Prop} {x y : R} (hx : p x) (hy : p y) : p (x.and y) := by
  cases x
  case tt => exact hy
  all_goals exact hx

theorem R.ofBool_ne_unsup {b : Bool} : R.ofBool b ≠ .unsup := by cases b <;> nofun
theorem R.ofBool_ne_ub {b : Bool} : R.ofBool b ≠ .ub := by cases b <;> nofun

def R.isBool : R → Bool
  | .tt | .ff => true
  | _ => false

@[simp] theorem R.isBool_ff : R.ff.isBool = true := rfl
@[simp] theorem R.isBool_tt : R.tt.isBool = true := rfl

theorem R.isBool_ofBool (b : Bool) : (R.ofBool b).isBool = true := by cases b <;> rfl

theorem R.isBool_iff {x : R} : x.isBool = true ↔ x = .tt ∨ x = .ff := by cases x <;> simp [R.isBool]

variable {C : Type} (N : NumOps C)

/-! ### induction over a pair of trees: nodes of different kinds are leaves, as for `mp::Equal` -/

theorem E.pairInduction {motive : E C → E C → Prop}
    (diff : ∀ a b, a.kind ≠ b.kind → motive a b)
    (num : ∀ x y, motive (.num x) (.num y))
    (ref : ∀ k i j, motive (.ref k i) (.ref k j))
    (un : ∀ k a b, motive a b → motive (.un k a) (.un k b))
    (bin : ∀ k l r l' r', motive l l' → motive r r' → motive (.bin k l r) (.bin k l' r'))
    (ite : ∀ k c t e c' t' e', motive c c' → motive t t' → motive e e' →
      motive (.ite k c t e) (.ite k c' t' e'))
    (pl : ∀ sb last arg sb' last' arg', motive arg arg' → motive (.pl sb last arg) (.pl sb' last' arg'))
    (call : ∀ f as g bs, (∀ a ∈ as, ∀ b, motive a b) → motive (.call f as) (.call g bs))
    (iter : ∀ k as bs, (∀ a ∈ as, ∀ b, motive a b) → motive (.iter k as) (.iter k bs))
    (bool : ∀ x y, motive (.bool x) (.bool y))
    (str : ∀ s s', motive (.str s) (.str s')) (a b : E C) : motive a b := by
  refine E.rec (motive_1 := fun a => ∀ b, motive a b) (motive_2 := fun as => ∀ a ∈ as, ∀ b, motive a b)
    ?num ?ref ?un ?bin ?ite ?pl ?call ?iter ?bool ?str (fun _ h => nomatch h)
    (fun _ _ hx hxs _ h => by cases h with | head => exact hx | tail _ h => exact hxs _ h) a b
  all_goals intros; rename_i b; cases b
  case num.num => exact num ..
  case ref.ref k i k' j => exact if h : k = k' then h ▸ ref k i j else diff _ _ fun e => h (Kind.ref.inj e)
  case un.un k a ih k' b =>
    exact if h : k = k' then h ▸ un k a b (ih b) else diff _ _ fun e => h (Kind.un.inj e)
  case bin.bin k l r ihl ihr k' l' r' =>
    exact if h : k = k' then h ▸ bin k l r l' r' (ihl l') (ihr r') else diff _ _ fun e => h (Kind.bin.inj e)
  case ite.ite k c t e ihc iht ihe k' c' t' e' =>
    exact if h : k = k' then h ▸ ite k c t e c' t' e' (ihc c') (iht t') (ihe e')
      else diff _ _ fun e => h (Kind.ifk.inj e)
  case pl.pl ih _ _ arg' => exact pl _ _ _ _ _ _ (ih arg')
  case call.call ih _ _ => exact call _ _ _ _ ih
  case iter.iter k as ih k' bs =>
    exact if h : k = k' then h ▸ iter k as bs ih else diff _ _ fun e => h (Kind.iter.inj e)
  case bool.bool => exact bool ..
  case str.str => exact str ..
  all_goals exact diff _ _ nofun

/-- `mp::Equal` starts with `if (e1.kind() != e2.kind()) return false;` -/
theorem equalX_of_kind_ne (a b : E C) (h : a.kind ≠ b.kind) : equalX N a b = .ff := by
  cases a <;> cases b
  case num.num | pl.pl | call.call | bool.bool | str.str => exact absurd rfl h
  case ref.ref | un.un | bin.bin | ite.ite | iter.iter =>
    refine if_neg fun e => h ?_
    exact e ▸ rfl
  all_goals rfl

theorem plPairs_iff : ∀ {ps qs : List (C × C)}, plPairs N ps qs = true ↔ PLSim N ps qs
  | [], [] => ⟨fun _ => .nil, fun _ => rfl⟩
  | [], _ :: _ => ⟨nofun, nofun⟩
  | _ :: _, [] => ⟨nofun, nofun⟩
  | p :: ps, q :: qs => by
    simp only [plPairs, Bool.and_eq_true, plPairs_iff (ps := ps)]
    exact ⟨fun h => .cons h.1.1 h.1.2 h.2, fun | .cons h1 h2 h => ⟨⟨h1, h2⟩, h⟩⟩

theorem plSim_length : ∀ {ps qs : List (C × C)}, PLSim N ps qs → ps.length = qs.length
  | _, _, .nil => rfl
  | _, _, .cons _ _ h => congrArg (· + 1) (plSim_length h)

theorem equalX_ref (k : RefK) (i j : Int) : equalX N (.ref k i) (.ref k j) = .ofBool (i == j) := if_pos rfl
theorem equalX_un (k : UnK) (a b : E C) : equalX N (.un k a) (.un k b) = equalX N a b := if_pos rfl
theorem equalX_bin (k : BinK) (l r l' r' : E C) :
    equalX N (.bin k l r) (.bin k l' r') = (equalX N l l').and (equalX N r r') := if_pos rfl
theorem equalX_ite (k : IfK) (c t e c' t' e' : E C) :
    equalX N (.ite k c t e) (.ite k c' t' e') =
      if k = .ifSym then .unsup else (equalX N c c').and ((equalX N t t').and (equalX N e e')) := if_pos rfl
theorem equalX_pl (sb sb' : List (C × C)) (last last' : C) (arg arg' : E C) :
    equalX N (.pl sb last arg) (.pl sb' last' arg') =
      (R.ofBool (plPairs N sb sb')).and ((R.ofBool (N.feq last last')).and (equalX N arg arg')) := by
  by_cases hl : sb.length = sb'.length
  · refine (if_neg (not_not_intro hl)).trans ?_
    cases plPairs N sb sb' <;> rfl
  · -- `plPairs` is `false` on lists of different lengths: the length test of `VisitPLTerm` is subsumed
    rw [Bool.eq_false_iff.2 fun h => hl (plSim_length N ((plPairs_iff N).1 h))]
    exact if_pos hl
theorem equalX_call (f g : Nat) (as bs : List (E C)) :
    equalX N (.call f as) (.call g bs) =
      (R.ofBool (decide (f = g ∧ as.length = bs.length))).and (equalArgs N as bs) := by
  by_cases h : f = g ∧ as.length = bs.length
  · rw [decide_eq_true h]
    exact if_neg (not_or.2 ⟨not_not_intro h.1, not_not_intro h.2⟩)
  · rw [decide_eq_false h]
    exact if_pos (Decidable.not_and_iff_not_or_not.1 h)
theorem equalX_iter (k : IterK) (as bs : List (E C)) :
    equalX N (.iter k as) (.iter k bs) = if k.unsupported then .unsup else equalList N as bs := if_pos rfl

/-- one argument of `VisitCall` as the hand model writes it -/
def argR (a b : E C) : R :=
  if a.kind ≠ b.kind then R.ff
  else if a.kind.isNumeric then equalX N a b
  else match a, b with
    | .str s, .str s' => R.ofBool (cstr s == cstr s')
    | _, _ => equalX N a b

theorem equalArgs_cons (a : E C) (as : List (E C)) (b : E C) (bs : List (E C)) :
    equalArgs N (a :: as) (b :: bs) = (argR N a b).and (equalArgs N as bs) := rfl

theorem argR_of_kind_ne {a b : E C} (h : a.kind ≠ b.kind) : argR N a b = .ff := if_pos h

theorem argR_of_ne_string {a : E C} (b : E C) (h : a.kind ≠ .string) : argR N a b = equalX N a b := by
  unfold argR
  by_cases hk : a.kind = b.kind
  · rw [if_neg (not_not_intro hk)]
    by_cases hn : a.kind.isNumeric = true
    · exact if_pos hn
    · rw [if_neg hn]
      cases a <;> first | rfl | exact absurd rfl h
  · rw [if_pos hk, equalX_of_kind_ne N a b hk]

theorem kind_eq_string {a : E C} (h : a.kind = .string) : ∃ s, a = .str s := by
  cases a <;> first | exact ⟨_, rfl⟩ | cases h

theorem argR_cases (a b : E C) :
    (a.kind ≠ b.kind ∧ argR N a b = .ff) ∨
    (∃ s s', a = .str s ∧ b = .str s' ∧ argR N a b = .ofBool (cstr s == cstr s')) ∨
    (a.kind = b.kind ∧ a.kind ≠ .string ∧ argR N a b = equalX N a b) := by
  by_cases hk : a.kind = b.kind
  · by_cases hs : a.kind = .string
    · obtain ⟨s, rfl⟩ := kind_eq_string hs
      obtain ⟨s', rfl⟩ := kind_eq_string (hk ▸ hs)
      exact .inr (.inl ⟨s, s', rfl, rfl, rfl⟩)
    · exact .inr (.inr ⟨hk, hs, argR_of_ne_string N b hs⟩)
  · exact .inl ⟨hk, argR_of_kind_ne N hk⟩

theorem plPairs_symm : ∀ (ps qs : List (C × C)), plPairs N ps qs = plPairs N qs ps
  | [], [] => rfl
  | [], _ :: _ => rfl
  | _ :: _, [] => rfl
  | p :: ps, q :: qs => by
    simp only [plPairs, plPairs_symm ps qs, N.symm p.1 q.1, N.symm p.2 q.2]

theorem argR_symm {a b : E C} (h : equalX N a b = equalX N b a) : argR N a b = argR N b a := by
  rcases argR_cases N a b with ⟨hk, e⟩ | ⟨s, s', rfl, rfl, e⟩ | ⟨hk, hs, e⟩ <;> rw [e]
  · exact (argR_of_kind_ne N (Ne.symm hk)).symm
  · exact congrArg R.ofBool BEq.comm
  · exact h.trans (argR_of_ne_string N a (hk ▸ hs)).symm

theorem equalList_symm_of : ∀ (as bs : List (E C)), (∀ a ∈ as, ∀ b, equalX N a b = equalX N b a) →
    equalList N as bs = equalList N bs as
  | [], [], _ | [], _ :: _, _ | _ :: _, [], _ => rfl
  | a :: as, b :: bs, h =>
    R.and_congr (h a (.head _) b) (equalList_symm_of as bs fun x hx => h x (.tail _ hx))

theorem equalArgs_symm_of : ∀ (as bs : List (E C)), (∀ a ∈ as, ∀ b, equalX N a b = equalX N b a) →
    equalArgs N as bs = equalArgs N bs as
  | [], [], _ | [], _ :: _, _ | _ :: _, [], _ => rfl
  | a :: as, b :: bs, h =>
    (equalArgs_cons N a as b bs).trans <|
      (R.and_congr (argR_symm N (h a (.head _) b)) (equalArgs_symm_of as bs fun x hx => h x (.tail _ hx))).trans
        (equalArgs_cons N b bs a as).symm

theorem equalX_symm (a b : E C) : equalX N a b = equalX N b a := by
  induction a, b using E.pairInduction with
  | diff a b h => rw [equalX_of_kind_ne N a b h, equalX_of_kind_ne N b a (Ne.symm h)]
  | num x y => exact congrArg R.ofBool (N.symm x y)
  | ref k i j => rw [equalX_ref, equalX_ref, BEq.comm (a := i)]
  | un k a b ih => rwa [equalX_un, equalX_un]
  | bin k l r l' r' ihl ihr => rw [equalX_bin, equalX_bin, ihl, ihr]
  | ite k c t e c' t' e' ihc iht ihe => rw [equalX_ite, equalX_ite, ihc, iht, ihe]
  | pl sb last arg sb' last' arg' ih =>
    rw [equalX_pl, equalX_pl, plPairs_symm N sb sb', N.symm last last', ih]
  | call f as g bs ih =>
    simp only [equalX_call, equalArgs_symm_of N as bs ih, eq_comm (a := f), eq_comm (a := as.length)]
  | iter k as bs ih => rw [equalX_iter, equalX_iter, equalList_symm_of N as bs ih]
  | bool x y => exact congrArg R.ofBool BEq.comm
  | str s s' => rfl

theorem equalList_symm : ∀ (as bs : List (E C)), equalList N as bs = equalList N bs as :=
  fun as bs => equalList_symm_of N as bs fun a _ => equalX_symm N a

theorem equalArgs_symm : ∀ (as bs : List (E C)), equalArgs N as bs = equalArgs N bs as :=
  fun as bs => equalArgs_symm_of N as bs fun a _ => equalX_symm N a

/-! ### `Sim` is a partial equivalence, reflexive exactly on NaN-free trees -/

/-- `x == y` implies `x == x` (partial equivalence) -/
theorem NumOps.refl_of {x y : C} (h : N.feq x y = true) : N.feq x x = true :=
  N.trans x y x h (N.symm x y ▸ h)

theorem plSim_symm (ps qs : List (C × C)) (h : PLSim N ps qs) : PLSim N qs ps :=
  (plPairs_iff N).1 (plPairs_symm N ps qs ▸ (plPairs_iff N).2 h)

theorem plSim_trans : ∀ (ps qs rs : List (C × C)), PLSim N ps qs → PLSim N qs rs → PLSim N ps rs
  | _, _, _, .nil, .nil => .nil
  | _, _, _, .cons a1 a2 a, .cons b1 b2 b =>
    .cons (N.trans _ _ _ a1 b1) (N.trans _ _ _ a2 b2) (plSim_trans _ _ _ a b)

theorem plSim_refl : ∀ (ps : List (C × C)), ps.all (fun p => N.feq p.1 p.1 && N.feq p.2 p.2) = true → PLSim N ps ps
  | [], _ => .nil
  | p :: ps, h => by
    simp only [List.all_cons, Bool.and_eq_true] at h
    exact .cons h.1.1 h.1.2 (plSim_refl ps h.2)

theorem plSim_noNaN : ∀ (ps qs : List (C × C)), PLSim N ps qs →
    ps.all (fun p => N.feq p.1 p.1 && N.feq p.2 p.2) = true
  | _, _, .nil => rfl
  | _, _, .cons h1 h2 hs => by
    simp only [List.all_cons, Bool.and_eq_true]
    exact ⟨⟨N.refl_of h1, N.refl_of h2⟩, plSim_noNaN _ _ hs⟩

mutual
theorem sim_symm : ∀ (a b : E C), Sim N a b → Sim N b a
  | _, _, .num h => .num (N.symm _ _ ▸ h)
  | _, _, .ref => .ref
  | _, _, .un h => .un (sim_symm _ _ h)
  | _, _, .bin h1 h2 => .bin (sim_symm _ _ h1) (sim_symm _ _ h2)
  | _, _, .ite h1 h2 h3 => .ite (sim_symm _ _ h1) (sim_symm _ _ h2) (sim_symm _ _ h3)
  | _, _, .pl hp hl ha => .pl (plSim_symm N _ _ hp) (N.symm _ _ ▸ hl) (sim_symm _ _ ha)
  | _, _, .call h => .call (simList_symm _ _ h)
  | _, _, .iter h => .iter (simList_symm _ _ h)
  | _, _, .bool => .bool
  | _, _, .str h => .str h.symm
theorem simList_symm : ∀ (as bs : List (E C)), SimList N as bs → SimList N bs as
  | _, _, .nil => .nil
  | _, _, .cons h hs => .cons (sim_symm _ _ h) (simList_symm _ _ hs)
end

mutual
theorem sim_trans : ∀ (a b c : E C), Sim N a b → Sim N b c → Sim N a c
  | _, _, _, .num h, .num h' => .num (N.trans _ _ _ h h')
  | _, _, _, .ref, .ref => .ref
  | _, _, _, .un h, .un h' => .un (sim_trans _ _ _ h h')
  | _, _, _, .bin h1 h2, .bin h1' h2' => .bin (sim_trans _ _ _ h1 h1') (sim_trans _ _ _ h2 h2')
  | _, _, _, .ite h1 h2 h3, .ite h1' h2' h3' =>
    .ite (sim_trans _ _ _ h1 h1') (sim_trans _ _ _ h2 h2') (sim_trans _ _ _ h3 h3')
  | _, _, _, .pl hp hl ha, .pl hp' hl' ha' =>
    .pl (plSim_trans N _ _ _ hp hp') (N.trans _ _ _ hl hl') (sim_trans _ _ _ ha ha')
  | _, _, _, .call h, .call h' => .call (simList_trans _ _ _ h h')
  | _, _, _, .iter h, .iter h' => .iter (simList_trans _ _ _ h h')
  | _, _, _, .bool, .bool => .bool
  | _, _, _, .str h, .str h' => .str (h.trans h')
theorem simList_trans : ∀ (as bs cs : List (E C)), SimList N as bs → SimList N bs cs → SimList N as cs
  | _, _, _, .nil, .nil => .nil
  | _, _, _, .cons h hs, .cons h' hs' => .cons (sim_trans _ _ _ h h') (simList_trans _ _ _ hs hs')
end

mutual
theorem sim_refl : ∀ (a : E C), noNaN N a = true → Sim N a a
  | .num _, h => .num h
  | .ref .., _ => .ref
  | .un _ a, h => .un (sim_refl a h)
  | .bin _ l r, h =>
    have h := Bool.and_eq_true_iff.1 h
    .bin (sim_refl l h.1) (sim_refl r h.2)
  | .ite _ c t e, h =>
    have h := Bool.and_eq_true_iff.1 h
    have h2 := Bool.and_eq_true_iff.1 h.2
    .ite (sim_refl c h.1) (sim_refl t h2.1) (sim_refl e h2.2)
  | .pl sb _ arg, h =>
    have h := Bool.and_eq_true_iff.1 h
    have h2 := Bool.and_eq_true_iff.1 h.2
    .pl (plSim_refl N sb h.1) h2.1 (sim_refl arg h2.2)
  | .call _ as, h => .call (simList_refl as h)
  | .iter _ as, h => .iter (simList_refl as h)
  | .bool _, _ => .bool
  | .str _, _ => .str rfl
theorem simList_refl : ∀ (as : List (E C)), noNaNList N as = true → SimList N as as
  | [], _ => .nil
  | a :: as, h =>
    have h := Bool.and_eq_true_iff.1 h
    .cons (sim_refl a h.1) (simList_refl as h.2)
end

mutual
/-- structurally identical to something ⇒ no NaN constant -/
theorem sim_noNaN : ∀ (a b : E C), Sim N a b → noNaN N a = true
  | _, _, .num h => N.refl_of h
  | _, _, .ref => rfl
  | _, _, .un h => (sim_noNaN _ _ h :)
  | _, _, .bin h1 h2 => Bool.and_eq_true_iff.2 ⟨sim_noNaN _ _ h1, sim_noNaN _ _ h2⟩
  | _, _, .ite h1 h2 h3 =>
    Bool.and_eq_true_iff.2 ⟨sim_noNaN _ _ h1, Bool.and_eq_true_iff.2 ⟨sim_noNaN _ _ h2, sim_noNaN _ _ h3⟩⟩
  | _, _, .pl hp hl ha =>
    Bool.and_eq_true_iff.2 ⟨plSim_noNaN N _ _ hp, Bool.and_eq_true_iff.2 ⟨N.refl_of hl, sim_noNaN _ _ ha⟩⟩
  | _, _, .call h => simList_noNaN _ _ h
  | _, _, .iter h => simList_noNaN _ _ h
  | _, _, .bool => rfl
  | _, _, .str _ => rfl
theorem simList_noNaN : ∀ (as bs : List (E C)), SimList N as bs → noNaNList N as = true
  | _, _, .nil => rfl
  | _, _, .cons h hs => Bool.and_eq_true_iff.2 ⟨sim_noNaN _ _ h, simList_noNaN _ _ hs⟩
end

/-! ### `equalX = tt` exactly on structurally identical, comparator-supported trees -/

theorem equalX_pl_eq_tt {sb sb' : List (C × C)} {last last' : C} {arg arg' : E C} :
    equalX N (.pl sb last arg) (.pl sb' last' arg') = .tt ↔
      PLSim N sb sb' ∧ N.feq last last' = true ∧ equalX N arg arg' = .tt := by
  rw [equalX_pl, R.and_eq_tt, R.and_eq_tt, R.ofBool_eq_tt, R.ofBool_eq_tt, plPairs_iff]

theorem equalX_call_eq_tt {f g : Nat} {as bs : List (E C)} :
    equalX N (.call f as) (.call g bs) = .tt ↔ f = g ∧ as.length = bs.length ∧ equalArgs N as bs = .tt := by
  rw [equalX_call, R.and_eq_tt, R.ofBool_eq_tt, decide_eq_true_iff, and_assoc]

theorem okC_ite {k : IfK} {c t e : E C} :
    okC (.ite k c t e) = true ↔ k ≠ .ifSym ∧ okC c = true ∧ okC t = true ∧ okC e = true := by
  simp only [okC, Bool.and_eq_true, bne_iff_ne, ne_eq]

theorem okC_iter {k : IterK} {as : List (E C)} :
    okC (.iter k as) = true ↔ k.unsupported = false ∧ okCList as = true := by
  simp only [okC, Bool.and_eq_true, Bool.not_eq_true']

theorem okCArgs_cons {a : E C} {as : List (E C)} :
    okCArgs (a :: as) = true ↔ (a.kind = .string ∨ okC a = true) ∧ okCArgs as = true := by
  rw [okCArgs, Bool.and_eq_true]
  refine and_congr_left' ?_
  split
  · next hn => exact ⟨.inr, fun h => h.resolve_left fun e => by rw [e] at hn; cases hn⟩
  · simp only [Bool.or_eq_true, beq_iff_eq]

theorem argR_sound {a b : E C} (ih : equalX N a b = .tt → Sim N a b ∧ okC a = true) :
    argR N a b = .tt → Sim N a b ∧ (a.kind = .string ∨ okC a = true) := by
  rcases argR_cases N a b with ⟨_, e⟩ | ⟨s, s', rfl, rfl, e⟩ | ⟨_, _, e⟩ <;> rw [e]
  · nofun
  · exact fun e => ⟨.str (beq_iff_eq.1 (R.ofBool_eq_tt.1 e)), .inl rfl⟩
  · exact fun e => ⟨(ih e).1, .inr (ih e).2⟩

theorem soundList_of : ∀ (as bs : List (E C)), (∀ a ∈ as, ∀ b, equalX N a b = .tt → Sim N a b ∧ okC a = true) →
    equalList N as bs = .tt → SimList N as bs ∧ okCList as = true
  | [], [], _, _ => ⟨.nil, rfl⟩
  | [], _ :: _, _, e | _ :: _, [], _, e => nomatch e
  | a :: as, b :: bs, h, e =>
    have e := R.and_eq_tt.1 e
    have h1 := h a (.head _) b e.1
    have h2 := soundList_of as bs (fun x hx => h x (.tail _ hx)) e.2
    ⟨.cons h1.1 h2.1, Bool.and_eq_true_iff.2 ⟨h1.2, h2.2⟩⟩

theorem soundArgs_of : ∀ (as bs : List (E C)), (∀ a ∈ as, ∀ b, equalX N a b = .tt → Sim N a b ∧ okC a = true) →
    as.length = bs.length → equalArgs N as bs = .tt → SimList N as bs ∧ okCArgs as = true
  | [], [], _, _, _ => ⟨.nil, rfl⟩
  | [], _ :: _, _, hl, _ | _ :: _, [], _, hl, _ => nomatch hl
  | a :: as, b :: bs, h, hl, e =>
    have e := R.and_eq_tt.1 ((equalArgs_cons N a as b bs).symm.trans e)
    have h1 := argR_sound N (h a (.head _) b) e.1
    have h2 := soundArgs_of as bs (fun x hx => h x (.tail _ hx)) (Nat.succ.inj hl) e.2
    ⟨.cons h1.1 h2.1, okCArgs_cons.2 ⟨h1.2, h2.2⟩⟩

theorem sound (a b : E C) : equalX N a b = .tt → Sim N a b ∧ okC a = true := by
  induction a, b using E.pairInduction with
  | diff a b h => rw [equalX_of_kind_ne N a b h]; nofun
  | num x y => exact fun e => ⟨.num (R.ofBool_eq_tt.1 e), rfl⟩
  | ref k i j =>
    rw [equalX_ref]
    exact fun e => beq_iff_eq.1 (R.ofBool_eq_tt.1 e) ▸ ⟨.ref, rfl⟩
  | un k a b ih => rw [equalX_un]; exact fun e => ⟨.un (ih e).1, (ih e).2⟩
  | bin k l r l' r' ihl ihr =>
    rw [equalX_bin, R.and_eq_tt]
    exact fun e => ⟨.bin (ihl e.1).1 (ihr e.2).1, Bool.and_eq_true_iff.2 ⟨(ihl e.1).2, (ihr e.2).2⟩⟩
  | ite k c t e c' t' e' ihc iht ihe =>
    rw [equalX_ite]
    by_cases hk : k = .ifSym
    · rw [if_pos hk]; nofun
    · rw [if_neg hk, R.and_eq_tt, R.and_eq_tt]
      exact fun h => ⟨.ite (ihc h.1).1 (iht h.2.1).1 (ihe h.2.2).1,
        okC_ite.2 ⟨hk, (ihc h.1).2, (iht h.2.1).2, (ihe h.2.2).2⟩⟩
  | pl sb last arg sb' last' arg' ih =>
    rw [equalX_pl_eq_tt]
    exact fun h => ⟨.pl h.1 h.2.1 (ih h.2.2).1, (ih h.2.2).2⟩
  | call f as g bs ih =>
    rw [equalX_call_eq_tt]
    rintro ⟨rfl, hl, e⟩
    have h := soundArgs_of N as bs ih hl e
    exact ⟨.call h.1, h.2⟩
  | iter k as bs ih =>
    rw [equalX_iter]
    by_cases hu : k.unsupported = true
    · rw [if_pos hu]; nofun
    · rw [if_neg hu]
      intro e
      have h := soundList_of N as bs ih e
      exact ⟨.iter h.1, okC_iter.2 ⟨Bool.not_eq_true _ ▸ hu, h.2⟩⟩
  | bool x y => exact fun e => beq_iff_eq.1 (R.ofBool_eq_tt.1 e) ▸ ⟨.bool, rfl⟩
  | str s s' => nofun

theorem soundList : ∀ (as bs : List (E C)), equalList N as bs = .tt → SimList N as bs ∧ okCList as = true :=
  fun as bs => soundList_of N as bs fun a _ => sound N a

theorem soundArgs : ∀ (as bs : List (E C)), as.length = bs.length → equalArgs N as bs = .tt →
    SimList N as bs ∧ okCArgs as = true :=
  fun as bs => soundArgs_of N as bs fun a _ => sound N a

theorem simList_length : ∀ (as bs : List (E C)), SimList N as bs → as.length = bs.length
  | _, _, .nil => rfl
  | _, _, .cons _ hs => congrArg (· + 1) (simList_length _ _ hs)

theorem sim_kind : ∀ (a b : E C), Sim N a b → a.kind = b.kind
  | _, _, .num _ | _, _, .ref | _, _, .un _ | _, _, .bin _ _ | _, _, .ite _ _ _ | _, _, .pl _ _ _
  | _, _, .call _ | _, _, .iter _ | _, _, .bool | _, _, .str _ => rfl

theorem argR_complete {a b : E C} (h : Sim N a b) (ho : a.kind = .string ∨ okC a = true)
    (ih : okC a = true → equalX N a b = .tt) : argR N a b = .tt := by
  rcases argR_cases N a b with ⟨hk, _⟩ | ⟨s, s', rfl, rfl, e⟩ | ⟨_, hs, e⟩ <;> try rw [e]
  · exact absurd (sim_kind N a b h) hk
  · cases h with | str e => exact R.ofBool_eq_tt.2 (beq_iff_eq.2 e)
  · exact ih (ho.resolve_left hs)

mutual
theorem complete : ∀ (a b : E C), Sim N a b → okC a = true → equalX N a b = .tt
  | _, _, .num h, _ => R.ofBool_eq_tt.2 h
  | _, _, .ref, _ => (equalX_ref N ..).trans (R.ofBool_eq_tt.2 (beq_self_eq_true _))
  | _, _, .un h, ho => (equalX_un N ..).trans (complete _ _ h ho)
  | _, _, .bin h1 h2, ho =>
    have ho := Bool.and_eq_true_iff.1 ho
    (equalX_bin N ..).trans (R.and_eq_tt.2 ⟨complete _ _ h1 ho.1, complete _ _ h2 ho.2⟩)
  | _, _, .ite h1 h2 h3, ho =>
    have ho := okC_ite.1 ho
    (equalX_ite N ..).trans <| (if_neg ho.1).trans <| R.and_eq_tt.2
      ⟨complete _ _ h1 ho.2.1, R.and_eq_tt.2 ⟨complete _ _ h2 ho.2.2.1, complete _ _ h3 ho.2.2.2⟩⟩
  | _, _, .pl hp hl ha, ho => (equalX_pl_eq_tt N).2 ⟨hp, hl, complete _ _ ha ho⟩
  | _, _, .call h, ho => (equalX_call_eq_tt N).2 ⟨rfl, simList_length N _ _ h, completeArgs _ _ h ho⟩
  | _, _, .iter h, ho =>
    have ho := okC_iter.1 ho
    (equalX_iter N ..).trans <| (if_neg (ho.1 ▸ Bool.false_ne_true)).trans (completeList _ _ h ho.2)
  | _, _, .bool, _ => R.ofBool_eq_tt.2 (beq_self_eq_true _)
  | _, _, .str _, ho => nomatch ho
theorem completeList : ∀ (as bs : List (E C)), SimList N as bs → okCList as = true → equalList N as bs = .tt
  | _, _, .nil, _ => rfl
  | _, _, .cons h hs, ho =>
    have ho := Bool.and_eq_true_iff.1 ho
    R.and_eq_tt.2 ⟨complete _ _ h ho.1, completeList _ _ hs ho.2⟩
theorem completeArgs : ∀ (as bs : List (E C)), SimList N as bs → okCArgs as = true → equalArgs N as bs = .tt
  | _, _, .nil, _ => rfl
  | _, _, .cons h hs, ho =>
    have ho := okCArgs_cons.1 ho
    (equalArgs_cons N ..).trans (R.and_eq_tt.2 ⟨argR_complete N h ho.1 (complete _ _ h), completeArgs _ _ hs ho.2⟩)
end

variable (P : Prims C)

/-! ### hashing respects structural identity -/

theorem plFold_sim (hc : ∀ x y, N.feq x y = true → P.hDbl x = P.hDbl y) :
    ∀ (ps qs : List (C × C)), PLSim N ps qs → ∀ h, plFold P h ps = plFold P h qs
  | _, _, .nil, _ => rfl
  | _, _, .cons h1 h2 hs, h => by
    simp only [plFold, hc _ _ h1, hc _ _ h2]
    exact plFold_sim hc _ _ hs _

mutual
theorem sim_hash (hc : ∀ x y, N.feq x y = true → P.hDbl x = P.hDbl y) :
    ∀ (a b : E C), Sim N a b → hashX P a = hashX P b
  | _, _, .num h => by simp only [hashX, hc _ _ h]
  | _, _, .ref => rfl
  | _, _, .un h => by simp only [hashX, sim_hash hc _ _ h]
  | _, _, .bin h1 h2 => by simp only [hashX, sim_hash hc _ _ h1, sim_hash hc _ _ h2]
  | _, _, .ite h1 h2 h3 => by
    simp only [hashX, sim_hash hc _ _ h1, sim_hash hc _ _ h2, sim_hash hc _ _ h3]
  | _, _, .pl hp hl ha => by
    simp only [hashX, sim_hash hc _ _ ha, plFold_sim N P hc _ _ hp, hc _ _ hl]
  | _, _, .call h => by simp only [hashX, simList_hash hc _ _ h]
  | _, _, .iter h => by simp only [hashX, simList_hash hc _ _ h]
  | _, _, .bool => rfl
  | _, _, .str h => by simp only [hashX, strFold, h]
theorem simList_hash (hc : ∀ x y, N.feq x y = true → P.hDbl x = P.hDbl y) :
    ∀ (as bs : List (E C)), SimList N as bs → ∀ h, hashList P h as = hashList P h bs
  | _, _, .nil, _ => rfl
  | _, _, .cons h hs, s => by
    simp only [hashList, sim_hash hc _ _ h]
    split
    · rfl
    · exact simList_hash hc _ _ hs _
end

/-! ### `hashX` throws exactly on trees containing a kind ExprHasher does not handle -/

mutual
theorem hash_isSome : ∀ (a : E C), (hashX P a).isSome = okH a
  | .num _ | .ref _ _ | .bool _ | .str _ => rfl
  | .un _ a | .pl _ _ a => by
    have := hash_isSome a
    simp only [hashX, okH]
    cases h : hashX P a <;> simp_all
  | .bin _ l r => by
    have h1 := hash_isSome l
    have h2 := hash_isSome r
    simp only [hashX, okH]
    cases hl : hashX P l <;> cases hr : hashX P r <;> simp_all
  | .ite k c t e => by
    have h1 := hash_isSome c
    have h2 := hash_isSome t
    have h3 := hash_isSome e
    simp only [hashX, okH]
    by_cases hk : k = .ifSym
    · simp [hk]
    · cases hc : hashX P c <;> cases ht : hashX P t <;> cases he : hashX P e <;> simp_all
  | .call _ as => hashList_isSome as _
  | .iter k as => by
    simp only [hashX, okH]
    cases hk : k.unsupported
    · simp [hashList_isSome as]
    · simp
theorem hashList_isSome : ∀ (as : List (E C)) (h : UInt64), (hashList P h as).isSome = okHList as
  | [], _ => rfl
  | a :: as, s => by
    have h1 := hash_isSome a
    simp only [hashList, okHList]
    cases h : hashX P a <;> simp_all [hashList_isSome as]
end

mutual
theorem okC_okH : ∀ (a : E C), okC a = true → okH a = true
  | .num _, _ | .ref _ _, _ | .bool _, _ => rfl
  | .str _, h => nomatch h
  | .un _ a, h | .pl _ _ a, h => okC_okH a h
  | .bin _ l r, h => by
    simp only [okC, Bool.and_eq_true] at h
    simp only [okH, okC_okH l h.1, okC_okH r h.2, Bool.and_self]
  | .ite _ c t e, h => by
    simp only [okC, Bool.and_eq_true] at h
    simp only [okH, h.1, okC_okH c h.2.1, okC_okH t h.2.2.1, okC_okH e h.2.2.2, Bool.and_self]
  | .call _ as, h => okCArgs_okH as h
  | .iter _ as, h => by
    simp only [okC, Bool.and_eq_true] at h
    simp only [okH, h.1, okCList_okH as h.2, Bool.and_self]
theorem okCList_okH : ∀ (as : List (E C)), okCList as = true → okHList as = true
  | [], _ => rfl
  | a :: as, h => by
    simp only [okCList, Bool.and_eq_true] at h
    simp only [okHList, okC_okH a h.1, okCList_okH as h.2, Bool.and_self]
theorem okCArgs_okH : ∀ (as : List (E C)), okCArgs as = true → okHList as = true
  | [], _ => rfl
  | a :: as, h =>
    have h := okCArgs_cons.1 h
    Bool.and_eq_true_iff.2 ⟨h.1.elim (fun hs => by obtain ⟨s, rfl⟩ := kind_eq_string hs; rfl) (okC_okH a),
      okCArgs_okH as h.2⟩
end

section outcome
variable {p : R → Prop} (hp : ∀ b, p (.ofBool b))
include hp

theorem argR_outcome {a b : E C} (ih : okC a = true ∨ p .unsup → p (equalX N a b))
    (h : (a.kind = .string ∨ okC a = true) ∨ p .unsup) : p (argR N a b) := by
  rcases argR_cases N a b with ⟨_, e⟩ | ⟨s, s', rfl, rfl, e⟩ | ⟨_, hs, e⟩ <;> rw [e]
  · exact hp false
  · exact hp _
  · exact ih (h.imp_left fun h => h.resolve_left hs)

theorem equalList_outcome_of : ∀ (as bs : List (E C)),
    (∀ a ∈ as, ∀ b, okC a = true ∨ p .unsup → p (equalX N a b)) → okCList as = true ∨ p .unsup →
      p (equalList N as bs)
  | [], [], _, _ => hp true
  | [], _ :: _, _, _ | _ :: _, [], _, _ => hp false
  | a :: as, b :: bs, ih, h =>
    R.and_ind (ih a (.head _) b (h.imp_left fun h => (Bool.and_eq_true_iff.1 h).1))
      (equalList_outcome_of as bs (fun x hx => ih x (.tail _ hx)) (h.imp_left fun h => (Bool.and_eq_true_iff.1 h).2))

theorem equalArgs_outcome_of : ∀ (as bs : List (E C)),
    (∀ a ∈ as, ∀ b, okC a = true ∨ p .unsup → p (equalX N a b)) → okCArgs as = true ∨ p .unsup →
      p (equalArgs N as bs)
  | [], [], _, _ | [], _ :: _, _, _ | _ :: _, [], _, _ => hp true
  | a :: as, b :: bs, ih, h =>
    equalArgs_cons N a as b bs ▸
      R.and_ind (argR_outcome N hp (ih a (.head _) b) (h.imp_left fun h => (okCArgs_cons.1 h).1))
        (equalArgs_outcome_of as bs (fun x hx => ih x (.tail _ hx)) (h.imp_left fun h => (okCArgs_cons.1 h).2))

/-- The outcome at a node is a boolean, that of one of its conjuncts (`R.and_ind`), or `unsup` at a node that `okC` excludes.
One induction for `total` (`p` = "is a boolean", left disjunct) and `no_ub` (`p` = "is not `ub`", right disjunct). -/
theorem equalX_outcome (a b : E C) : okC a = true ∨ p .unsup → p (equalX N a b) := by
  induction a, b using E.pairInduction with
  | diff a b h => rw [equalX_of_kind_ne N a b h]; exact fun _ => hp false
  | num x y => exact fun _ => hp _
  | ref k i j => rw [equalX_ref]; exact fun _ => hp _
  | un k a b ih => rw [equalX_un]; exact ih
  | bin k l r l' r' ihl ihr =>
    rw [equalX_bin]
    exact fun h => R.and_ind (ihl (h.imp_left fun h => (Bool.and_eq_true_iff.1 h).1))
      (ihr (h.imp_left fun h => (Bool.and_eq_true_iff.1 h).2))
  | ite k c t e c' t' e' ihc iht ihe =>
    rw [equalX_ite]
    intro h
    by_cases hk : k = .ifSym
    · rw [if_pos hk]
      exact h.elim (fun h => absurd hk (okC_ite.1 h).1) id
    · rw [if_neg hk]
      exact R.and_ind (ihc (h.imp_left fun h => (okC_ite.1 h).2.1))
        (R.and_ind (iht (h.imp_left fun h => (okC_ite.1 h).2.2.1)) (ihe (h.imp_left fun h => (okC_ite.1 h).2.2.2)))
  | pl sb last arg sb' last' arg' ih =>
    rw [equalX_pl]
    exact fun h => R.and_ind (hp _) (R.and_ind (hp _) (ih h))
  | call f as g bs ih =>
    rw [equalX_call]
    exact fun h => R.and_ind (hp _) (equalArgs_outcome_of N hp as bs ih h)
  | iter k as bs ih =>
    rw [equalX_iter]
    intro h
    by_cases hu : k.unsupported = true
    · rw [if_pos hu]
      exact h.elim (fun h => absurd hu ((okC_iter.1 h).1 ▸ Bool.false_ne_true)) id
    · rw [if_neg hu]
      exact equalList_outcome_of N hp as bs ih (h.imp_left fun h => (okC_iter.1 h).2)
  | bool x y => exact fun _ => hp _
  | str s s' => exact fun h => h.elim nofun id

theorem equalList_outcome (as bs : List (E C)) : okCList as = true ∨ p .unsup → p (equalList N as bs) :=
  equalList_outcome_of N hp as bs fun a _ => equalX_outcome N hp a

theorem equalArgs_outcome (as bs : List (E C)) : okCArgs as = true ∨ p .unsup → p (equalArgs N as bs) :=
  equalArgs_outcome_of N hp as bs fun a _ => equalX_outcome N hp a

end outcome

/-- on a comparator-supported left operand `Equal` returns a boolean, whatever the right operand -/
theorem total (a b : E C) (h : okC a = true) : (equalX N a b).isBool = true :=
  equalX_outcome N (p := (·.isBool = true)) R.isBool_ofBool a b (.inl h)

theorem totalList : ∀ (as bs : List (E C)), okCList as = true → (equalList N as bs).isBool = true :=
  fun as bs h => equalList_outcome N (p := (·.isBool = true)) R.isBool_ofBool as bs (.inl h)

theorem totalArgs : ∀ (as bs : List (E C)), okCArgs as = true → (equalArgs N as bs).isBool = true :=
  fun as bs h => equalArgs_outcome N (p := (·.isBool = true)) R.isBool_ofBool as bs (.inl h)

/-- `Equal` performs no null dereference -/
theorem no_ub (a b : E C) : equalX N a b ≠ .ub :=
  equalX_outcome N (p := (· ≠ .ub)) (fun _ => R.ofBool_ne_ub) a b (.inr nofun)

theorem no_ubList : ∀ (as bs : List (E C)), equalList N as bs ≠ .ub :=
  fun as bs => equalList_outcome N (p := (· ≠ .ub)) (fun _ => R.ofBool_ne_ub) as bs (.inr nofun)

theorem no_ubArgs : ∀ (as bs : List (E C)), equalArgs N as bs ≠ .ub :=
  fun as bs => equalArgs_outcome N (p := (· ≠ .ub)) (fun _ => R.ofBool_ne_ub) as bs (.inr nofun)

end MpVerif.C18
