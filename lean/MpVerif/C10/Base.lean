/-! # C10 — base types shared by the generated `MpVerif/Gen/Status.lean`, `MpVerif/Gen/StatusFlags.lean` and the model -/
namespace MpVerif.C10

/-- What the (scripted) solver answers to the driver:
the solve code it reports through `SetStatus`, how many objective values it returns,
and whether it returns a primal / a dual vector.  `feasrelax` is the driver option
(only decorates the message: "feasrelax objective ..."). -/
structure Answer where
  code : Int
  nObj : Nat
  hasPrimal : Bool
  hasDual : Bool
  feasrelax : Bool := false
  /-- number of intermediate / pool solutions the backend reports through `ReportIntermediateSolution` -/
  nAlt : Nat := 0
  /-- option `sol:stub` given (then each intermediate solution is written to `<solstub>N.sol`) -/
  solStub : Bool := false
  /-- feasrelax: the solver also returned the original objective value -/
  origObj : Bool := false
  /-- options `alg:kappa` ≠ 0, `alg:rays` bit 1 / bit 2, `alg:iisfind` ≠ 0 -/
  kappaOpt : Bool := false
  rayPrimalOpt : Bool := false
  rayDualOpt : Bool := false
  iisOpt : Bool := false
  /-- further atoms the reporting code branches on -/
  roundOpt : Bool := false      -- option mip:round ≠ 0
  isMIP : Bool := false         -- the model has integer variables
  extraMsg : Bool := false      -- the backend added lines through AddToSolverMessage
  countSol : Bool := false      -- option sol:count (multiple solutions wanted without a stub)
  altObj : Bool := true         -- the intermediate solutions carried objective values
  altChkFailed : Bool := false  -- some intermediate solution failed the solution check
  hasWarnings : Bool := false   -- GetWarnings() is non-empty
  solViolates : Bool := false   -- the reported solution violates the model (the automatic solution check would warn)
  timesOpt : Bool := false
  timingOpt : Bool := false
deriving Repr

/-- number of `ReportIntermediateSolution` calls (`kIntermSol_`): the backend reports its pool only when
    `need_multiple_solutions()` = a solution stub or sol:count is given -/
def Answer.nAltReported (a : Answer) : Nat := if a.solStub || a.countSol then a.nAlt else 0


/-- how the driver was invoked, as far as `AppSolutionHandlerImpl::HandleSolution` is concerned:
`-AMPL` given, value of option `wantsol` (bit sum 1 write .sol, 2 print primal, 4 print dual, 8 suppress message),
size of the banner already printed, whether anything was printed after it -/
structure AppCtx where
  ampl : Bool
  wantsol : Nat
  bannerSize : Nat := 0
  hasOutput : Bool := false
deriving Repr

/-- what `StdBackend::RoundSolution` sees: value of option `mip:round` (bit sum 1 assign rounded values, 2 "modify
solve_result", 4 modify solve_message), number of integer variables with a fractional value (`rndres.first`),
whether a status was set -/
structure RoundCtx where
  round : Nat
  nRounded : Nat
  retrieved : Bool := true
deriving Repr

/-! Boolean integer comparisons used by the generated predicates (so that unfolding an
enumerator does not leave a stale `Decidable` instance behind). -/
def leB (a b : Int) : Bool := decide (a ≤ b)
def ltB (a b : Int) : Bool := decide (a < b)
def geB (a b : Int) : Bool := decide (a ≥ b)
def gtB (a b : Int) : Bool := decide (a > b)
def eqB (a b : Int) : Bool := decide (a = b)
def neB (a b : Int) : Bool := decide (a ≠ b)
theorem leB_iff (a b : Int) : leB a b = true ↔ a ≤ b := by simp [leB]
theorem ltB_iff (a b : Int) : ltB a b = true ↔ a < b := by simp [ltB]
theorem geB_iff (a b : Int) : geB a b = true ↔ a ≥ b := by simp [geB]
theorem gtB_iff (a b : Int) : gtB a b = true ↔ a > b := by simp [gtB]
theorem eqB_iff (a b : Int) : eqB a b = true ↔ a = b := by simp [eqB]
theorem neB_iff (a b : Int) : neB a b = true ↔ a ≠ b := by simp [neB]
theorem leB_false (a b : Int) : leB a b = false ↔ ¬ a ≤ b := by simp [leB]
theorem ltB_false (a b : Int) : ltB a b = false ↔ ¬ a < b := by simp [ltB]
theorem geB_false (a b : Int) : geB a b = false ↔ ¬ a ≥ b := by simp [geB]
theorem gtB_false (a b : Int) : gtB a b = false ↔ ¬ a > b := by simp [gtB]
theorem eqB_false (a b : Int) : eqB a b = false ↔ ¬ a = b := by simp [eqB]
theorem neB_false (a b : Int) : neB a b = false ↔ ¬ a ≠ b := by simp [neB]
end MpVerif.C10
