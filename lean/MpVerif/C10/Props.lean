import MpVerif.C10.Lemmas
import MpVerif.C10.ModelGen
/-!
# C10 — solve-result codes are classified and reported as documented

`Gen.Status.*` (enumerators of `mp::sol::Status`, the
`StdBackend::IsProblem*` range predicates, the pre-registered solve result table and the guards of the
objective pieces of `ReportSolution2AMPL`) are *regenerated on every run* from the working tree by
`translators/gen_status.py`, `Gen.StatusReport.*` (the whole step table of `ReportSolution2AMPL`, the suffix guards,
order and insertion of the registry) by `gen_report.py`, and `Gen.StatusFlags.*` (the bit tests on `wantsol`,
`alg:rays`, `mip:round`) by `gen_flags.py`, so every theorem is re-checked against the code as it is now.
`documented`, `documentedTable`, `candidate` are written by hand from
`doc/source/features-guide.rst`.

The theorems with a variable `c : Int` or an answer quantify over **every** `c` (not only −200..999) and every answer; the
others are closed facts about the tables, tripwires and witnesses.

Theorems about the hand model (`report`, `extras`, `msgTable`, `regLt`,
`addResults`) are transferred to the definitions regenerated from the source by the `C10_gen_*` /
`C10_report_model_eq_generated` theorems; `C10_code_echo_generated` states the code clause directly about them.
Totalised definitions: `classify`/`lookup` return `.unclassified` when no row contains the code — this is also the
documented answer (`C10_ranges`, `C10_ranges_partition` show it is not a default hiding an overlap); `nameClass` returns
`none` for an unknown enumerator and `C10_enum_class` demands `some`; the predicates `assert(IsSolStatusRetrieved())`
in the source: `C10_not_set_unclassified` covers the excluded code −200 (NDEBUG behaviour: no class at all).
-/
namespace MpVerif.C10
open MpVerif.Gen.Status

/-! ## The enumeration `mp::sol::Status` -/

/-- translator's reading of every enumerator expression = the value clang computed -/
theorem C10_enum_values : ∀ r ∈ enumTable, r.2.1 = r.2.2 := by decide

/-- every enumerator lies in the documented class its name announces
    (`LIMIT_FEAS_TIME` in 400–449, `INFEASIBLE_IIS` in 200–299, `NUMERIC` in 500–999 …;
    `NOT_SET`, `UNKNOWN` outside 0..999).  A new enumerator with an unknown name fails this. -/
theorem C10_enum_class : ∀ r ∈ enumTable, nameClass r.1 = some (documented r.2.1) := by decide +kernel

/-- the range delimiters `X` / `X_LAST` are the documented bounds -/
theorem C10_enum_bounds :
    (SOLVED, SOLVED_LAST) = (0, 99) ∧ (UNCERTAIN, UNCERTAIN_LAST) = (100, 199) ∧
    (INFEASIBLE, INFEASIBLE_LAST) = (200, 299) ∧ (UNBOUNDED_FEAS, UNBOUNDED_FEAS_LAST) = (300, 349) ∧
    (UNBOUNDED_NO_FEAS, UNBOUNDED_NO_FEAS_LAST) = (350, 399) ∧ (LIMIT_FEAS, LIMIT_FEAS_LAST) = (400, 449) ∧
    (LIMIT_INF_UNB, LIMIT_INF_UNB_LAST) = (450, 469) ∧ (LIMIT_NO_FEAS, LIMIT_NO_FEAS_LAST) = (470, 499) ∧
    (FAILURE, FAILURE_LAST) = (500, 999) ∧ NOT_SET = -200 ∧ UNKNOWN = -1 ∧
    MP_SOLUTION_CHECK = 150 ∧ NUMERIC = 550 := by decide

/-! ## The pre-registered solve result table (what `-!` prints) -/

/-- the range rows registered by `SolveResultRegistry()` are exactly the documented rows: same bounds,
    and the description is the documented one (modulo the trailing blank of the source) -/
theorem C10_registry_rows : rangeRows = documentedTable.map (fun r => (r.1, r.2.1, r.2.2.2)) := by decide +kernel

theorem C10_rangeRows_eq : rangeRows =
    [(0, 99, .solved), (100, 199, .uncertain), (200, 299, .infeasible), (300, 349, .unboundedFeas),
     (350, 399, .unboundedNoFeas), (400, 449, .limitFeas), (450, 469, .limitInfUnb),
     (470, 499, .limitNoFeas), (500, 999, .failure)] := C10_registry_rows

/-- **classification = documented ranges**, for every integer -/
theorem C10_ranges (c : Int) : classify c = documented c := by
  unfold classify; rw [C10_rangeRows_eq]; rfl

/-- the range rows are pairwise disjoint and cover exactly 0..999 -/
theorem C10_ranges_partition (c : Int) :
    rowsContaining c = if 0 ≤ c ∧ c ≤ 999 then 1 else 0 := by
  have hr : (0 ≤ c ∧ c ≤ 999) ↔ documented c ≠ .unclassified := by rw [Ne, doc_unclassified]; omega
  unfold rowsContaining; rw [C10_rangeRows_eq]
  -- a row contains `c` iff its class is the documented class of `c`: count the rows class by class
  simp only [List.filter, hr, ← doc_solved c, ← doc_uncertain c, ← doc_infeasible c, ← doc_unboundedFeas c,
    ← doc_unboundedNoFeas c, ← doc_limitFeas c, ← doc_limitInfUnb c, ← doc_limitNoFeas c, ← doc_failure c]
  cases documented c <;> rfl

/-- every single code pre-registered is a documented single code with the documented text -/
theorem C10_registry_singles : ∀ r ∈ registry, r.1 = r.2.1 →
    (r.1, r.2.2) ∈ documentedSingles ∨ (r.1, r.2.2) ∈ documentedSingles.map (fun s => (s.1, s.2 ++ " ")) := by
  decide

/-! ## The range predicates of `StdBackend` -/

theorem C10_solved_iff (c : Int) : isProblemSolved c = true ↔ documented c = .solved := by
  rw [doc_solved]
  simp only [isProblemSolved, SOLVED, SOLVED_LAST, Bool.and_eq_true, leB_iff]

theorem C10_indiffInfOrUnb_iff (c : Int) :
    isProblemIndiffInfOrUnb c = true ↔ documented c = .limitInfUnb := by
  rw [doc_limitInfUnb]
  simp only [isProblemIndiffInfOrUnb, LIMIT_INF_UNB, LIMIT_INF_UNB_LAST, LIMIT_FEAS, Bool.and_eq_true, leB_iff]
  omega

theorem C10_unbounded_iff (c : Int) :
    isProblemUnbounded c = true ↔ documented c = .unboundedFeas ∨ documented c = .unboundedNoFeas := by
  rw [doc_unboundedFeas, doc_unboundedNoFeas]
  simp only [isProblemUnbounded, UNBOUNDED_FEAS, UNBOUNDED_NO_FEAS_LAST, Bool.and_eq_true, leB_iff, geB_iff]
  omega

theorem C10_infOrUnb_iff (c : Int) :
    isProblemInfOrUnb c = true ↔
      documented c = .infeasible ∨ documented c = .unboundedFeas ∨ documented c = .unboundedNoFeas
      ∨ documented c = .limitInfUnb := by
  rw [doc_infeasible, doc_unboundedFeas, doc_unboundedNoFeas]
  simp only [isProblemInfOrUnb, INFEASIBLE, UNBOUNDED_NO_FEAS_LAST, Bool.or_eq_true, Bool.and_eq_true, leB_iff, geB_iff,
    C10_indiffInfOrUnb_iff, doc_limitInfUnb]
  omega

theorem C10_retrieved_iff (c : Int) : isSolStatusRetrieved c = true ↔ c ≠ -200 := by
  simp only [isSolStatusRetrieved, NOT_SET, neB_iff]
  exact ne_comm

theorem C10_infeasible_iff (c : Int) : isProblemInfeasible c = true ↔ documented c = .infeasible := by
  rw [doc_infeasible]
  simp only [isProblemInfeasible, INFEASIBLE, INFEASIBLE_LAST, Bool.and_eq_true, leB_iff, geB_iff, ge_iff_le]

theorem C10_solvedOrFeasible_iff (c : Int) : isProblemSolvedOrFeasible c = true ↔ candidate c = true := by
  rw [candidate_iff]
  simp only [isProblemSolvedOrFeasible, SOLVED, SOLVED_LAST, LIMIT_FEAS, LIMIT_FEAS_LAST, UNBOUNDED_FEAS, UNBOUNDED_FEAS_LAST,
    Bool.or_eq_true, Bool.and_eq_true, leB_iff, geB_iff]
  omega

/-- all six range predicates at once: the vector of answers is a function of the documented class
    (so "limit, no solution" 470–499 and "failure" 500–999, which have no predicate of their own, are exactly the
    codes in 0..999 on which every predicate is false, together with "solved?" 100–199) -/
theorem C10_predicates_by_class (c : Int) :
    (isProblemSolved c, isProblemSolvedOrFeasible c, isProblemInfeasible c, isProblemUnbounded c,
     isProblemIndiffInfOrUnb c, isProblemInfOrUnb c) =
    (match documented c with
     | .solved => (true, true, false, false, false, false)
     | .unboundedFeas => (false, true, false, true, false, true)
     | .unboundedNoFeas => (false, false, false, true, false, true)
     | .limitFeas => (false, true, false, false, false, false)
     | .infeasible => (false, false, true, false, false, true)
     | .limitInfUnb => (false, false, false, false, true, true)
     | .uncertain | .limitNoFeas | .failure | .unclassified => (false, false, false, false, false, false)) := by
  rw [eq_decide_of_iff (C10_solved_iff c), eq_decide_of_iff (C10_solvedOrFeasible_iff c),
    eq_decide_of_iff (C10_infeasible_iff c), eq_decide_of_iff (C10_unbounded_iff c),
    eq_decide_of_iff (C10_indiffInfOrUnb_iff c), eq_decide_of_iff (C10_infOrUnb_iff c)]
  unfold candidate
  cases documented c <;> rfl

/-- the code −200 (`NOT_SET`, excluded by the `assert`s of the source) and every other code outside 0..999 has no class -/
theorem C10_not_set_unclassified :
    documented NOT_SET = .unclassified ∧ isSolStatusRetrieved NOT_SET = false ∧
    (∀ c : Int, (c < 0 ∨ 999 < c) → (isProblemSolved c, isProblemSolvedOrFeasible c, isProblemInfeasible c, isProblemUnbounded c,
        isProblemIndiffInfOrUnb c, isProblemInfOrUnb c) = (false, false, false, false, false, false)) := by
  refine ⟨by decide, by decide, fun c hc => ?_⟩
  rw [C10_predicates_by_class, (doc_unclassified c).mpr hc]

-- instances for the `↔` theorems above (one per direction)
example : isProblemSolved 57 = true ∧ documented 57 = .solved := by decide
example : isProblemSolved 100 = false ∧ documented 100 ≠ .solved := by decide
example : isProblemSolvedOrFeasible 430 = true ∧ candidate 430 = true := by decide
example : isProblemSolvedOrFeasible 350 = false ∧ candidate 350 = false := by decide
example : isProblemInfeasible 299 = true ∧ documented 299 = .infeasible := by decide
example : isProblemInfeasible 300 = false ∧ documented 300 ≠ .infeasible := by decide
example : isProblemUnbounded 399 = true ∧ isProblemUnbounded 400 = false := by decide
example : isProblemIndiffInfOrUnb 469 = true ∧ isProblemIndiffInfOrUnb 470 = false := by decide
example : isProblemInfOrUnb 455 = true ∧ isProblemInfOrUnb 420 = false := by decide
example : isSolStatusRetrieved (-200) = false ∧ isSolStatusRetrieved (-199) = true := by decide

theorem C10_predicate_inclusions (c : Int) :
    (isProblemSolved c = true → isProblemSolvedOrFeasible c = true) ∧
    (isProblemInfeasible c = true → isProblemInfOrUnb c = true) ∧
    (isProblemUnbounded c = true → isProblemInfOrUnb c = true) ∧
    (isProblemIndiffInfOrUnb c = true → isProblemInfOrUnb c = true) ∧
    (isProblemSolved c = true → isProblemInfOrUnb c = false) := by
  have h := C10_predicates_by_class c
  revert h; cases documented c <;> simp +contextual only [Prod.mk.injEq, implies_true, and_self, reduceCtorEq]

/-! ## What is reported -/

/-- the hand model `report` equals `reportGen`, which consists only of definitions regenerated from the source:
    objective guard, code through all forwarding hops down to the `objno` line, the pointer arguments of
    `HandleSolution` after `FlatBackend::GetSolution`, the guard of `obj_value`, codes of the numbered files -/
theorem C10_report_model_eq_generated (a : Answer) : report a = reportGen a := by
  unfold report reportGen objectiveWritten Gen.StatusReport.handleObjValuePassed Gen.StatusReport.objValueSetGuard
    Gen.StatusReport.handlePrimalPassed Gen.StatusReport.handleDualPassed Gen.StatusReport.solPrimalNonEmpty
    Gen.StatusReport.solDualNonEmpty
  rw [some_obj, single_obj]
  cases a.hasPrimal <;> cases a.hasDual <;> rfl

/-- the hand model `extras` equals `extrasGen` (every field from guards regenerated from the source) -/
theorem C10_extras_eq_generated (a : Answer) : extras a = extrasGen a := by
  unfold extras extrasGen Gen.StatusReport.feasrelaxWordGuard Gen.StatusReport.origObjGuard
  rw [single_obj]; rfl

/-- every place where the reporting code consults a status predicate is one the model accounts for
    (a new use site, or one that disappears, breaks this) -/
theorem C10_gen_predicate_use_sites : Gen.StatusReport.predicateUseSites = predicateUseSites := rfl

/-- the code written to the `.sol` file is the code the backend reported -/
theorem C10_code_echo (a : Answer) : (report a).codeWritten = a.code := rfl

/-- … also in every numbered file `<solstub>N.sol` written for an intermediate / pool solution
    (`ReportIntermediateSolution`), for every code and any number of such solutions -/
theorem C10_alt_code_echo (a : Answer) : ∀ c ∈ (report a).altCodes, c = a.code := by
  simp +contextual [report, List.mem_replicate]

/-- one numbered file per reported intermediate solution iff a solution stub is set -/
theorem C10_alt_files_count (a : Answer) :
    (report a).altCodes.length = if a.solStub = true then a.nAlt else 0 := by
  simp [report, apply_ite List.length]

/-- the same through the generated forwarding chain (BackendWithModelManager → model manager → AppSolutionHandler →
    SolutionWriter → SolutionAdapter → `objno N <status>`), for the final file and for the numbered files -/
theorem C10_chain_forwards_code (a : Answer) :
    finalCodeWritten a = a.code ∧ altCodeWritten a = a.code ∧
    Gen.StatusReport.solFileCodeFinal a = a.code ∧ Gen.StatusReport.solFileCodeAlt a = a.code :=
  ⟨rfl, rfl, rfl, rfl⟩

/-- the code clause stated directly about the definitions regenerated from the source: first argument of
    `HandleSolution` / `HandleFeasibleSolution` pushed through the generated forwarding hops -/
theorem C10_code_echo_generated (a : Answer) :
    (reportGen a).codeWritten = a.code ∧ (∀ c ∈ (reportGen a).altCodes, c = a.code) ∧
    (reportGen a).altCodes.length = (if a.solStub = true then a.nAlt else 0) := by
  rw [← C10_report_model_eq_generated a]
  exact ⟨C10_code_echo a, C10_alt_code_echo a, C10_alt_files_count a⟩

-- instances: a limit code with two pool solutions and a stub; the same without stub (hypothesis of the membership is then vacuous, the count says so)
example : (report { code := 402, nObj := 1, hasPrimal := true, hasDual := true, nAlt := 2, solStub := true }).altCodes = [402, 402] := by decide
example : (report { code := -7, nObj := 0, hasPrimal := false, hasDual := false, nAlt := 3, solStub := false }).altCodes = [] := by decide

/-- primal / dual vectors are passed on exactly when the solver returned them — stated about the generated steps:
    `FlatBackend::GetSolution` empties the postsolved vector iff the solver returned none, and `HandleSolution`
    receives a null pointer iff that vector is empty -/
theorem C10_vectors_echo (a : Answer) :
    (reportGen a).primalPassed = a.hasPrimal ∧ (reportGen a).dualPassed = a.hasDual ∧
    (report a).primalPassed = a.hasPrimal ∧ (report a).dualPassed = a.hasDual := by
  have h := C10_report_model_eq_generated a
  refine ⟨?_, ?_, rfl, rfl⟩
  · rw [← h]; rfl
  · rw [← h]; rfl

/-- **the objective value appears exactly when a solution candidate is indicated** (and a value exists) -/
theorem C10_objective_iff (a : Answer) :
    (report a).objectiveShown = true ↔ (candidate a.code = true ∧ a.nObj > 0) := by
  unfold report
  simp only [Bool.and_eq_true, decide_eq_true_eq, C10_solvedOrFeasible_iff a.code]
-- both directions of `C10_objective_iff`
example : (report { code := 310, nObj := 2, hasPrimal := false, hasDual := false }).objectiveShown = true ∧ candidate 310 = true := by decide
example : (report { code := 310, nObj := 0, hasPrimal := true, hasDual := true }).objectiveShown = false := by decide
example : (report { code := 150, nObj := 1, hasPrimal := true, hasDual := true }).objectiveShown = false ∧ candidate 150 = false := by decide
/-- the objective value is never shown without objective values, whatever the code -/
theorem C10_no_objective_no_value (a : Answer) (h : a.nObj = 0) : (report a).objectiveShown = false := by
  unfold report; simp [h]

-- the hypothesis `nObj = 0` with a candidate code (the interesting case)
example : ({ code := 0, nObj := 0, hasPrimal := true, hasDual := true } : Answer).nObj = 0 ∧ candidate 0 = true := by decide

/-! ## Other observable uses of the classification (message variants, suffixes) -/

/-- "feasrelax objective" / "Original objective" appear only together with the objective value, i.e. exactly for
    candidate codes (single objective) -/
theorem C10_feasrelax_shown_iff (a : Answer) :
    ((extras a).feasrelaxShown = true ↔ (candidate a.code = true ∧ a.nObj = 1 ∧ a.feasrelax = true)) ∧
    ((extras a).origObjShown = true ↔ (candidate a.code = true ∧ a.nObj = 1 ∧ a.origObj = true)) := by
  unfold extras
  simp only [Bool.and_eq_true, decide_eq_true_eq, C10_solvedOrFeasible_iff a.code, and_assoc, and_self]

/-- suffix `.kappa` exactly for solved codes (when requested) -/
theorem C10_kappa_suffix_iff (a : Answer) :
    (extras a).kappaSuffix = true ↔ (documented a.code = .solved ∧ a.kappaOpt = true) := by
  unfold extras
  simp only [Bool.and_eq_true, C10_solved_iff a.code]

/-- suffix `.unbdd` exactly for unbounded (300–399) and undecided (450–469) codes (when requested) -/
theorem C10_unbdd_suffix_iff (a : Answer) :
    (extras a).unbddSuffix = true ↔ (a.rayPrimalOpt = true ∧
      (documented a.code = .unboundedFeas ∨ documented a.code = .unboundedNoFeas ∨ documented a.code = .limitInfUnb)) := by
  unfold extras
  simp only [Bool.and_eq_true, Bool.or_eq_true, C10_unbounded_iff a.code, C10_indiffInfOrUnb_iff a.code, or_assoc]

/-- suffix `.dunbdd` exactly for infeasible (200–299) and undecided (450–469) codes (when requested) -/
theorem C10_dunbdd_suffix_iff (a : Answer) :
    (extras a).dunbddSuffix = true ↔ (a.rayDualOpt = true ∧
      (documented a.code = .infeasible ∨ documented a.code = .limitInfUnb)) := by
  unfold extras
  simp only [Bool.and_eq_true, Bool.or_eq_true, C10_infeasible_iff a.code, C10_indiffInfOrUnb_iff a.code]

/-- an IIS is computed and returned exactly for infeasible / unbounded / undecided codes (when requested) -/
theorem C10_iis_suffix_iff (a : Answer) :
    (extras a).iisSuffix = true ↔ ((documented a.code = .infeasible ∨ documented a.code = .unboundedFeas ∨
      documented a.code = .unboundedNoFeas ∨ documented a.code = .limitInfUnb) ∧ a.iisOpt = true) := by
  unfold extras
  simp only [Bool.and_eq_true, Bool.or_eq_true, C10_infOrUnb_iff a.code, C10_indiffInfOrUnb_iff a.code, or_assoc, or_self]

/-- the automatic solution check is skipped exactly for infeasible codes (200–299): a violating solution is reported
    with a warning for every other code -/
theorem C10_solcheck_warning_iff (a : Answer) :
    (extras a).solCheckWarning = true ↔ (a.solViolates = true ∧ documented a.code ≠ .infeasible) := by
  unfold extras
  rw [Ne, ← C10_infeasible_iff, Bool.not_eq_true, Bool.and_eq_true, Bool.not_eq_true']
example : (extras { code := 402, nObj := 1, hasPrimal := true, hasDual := true, solViolates := true }).solCheckWarning = true ∧
          (extras { code := 202, nObj := 1, hasPrimal := true, hasDual := true, solViolates := true }).solCheckWarning = false := by decide

-- instances (true / false side of each `↔`)
example : (extras { code := 401, nObj := 1, hasPrimal := true, hasDual := true, feasrelax := true, origObj := true }).feasrelaxShown = true := by decide
example : (extras { code := 401, nObj := 2, hasPrimal := true, hasDual := true, feasrelax := true }).feasrelaxShown = false := by decide
example : (extras { code := 7, nObj := 1, hasPrimal := true, hasDual := true, kappaOpt := true }).kappaSuffix = true ∧
          (extras { code := 107, nObj := 1, hasPrimal := true, hasDual := true, kappaOpt := true }).kappaSuffix = false := by decide
example : (extras { code := 460, nObj := 1, hasPrimal := true, hasDual := true, rayPrimalOpt := true, rayDualOpt := true }).unbddSuffix = true ∧
          (extras { code := 460, nObj := 1, hasPrimal := true, hasDual := true, rayPrimalOpt := true, rayDualOpt := true }).dunbddSuffix = true ∧
          (extras { code := 250, nObj := 1, hasPrimal := true, hasDual := true, rayPrimalOpt := true, rayDualOpt := true }).unbddSuffix = false ∧
          (extras { code := 350, nObj := 1, hasPrimal := true, hasDual := true, rayPrimalOpt := true, rayDualOpt := true }).dunbddSuffix = false := by decide
example : (extras { code := 399, nObj := 1, hasPrimal := true, hasDual := true, iisOpt := true }).iisSuffix = true ∧
          (extras { code := 400, nObj := 1, hasPrimal := true, hasDual := true, iisOpt := true }).iisSuffix = false := by decide

/-! ## The composition logic regenerated from the source equals the hand model

`MpVerif.Gen.StatusReport` is rewritten on every run from `ReportSolution2AMPL`, `ReportStandardSuffixes`,
`ReportRays`, `CalculateAndReportIIS`, `ReportResults`/`ReportSolution`/`ReportSuffixes`, `RegEntry::operator<`
and `AddSolveResults`.  The `C10_gen_*` theorems make every theorem about the hand model a theorem about the
generated definitions; a change of a guard, of the order of the pieces or of the insertion logic breaks them. -/

/-- every step of `ReportSolution2AMPL` (message pieces, `obj_value`, rounding, `HandleSolution`): same labels, same
    order, same guards as the hand model -/
theorem C10_gen_msgTable : Gen.StatusReport.msgTable = msgTable := rfl

/-- the guards of `.kappa`, `.unbdd`, `.dunbdd`, `.iis` in the source are the hand model's -/
theorem C10_gen_suffix_guards (a : Answer) :
    (extras a).kappaSuffix = Gen.StatusReport.kappaSuffixGuard a ∧ (extras a).unbddSuffix = Gen.StatusReport.unbddGuard a ∧
    (extras a).dunbddSuffix = Gen.StatusReport.dunbddGuard a ∧ (extras a).iisSuffix = Gen.StatusReport.iisGuard a :=
  ⟨rfl, rfl, rfl, rfl⟩

/-- suffixes are reported before the solution is written; the .sol file before the solver's own output -/
theorem C10_gen_steps :
    Gen.StatusReport.stepsReportResults = stepsReportResults ∧ Gen.StatusReport.stepsReportSolution = stepsReportSolution ∧
    Gen.StatusReport.stepsReportSuffixes = stepsReportSuffixes := ⟨rfl, rfl, rfl⟩

/-- the MIP layer reports its suffixes after the standard ones, rays and IIS unconditionally (their own guards decide);
    a backend that never calls `SetStatus` has the code `NOT_SET` = −200, which no predicate classifies -/
theorem C10_gen_mip_steps_and_initial_status :
    Gen.StatusReport.stepsMIPStandardSuffixes = ["ReportStandardSuffixes", "ReportStandardMIPSuffixes"] ∧
    Gen.StatusReport.stepsMIPSuffixes = ["ReportRays", "CalculateAndReportIIS"] ∧
    Gen.StatusReport.initialStatus = -200 ∧ isSolStatusRetrieved Gen.StatusReport.initialStatus = false ∧
    documented Gen.StatusReport.initialStatus = .unclassified := by decide

/-- `StdBackend` declares exactly the status predicates that are translated (none is outside the model) -/
theorem C10_gen_predicate_set :
    Gen.StatusReport.predicateNames = predicateNames ∧
    (∀ n ∈ predicateNames, n ∈ predTable.map (·.1)) ∧ predTable.length = predicateNames.length := by decide +kernel

theorem C10_gen_regEntryLt (x y : Int × Int) : Gen.StatusReport.regEntryLt x y = regLt x y := by
  rw [Bool.eq_iff_iff, regLt_iff]
  -- the source's three-way comparison as a proposition; it differs from the lexicographic form by the trichotomy of `x.1`, `y.1`
  simp only [Gen.StatusReport.regEntryLt, Bool.if_true_left, Bool.if_false_left, Bool.or_eq_true, Bool.and_eq_true,
    Bool.not_eq_true', ltB_iff, gtB_iff, decide_eq_true_eq, decide_eq_false_iff_not]
  omega

theorem C10_gen_addRejects (canReplace present : Bool) :
    Gen.StatusReport.addRejects canReplace present = (!canReplace && present) := rfl

/-! ### consequences for the message -/

theorem mem_msgSteps (a : Answer) (l : String) : l ∈ msgSteps a ↔ ∃ p ∈ msgTable, p.2 a = true ∧ p.1 = l := by
  unfold msgSteps
  simp only [List.mem_map, List.mem_filter]
  constructor
  · rintro ⟨p, ⟨hp, hg⟩, rfl⟩; exact ⟨p, hp, hg, rfl⟩
  · rintro ⟨p, hp, hg, rfl⟩; exact ⟨p, ⟨hp, hg⟩, rfl⟩

/-- the executed steps keep the source order -/
theorem C10_msg_order (a : Answer) : (msgSteps a).Sublist (msgTable.map (·.1)) :=
  List.Sublist.map _ List.filter_sublist

/-- the status text is always the first piece and `HandleSolution` is always called -/
theorem C10_msg_status_first_handle_always (a : Answer) :
    (msgSteps a).head? = some "write {}: {}" ∧ "call HandleSolution" ∈ msgSteps a ∧
    (msgTable.map (·.1)).getLast? = some "call HandleSolution" :=
  ⟨rfl, by simp [mem_msgSteps, msgTable], by decide⟩

/-- the objective value is put into the message (by one of the two objective pieces) exactly when `report` says so -/
theorem C10_msg_objective_piece (a : Answer) :
    (∃ l ∈ objectiveLabels, l ∈ msgSteps a) ↔ (report a).objectiveShown = true := by
  simp [mem_msgSteps, msgTable, report, objectiveLabels, ← some_obj]

/-- … and never twice -/
theorem C10_msg_objective_once (a : Answer) :
    ¬ ("write ; objective {}" ∈ msgSteps a ∧ "write objective {}" ∈ msgSteps a) := by
  simp +contextual [mem_msgSteps, msgTable]

/-- `obj_value` (the number passed to the solution handler) is set exactly for a candidate with a single objective value -/
theorem C10_msg_obj_value (a : Answer) :
    "set obj_value" ∈ msgSteps a ↔ (report a).objValuePassed = true := by
  simp [mem_msgSteps, msgTable, report, ← single_obj]

/-- the solution is rounded (and the rounding note written) only when a solution candidate is indicated -/
theorem C10_msg_round_only_candidates (a : Answer) (h : "call RoundSolution" ∈ msgSteps a) :
    candidate a.code = true ∧ a.roundOpt = true ∧ a.isMIP = true := by
  simpa [mem_msgSteps, msgTable, C10_solvedOrFeasible_iff] using h

-- an answer satisfying the hypothesis of `C10_msg_round_only_candidates`, and one for which rounding is requested but not done
example : "call RoundSolution" ∈ msgSteps { code := 402, nObj := 1, hasPrimal := true, hasDual := false, roundOpt := true, isMIP := true } := by decide
example : "call RoundSolution" ∉ msgSteps { code := 502, nObj := 1, hasPrimal := true, hasDual := false, roundOpt := true, isMIP := true } := by decide
-- a complete message: markers of a solved answer with feasrelax, kappa, an extra line, two pool solutions and warnings
example : msgMarkers { code := 0, nObj := 1, hasPrimal := true, hasDual := true, feasrelax := true, origObj := true, kappaOpt := true,
                       extraMsg := true, nAlt := 2, solStub := true, hasWarnings := true } =
    ["status", "feasrelax", "objective", "original", "kappa", "extra", "alt", "warnings"] := by decide +kernel
example : msgMarkers { code := 203, nObj := 1, hasPrimal := false, hasDual := true } = ["status"] := by decide +kernel

/-- "feasrelax" / "Original objective" pieces = the `extras` fields -/
theorem C10_msg_feasrelax_pieces (a : Answer) :
    ("write feasrelax " ∈ msgSteps a ↔ (extras a).feasrelaxShown = true) ∧
    ("write \nOriginal objective = {}" ∈ msgSteps a ↔ (extras a).origObjShown = true) := by
  simp [mem_msgSteps, msgTable, extras, ← single_obj]

/-! ### the solve result registry -/

theorem C10_regLt_strict_order (x y z : Int × Int) :
    regLt x x = false ∧ (regLt x y = true → regLt y x = false) ∧ (regLt x y = true → regLt y z = true → regLt x z = true) := by
  simp only [← Bool.not_eq_true, regLt_iff]
  omega

/-- two entries collide in the set exactly when they are the same range: overlapping or nested ranges are distinct
    keys (so 100–199, 150–159 and the single code 150 coexist) -/
theorem C10_regEquiv_iff (x y : Int × Int) : regEquiv x y = true ↔ x = y := by
  unfold regEquiv
  rw [Prod.ext_iff]
  simp only [Bool.and_eq_true, Bool.not_eq_true', ← Bool.not_eq_true, regLt_iff]
  omega

/-- listing order of `-!`: a range comes before the narrower ranges and the single code that start at the same code -/
theorem C10_reg_wider_first (a b c : Int) (h : c < b) : regLt (a, b) (a, c) = true :=
  (regLt_iff _ _).mpr (.inr ⟨rfl, h⟩)

-- instances: the hypothesis `c < b` (range before narrower range before single code); distinct overlapping keys; a collision
example : regLt (100, 199) (100, 149) = true ∧ regLt (100, 149) (100, 100) = true ∧ regLt (100, 100) (150, 150) = true := by decide
example : regEquiv (100, 199) (150, 159) = false ∧ regEquiv (150, 150) (150, 159) = false ∧ regEquiv (200, 299) (200, 299) = true := by decide

/-- the pre-registered table is strictly ordered (what `-!` prints is in this order, no two rows collide) -/
theorem C10_registry_strictly_ordered :
    (registry.map (fun r => (r.1, r.2.1))).Pairwise (fun x y => regLt x y = true) := by decide

/-- adding one entry: an error exactly when replacing is not allowed and the same range is present; otherwise the
    result of `regInsert` (which keeps an entry whose range is present, even if replacing is allowed: last instance below) -/
theorem C10_addResults_one (reg : List RegRow) (e : RegRow) (canReplace : Bool) :
    addResults reg [e] canReplace =
      if Gen.StatusReport.addRejects canReplace (regPresent reg e) then none else some (regInsert reg e) := by
  unfold addResults addResults Gen.StatusReport.addRejects
  cases canReplace <;> cases regPresent reg e <;> rfl

theorem C10_addResults_error_iff (reg : List RegRow) (e : RegRow) (canReplace : Bool) :
    addResults reg [e] canReplace = none ↔ (canReplace = false ∧ ∃ r ∈ reg, (r.1, r.2.1) = (e.1, e.2.1)) := by
  rw [C10_addResults_one]; unfold Gen.StatusReport.addRejects regPresent
  cases canReplace <;> simp [C10_regEquiv_iff]

-- instances: error branch, insertion branch, "can replace" keeps the old entry
example : addResults registry [(200, 299, "again")] false = none := by decide
example : (addResults registry [(421, 421, "custom")] false).map (fun r => r.map (fun x => (x.1, x.2.1))) =
    some [(0, 99), (100, 199), (200, 299), (300, 349), (350, 399), (400, 449), (421, 421), (450, 469), (470, 499), (500, 999), (550, 550)] := by decide +kernel
example : addResults registry [(200, 299, "again")] true = some registry := rfl

/-! ## Where the message and the .sol file appear; option bits (semantic translation of the `&` tests) -/

/-- the generated gating of `AppSolutionHandlerImpl::HandleSolution` equals the hand model, for every invocation context -/
theorem C10_gen_app_gating (x : AppCtx) :
    appGuard "write .sol" x = solFileWritten x ∧ appGuard "print message" x = messagePrinted x ∧
    appGuard "print primal" x = primalPrinted x ∧ appGuard "print dual" x = dualPrinted x := by
  -- the hand model's `testBit i` becomes the source's test of the mask `2^i`; what is left is the lookup in the table
  simp only [appGuard, Gen.StatusFlags.appTable, List.find?, solFileWritten, messagePrinted, primalPrinted, dualPrinted,
    land_mask_decide, Nat.reducePow]
  simp

/-- the steps of the handler are exactly these five, in this order (tripwire part: labels) -/
theorem C10_gen_app_steps : Gen.StatusFlags.appTable.map (·.1) =
    ["erase banner", "write .sol", "print message", "print primal", "print dual"] := by decide

/-- under `-AMPL` the .sol file is always written and nothing is printed; stand-alone, the message is lost for the
    user exactly when wantsol has bit 8 but not bit 1 -/
theorem C10_message_delivery (x : AppCtx) :
    (x.ampl = true → solFileWritten x = true ∧ messagePrinted x = false ∧ primalPrinted x = false ∧ dualPrinted x = false) ∧
    ((solFileWritten x = false ∧ messagePrinted x = false) ↔
      (x.ampl = false ∧ x.wantsol.testBit 0 = false ∧ x.wantsol.testBit 3 = true)) := by
  unfold solFileWritten messagePrinted primalPrinted dualPrinted
  cases x.ampl <;> cases x.wantsol.testBit 0 <;> cases x.wantsol.testBit 3 <;> simp
example : solFileWritten { ampl := false, wantsol := 9 } = true ∧ messagePrinted { ampl := false, wantsol := 9 } = false := by decide
example : solFileWritten { ampl := false, wantsol := 8 } = false ∧ messagePrinted { ampl := false, wantsol := 8 } = false := by decide
example : solFileWritten { ampl := false, wantsol := 6 } = false ∧ messagePrinted { ampl := false, wantsol := 6 } = true ∧
          primalPrinted { ampl := false, wantsol := 6 } = true ∧ dualPrinted { ampl := false, wantsol := 6 } = true := by decide
example : solFileWritten { ampl := true, wantsol := 0 } = true := by decide

/-- `need_ray_primal()` / `need_ray_dual()` are bit 1 / bit 2 of option alg:rays, for every option value -/
theorem C10_gen_ray_bits (rays : Nat) :
    Gen.StatusFlags.needRayPrimal rays = rayPrimalOfOption rays ∧ Gen.StatusFlags.needRayDual rays = rayDualOfOption rays := by
  unfold Gen.StatusFlags.needRayPrimal Gen.StatusFlags.needRayDual rayPrimalOfOption rayDualOfOption
  rw [land_mask_decide, land_mask_decide, Nat.and_comm 1, Nat.and_comm 2]
  exact ⟨rfl, rfl⟩

/-- suffixes as a function of the *option value*: `.unbdd` ⇔ bit 1 of alg:rays ∧ code in 300–399 ∪ 450–469,
    `.dunbdd` ⇔ bit 2 ∧ code in 200–299 ∪ 450–469 -/
theorem C10_ray_suffixes_by_option (rays : Nat) (a : Answer)
    (hp : a.rayPrimalOpt = Gen.StatusFlags.needRayPrimal rays) (hd : a.rayDualOpt = Gen.StatusFlags.needRayDual rays) :
    ((extras a).unbddSuffix = true ↔ (rays.testBit 0 = true ∧
      (documented a.code = .unboundedFeas ∨ documented a.code = .unboundedNoFeas ∨ documented a.code = .limitInfUnb))) ∧
    ((extras a).dunbddSuffix = true ↔ (rays.testBit 1 = true ∧
      (documented a.code = .infeasible ∨ documented a.code = .limitInfUnb))) := by
  have hb := C10_gen_ray_bits rays
  rw [hb.1] at hp; rw [hb.2] at hd
  unfold rayPrimalOfOption at hp; unfold rayDualOfOption at hd
  rw [C10_unbdd_suffix_iff, C10_dunbdd_suffix_iff, hp, hd]
  exact ⟨Iff.rfl, Iff.rfl⟩
example : Gen.StatusFlags.needRayPrimal 1 = true ∧ Gen.StatusFlags.needRayDual 1 = false ∧
          Gen.StatusFlags.needRayPrimal 2 = false ∧ Gen.StatusFlags.needRayDual 2 = true ∧
          Gen.StatusFlags.needRayPrimal 3 = true ∧ Gen.StatusFlags.needRayDual 0 = false := by decide

/-! ## Rounding (`mip:round`) cannot change the reported code; when its note appears -/

/-- the generated steps of `RoundSolution` (+ inlined `ModifySolveCodeAndMessageAfterRounding`, `DoRound`) equal the hand model
    for every option value and every number of fractional variables; in particular the generated `modify solve code`
    guard (false: no such step exists) equals `roundChangesCode` -/
theorem C10_gen_round_guards (x : RoundCtx) :
    roundGuard "write rounding note" x = roundNoteShown x ∧ roundGuard "note says \"would be\"" x = roundNoteWouldBe x ∧
    Gen.StatusFlags.roundAssigns x = roundValuesAssigned x ∧ roundGuard "modify solve code" x = roundChangesCode x := by
  simp only [roundGuard, Gen.StatusFlags.roundTable, Gen.StatusFlags.roundAssigns, List.find?, roundNoteShown, roundNoteWouldBe,
             roundValuesAssigned, roundChangesCode, land_mask_decide, Nat.reducePow]
  simp

/-- no step of the rounding code changes the solve code (no `SetStatus` / `Abort` / assignment to `status_` anywhere in
    `RoundSolution`, `ModifySolveCodeAndMessageAfterRounding`, `DoRound`); labels of the steps (tripwire part) -/
theorem C10_gen_round_steps :
    Gen.StatusFlags.roundTable.map (·.1) =
      ["call ModifySolveCodeAndMessageAfterRounding", "write rounding note", "note says \"would be\""] ∧
    (∀ p ∈ Gen.StatusFlags.roundTable, p.1 ≠ "modify solve code") := by decide

/-- **the code written is the code reported whatever `mip:round` is** (also with bit 2, "Modify solve_result") and
    however many variables were fractional -/
theorem C10_code_echo_under_rounding (a : Answer) (x : RoundCtx) :
    roundGuard "modify solve code" x = false ∧ (reportGen a).codeWritten = a.code := by
  refine ⟨?_, (C10_code_echo_generated a).1⟩
  rw [(C10_gen_round_guards x).2.2.2]; rfl

/-- the rounding note reaches the message only for candidate codes, with bit 4 of `mip:round` and a fractional integer variable;
    it says "would be" exactly when bit 1 is not set -/
theorem C10_round_note_only_candidates (a : Answer) (x : RoundCtx) (h : roundNoteInMessage a x = true) :
    candidate a.code = true ∧ x.round.testBit 2 = true ∧ x.nRounded > 0 ∧ (roundNoteWouldBe x = true ↔ x.round.testBit 0 = false) := by
  unfold roundNoteInMessage roundNoteShown at h
  simp only [Bool.and_eq_true, decide_eq_true_eq] at h
  refine ⟨(C10_solvedOrFeasible_iff a.code).mp h.1.1, h.2.2, by omega, ?_⟩
  unfold roundNoteWouldBe roundNoteShown
  have hn : decide (x.nRounded ≠ 0) = true := decide_eq_true h.2.1
  rw [hn, h.2.2]; cases x.round.testBit 0 <;> simp
-- instances: mip:round=7 with one fractional variable on a limit code (note, "rounded"); mip:round=6 ("would be"); mip:round=3 (no note);
-- bit 2 alone changes nothing
example : roundNoteInMessage { code := 402, nObj := 1, hasPrimal := true, hasDual := true, roundOpt := true, isMIP := true } { round := 7, nRounded := 1 } = true ∧
          roundNoteWouldBe { round := 7, nRounded := 1 } = false ∧ roundNoteWouldBe { round := 6, nRounded := 2 } = true ∧
          roundNoteShown { round := 3, nRounded := 1 } = false ∧ roundNoteShown { round := 7, nRounded := 0 } = false := by decide
example : roundGuard "modify solve code" { round := 2, nRounded := 5 } = false ∧ roundGuard "write rounding note" { round := 2, nRounded := 5 } = false := by decide
example : roundNoteInMessage { code := 502, nObj := 1, hasPrimal := true, hasDual := true, roundOpt := true, isMIP := true } { round := 7, nRounded := 1 } = false := by decide

/-! ## non-vacuity (concrete instances; named so that a failure is attributed to them) -/
theorem C10_witness_solved : isProblemSolved 0 = true ∧ isProblemSolved 99 = true ∧ isProblemSolved 100 = false := by decide
theorem C10_witness_ranges : classify 402 = .limitFeas ∧ classify 1000 = .unclassified ∧ classify (-1) = .unclassified := by decide
theorem C10_witness_objective :
    (report { code := 0, nObj := 1, hasPrimal := true, hasDual := true }).objectiveShown = true ∧ (report { code := 250, nObj := 1, hasPrimal := true, hasDual := false }).objectiveShown = false ∧
    (report { code := 0, nObj := 0, hasPrimal := true, hasDual := true }).objectiveShown = false := by decide
theorem C10_witness_fixed : (report { code := 402, nObj := 1, hasPrimal := true, hasDual := false }).objectiveShown = true ∧ (report { code := 300, nObj := 1, hasPrimal := false, hasDual := false }).objectiveShown = true ∧
    isProblemInfeasible 299 = true := by decide
theorem C10_witness_code : (report { code := 567, nObj := 0, hasPrimal := false, hasDual := true }).codeWritten = 567 := by decide
theorem C10_witness_alt :
    (report { code := 402, nObj := 1, hasPrimal := true, hasDual := true, nAlt := 2, solStub := true }).altCodes = [402, 402] ∧
    (report { code := 402, nObj := 1, hasPrimal := true, hasDual := true, nAlt := 2, solStub := false }).altCodes = [] := by decide
theorem C10_witness_infeasible : ∃ c, documented c = .infeasible ∧ isProblemInfeasible c = true := ⟨200, by decide⟩

end MpVerif.C10
