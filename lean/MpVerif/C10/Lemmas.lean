import MpVerif.C10.Model
/-! # C10 — `documented c = k` as interval membership (`candidate_iff` with it); `regLt` as a proposition; the objective
branches of `ReportSolution2AMPL` as `nObj = 1` / `nObj > 0` (`single_obj`, `some_obj`); mask tests as `testBit` -/
namespace MpVerif.C10

/-- the documented interval of a class -/
def Class.range : Class → Int → Prop
  | .solved, c => 0 ≤ c ∧ c ≤ 99
  | .uncertain, c => 100 ≤ c ∧ c ≤ 199
  | .infeasible, c => 200 ≤ c ∧ c ≤ 299
  | .unboundedFeas, c => 300 ≤ c ∧ c ≤ 349
  | .unboundedNoFeas, c => 350 ≤ c ∧ c ≤ 399
  | .limitFeas, c => 400 ≤ c ∧ c ≤ 449
  | .limitInfUnb, c => 450 ≤ c ∧ c ≤ 469
  | .limitNoFeas, c => 470 ≤ c ∧ c ≤ 499
  | .failure, c => 500 ≤ c ∧ c ≤ 999
  | .unclassified, c => c < 0 ∨ 999 < c

theorem documented_range (c : Int) : (documented c).range c := by
  unfold documented
  -- each branch's test is the range of its class; an eliminator and not `split`, which simplifies the whole remaining ladder at every step
  iterate 9 (refine iteInduction (motive := fun k => Class.range k c) id fun _ => ?_)
  -- the last branch has failed `0 ≤ c ∧ c ≤ 99` … `500 ≤ c ∧ c ≤ 999`
  show _ ∨ _; omega

theorem Class.range_inj {c : Int} {k k' : Class} (h : k.range c) (h' : k'.range c) : k = k' := by
  cases k <;> cases k' <;> simp only [Class.range, reduceCtorEq] at h h' ⊢ <;> omega

theorem documented_of_range {c : Int} {k : Class} (h : k.range c) : documented c = k :=
  Class.range_inj (documented_range c) h

theorem documented_eq_iff (c : Int) (k : Class) : documented c = k ↔ k.range c :=
  ⟨fun e => e ▸ documented_range c, documented_of_range⟩

theorem doc_solved (c : Int) : documented c = .solved ↔ 0 ≤ c ∧ c ≤ 99 := documented_eq_iff c _
theorem doc_uncertain (c : Int) : documented c = .uncertain ↔ 100 ≤ c ∧ c ≤ 199 := documented_eq_iff c _
theorem doc_infeasible (c : Int) : documented c = .infeasible ↔ 200 ≤ c ∧ c ≤ 299 := documented_eq_iff c _
theorem doc_unboundedFeas (c : Int) : documented c = .unboundedFeas ↔ 300 ≤ c ∧ c ≤ 349 := documented_eq_iff c _
theorem doc_unboundedNoFeas (c : Int) : documented c = .unboundedNoFeas ↔ 350 ≤ c ∧ c ≤ 399 := documented_eq_iff c _
theorem doc_limitFeas (c : Int) : documented c = .limitFeas ↔ 400 ≤ c ∧ c ≤ 449 := documented_eq_iff c _
theorem doc_limitInfUnb (c : Int) : documented c = .limitInfUnb ↔ 450 ≤ c ∧ c ≤ 469 := documented_eq_iff c _
theorem doc_limitNoFeas (c : Int) : documented c = .limitNoFeas ↔ 470 ≤ c ∧ c ≤ 499 := documented_eq_iff c _
theorem doc_failure (c : Int) : documented c = .failure ↔ 500 ≤ c ∧ c ≤ 999 := documented_eq_iff c _
theorem doc_unclassified (c : Int) : documented c = .unclassified ↔ c < 0 ∨ 999 < c := documented_eq_iff c _

theorem candidate_iff (c : Int) :
    candidate c = true ↔ (0 ≤ c ∧ c ≤ 99) ∨ (300 ≤ c ∧ c ≤ 349) ∨ (400 ≤ c ∧ c ≤ 449) := by
  unfold candidate
  simp only [Bool.or_eq_true, decide_eq_true_eq, doc_solved, doc_unboundedFeas, doc_limitFeas, or_assoc]

theorem regLt_iff (x y : Int × Int) : regLt x y = true ↔ x.1 < y.1 ∨ (x.1 = y.1 ∧ y.2 < x.2) := by
  simp only [regLt, Bool.or_eq_true, Bool.and_eq_true, decide_eq_true_eq, gt_iff_lt]

/-- the single-objective branch of `ReportSolution2AMPL` (`objvals.size()` non-zero and not above 1) is `nObj = 1` -/
theorem single_obj (b : Bool) (n : Nat) : (b && decide (n ≠ 0) && !decide (n > 1)) = (b && decide (n = 1)) := by
  cases b <;> by_cases h0 : n = 0 <;> by_cases h1 : n > 1 <;> simp [h0, h1] <;> omega

/-- its two branches together (several objectives, a single one) are `nObj > 0` -/
theorem some_obj (b : Bool) (n : Nat) :
    ((b && decide (n ≠ 0) && decide (n > 1)) || (b && decide (n ≠ 0) && !decide (n > 1))) = (b && decide (n > 0)) := by
  cases b <;> by_cases h0 : n = 0 <;> by_cases h1 : n > 1 <;> simp [h0, h1] <;> omega

theorem eq_decide_of_iff {b : Bool} {p : Prop} [Decidable p] (h : b = true ↔ p) : b = decide p :=
  Bool.eq_iff_iff.mpr (h.trans decide_eq_true_iff.symm)

theorem land_pow_ne_zero (w i : Nat) : (w &&& 2^i ≠ 0) ↔ w.testBit i = true := by
  constructor
  · intro h
    apply Classical.byContradiction; intro hb
    apply h
    apply Nat.eq_of_testBit_eq
    intro j
    rw [Nat.testBit_and, Nat.testBit_two_pow, Nat.zero_testBit]
    by_cases hij : i = j
    · subst hij; simp at hb; simp [hb]
    · simp [hij]
  · intro h h0
    have : (w &&& 2^i).testBit i = true := by rw [Nat.testBit_and, Nat.testBit_two_pow]; simp [h]
    rw [h0] at this; simp at this

theorem land_mask_decide (w i : Nat) : w.testBit i = decide (w &&& 2^i ≠ 0) :=
  eq_decide_of_iff (land_pow_ne_zero w i).symm

end MpVerif.C10
